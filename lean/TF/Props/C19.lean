import TF.Proofs.U32s
import TF.Gen.Consts
import TF.Proofs.GenBridgeU32s
import TF.Proofs.GenBridgeU32s2
/-!
# C19 — fixed-width `U32s<N>` integers compute exactly or panic, never wrap

Property theorems only (helper lemmas: `TF/Proofs/U32s.lean`; model: `TF/Model/U32s.lean`, hand-written after
`twenty-first/src/amount/u32s.rs` and tied to it by the correspondence family `u32s`).

Notation. A `U32s<N>` is its limb list `a : List Nat`, little endian; `WF N a` says: exactly `N` limbs, each `< W = 2^32`.
`val a` is the big-integer value, `ofNat N v` the `N` low limbs of `v` (the unique well-formed list of value `v` when
`v < W^N`). Operations that can panic return `Option`; `none` **is** the panic. Every theorem holds for every limb
count `N` and all well-formed operands.
-/
namespace TF.C19
open TF.U32s

/-- a well-formed limb list is determined by its value; `ofNat` inverts `val` (so `some (ofNat N v)` below means
    "the result is the `U32s<N>` of value exactly `v`") -/
theorem repr_unique {N : Nat} {a b : List Nat} (ha : WF N a) (hb : WF N b) : val a = val b ↔ a = b :=
  ⟨eq_of_val_eq ha hb, fun h => by rw [h]⟩
theorem ofNat_exact {N v : Nat} (h : v < W ^ N) : WF N (ofNat N v) ∧ val (ofNat N v) = v :=
  ⟨WF_ofNat N v, val_ofNat_of_lt h⟩
example : WF 2 [4294967295, 1] ∧ val [4294967295, 1] = 8589934591 := by decide

/-- `Add`: the exact sum if it is representable, panic otherwise (never wraps) -/
theorem add_spec {N : Nat} {a b : List Nat} (ha : WF N a) (hb : WF N b) :
    add a b = if val a + val b < W ^ N then some (ofNat N (val a + val b)) else none :=
  add_eq_norm ha hb
example : add [4294967295, 4294967295, 0] [1, 0, 0] = some [0, 0, 1] := by decide
example : add [4294967295, 4294967295] [1, 0] = none := by decide

/-- `Sub`: the exact difference if it is non-negative, panic otherwise -/
theorem sub_spec {N : Nat} {a b : List Nat} (ha : WF N a) (hb : WF N b) :
    sub a b = if val b ≤ val a then some (ofNat N (val a - val b)) else none :=
  sub_eq ha hb
example : sub [0, 0, 1] [1, 0, 0] = some [4294967295, 4294967295, 0] := by decide
example : sub [0, 0] [1, 0] = none := by decide

/-- `Mul` (schoolbook with per-partial-product carry loops and three overflow asserts): exact product or panic -/
theorem mul_spec {N : Nat} {a b : List Nat} (ha : WF N a) (hb : WF N b) :
    mul a b = if val a * val b < W ^ N then some (ofNat N (val a * val b)) else none :=
  mul_eq_norm ha hb
example : mul [4294967295, 4294967295, 0, 0] [4294967295, 4294967295, 0, 0] = some [1, 0, 4294967294, 4294967295] := by
  decide
example : mul [0, 1] [0, 1] = none := by decide

/-- `mul_two`: exact doubling or panic -/
theorem mul_two_spec {N : Nat} {a : List Nat} (ha : WF N a) :
    mulTwo a = if 2 * val a < W ^ N then some (ofNat N (2 * val a)) else none :=
  mulTwo_eq_norm ha
example : mulTwo [2147483648, 0] = some [0, 1] ∧ mulTwo [0, 2147483648] = none := by decide

/-- `div_two`: exact halving, never panics (the `+= 1 << 31` cannot overflow) -/
theorem div_two_spec {N : Nat} {a : List Nat} (ha : WF N a) : divTwo a = some (ofNat N (val a / 2)) :=
  divTwo_eq ha
example : divTwo [1, 1, 1] = some [2147483648, 2147483648, 0] := by decide

/-- `rem_div` with a non-zero divisor never panics (in particular the inner `mul_two` and `-` cannot overflow) and
    returns exactly quotient and remainder -/
theorem rem_div_spec {N : Nat} {a d : List Nat} (ha : WF N a) (hd : WF N d) (hnz : val d ≠ 0) :
    ∃ q r, remDiv a d = some (q, r) ∧ WF N q ∧ WF N r ∧ val q = val a / val d ∧ val r = val a % val d := by
  have hA := val_lt ha
  have hq : val a / val d < W ^ N := Nat.lt_of_le_of_lt (Nat.div_le_self _ _) hA
  have hr : val a % val d < W ^ N := Nat.lt_of_le_of_lt (Nat.mod_le _ _) hA
  exact ⟨_, _, by rw [remDiv_eq ha hd, if_neg hnz], WF_ofNat _ _, WF_ofNat _ _, val_ofNat_of_lt hq, val_ofNat_of_lt hr⟩
example : remDiv [4294967295, 4294967295] [4294967295, 2147483648] = some ([1, 0], [0, 2147483647]) := by decide +kernel

/-- `rem_div` panics exactly for the zero divisor (for `N = 0` every divisor is zero) -/
theorem rem_div_zero_divisor {N : Nat} {a d : List Nat} (ha : WF N a) (hd : WF N d) (hz : val d = 0) :
    remDiv a d = none := by rw [remDiv_eq ha hd, if_pos hz]
example : remDiv [5, 5] [0, 0] = none ∧ remDiv [] [] = none := by decide

/-- `Div` and `Rem` are the components of `rem_div` -/
theorem div_rem_spec {N : Nat} {a d : List Nat} (ha : WF N a) (hd : WF N d) :
    div a d = (if val d = 0 then none else some (ofNat N (val a / val d))) ∧
    rem a d = (if val d = 0 then none else some (ofNat N (val a % val d))) := by
  unfold div rem
  rw [remDiv_eq ha hd]
  by_cases h : val d = 0 <;> simp [h]
example : div [7, 0] [2, 0] = some [3, 0] ∧ rem [7, 0] [2, 0] = some [1, 0] := by decide +kernel

/-- `Ord` (reversed-limb lexicographic comparison) is the order of the values; `>=` likewise -/
theorem cmp_spec {N : Nat} {a b : List Nat} (ha : WF N a) (hb : WF N b) :
    U32s.cmp a b = compare (val a) (val b) ∧ (ge a b = true ↔ val b ≤ val a) :=
  ⟨cmp_eq_compare ha hb, ge_iff ha hb⟩
example : U32s.cmp [4294967295, 0] [0, 1] = .lt ∧ U32s.cmp [3, 7] [3, 7] = .eq ∧ U32s.cmp [0, 2] [4294967295, 1] = .gt := by
  decide

/-- `Sum`: the exact total if it is representable, panic otherwise (no intermediate wrap can be compensated later) -/
theorem sum_spec {N : Nat} {l : List (List Nat)} (h : ∀ b ∈ l, WF N b) :
    sum N l = if (l.map val).sum < W ^ N then some (ofNat N (l.map val).sum) else none :=
  sum_eq_norm h
example : sum 2 [[4294967295, 0], [1, 0], [0, 5]] = some [0, 6] := by decide
example : sum 1 [[4294967295], [1], [0]] = none := by decide

/-- `TryFrom<u64>`: succeeds exactly when the value fits `N` limbs, with the exact value (every `N`, incl. 0) -/
theorem try_from_u64_spec (N : Nat) {v : Nat} (hv : v < 2 ^ 64) :
    tryFromU64 N v = if v < W ^ N then some (ofNat N v) else none :=
  tryFromU64_eq_norm N (by norm_num at hv; exact hv)
example : tryFromU64 1 4294967295 = some [4294967295] ∧ tryFromU64 1 4294967296 = none
    ∧ tryFromU64 0 0 = some [] ∧ tryFromU64 0 1 = none := by decide

/-- `TryFrom<u128>`: succeeds exactly when the value fits `N` limbs (the `N = 3` boundary is `2^96`, defect F7;
    `N = 0` accepts exactly 0, defect F12) -/
theorem try_from_u128_spec (N : Nat) {v : Nat} (hv : v < 2 ^ 128) :
    tryFromU128 N v = if v < W ^ N then some (ofNat N v) else none :=
  tryFromU128_eq_norm N (by norm_num at hv; exact hv)
example : tryFromU128 3 79228162514264337593543950335 = some [4294967295, 4294967295, 4294967295]
    ∧ tryFromU128 3 79228162514264337593543950336 = none := by decide

/-- `From<u32>`: the exact value for `N ≥ 1`; for `N = 0` it panics (index out of bounds; pinned by the repository's
    test `crash`) -/
theorem from_u32_spec (N : Nat) {v : Nat} (hv : v < W) :
    fromU32 N v = if 0 < N then some (ofNat N v) else none := by
  cases N with
  | zero => rfl
  | succ n => rw [fromU32_succ n hv, if_pos (Nat.succ_pos n)]
example : fromU32 3 7 = some [7, 0, 0] ∧ fromU32 0 0 = none := by decide

/-- big-integer round trip: `Into<BigUint>` is the value, `From<BigUint>` keeps the value modulo `2^(32N)`, and
    `from ∘ into = id` -/
theorem biguint_roundtrip {N : Nat} {a : List Nat} (ha : WF N a) :
    toBig a = val a ∧ fromBig N (toBig a) = a ∧ ∀ v, WF N (fromBig N v) ∧ val (fromBig N v) = v % W ^ N :=
  ⟨toBig_eq_val a, by rw [toBig_eq_val]; exact ofNat_val ha, fun v => ⟨WF_ofNat N v, val_ofNat N v⟩⟩
example : toBig [1, 2] = 8589934593 ∧ fromBig 2 8589934593 = [1, 2] := by decide

/-- field-element array: the canonical values are the limbs (each below `P`), hence the conversion is injective -/
theorem bfe_array_lossless {N : Nat} {a : List Nat} (ha : WF N a) :
    toBfes a = a ∧ ∀ x ∈ toBfes a, x < TF.Gen.P := by
  refine ⟨rfl, fun x hx => Nat.lt_trans (ha.2 x hx) (by decide)⟩
example : toBfes [4294967295, 0] = [4294967295, 0] := rfl

/-- codec: `decode ∘ encode = id`, and `decode` accepts exactly the sequences of `N` elements `< 2^32` — each the
    encoding of exactly one value (strict and injective) -/
theorem codec_roundtrip {N : Nat} {a : List Nat} (ha : WF N a) :
    decode N (encode a) = some a ∧ (encode a).length = N := by
  refine ⟨?_, ha.1⟩
  rw [decode_eq]; exact if_pos ⟨ha.1, ha.2⟩
theorem decode_strict (N : Nat) (s : List Nat) :
    decode N s = if WF N s then some s else none := decode_eq N s
example : decode 2 [5, 4294967295] = some [5, 4294967295] ∧ decode 2 [5, 4294967296] = none
    ∧ decode 2 [5] = none ∧ decode 2 [1, 2, 3] = none ∧ decode 0 [] = some [] := by decide

end TF.C19

/-! ## regenerated-from-source bridge

The limb loops `Add`, `Sub`, `mul_two`, `div_two` (and `Mul`, `get_bit`, `set_bit`, evaluated by the driver) are **also
regenerated from `u32s.rs` on every run** (`TF/Gen/U32sLoops.lean`, `TF.Gen.Loops.u32s_*`, written by
`tools/rs2lean_loops.py`): `f N a b` is the result of a build that does not panic (wrapping arithmetic), `f_ok N a b` is
true iff every `assert!` holds and every array index is in range, i.e. iff the Rust code does not panic.  The theorems
below (proofs in `TF/Proofs/GenBridgeU32s.lean`) say that "value if ok, panic otherwise" is exactly the hand model, for
**every** `N` and all limb lists of length `N`; the `…_transfer` corollaries restate the C19 theorems for the
regenerated code: *exact or panic, never wraps*.  A change of the Rust text changes `TF.Gen.Loops.u32s_*`; these
theorems are then re-checked or break. -/
namespace TF.C19
open TF.U32s TF.Gen

/-- regenerated `Add for U32s<N>` = hand model -/
theorem gen_add_eq_model (N : Nat) (a b : List Nat) (ha : a.length = N) (hb : b.length = N) :
    (if Loops.u32s_add_ok N a b then some (Loops.u32s_add N a b) else none) = add a b :=
  TF.GenBridge.U32s.gen_add_eq N a b ha hb
example : Loops.u32s_add 3 [4294967295, 4294967295, 0] [1, 0, 0] = [0, 0, 1] ∧
    Loops.u32s_add_ok 3 [4294967295, 4294967295, 0] [1, 0, 0] = true ∧
    Loops.u32s_add_ok 2 [4294967295, 4294967295] [1, 0] = false := by decide

/-- regenerated `Sub for U32s<N>` = hand model -/
theorem gen_sub_eq_model (N : Nat) (a b : List Nat) (ha : a.length = N) (hb : b.length = N) :
    (if Loops.u32s_sub_ok N a b then some (Loops.u32s_sub N a b) else none) = sub a b :=
  TF.GenBridge.U32s.gen_sub_eq N a b ha hb
example : Loops.u32s_sub 3 [0, 0, 1] [1, 0, 0] = [4294967295, 4294967295, 0] ∧
    Loops.u32s_sub_ok 3 [0, 0, 1] [1, 0, 0] = true ∧ Loops.u32s_sub_ok 2 [0, 0] [1, 0] = false := by decide

/-- regenerated `mul_two` = hand model -/
theorem gen_mul_two_eq_model (N : Nat) (a : List Nat) (ha : a.length = N) :
    (if Loops.u32s_mul_two_ok N a then some (Loops.u32s_mul_two N a) else none) = mulTwo a :=
  TF.GenBridge.U32s.gen_mul_two_eq N a ha
example : Loops.u32s_mul_two 2 [2147483648, 0] = [0, 1] ∧ Loops.u32s_mul_two_ok 2 [2147483648, 0] = true ∧
    Loops.u32s_mul_two_ok 2 [0, 2147483648] = false := by decide

/-- regenerated `div_two` (a `for i in (0..N).rev()` loop) = hand model, all well-formed operands -/
theorem gen_div_two_eq_model {N : Nat} {a : List Nat} (ha : WF N a) :
    (if Loops.u32s_div_two_ok N a then some (Loops.u32s_div_two N a) else none) = divTwo a :=
  TF.GenBridge.U32s.gen_div_two_eq N a ha.1 ha.2
example : WF 3 [1, 1, 1] ∧ Loops.u32s_div_two 3 [1, 1, 1] = [2147483648, 2147483648, 0] ∧
    Loops.u32s_div_two_ok 3 [1, 1, 1] = true := by decide

/-- **transfer**: the regenerated `Add`/`Sub`/`mul_two`/`div_two` compute exactly or panic, never wrap — the C19
    statements for the code as it is in the source now -/
theorem gen_limb_loops_transfer {N : Nat} {a b : List Nat} (ha : WF N a) (hb : WF N b) :
    ((if Loops.u32s_add_ok N a b then some (Loops.u32s_add N a b) else none)
        = if val a + val b < W ^ N then some (ofNat N (val a + val b)) else none) ∧
    ((if Loops.u32s_sub_ok N a b then some (Loops.u32s_sub N a b) else none)
        = if val b ≤ val a then some (ofNat N (val a - val b)) else none) ∧
    ((if Loops.u32s_mul_two_ok N a then some (Loops.u32s_mul_two N a) else none)
        = if 2 * val a < W ^ N then some (ofNat N (2 * val a)) else none) ∧
    (Loops.u32s_div_two_ok N a = true ∧ Loops.u32s_div_two N a = ofNat N (val a / 2)) := by
  refine ⟨?_, ?_, ?_, ?_⟩
  · rw [gen_add_eq_model N a b ha.1 hb.1]; exact add_spec ha hb
  · rw [gen_sub_eq_model N a b ha.1 hb.1]; exact sub_spec ha hb
  · rw [gen_mul_two_eq_model N a ha.1]; exact mul_two_spec ha
  · exact ite_some_none_eq_some ((gen_div_two_eq_model ha).trans (div_two_spec ha))
example : WF 2 [4294967295, 1] ∧ WF 2 [1, 0] := by decide

end TF.C19

/-! ## regenerated-from-source bridge, part 2 (tools/rs2lean_ext.py, `TF/Gen/U32sLoops2.lean`)

`rem_div` (with its calls of the regenerated `mul_two`, `get_bit`, `set_bit`, `>=` through `partial_cmp`/`Ord::cmp`, `-`),
`Ord::cmp` (`iter().rev().cmp(..)`), `is_zero` (`iter().all(|x| *x == 0)`), `zero`, `one`, `From<u32>`, `From<BigUint>`
(`BigUint` = unbounded `Nat`) and `TryFrom<u64/u128>` (`match N { 0 if .. => err, .. }`, `Result` = `Except String`) are
regenerated from `u32s.rs` on every run as well.  Proofs: `TF/Proofs/GenBridgeU32s2.lean`.  `N < 2^59 = 2^64 / 32` makes the
`usize` product `32 * N` exact; a `[u32; N]` with `2^59 ≤ N < 2^61` is not impossible, it is left out. -/
namespace TF.C19
open TF.U32s TF.Gen

/-- bound on the limb count under which `32 * N` does not overflow a `usize` -/
def NMax : Nat := 576460752303423488
example : NMax = 2 ^ 59 := by decide

/-- regenerated `get_bit` / `set_bit` = hand model (`none` = the `assert!(bit_index < 32 * N)` panic) -/
theorem gen_get_bit_eq_model {N : Nat} {a : List Nat} (ha : WF N a) (hN : N < NMax) (i : Nat) :
    (if Loops.u32s_get_bit_ok N a i then some (Loops.u32s_get_bit N a i) else none) = getBit a i :=
  TF.GenBridge.U32s2.gen_get_bit_eq N a i ha.1 hN
theorem gen_set_bit_eq_model {N : Nat} {a : List Nat} (ha : WF N a) (hN : N < NMax) (i : Nat) (v : Bool) :
    (if Loops.u32s_set_bit_ok N a i v then some (Loops.u32s_set_bit N a i v) else none) = setBit a i v :=
  TF.GenBridge.U32s2.gen_set_bit_eq N a i v ha.1 ha.2 hN
example : Loops.u32s_get_bit 2 [0, 2147483648] 63 = true ∧ Loops.u32s_get_bit_ok 2 [0, 2147483648] 64 = false ∧
    Loops.u32s_set_bit 2 [5, 0] 33 true = [5, 2] ∧ Loops.u32s_set_bit 2 [5, 2] 0 false = [4, 2] := by decide

/-- regenerated `Ord::cmp` = hand model, hence (transfer of `cmp_spec`) the order of the values; `>=` as Rust evaluates it
    (`PartialOrd::ge` over the regenerated `partial_cmp`) is `val b ≤ val a` -/
theorem gen_cmp_transfer {N : Nat} {a b : List Nat} (ha : WF N a) (hb : WF N b) :
    Loops.u32s_cmp N a b = compare (val a) (val b) ∧
    (TF.RustStd.ord_ge (Loops.u32s_partial_cmp N a b) = true ↔ val b ≤ val a) := by
  rw [TF.GenBridge.U32s2.gen_cmp_eq, TF.GenBridge.U32s2.gen_ge_eq]
  exact cmp_spec ha hb
example : Loops.u32s_cmp 2 [4294967295, 0] [0, 1] = .lt ∧ Loops.u32s_cmp 2 [0, 2] [4294967295, 1] = .gt ∧
    TF.RustStd.ord_ge (Loops.u32s_partial_cmp 2 [3, 7] [3, 7]) = true := by decide

/-- regenerated `rem_div` = hand model -/
theorem gen_rem_div_eq_model {N : Nat} {a d : List Nat} (ha : WF N a) (hd : WF N d) (hN : N < NMax) :
    (if Loops.u32s_rem_div_ok N a d then some (Loops.u32s_rem_div N a d) else none) = remDiv a d :=
  TF.GenBridge.U32s2.gen_rem_div_eq N a d ha hd hN

/-- **transfer of `rem_div_spec`**: the `rem_div` that is in the source now, on a non-zero divisor, never panics (no
    `assert!` fails, none of the inner `mul_two`/`-` overflows, no index is out of range) and returns exactly quotient
    and remainder; on the zero divisor it panics -/
theorem gen_rem_div_transfer {N : Nat} {a d : List Nat} (ha : WF N a) (hd : WF N d) (hN : N < NMax) :
    (val d ≠ 0 → Loops.u32s_rem_div_ok N a d = true ∧
        Loops.u32s_rem_div N a d = (ofNat N (val a / val d), ofNat N (val a % val d))) ∧
    (val d = 0 → Loops.u32s_rem_div_ok N a d = false) := by
  have h := (gen_rem_div_eq_model ha hd hN).trans (remDiv_eq ha hd)
  exact ⟨fun hnz => ite_some_none_eq_some (h.trans (if_neg hnz)),
    fun hz => ite_some_none_eq_none (h.trans (if_pos hz))⟩
example : WF 2 [4294967295, 4294967295] ∧ WF 2 [4294967295, 2147483648] ∧ val [4294967295, 2147483648] ≠ 0 ∧
    Loops.u32s_rem_div 2 [4294967295, 4294967295] [4294967295, 2147483648] = ([1, 0], [0, 2147483647]) ∧
    Loops.u32s_rem_div_ok 2 [5, 5] [0, 0] = false := by decide +kernel

/-- regenerated `Mul for U32s<N>` = hand model (value and fuel: when the model returns a value the regenerated loops finish
    within their fuel with that value and no `assert!` fails; when the model panics an `assert!` of the regenerated code fails) -/
theorem gen_mul_eq_model {N : Nat} {a b : List Nat} (ha : WF N a) (hb : WF N b) (hN : N < NMax) :
    (∀ r, mul a b = some r → Loops.u32s_mul N a b = some r ∧ Loops.u32s_mul_ok N a b = true) ∧
    (mul a b = none → Loops.u32s_mul_ok N a b = false) :=
  TF.GenBridge.U32s2.gen_mul_eq N a b ha hb hN

/-- **transfer of `mul_spec`**: the `Mul` that is in the source now returns the exact product when it is representable
    (finishing within the fuel, no `assert!` failing) and panics (an `assert!` fails) otherwise — never wraps -/
theorem gen_mul_transfer {N : Nat} {a b : List Nat} (ha : WF N a) (hb : WF N b) (hN : N < NMax) :
    (val a * val b < W ^ N → Loops.u32s_mul N a b = some (ofNat N (val a * val b)) ∧ Loops.u32s_mul_ok N a b = true) ∧
    (¬ val a * val b < W ^ N → Loops.u32s_mul_ok N a b = false) := by
  obtain ⟨hs, hn⟩ := gen_mul_eq_model ha hb hN
  have h := mul_spec ha hb
  constructor
  · intro hlt; rw [if_pos hlt] at h; exact hs _ h
  · intro hge; rw [if_neg hge] at h; exact hn h
example : WF 4 [4294967295, 4294967295, 0, 0] ∧
    Loops.u32s_mul 4 [4294967295, 4294967295, 0, 0] [4294967295, 4294967295, 0, 0] = some [1, 0, 4294967294, 4294967295] ∧
    Loops.u32s_mul_ok 4 [4294967295, 4294967295, 0, 0] [4294967295, 4294967295, 0, 0] = true ∧
    Loops.u32s_mul_ok 2 [0, 1] [0, 1] = false := by decide +kernel

/-- regenerated `is_zero`, `zero`, `one`, `From<u32>` = hand model -/
theorem gen_small_eq_model (N : Nat) (a : List Nat) (v : Nat) :
    Loops.u32s_is_zero N a = isZero a ∧ Loops.u32s_zero N = zero N ∧
    (if Loops.u32s_one_ok N then some (Loops.u32s_one N) else none) = one N ∧
    (if Loops.u32s_from_u32_ok N v then some (Loops.u32s_from_u32 N v) else none) = fromU32 N v :=
  ⟨TF.GenBridge.U32s2.gen_is_zero_eq N a, TF.GenBridge.U32s2.gen_zero_eq N, TF.GenBridge.U32s2.gen_one_eq N,
    TF.GenBridge.U32s2.gen_from_u32_eq N v⟩
example : Loops.u32s_from_u32 3 7 = [7, 0, 0] ∧ Loops.u32s_from_u32_ok 0 7 = false ∧ Loops.u32s_one 2 = [1, 0] := by decide

/-- **transfer of `try_from_u64_spec` / `try_from_u128_spec`**: the conversions that are in the source now (the `match N`
    arms and the `From<BigUint>` limb loop) never panic and succeed exactly when the value fits `N` limbs, with the exact
    value (`Except.error _` = `Err(InsufficientSize)`) -/
theorem gen_try_from_transfer (N : Nat) {v : Nat} :
    (v < 2 ^ 64 → Loops.u32s_try_from_u64_ok N v = true ∧
      TF.GenBridge.U32s2.toOpt (Loops.u32s_try_from_u64 N v) = if v < W ^ N then some (ofNat N v) else none) ∧
    (v < 2 ^ 128 → Loops.u32s_try_from_u128_ok N v = true ∧
      TF.GenBridge.U32s2.toOpt (Loops.u32s_try_from_u128 N v) = if v < W ^ N then some (ofNat N v) else none) := by
  constructor
  · intro hv
    obtain ⟨k, e⟩ := TF.GenBridge.U32s2.gen_try_from_u64_eq N v
    exact ⟨k, by rw [e]; exact try_from_u64_spec N hv⟩
  · intro hv
    obtain ⟨k, e⟩ := TF.GenBridge.U32s2.gen_try_from_u128_eq N v
    exact ⟨k, by rw [e]; exact try_from_u128_spec N hv⟩
example : Loops.u32s_try_from_u64 1 4294967295 = .ok [4294967295] ∧
    Loops.u32s_try_from_u64 1 4294967296 = .error "InsufficientSize" ∧
    Loops.u32s_try_from_u128 3 79228162514264337593543950335 = .ok [4294967295, 4294967295, 4294967295] ∧
    Loops.u32s_try_from_u128 3 79228162514264337593543950336 = .error "InsufficientSize" := by decide

/-- regenerated `From<BigUint>` never panics and equals the hand model (the `N` low limbs) -/
theorem gen_from_biguint_eq_model (N v : Nat) :
    Loops.u32s_from_biguint_ok N v = true ∧ Loops.u32s_from_biguint N v = fromBig N v :=
  TF.GenBridge.U32s2.gen_from_biguint_eq N v
example : Loops.u32s_from_biguint 2 8589934593 = [1, 2] := by decide

end TF.C19
