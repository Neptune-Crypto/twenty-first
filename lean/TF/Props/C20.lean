import TF.Proofs.Conv
import TF.Proofs.GenBridgeConv
import Mathlib.Data.List.Forall2
/-!
# C20 — Digest and element conversions are lossless, order-preserving and strict

Property theorems only (helper lemmas: `TF/Proofs/Conv.lean`; model: `TF/Model/Conv.lean`, hand-written after
`digest.rs`, `b_field_element.rs`, `x_field_element.rs` and tied to them by the correspondence family `conv`).

Notation. A field element is its canonical value; `WFd d`: `d` is a list of five values `< P` (a digest, element 0
first). Bytes are naturals, `IsBytes bs`: all `< 256`. Strings are `List Char`; `IsDigit c`: `'0' ≤ c ≤ '9'`;
`decVal ds`: value of a digit string. `valP d = d₀ + d₁·P + … + d₄·P⁴` is the base-`p` positional value.
`wordsToBytes ws`: the little-endian bytes of a list of `u64` words. Parsers return `Option`; `none` is `Err(_)`.
serde forms are tied by correspondence only (external crates), no theorem here speaks about them.
-/
namespace TF.C20
open TF.Conv TF.Gen

/-! ### bytes -/

/-- `Digest → [u8; 40] → Digest` is the identity -/
theorem bytes_roundtrip {d : List Nat} (hd : WFd d) :
    digestFromBytes (digestToBytes d) = some d ∧ (digestToBytes d).length = 40 ∧ IsBytes (digestToBytes d) :=
  ⟨digestFromBytes_toBytes hd, digestToBytes_length hd.1, digestToBytes_isBytes d⟩
example : WFd [1, 2, 18446744069414584320, 0, 5] := by decide

/-- the byte parser is strict: it accepts a byte string exactly when it is *the* encoding of a digest -/
theorem bytes_strict {bs d : List Nat} (hb : IsBytes bs) :
    digestFromBytes bs = some d ↔ WFd d ∧ digestToBytes d = bs :=
  ⟨fun h => (digestFromBytes_some hb h).2, fun ⟨hd, e⟩ => e ▸ digestFromBytes_toBytes hd⟩

/-- rejection: any length other than 40, and any of the five little-endian words `≥ P` (no reduction) -/
theorem bytes_reject :
    (∀ bs : List Nat, bs.length ≠ 40 → digestFromBytes bs = none) ∧
    (∀ ws : List Nat, (∀ w ∈ ws, w < 2 ^ 64) → (∃ w ∈ ws, P ≤ w) → digestFromBytes (wordsToBytes ws) = none) := by
  refine ⟨fun bs h => by unfold digestFromBytes; rw [if_pos h], fun ws hw hbad => ?_⟩
  exact digestFromBytes_words_none (fun x hx => by have := hw x hx; norm_num at this ⊢; exact this) hbad
example : digestFromBytes (wordsToBytes [1, 2, 3, 4, 18446744069414584321]) = none := by decide
example : digestFromBytes (wordsToBytes [1, 2, 3, 4, 18446744069414584320]) = some [1, 2, 3, 4, 18446744069414584320] := by
  decide

/-! ### hex -/

/-- `to_hex` / `{:x}` / `{:X}` parse back to the digest -/
theorem hex_roundtrip {d : List Nat} (hd : WFd d) :
    digestFromHex (digestToHex d) = some d ∧ digestFromHex (digestToHexUpper d) = some d ∧
      (digestToHex d).length = 80 := by
  refine ⟨(digestFromHex_toHex hd).1, (digestFromHex_toHex hd).2, ?_⟩
  unfold digestToHex; rw [hexEncode_length, digestToBytes_length hd.1]

/-- the hex parser is strict: exactly the 80-character hex strings that decode to the byte encoding of a digest -/
theorem hex_strict {s : List Char} {d : List Nat} :
    digestFromHex s = some d ↔ WFd d ∧ hexDecode s = some (digestToBytes d) := by
  constructor
  · intro h; exact ⟨(digestFromHex_some h).2.2.1, (digestFromHex_some h).2.2.2⟩
  · rintro ⟨hd, e⟩
    unfold digestFromHex
    rw [e, Option.bind_some, digestFromBytes_toBytes hd]

/-- rejection: wrong length (odd, short, long), any non-hex character, any encoded word `≥ P` -/
theorem hex_reject :
    (∀ s : List Char, s.length ≠ 80 → digestFromHex s = none) ∧
    (∀ s : List Char, (∃ c ∈ s, hexVal c = none) → digestFromHex s = none) ∧
    (∀ ws : List Nat, (∀ w ∈ ws, w < 2 ^ 64) → (∃ w ∈ ws, P ≤ w) →
      digestFromHex (hexEncode (wordsToBytes ws)) = none) := by
  refine ⟨fun s hl => ?_, fun s hc => ?_, fun ws hw hbad => ?_⟩
  · cases h : digestFromHex s with
    | none => rfl
    | some d => exact absurd (digestFromHex_some h).1 hl
  · cases h : digestFromHex s with
    | none => rfl
    | some d =>
      obtain ⟨c, hcm, hcv⟩ := hc
      have := (digestFromHex_some h).2.1 c hcm
      rw [hcv] at this; cases this
  · unfold digestFromHex
    rw [hexDecode_encode (wordsToBytes_isBytes ws), Option.bind_some]
    exact bytes_reject.2 ws hw hbad
example : hexVal 'g' = none ∧ hexVal 'F' = some 15 ∧ hexVal 'f' = some 15 := by decide

/-! ### decimal strings -/

/-- `to_string` (comma-separated canonical decimal values) parses back to the digest -/
theorem string_roundtrip {d : List Nat} (hd : WFd d) : digestFromStr (digestToString d) = some d :=
  digestFromStr_toString hd
example : digestToString [18446744069414584320, 0, 7, 0, 0]
    = ['1','8','4','4','6','7','4','4','0','6','9','4','1','4','5','8','4','3','2','0',',','0',',','7',',','0',',','0'] := by
  decide

/-- what `u64::from_str` accepts (as observed by this code): an optional `+`, then one or more ASCII digits and
    nothing else, of value at most `u64::MAX` -/
theorem u64_from_str_spec (s : List Char) (v : Nat) :
    parseU64 s = some v ↔
      ∃ ds, (s = ds ∨ s = '+' :: ds) ∧ ds ≠ [] ∧ (∀ c ∈ ds, IsDigit c) ∧ v = decVal ds ∧ v ≤ U64MAX :=
  parseU64_some_iff s v
example : parseU64 ['+', '0', '7'] = some 7 ∧ parseU64 ['-', '7'] = none ∧ parseU64 ['+'] = none ∧ parseU64 [] = none
    ∧ parseU64 [' ', '7'] = none := by decide

/-- the string parser is strict: exactly five comma-separated items, item `i` a decimal numeral of `dᵢ < P`
    (never reduced) -/
theorem string_strict {s : List Char} {d : List Nat} :
    digestFromStr s = some d ↔
      d.length = 5 ∧ List.Forall₂ (fun t v => v < P ∧ parseU64 t = some v) (splitComma s) d := by
  unfold digestFromStr
  have hf : List.Forall₂ (fun t v => v < P ∧ parseU64 t = some v) (splitComma s) d ↔
      List.Forall₂ (fun t v => bfeFromStr t = some v) (splitComma s) d :=
    ⟨fun h => h.imp fun t v => (bfeFromStr_some_iff t v).mpr, fun h => h.imp fun t v => (bfeFromStr_some_iff t v).mp⟩
  rw [hf, ← MapM.mapM_eq_some_iff_forall₂]
  cases hm : (splitComma s).mapM bfeFromStr with
  | none => simp
  | some l =>
    rw [Option.bind_some]
    by_cases hl : l.length = 5
    · rw [if_pos hl]; constructor
      · intro e; cases e; exact ⟨hl, rfl⟩
      · rintro ⟨_, e⟩; cases e; rfl
    · rw [if_neg hl]; constructor
      · intro e; cases e
      · rintro ⟨h1, e⟩; cases e; exact absurd h1 hl

/-- rejection: item count other than five; an item of value `≥ P`; an item that is not `+?digits` -/
theorem string_reject (s : List Char) :
    ((splitComma s).length ≠ 5 → digestFromStr s = none) ∧
    (∀ t ∈ splitComma s, ∀ v, parseU64 t = some v → P ≤ v → digestFromStr s = none) ∧
    (∀ t ∈ splitComma s, (¬ ∃ ds, (t = ds ∨ t = '+' :: ds) ∧ ds ≠ [] ∧ ∀ c ∈ ds, IsDigit c) →
      digestFromStr s = none) := by
  refine ⟨fun hl => ?_, fun t ht v hv hp => ?_, fun t ht hbad => ?_⟩
  · cases h : digestFromStr s with
    | none => rfl
    | some d =>
      obtain ⟨h5, hf⟩ := string_strict.mp h
      exact absurd (hf.length_eq.trans h5) hl
  · unfold digestFromStr
    rw [MapM.mapM_none_of_mem _ t ht (by unfold bfeFromStr bfeTryNew; rw [hv, Option.bind_some, if_neg (Nat.not_lt.mpr hp)])]
    rfl
  · unfold digestFromStr
    have : parseU64 t = none := by
      cases hp : parseU64 t with
      | none => rfl
      | some v =>
        obtain ⟨ds, h1, h2, h3, _⟩ := (parseU64_some_iff t v).mp hp
        exact absurd ⟨ds, h1, h2, h3⟩ hbad
    rw [MapM.mapM_none_of_mem _ t ht (by unfold bfeFromStr; rw [this]; rfl)]
    rfl
example : digestFromStr ['1', ',', '2', ',', '3', ',', '4', ',', '5'] = some [1, 2, 3, 4, 5]
    ∧ digestFromStr ['1', ',', '2', ',', '3', ',', '4'] = none
    ∧ digestFromStr ['-', '1', ',', '2', ',', '3', ',', '4', ',', '5'] = none := by decide

/-! ### big integers and order -/

/-- `Digest → BigUint` is the base-`p` positional value; converting back is the identity -/
theorem biguint_roundtrip {d : List Nat} (hd : WFd d) :
    digestToNat d = valP d ∧ digestToNat d < P ^ 5 ∧ digestFromNat (digestToNat d) = some d := by
  have hlt := valP_lt 5 d hd.1 hd.2
  refine ⟨digestToNat_eq_valP d, by rw [digestToNat_eq_valP]; exact hlt, ?_⟩
  rw [digestToNat_eq_valP, digestFromNat_eq, if_pos hlt, ofNatP_valP 5 d hd.1 hd.2]

/-- `TryFrom<BigUint>` accepts exactly the integers below `P⁵`, each as the digest of that value (no truncation) -/
theorem biguint_reject (v : Nat) :
    digestFromNat v = (if v < P ^ 5 then some (ofNatP 5 v) else none) ∧
    (v < P ^ 5 → WFd (ofNatP 5 v) ∧ valP (ofNatP 5 v) = v) :=
  ⟨digestFromNat_eq v, fun h => ⟨ofNatP_wf 5 v, by rw [valP_ofNatP, Nat.mod_eq_of_lt h]⟩⟩
example : digestFromNat (P ^ 5) = none ∧ digestFromNat (P ^ 5 - 1) = some [P - 1, P - 1, P - 1, P - 1, P - 1] := by
  decide

/-- the digest order (`Ord`, last element most significant) is the numeric order of the big-integer values -/
theorem biguint_order {d₁ d₂ : List Nat} (h₁ : WFd d₁) (h₂ : WFd d₂) :
    digestCmp d₁ d₂ = compare (digestToNat d₁) (digestToNat d₂) ∧
    (digestCmp d₁ d₂ = .lt ↔ digestToNat d₁ < digestToNat d₂) := by
  have h := digestCmp_eq_compare d₁ d₂ (h₁.1.trans h₂.1.symm) h₁.2 h₂.2
  rw [digestToNat_eq_valP, digestToNat_eq_valP]
  exact ⟨h, by rw [h]; exact Nat.compare_eq_lt⟩
example : digestCmp [P - 1, P - 1, P - 1, P - 1, 0] [0, 0, 0, 0, 1] = .lt := by decide

/-! ### base-field elements -/

/-- bytes: round trip, and the parser accepts exactly the 8-byte little-endian encodings of values `< P` -/
theorem bfe_bytes {v : Nat} (hv : v < P) :
    bfeFromBytes (bfeToBytes v) = some v ∧
    (∀ bs w, IsBytes bs → (bfeFromBytes bs = some w ↔ w < P ∧ bfeToBytes w = bs)) :=
  ⟨bfeFromBytes_toBytes hv, fun _ _ hb =>
    ⟨fun h => ⟨(bfeFromBytes_some hb h).2, (bfeFromBytes_some hb h).1⟩, fun ⟨h1, h2⟩ => h2 ▸ bfeFromBytes_toBytes h1⟩⟩
example : bfeFromBytes (leBytes 8 18446744069414584321) = none ∧ bfeFromBytes [1, 0, 0, 0, 0, 0, 0] = none := by decide

/-- canonical decimal string: round trip, and the parser accepts exactly `+?digits` of value `< P` (never reduced) -/
theorem bfe_str {v : Nat} (hv : v < P) :
    bfeFromStr (toDecimal v) = some v ∧
    (∀ t w, bfeFromStr t = some w ↔ w < P ∧ parseU64 t = some w) :=
  ⟨bfeFromStr_toDecimal hv, bfeFromStr_some_iff⟩
example : bfeFromStr (toDecimal 18446744069414584320) = some 18446744069414584320
    ∧ bfeFromStr (toDecimal 18446744069414584321) = none := by decide

/-! ### extension-field elements -/

/-- the embedding `XFieldElement → Digest` is invertible exactly on digests whose last two elements are zero -/
theorem xfe_digest_embedding (d : List Nat) (hd : WFd d) (x : Nat × Nat × Nat) :
    xfeFromDigest (xfeToDigest x) = some x ∧
    (xfeFromDigest d = some x ↔ d = xfeToDigest x) ∧
    ((xfeFromDigest d).isSome ↔ d[3]? = some 0 ∧ d[4]? = some 0) :=
  xfeFromDigest_embedding hd.1 x
example : xfeFromDigest [1, 2, 3, 0, 1] = none ∧ xfeFromDigest [1, 2, 3, 0, 0] = some (1, 2, 3) := by decide

/-! ### accessors / constructors -/

/-- `Digest::reversed` reverses the five elements and is an involution; it keeps well-formedness -/
theorem reversed_spec {d : List Nat} (h : WFd d) :
    digestReversed d = some d.reverse ∧ digestReversed d.reverse = some d ∧ WFd d.reverse := by
  obtain ⟨d0, d1, d2, d3, d4, rfl⟩ := len5 h.1
  exact ⟨rfl, rfl, by rw [List.length_reverse]; exact h.1, fun x hx => h.2 x (List.mem_reverse.mp hx)⟩
example : digestReversed [1, 2, 3, 4, 5] = some [5, 4, 3, 2, 1] := by decide

/-- `Default` / `ALL_ZERO` is the well-formed all-zero digest, its big-integer value is 0, and it is the least digest;
    `From<Digest> for Vec` followed by `TryFrom<Vec>` is the identity; `BYTES = 40` -/
theorem default_and_vec_spec {d : List Nat} (h : WFd d) :
    WFd digestDefault ∧ digestToNat digestDefault = 0 ∧ digestCmp digestDefault d ≠ .gt ∧
    digestFromVec (digestToVec d) = some d ∧ digestBytesConst = 40 := by
  have hw : WFd digestDefault := by decide
  refine ⟨hw, by decide, ?_, ?_, by decide⟩
  · rw [(biguint_order hw h).1, show digestToNat digestDefault = 0 by decide]
    intro hgt
    rw [Nat.compare_eq_gt] at hgt
    omega
  · unfold digestFromVec digestToVec; rw [if_pos h.1]
example : WFd [P - 1, 0, 0, 0, 1] := by decide

end TF.C20

/-! ## regenerated-from-source bridge

The conversions of `digest.rs`, `b_field_element.rs` and `x_field_element.rs` are **also regenerated from the source on
every run** (`TF/Gen/ConvLoops.lean`, `TF.Gen.Loops.conv_*`, written by `tools/rs2lean_conv.py`): `try_new` (through the
translated `is_canonical`), `TryFrom<[u8; 8]>` / `TryFrom<&[u8]>` / `From<_> for [u8; 8]` of `BFieldElement`,
`From<Digest> for [u8; 40]`, `TryFrom<[u8; 40]>` / `TryFrom<&[u8]>` / `TryFrom<BigUint>` for `Digest`, `From<Digest> for
BigUint`, `Ord`/`PartialOrd for Digest`, `Digest::{new, values, reversed}`, `From<XFieldElement> for Digest`,
`TryFrom<Digest> for XFieldElement`.  The regenerated code works on *raw Montgomery words* (a `BFieldElement` is its
`u64`; `new`/`value` are the translated `bfe_new`/`bfe_value` of C01), `Result<T, E>` is `Except String T` (the error is
the variant's name), every function `f` has a twin `f_ok` (true iff nothing panics).  `vals r = r.map bfe_value` reads the
canonical values of a list of words, `toOpt` forgets the error kind, `Raw r`: all words `< P`.  Proofs:
`TF/Proofs/GenBridgeConv.lean`.  A one-token change of one of these Rust functions changes `TF.Gen.Loops.conv_*`; the
theorems below are then re-checked or break. -/
namespace TF.C20
open TF.Conv TF.Gen TF.GenBridge.Conv

/-- regenerated element conversions = hand model: `try_new` accepts exactly the values `< P` (never reduces); byte
    array / byte slice parsers; the byte encoding; none of them can panic -/
theorem gen_bfe_conversions_eq_model (v : Nat) (bs : List Nat) (r : Nat) :
    (Loops.conv_bfe_try_new v = if v < P then .ok (bfe_new v) else .error "NotCanonical") ∧
    (toOpt (Loops.conv_bfe_try_new v)).map bfe_value = bfeTryNew v ∧ Loops.conv_bfe_try_new_ok v = true ∧
    (toOpt (Loops.conv_bfe_try_from_array bs)).map bfe_value = bfeTryNew (TF.Conv.ofLeBytes bs) ∧
    (toOpt (Loops.conv_bfe_try_from_slice bs)).map bfe_value = bfeFromBytes bs ∧
    Loops.conv_bfe_try_from_slice_ok bs = true ∧
    Loops.conv_bfe_to_bytes r = bfeToBytes (bfe_value r) ∧ Loops.conv_bfe_to_bytes_ok r = true :=
  ⟨gen_try_new v, gen_try_new_model v, gen_try_new_ok v, (gen_bfe_try_from_array bs).1, (gen_bfe_try_from_slice bs).1,
    (gen_bfe_try_from_slice bs).2, (gen_bfe_to_bytes r).1, (gen_bfe_to_bytes r).2⟩
example : Loops.conv_bfe_try_new 18446744069414584320 = .ok (bfe_new 18446744069414584320) ∧
    Loops.conv_bfe_try_new 18446744069414584321 = .error "NotCanonical" ∧
    Loops.conv_bfe_try_from_slice [1, 0, 0, 0, 0, 0, 0] = .error "InvalidNumBytes" ∧
    Loops.conv_bfe_try_from_slice [1, 0, 0, 0, 255, 255, 255, 255] = .error "NotCanonical" ∧
    Loops.conv_bfe_to_bytes (bfe_new 258) = [2, 1, 0, 0, 0, 0, 0, 0] := by decide +kernel

/-- regenerated `From<Digest> for [u8; 40]`, `TryFrom<[u8; 40]> for Digest`, `TryFrom<&[u8]> for Digest` = hand model (any
    five words; any byte list); no `unwrap()` in them can fail -/
theorem gen_digest_bytes_eq_model (r bs : List Nat) (hr : r.length = 5) :
    Loops.conv_digest_to_bytes r = digestToBytes (vals r) ∧ Loops.conv_digest_to_bytes_ok r = true ∧
    (bs.length = 40 → (toOpt (Loops.conv_digest_try_from_array bs)).map vals = digestFromByteArray bs ∧
      Loops.conv_digest_try_from_array_ok bs = true) ∧
    (toOpt (Loops.conv_digest_try_from_slice bs)).map vals = digestFromBytes bs ∧
    Loops.conv_digest_try_from_slice_ok bs = true :=
  ⟨(gen_digest_to_bytes r hr).1, (gen_digest_to_bytes r hr).2, gen_digest_try_from_array bs,
    (gen_digest_try_from_slice bs).1, (gen_digest_try_from_slice bs).2⟩
example : Loops.conv_digest_try_from_slice (wordsToBytes [1, 2, 3, 4, 18446744069414584321]) = .error "InvalidBFieldElement" ∧
    Loops.conv_digest_try_from_slice (wordsToBytes [1, 2, 3, 4]) = .error "InvalidLength" ∧
    (toOpt (Loops.conv_digest_try_from_slice (wordsToBytes [1, 2, 3, 4, 18446744069414584320]))).map vals
      = some [1, 2, 3, 4, 18446744069414584320] := by decide +kernel

/-- regenerated `TryFrom<BigUint> for Digest` (the `iter_mut` loop, the `u64::try_from(..).unwrap()`, the overflow check)
    and `From<Digest> for BigUint` (the reversed Horner loop) = hand model -/
theorem gen_digest_biguint_eq_model (v : Nat) (r : List Nat) (hr : r.length = 5) :
    (toOpt (Loops.conv_digest_try_from_biguint v)).map vals = digestFromNat v ∧
    Loops.conv_digest_try_from_biguint_ok v = true ∧
    Loops.conv_digest_to_biguint r = digestToNat (vals r) ∧ Loops.conv_digest_to_biguint_ok r = true := by
  obtain ⟨a, b, c, d, e, rfl⟩ := len5 hr
  exact ⟨(gen_digest_try_from_biguint v).1, (gen_digest_try_from_biguint v).2, (gen_digest_to_biguint a b c d e).1,
    (gen_digest_to_biguint a b c d e).2⟩
example : Loops.conv_digest_try_from_biguint (P ^ 5) = .error "Overflow" ∧
    (toOpt (Loops.conv_digest_try_from_biguint (P ^ 5 - 1))).map vals = some [P - 1, P - 1, P - 1, P - 1, P - 1] ∧
    Loops.conv_digest_to_biguint [bfe_new 1, bfe_new 0, bfe_new 0, bfe_new 0, bfe_new 2] = 1 + 2 * P ^ 4 := by
  decide +kernel

/-- regenerated `Ord` / `PartialOrd for Digest`, `reversed`, `From<XFieldElement> for Digest`,
    `TryFrom<Digest> for XFieldElement` = hand model -/
theorem gen_digest_cmp_reversed_xfe_eq_model (r₁ r₂ : List Nat) (a b c d e : Nat) (hd : d < P) (he : e < P) :
    Loops.conv_digest_cmp r₁ r₂ = digestCmp (vals r₁) (vals r₂) ∧ Loops.conv_digest_cmp_ok r₁ r₂ = true ∧
    Loops.conv_digest_partial_cmp r₁ r₂ = some (digestCmp (vals r₁) (vals r₂)) ∧
    digestReversed (vals [a, b, c, d, e]) = some (vals (Loops.conv_digest_reversed [a, b, c, d, e])) ∧
    vals (Loops.conv_xfe_to_digest [a, b, c]) = xfeToDigest (bfe_value a, bfe_value b, bfe_value c) ∧
    (toOpt (Loops.conv_xfe_try_from_digest [a, b, c, d, e])).map
        (fun l => (bfe_value (l.getD 0 0), bfe_value (l.getD 1 0), bfe_value (l.getD 2 0)))
      = xfeFromDigest (vals [a, b, c, d, e]) ∧
    Loops.conv_xfe_try_from_digest_ok [a, b, c, d, e] = true :=
  ⟨(gen_digest_cmp r₁ r₂).1, (gen_digest_cmp r₁ r₂).2.1, (gen_digest_cmp r₁ r₂).2.2, (gen_digest_reversed a b c d e).1,
    (gen_xfe_to_digest a b c).1, (gen_xfe_try_from_digest a b c d e hd he).1, (gen_xfe_try_from_digest a b c d e hd he).2⟩
example : Loops.conv_digest_cmp [bfe_new 5, 0, 0, 0, bfe_new 1] [0, 0, 0, 0, bfe_new 2] = .lt ∧
    Loops.conv_xfe_try_from_digest [bfe_new 1, bfe_new 2, bfe_new 3, 0, bfe_new 1] = .error "InvalidDigest" ∧
    Loops.conv_xfe_try_from_digest [bfe_new 1, bfe_new 2, bfe_new 3, 0, 0] = .ok [bfe_new 1, bfe_new 2, bfe_new 3] := by
  decide +kernel

/-- **transfer**: the C20 statements for the code as it is in the source now.  For every digest of canonical words `r`:
    bytes round trip (`bytes_roundtrip`), every length other than 40 is rejected (`bytes_reject`), `TryFrom<BigUint>`
    accepts exactly the integers below `P⁵` with the exact digits (`biguint_reject`), `From<Digest> for BigUint` is the
    base-`P` value and converts back (`biguint_roundtrip`), `Ord` is the numeric order of these values (`biguint_order`) -/
theorem gen_conv_transfer {r₁ r₂ : List Nat} (h₁ : r₁.length = 5) (h₂ : r₂.length = 5) (w₁ : Raw r₁) (w₂ : Raw r₂) :
    (toOpt (Loops.conv_digest_try_from_slice (Loops.conv_digest_to_bytes r₁))).map vals = some (vals r₁) ∧
    (∀ bs : List Nat, bs.length ≠ 40 → toOpt (Loops.conv_digest_try_from_slice bs) = none) ∧
    (∀ v, (toOpt (Loops.conv_digest_try_from_biguint v)).map vals = if v < P ^ 5 then some (ofNatP 5 v) else none) ∧
    Loops.conv_digest_to_biguint r₁ = valP (vals r₁) ∧
    (toOpt (Loops.conv_digest_try_from_biguint (Loops.conv_digest_to_biguint r₁))).map vals = some (vals r₁) ∧
    Loops.conv_digest_cmp r₁ r₂ = compare (Loops.conv_digest_to_biguint r₁) (Loops.conv_digest_to_biguint r₂) := by
  have wf₁ := wfd_vals h₁ fun x hx => Nat.lt_trans (w₁ x hx) P_lt
  have wf₂ := wfd_vals h₂ fun x hx => Nat.lt_trans (w₂ x hx) P_lt
  have hb₁ := (gen_digest_biguint_eq_model 0 r₁ h₁).2.2.1
  have hb₂ := (gen_digest_biguint_eq_model 0 r₂ h₂).2.2.1
  refine ⟨?_, fun bs hl => ?_, fun v => ?_, ?_, ?_, ?_⟩
  · rw [(gen_digest_bytes_eq_model r₁ _ h₁).2.2.2.1, (gen_digest_bytes_eq_model r₁ [] h₁).1]
    exact (bytes_roundtrip wf₁).1
  · exact toOpt_none_of_map (f := vals) (by rw [(gen_digest_try_from_slice bs).1]; exact bytes_reject.1 bs hl)
  · rw [(gen_digest_try_from_biguint v).1]; exact (biguint_reject v).1
  · rw [hb₁]; exact (biguint_roundtrip wf₁).1
  · rw [(gen_digest_try_from_biguint _).1, hb₁]; exact (biguint_roundtrip wf₁).2.2
  · rw [(gen_digest_cmp r₁ r₂).1, hb₁, hb₂]; exact (biguint_order wf₁ wf₂).1
example : Raw [bfe_new 7, 0, 0, 0, bfe_new 1] ∧ [bfe_new 7, 0, 0, 0, bfe_new 1].length = 5 := by decide +kernel

end TF.C20
