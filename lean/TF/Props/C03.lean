import TF.Proofs.Codec
import TF.Proofs.GenBridgeCodec
import TF.Proofs.GenBridgeCodecGeneric
import TF.Proofs.GenBridgeCodecTuple
import TF.Proofs.GenBridgeCodecEnc
/-!
# C03 — BFieldCodec: round trip, unique encoding, static length, documented layout

Property theorems only (helper lemmas: `TF/Proofs/Codec.lean` for the model, `TF/Proofs/GenBridgeCodec*.lean` for the bridges
to the regenerated code; model: `TF/Model/Codec.lean`, tied to the crate by the correspondence family `codec`).

Notation
* `Ty` — the type grammar (`bfe u8 u16 u32 u64 u128 bool phantom box option vec array tuple poly u32s struct enum`),
  nested to any depth; library structs are definitions (`Ty.digest`, `Ty.xfe`, `Ty.mmrAccumulator`, …);
* `Val` — values; `HasTy t v` — `v` is a (canonical) value of type `t` (decidable, `hasTy t v = true`);
* `encode t v : List Nat`, `decode t s : Outcome Val` (`ok v | err k | panic`), `staticLength t : Option Nat`;
* `Canon s` — all elements of the sequence are canonical field values (`< P`);
* `NoZeroWidthItems t` — no `Vec`/array/polynomial in `t` has an item type of static width 0 (decidable). The
  unchanged crate violates round trip and totality on exactly that class (finding F10); the negation is proved
  below with concrete witnesses.
* the bound `(encode t v).length < 2^64` in the round-trip theorems is what `usize` can index at all.

All theorems hold for the whole universe `Ty` (no arity / well-formedness hypothesis is needed).
-/
namespace TF.C03
open TF.Codec

/-- **Round trip**: decoding the encoding of a value returns that value — every type of the grammar, any nesting. -/
theorem decode_encode (t : Ty) (v : Val) (hv : HasTy t v) (hz : NoZeroWidthItems t)
    (hb : (encode t v).length < 2^64) : decode t (encode t v) = .ok v :=
  TF.Codec.decode_encode t v hv hz hb
example : HasTy (.tuple [.vec (.option .u64), .u32]) (.list [.list [.opt (some (.num (2^64-1))), .opt none], .num 7]) ∧
    NoZeroWidthItems (.tuple [.vec (.option .u64), .u32]) := by decide

/-- **Uniqueness**: any sequence that decodes successfully is exactly the encoding of the decoded value
    (no hypothesis at all: holds for every type, every sequence). -/
theorem encode_decode (t : Ty) (s : List Nat) (v : Val) (h : decode t s = .ok v) : encode t v = s :=
  TF.Codec.encode_decode t s v h
example : decode (.vec (.vec .u32)) [2, 2, 1, 5, 3, 2, 6, 7] = .ok (.list [.list [.num 5], .list [.num 6, .num 7]]) := rfl

/-- an accepted sequence of canonical elements decodes to a well-typed value -/
theorem decode_welltyped (t : Ty) (s : List Nat) (v : Val) (hc : Canon s) (h : decode t s = .ok v) : HasTy t v :=
  TF.Codec.decode_hasTy t s v hc h
example : Canon [2, 2, 1, 5, 3, 2, 6, 18446744069414584320] := by decide

/-- … and conversely every encoding (of a type that can be written in Rust, `wf`; shorter than `P` elements) consists
    of canonical elements, so the two directions compose: `decode_welltyped`/C13 apply to every encoding. -/
theorem encode_canonical (t : Ty) (v : Val) (hv : HasTy t v) (hz : NoZeroWidthItems t) (hw : wf t = true)
    (hb : (encode t v).length < P) : Canon (encode t v) :=
  TF.Codec.encode_canon t v hv hz hw hb
example : wf (.tuple [.vec (.option .u64), .enum [[], [.poly .bfe]]]) = true := by decide

/-- **Encoding is injective** on the values of a type. -/
theorem encode_injective (t : Ty) (v₁ v₂ : Val) (h₁ : HasTy t v₁) (h₂ : HasTy t v₂) (hz : NoZeroWidthItems t)
    (hb : (encode t v₁).length < 2^64) (he : encode t v₁ = encode t v₂) : v₁ = v₂ := by
  have d₁ := TF.Codec.decode_encode t v₁ h₁ hz hb
  have d₂ := TF.Codec.decode_encode t v₂ h₂ hz (he ▸ hb)
  rw [he, d₂] at d₁
  exact (Outcome.ok.inj d₁).symm
example : HasTy (.option .bool) (.opt none) ∧ HasTy (.option .bool) (.opt (some (.num 0))) := by decide

/-- **Exactly one accepted encoding per value**: a sequence decodes to `v` iff it is `encode t v`. -/
theorem unique_encoding (t : Ty) (v : Val) (s : List Nat) (hv : HasTy t v) (hz : NoZeroWidthItems t)
    (hb : (encode t v).length < 2^64) : decode t s = .ok v ↔ s = encode t v :=
  ⟨fun h => (TF.Codec.encode_decode t s v h).symm, fun h => h ▸ TF.Codec.decode_encode t v hv hz hb⟩
example : HasTy (.poly .bfe) (.list [.num 0, .num 3]) ∧ NoZeroWidthItems (.poly .bfe) := by decide

/-- **Static length**: if a type reports a static length, every encoding has that length. -/
theorem static_length_spec (t : Ty) (v : Val) (n : Nat) (hv : HasTy t v) (hs : staticLength t = some n) :
    (encode t v).length = n :=
  TF.Codec.encode_length_static t v n hv hs
example : staticLength (.tuple [.u128, .array 3 .u64, .enum [[.u32], [.bool]]]) = some 12 := by decide

/-- … and the decoder accepts no canonical sequence of any other length. -/
theorem static_length_accepts_only (t : Ty) (s : List Nat) (v : Val) (n : Nat) (hc : Canon s)
    (h : decode t s = .ok v) (hs : staticLength t = some n) : s.length = n :=
  TF.Codec.decode_length_static t s v n hc h hs
example : decode (.array 2 .u64) [1, 0, 2, 0] = .ok (.list [.num 1, .num 2]) := rfl

/-- tuple and struct components: **reverse declaration order**, each length-prefixed iff dynamically sized -/
theorem layout_fields_reverse (ts : List Ty) (vs : List Val) :
    encodeFields ts vs = ((ts.zip vs).reverse.flatMap fun tv => prefixed (isDyn tv.1) (encode tv.1 tv.2)) :=
  TF.Codec.encodeFields_eq_flatMap ts vs
example : encodeFields [.u32, .vec .u8] [.num 9, .list [.num 1, .num 2]] = [3, 2, 1, 2, 9] := rfl

theorem layout_tuple (ts : List Ty) (vs : List Val) : encode (.tuple ts) (.list vs) = encodeFields ts vs := by
  simp [encode]
theorem layout_tuple_cons (t : Ty) (ts : List Ty) (v : Val) (vs : List Val) :
    encode (.tuple (t :: ts)) (.list (v :: vs)) = encode (.tuple ts) (.list vs) ++ prefixed (isDyn t) (encode t v) := by
  simp [encode, encodeFields]
theorem layout_struct (fs : List Ty) (vs : List Val) : encode (.struct fs) (.list vs) = encodeFields fs vs := by
  simp [encode]
/-- `Vec`: the number of items, then the items in order, each prefixed iff the item type is dynamically sized -/
theorem layout_vec (t : Ty) (vs : List Val) :
    encode (.vec t) (.list vs) = vs.length :: encodeItems (encode t) (isDyn t) vs := by
  simp [encode]
/-- arrays: the items in order, no count -/
theorem layout_array (n : Nat) (t : Ty) (vs : List Val) :
    encode (.array n t) (.list vs) = encodeItems (encode t) (isDyn t) vs := by
  simp [encode]
theorem layout_items_cons (t : Ty) (d : Bool) (v : Val) (vs : List Val) :
    encodeItems (encode t) d (v :: vs) = prefixed d (encode t v) ++ encodeItems (encode t) d vs := rfl
theorem layout_option_none (t : Ty) : encode (.option t) (.opt none) = [0] := by simp [encode]
theorem layout_option_some (t : Ty) (v : Val) : encode (.option t) (.opt (some v)) = 1 :: encode t v := by
  simp [encode]
theorem layout_box (t : Ty) (v : Val) : encode (.box t) v = encode t v := by simp [encode]
/-- polynomials: the length of the coefficient-vector encoding, then the coefficient vector (without stored
    leading zeros) encoded as a `Vec` -/
theorem layout_poly (t : Ty) (cs : List Val) :
    encode (.poly t) (.list cs) =
      (encode (.vec t) (.list (normalize cs))).length :: encode (.vec t) (.list (normalize cs)) := by
  simp [encode]
/-- the length prefix is present iff `static_length` is `None` -/
theorem layout_prefix_iff (t : Ty) (e : List Nat) :
    prefixed (isDyn t) e = if staticLength t = none then e.length :: e else e := by
  unfold isDyn prefixed
  cases staticLength t <;> simp
/-- `u64` / `u128`: little-endian 32-bit limbs -/
theorem layout_u64 (n : Nat) : encode .u64 (.num n) = [n % 2^32, n / 2^32 % 2^32] := by simp [encode]
theorem layout_u128 (n : Nat) :
    encode .u128 (.num n) = [n % 2^32, n / 2^32 % 2^32, n / 2^64 % 2^32, n / 2^96 % 2^32] := by simp [encode]

theorem static_length_library :
    staticLength Ty.digest = some 5 ∧ staticLength Ty.xfe = some 3 ∧ staticLength Ty.tip5 = some 16 ∧
    staticLength Ty.mmrAccumulator = none ∧ staticLength Ty.mmrMembershipProof = none ∧
    staticLength Ty.mmrSuccessorProof = none := by decide
/-- `MmrAccumulator { leaf_count, peaks }`: peaks first (length-prefixed `Vec<Digest>`), then the two limbs of the
    leaf count -/
theorem layout_mmr_accumulator (n : Nat) (peaks : List Val) :
    encode Ty.mmrAccumulator (.list [.num n, .list peaks]) =
      (encode (.vec Ty.digest) (.list peaks)).length :: encode (.vec Ty.digest) (.list peaks)
        ++ [n % 2^32, n / 2^32 % 2^32] := by
  simp [Ty.mmrAccumulator, encode, encodeFields, isDyn, staticLength]

/-! ## finding F10: item types of static width 0 (the excluded class is not empty, and the property fails on it) -/

/-- `Vec<PhantomData<_>>::decode([3])` panics (`chunks_exact(0)`) -/
theorem zero_width_vec_panics : decode (.vec .phantom) [3] = .panic := rfl
/-- `Vec<[u32; 0]>::decode([0])` panics although `[0]` is the encoding of the empty vector -/
theorem zero_width_vec_panics_on_own_encoding :
    decode (.vec (.array 0 .u32)) (encode (.vec (.array 0 .u32)) (.list [])) = .panic := rfl
/-- `[PhantomData<_>; 3]` and `[[u32; 0]; 2]` reject their own (empty) encoding -/
theorem zero_width_array_rejects_own_encoding :
    HasTy (.array 3 .phantom) (.list [.unit, .unit, .unit]) ∧
    decode (.array 3 .phantom) (encode (.array 3 .phantom) (.list [.unit, .unit, .unit])) = .err .empty ∧
    HasTy (.array 2 (.array 0 .u32)) (.list [.list [], .list []]) ∧
    decode (.array 2 (.array 0 .u32)) (encode (.array 2 (.array 0 .u32)) (.list [.list [], .list []])) = .err .empty :=
  ⟨rfl, rfl, rfl, rfl⟩
/-- these types are exactly what `NoZeroWidthItems` excludes -/
theorem zero_width_witnesses_excluded :
    ¬ NoZeroWidthItems (.vec .phantom) ∧ ¬ NoZeroWidthItems (.vec (.array 0 .u32)) ∧
    ¬ NoZeroWidthItems (.array 3 .phantom) ∧ ¬ NoZeroWidthItems (.array 2 (.array 0 .u32)) := by decide

end TF.C03

/-! ## regenerated-from-source bridge: the leaf codecs

The leaf impls of `BFieldCodec` — the two `macro_rules!` bodies `impl_bfield_codec_for_big_primitive_uint!(u64, 2)`,
`(u128, 4)` and `impl_bfield_codec_for_small_primitive_uint!(u8, u16, u32)`, the hand-written impls for `bool` and
`BFieldElement`, and the `From` impls of `b_field_element.rs` they go through — are **regenerated from the source on every
run** (`TF/Gen/CodecLeaves.lean`, `TF.Gen.Loops.codec_*`, written by `tools/rs2lean_conv.py`; every function `f` has a twin
`f_ok`, true iff no arithmetic overflow / index out of range / failing `unwrap`).  They work on *raw Montgomery words*;
`vals r = r.map bfe_value` reads the canonical values, `Raw r`: all words `< P`; a `Result<_, BFieldCodecError>` is
`Except String _` whose error is the variant's name, and `exceptNat` / `exceptBool` print a model outcome in that form
(`.err .empty ↦ "EmptySequence"`, `.tooShort ↦ "SequenceTooShort"`, `.tooLong ↦ "SequenceTooLong"`,
`.range ↦ "ElementOutOfRange"`).  Proofs: `TF/Proofs/GenBridgeCodec.lean`, `TF/Proofs/GenBridgeCodecArith.lean`.
The theorems hold for **all** sequences of words and **all** values: which sequences are accepted, the decoded value, the
error (wrong length, limb `≥ 2^32`, value out of range, `bool > 1`), the limb split of the encoding.  A one-token change
of one of these Rust functions changes `TF.Gen.Loops.codec_*`; the theorems below are then re-checked or break. -/
namespace TF.C03
open TF.Codec TF.Gen TF.GenBridge.Codec

/-- regenerated `u64` codec = leaf case of the hand model: decoder on every sequence of words (accepted sequences, value,
    error kind), encoder on every value (limb split; the produced words are canonical), static length; nothing overflows -/
theorem gen_u64_codec_eq_model (r : List Nat) (n : Nat) :
    Loops.codec_u64_decode r = exceptNat (decode .u64 (vals r)) ∧ Loops.codec_u64_decode_ok r = true ∧
    vals (Loops.codec_u64_encode n) = encode .u64 (.num n) ∧ Raw (Loops.codec_u64_encode n) ∧
    Loops.codec_u64_encode_ok n = true ∧ Loops.codec_u64_static_length = staticLength .u64 :=
  ⟨(gen_u64_decode r).1, (gen_u64_decode r).2, (gen_u64_encode n).1, (gen_u64_encode n).2.1, (gen_u64_encode n).2.2,
    gen_static_lengths.1⟩
example : Loops.codec_u64_decode [bfe_new 4294967295, bfe_new 4294967295] = .ok 18446744073709551615 ∧
    Loops.codec_u64_decode [bfe_new 4294967295, bfe_new 4294967296] = .error "ElementOutOfRange" ∧
    Loops.codec_u64_decode [bfe_new 1] = .error "SequenceTooShort" ∧
    Loops.codec_u64_decode [bfe_new 1, 0, 0] = .error "SequenceTooLong" ∧
    Loops.codec_u64_decode [] = .error "EmptySequence" ∧
    vals (Loops.codec_u64_encode 18446744069414584321) = [1, 4294967295] := by decide +kernel

/-- regenerated `u128` codec = leaf case of the hand model (four limbs; the encoder goes through `From<u128>`, i.e.
    `mod_reduce`) -/
theorem gen_u128_codec_eq_model (r : List Nat) (n : Nat) :
    Loops.codec_u128_decode r = exceptNat (decode .u128 (vals r)) ∧ Loops.codec_u128_decode_ok r = true ∧
    vals (Loops.codec_u128_encode n) = encode .u128 (.num n) ∧ Raw (Loops.codec_u128_encode n) ∧
    Loops.codec_u128_encode_ok n = true ∧ Loops.codec_u128_static_length = staticLength .u128 :=
  ⟨(gen_u128_decode r).1, (gen_u128_decode r).2, (gen_u128_encode n).1, (gen_u128_encode n).2.1, (gen_u128_encode n).2.2,
    gen_static_lengths.2.1⟩
example : Loops.codec_u128_decode [bfe_new 4294967295, bfe_new 4294967295, bfe_new 4294967295, bfe_new 4294967295]
      = .ok 340282366920938463463374607431768211455 ∧
    Loops.codec_u128_decode [0, 0, 0, bfe_new 4294967296] = .error "ElementOutOfRange" ∧
    Loops.codec_u128_decode [0, 0, 0] = .error "SequenceTooShort" ∧
    vals (Loops.codec_u128_encode (2 ^ 96 + 2 ^ 64 * 5 + 2 ^ 32 * 7 + 9)) = [9, 7, 5, 1] := by decide +kernel

/-- regenerated `u8` / `u16` / `u32` codecs = leaf cases of the hand model (`uN::try_from(first.value())`) -/
theorem gen_small_codec_eq_model (r : List Nat) (n : Nat) (hn : n < TF.Gen.P) :
    Loops.codec_u8_decode r = exceptNat (decode .u8 (vals r)) ∧ Loops.codec_u8_decode_ok r = true ∧
    Loops.codec_u16_decode r = exceptNat (decode .u16 (vals r)) ∧ Loops.codec_u16_decode_ok r = true ∧
    Loops.codec_u32_decode r = exceptNat (decode .u32 (vals r)) ∧ Loops.codec_u32_decode_ok r = true ∧
    vals (Loops.codec_u8_encode n) = encode .u8 (.num n) ∧ vals (Loops.codec_u16_encode n) = encode .u16 (.num n) ∧
    vals (Loops.codec_u32_encode n) = encode .u32 (.num n) ∧
    Raw (Loops.codec_u8_encode n) ∧ Raw (Loops.codec_u16_encode n) ∧ Raw (Loops.codec_u32_encode n) ∧
    Loops.codec_u8_encode_ok n = true ∧ Loops.codec_u16_encode_ok n = true ∧ Loops.codec_u32_encode_ok n = true ∧
    Loops.codec_u8_static_length = staticLength .u8 ∧ Loops.codec_u16_static_length = staticLength .u16 ∧
    Loops.codec_u32_static_length = staticLength .u32 := by
  obtain ⟨e8, e16, e32, r8, r16, r32, o8, o16, o32⟩ := gen_small_encode n hn
  exact ⟨(gen_u8_decode r).1, (gen_u8_decode r).2, (gen_u16_decode r).1, (gen_u16_decode r).2, (gen_u32_decode r).1,
    (gen_u32_decode r).2, e8, e16, e32, r8, r16, r32, o8, o16, o32, gen_static_lengths.2.2.1, gen_static_lengths.2.2.2.1,
    gen_static_lengths.2.2.2.2.1⟩
example : Loops.codec_u8_decode [bfe_new 255] = .ok 255 ∧ Loops.codec_u8_decode [bfe_new 256] = .error "ElementOutOfRange" ∧
    Loops.codec_u16_decode [bfe_new 65535] = .ok 65535 ∧ Loops.codec_u16_decode [bfe_new 65536] = .error "ElementOutOfRange" ∧
    Loops.codec_u32_decode [bfe_new 4294967296] = .error "ElementOutOfRange" ∧
    Loops.codec_u32_decode [0, 0] = .error "SequenceTooLong" ∧ vals (Loops.codec_u16_encode 513) = [513] := by
  decide +kernel

/-- regenerated `bool` and `BFieldElement` codecs = leaf cases of the hand model (`bool`: the model's value is `0`/`1`;
    `BFieldElement`: the source returns / takes the word itself, the model its value) -/
theorem gen_bool_bfe_codec_eq_model (r : List Nat) (b : Bool) (x : Nat) :
    Loops.codec_bool_decode r = exceptBool (decode .bool (vals r)) ∧ Loops.codec_bool_decode_ok r = true ∧
    vals (Loops.codec_bool_encode b) = encode .bool (.num (if b then 1 else 0)) ∧ Raw (Loops.codec_bool_encode b) ∧
    Loops.codec_bool_encode_ok b = true ∧ Loops.codec_bool_static_length = staticLength .bool ∧
    exceptVal (Loops.codec_bfe_decode r) = exceptNat (decode .bfe (vals r)) ∧ Loops.codec_bfe_decode_ok r = true ∧
    vals (Loops.codec_bfe_encode x) = encode .bfe (.num (bfe_value x)) ∧ Loops.codec_bfe_encode x = [x] ∧
    Loops.codec_bfe_encode_ok x = true ∧ Loops.codec_bfe_static_length = staticLength .bfe :=
  ⟨(gen_bool_decode r).1, (gen_bool_decode r).2, (gen_bool_encode b).1, (gen_bool_encode b).2.1, (gen_bool_encode b).2.2,
    gen_static_lengths.2.2.2.2.2.1, (gen_bfe_decode r).1, (gen_bfe_decode r).2, (gen_bfe_encode x).1, (gen_bfe_encode x).2.1,
    (gen_bfe_encode x).2.2, gen_static_lengths.2.2.2.2.2.2⟩
example : Loops.codec_bool_decode [bfe_new 1] = .ok true ∧ Loops.codec_bool_decode [bfe_new 2] = .error "ElementOutOfRange" ∧
    Loops.codec_bool_decode [] = .error "EmptySequence" ∧ Loops.codec_bfe_decode [7, 8] = .error "SequenceTooLong" ∧
    Loops.codec_bfe_decode [7] = .ok 7 ∧ vals (Loops.codec_bool_encode true) = [1] := by decide +kernel

/-- **transfer** of `layout_u64` / `layout_u128`, `decode_encode`, `encode_decode` and `static_length_spec` to the code as
    it is in the source now: the regenerated encoders emit the little-endian 32-bit limbs (as canonical words), the
    regenerated decoders invert them, an accepted sequence of words has exactly the values of the encoding of the decoded
    integer, and encodings have the static length -/
theorem gen_leaf_layout_roundtrip_transfer (n : Nat) (r : List Nat) :
    vals (Loops.codec_u64_encode n) = [n % 2^32, n / 2^32 % 2^32] ∧
    vals (Loops.codec_u128_encode n) = [n % 2^32, n / 2^32 % 2^32, n / 2^64 % 2^32, n / 2^96 % 2^32] ∧
    (n < 2^64 → Loops.codec_u64_decode (Loops.codec_u64_encode n) = .ok n) ∧
    (n < 2^128 → Loops.codec_u128_decode (Loops.codec_u128_encode n) = .ok n) ∧
    (Loops.codec_u64_decode r = .ok n → vals r = vals (Loops.codec_u64_encode n)) ∧
    (Loops.codec_u128_decode r = .ok n → vals r = vals (Loops.codec_u128_encode n)) ∧
    some (Loops.codec_u64_encode n).length = Loops.codec_u64_static_length ∧
    some (Loops.codec_u128_encode n).length = Loops.codec_u128_static_length := by
  have e64 := (gen_u64_encode n).1
  have e128 := (gen_u128_encode n).1
  have d64 : ∀ s, decode .u64 s = .ok (.num n) → exceptNat (decode .u64 s) = .ok n := fun s h => by rw [h]; rfl
  have d128 : ∀ s, decode .u128 s = .ok (.num n) → exceptNat (decode .u128 s) = .ok n := fun s h => by rw [h]; rfl
  refine ⟨?_, ?_, fun h => ?_, fun h => ?_, fun h => ?_, fun h => ?_, ?_, ?_⟩
  · rw [e64, layout_u64]
  · rw [e128, layout_u128]
  · rw [(gen_u64_decode _).1, e64]
    exact d64 _ (decode_encode .u64 (.num n) (by simpa [HasTy, hasTy, isNumBelow] using h) (by decide) (by simp [encode]))
  · rw [(gen_u128_decode _).1, e128]
    exact d128 _ (decode_encode .u128 (.num n) (by simpa [HasTy, hasTy, isNumBelow] using h) (by decide)
      (by simp [encode]))
  · rw [(gen_u64_decode r).1] at h
    rw [e64]; exact (encode_decode .u64 _ _ (exceptNat_u64_inv _ _ h)).symm
  · rw [(gen_u128_decode r).1] at h
    rw [e128]; exact (encode_decode .u128 _ _ (exceptNat_u128_inv _ _ h)).symm
  · rfl
  · rfl
example : Loops.codec_u64_decode (Loops.codec_u64_encode 18446744073709551615) = .ok 18446744073709551615 ∧
    (18446744073709551615 : Nat) < 2^64 := by decide +kernel

end TF.C03

/-! ## regenerated-from-source bridge: the generic list combinators

`bfield_codec_decode_list_with_statically_sized_items`, `…_with_dynamically_sized_items`, `bfield_codec_decode_list` and
`bfield_codec_encode_list` are **regenerated from the source on every run** (`TF/Gen/CodecGeneric.lean`,
`tools/rs2lean_codec.py`): the trait methods of the type parameter are parameter functions (`T_static_length : Option Nat`,
`T_decode : List Nat → Res T_Error T`, `T_encode : T → List Nat`, `T_err_into`), a Rust function returning `Result` is a
function into `Res` (`ok | err | panic`, panic points explicit), the `for` loops with `?` are folds that stop at the first
`err` / `panic`.  The bridges hold for **every** item decoder / encoder (`Item T_decode toVal dec`: the item decoder on raw
words is observed as the model's item decoder on canonical values), every count and every sequence of `u64` words
(`Words r`); error kinds are not compared (`Obs`; the Rust code wraps the item's error).  Proofs:
`TF/Proofs/GenBridgeCodecGeneric.lean`. -/
namespace TF.C03
open TF.Codec TF.Gen TF.GenBridge.Codec TF.GenBridge.CodecG TF.RustStd

/-- regenerated static list decoder = `decodeList dec (some w)`: `checked_mul` overflow, both length comparisons,
    `chunks_exact(0)` panicking for zero-width items (F10), the chunk loop with its early exit -/
theorem gen_decode_list_static_eq_model {ε α : Type} (T_decode : List Nat → Res ε α) (into : ε → DynErr) (toVal : α → Val)
    (dec : List Nat → Outcome Val) (h : Item T_decode toVal dec) (w n : Nat) (r : List Nat) (hw : Words r) :
    obsR (List.map toVal) (Loops.codec_decode_list_static (some w) T_decode into n r)
      = obsM (decodeList dec (some w) n (vals r)) :=
  gen_decode_list_static T_decode into toVal dec h w n r hw

/-- the regenerated code shows the known finding F10: a zero-width item type makes the static list decoder panic
    (`chunks_exact(0)`) on the sequence it should accept, whatever the item decoder is -/
theorem gen_zero_width_list_panics {ε α : Type} (T_decode : List Nat → Res ε α) (into : ε → DynErr) (n : Nat) :
    Loops.codec_decode_list_static_ok (some 0) T_decode into n [] = false := by
  simp [Loops.codec_decode_list_static_ok, Loops.codec_decode_list_static, Res.unwrapO, TF.RustStd.checked_mul, Res.need,
    Res.noPanic]

/-- regenerated dynamic list decoder = `decodeList dec none`: per-item length prefix, `sequence_index + item_length`
    (overflow = panic), comparison with the remaining length, item slice, early exits, "nothing left" at the end -/
theorem gen_decode_list_dynamic_eq_model {ε α : Type} (T_decode : List Nat → Res ε α) (into : ε → DynErr) (toVal : α → Val)
    (dec : List Nat → Outcome Val) (h : Item T_decode toVal dec) (n : Nat) (r : List Nat) (hw : Words r) :
    obsR (List.map toVal) (Loops.codec_decode_list_dynamic T_decode into n r) = obsM (decodeList dec none n (vals r)) :=
  gen_decode_list_dynamic T_decode into toVal dec h n r hw

/-- regenerated `bfield_codec_decode_list` = `decodeList` (dispatch on the item's static length) -/
theorem gen_decode_list_eq_model {ε α : Type} (sl : Option Nat) (T_decode : List Nat → Res ε α) (into : ε → DynErr)
    (toVal : α → Val) (dec : List Nat → Outcome Val) (h : Item T_decode toVal dec) (n : Nat) (r : List Nat) (hw : Words r) :
    obsR (List.map toVal) (Loops.codec_decode_list sl T_decode into n r) = obsM (decodeList dec sl n (vals r)) :=
  gen_decode_list sl T_decode into toVal dec h n r hw

/-- regenerated `bfield_codec_encode_list` = `encodeItems`: items in order, prefixed iff dynamically sized -/
theorem gen_encode_list_eq_model {α : Type} (sl : Option Nat) (enc : α → List Nat) (toVal : α → Val) (encM : Val → List Nat)
    (he : ∀ x, vals (enc x) = encM (toVal x)) (xs : List α) (hl : ∀ x ∈ xs, (enc x).length < TF.BF.Pn) :
    vals (Loops.codec_encode_list sl enc xs) = encodeItems encM sl.isNone (xs.map toVal) :=
  gen_encode_list sl enc toVal encM he xs hl

/-- the hypotheses are satisfiable: the identity "decoder" of one-word items is observed as the model's `bfe` decoder -/
example : Item (fun r => match r with | [x] => (Res.ok x : Res String Nat) | [] => .err "e" | _ => .err "l")
    (fun x => Val.num (bfe_value x)) (decode .bfe) := by
  intro r _
  match r with
  | [] => rfl
  | [x] => rfl
  | _ :: _ :: _ => rfl

/-- **composites** (regenerated `Vec<T>`, `[T; N]`, `Option<T>`, `Box<T>`, `PhantomData<T>` decoders): if the component codec
    is the model's (`Item T_decode toVal (decode t)`, static length `staticLength t`), the composite is the model's
    constructor case of `decode` -- so by induction every type built from bridged leaves with these constructors is
    decoded by the current source exactly as the hand model says (value, rejection, panic) -/
theorem gen_composite_codecs_eq_model {ε α : Type} (t : Ty) (n : Nat) (T_decode : List Nat → Res ε α) (into : ε → DynErr)
    (toVal : α → Val) (h : Item T_decode toVal (decode t)) :
    Item (Loops.codec_vec_decode (staticLength t) T_decode into) (fun l => Val.list (l.map toVal)) (decode (.vec t)) ∧
    Item (Loops.codec_array_decode n (staticLength t) T_decode into) (fun l => Val.list (l.map toVal)) (decode (.array n t)) ∧
    Item (Loops.codec_option_decode T_decode into) (fun o => Val.opt (Option.map toVal o)) (decode (.option t)) ∧
    Item (Loops.codec_box_decode T_decode) toVal (decode (.box t)) ∧
    Item Loops.codec_phantom_decode (fun _ => Val.unit) (decode .phantom) ∧
    Loops.codec_vec_static_length = staticLength (.vec t) ∧ Loops.codec_option_static_length = staticLength (.option t) ∧
    Loops.codec_box_static_length (staticLength t) = staticLength (.box t) ∧
    Loops.codec_phantom_static_length = staticLength .phantom ∧
    Loops.codec_array_static_length n (staticLength t) = staticLength (.array n t) :=
  ⟨vec_item t T_decode into toVal h, array_item n t T_decode into toVal h, option_item t T_decode into toVal h,
    box_item t T_decode toVal h, phantom_item, rfl, rfl, rfl, rfl, by
      simp only [Loops.codec_array_static_length, staticLength]; cases staticLength t <;> rfl⟩
example : Item Loops.codec_phantom_decode (fun _ => Val.unit) (decode .phantom) := phantom_item

/-- **`Polynomial<T>`**: the regenerated decoder (length indicator against the sequence length, `Vec<T>::decode` of the rest,
    rejection of a trailing zero coefficient through `T::is_zero`) is the model's `poly` case whenever the coefficient
    codec and `is_zero` are the model's -/
theorem gen_poly_codec_eq_model {ε α : Type} (t : Ty) (T_decode : List Nat → Res ε α) (into : ε → DynErr) (isz : α → Bool)
    (toVal : α → Val) (h : Item T_decode toVal (decode t)) (hz : ∀ a, isz a = valIsZero (toVal a)) :
    Item (Loops.codec_poly_decode (staticLength t) T_decode into isz) (fun l => Val.list (l.map toVal)) (decode (.poly t)) ∧
    Loops.codec_poly_static_length = staticLength (.poly t) :=
  ⟨poly_item t T_decode into isz toVal h hz, rfl⟩
example : ∀ a : Nat, (fun x : Nat => x == 0) a = valIsZero (Val.num a) := fun _ => rfl

/-- **transfer** of `encode_decode` / `decode_welltyped`-style facts to the regenerated combinators: whatever a regenerated
    composite decoder (one that is observed as `decode ty`) accepts, re-encodes (model encoder) to the values of the
    accepted words; in particular two accepted sequences with the same decoded value have the same values -/
theorem gen_combinators_roundtrip_transfer {ε α : Type} (ty : Ty) (G : List Nat → Res ε α) (toVal : α → Val)
    (h : Item G toVal (decode ty)) (r : List Nat) (hw : Words r) (a : α) (hg : G r = .ok a) :
    encode ty (toVal a) = vals r :=
  encode_decode ty (vals r) (toVal a) (item_ok h r hw a hg)
example : Loops.codec_phantom_decode [] = .ok () := rfl

end TF.C03

/-! ## regenerated-from-source bridge: the encoders of `Vec` / `[T; N]` / `Option` / `Polynomial` and the tuples 2..12

The remaining regenerated generic codec functions of `TF/Gen/CodecGeneric.lean` are bridged to the constructor cases of the hand
model, with the component codecs as hypotheses (decoders: `Item T_decode toVal (decode t)`; encoders:
`∀ x, vals (enc x) = encode t (toVal x)`), in the style of `gen_composite_codecs_eq_model`.  Lengths that the code converts with
`usize -> BFieldElement` carry the hypothesis `< P` (see the assumptions in tools/props/C03.json: the model emits them unreduced).

Tuples: every arity of `impl_bfield_codec_for_tuple!` expands to the same per-component code applied to the type parameters from
the last to the first.  The regenerated `codec_tupleN_decode` / `_encode` / `_static_length` unfold to that code iterated (`compStep` /
`pushComp` / one `match` per parameter; `TF/Proofs/GenBridgeCodecTuple.lean`, `GenBridgeCodecEnc.lean`), and **one** lemma about the step (`compStep_chain`:
the step is `decodeItem` of the model, error for error, panic for panic; `pushComp_chain`: the step is `prefixed`;
`tuple_static_length`), applied once per type parameter, gives all arities; the statements for the arities 2..12 below are the
instances of that schema (no arity is proved by a separate argument).  Non-vacuity: each statement is instantiated with
`PhantomData` components. -/
namespace TF.C03
open TF.Codec TF.Gen TF.GenBridge.Codec TF.GenBridge.CodecG TF.RustStd

/-- **encoders of `Vec<T>`, `[T; N]`, `Option<T>`**: the regenerated code is the `vec` / `array` / `option` case of the hand
    model's `encode` whenever the item encoder is the model's -/
theorem gen_composite_encoders_eq_model {α : Type} (t : Ty) (n : Nat) (enc : α → List Nat) (toVal : α → Val)
    (he : ∀ x, vals (enc x) = encode t (toVal x)) (xs : List α) (o : Option α) (hn : xs.length < TF.BF.Pn)
    (hl : ∀ x ∈ xs, (enc x).length < TF.BF.Pn) :
    vals (Loops.codec_vec_encode (staticLength t) enc xs) = encode (.vec t) (.list (xs.map toVal)) ∧
    vals (Loops.codec_array_encode n (staticLength t) enc xs) = encode (.array n t) (.list (xs.map toVal)) ∧
    vals (Loops.codec_option_encode enc o) = encode (.option t) (.opt (o.map toVal)) :=
  ⟨gen_vec_encode t enc toVal he xs hn hl, gen_array_encode n t enc toVal he xs hl, gen_option_encode t enc toVal he o⟩
example : vals (Loops.codec_vec_encode (staticLength .phantom) Loops.codec_phantom_encode [(), ()]) =
    encode (.vec .phantom) (.list [Val.unit, Val.unit]) :=
  (gen_composite_encoders_eq_model .phantom 2 Loops.codec_phantom_encode (fun _ => Val.unit) (fun _ => rfl) [(), ()] none
    (by decide) (fun _ _ => by show 0 < TF.BF.Pn; decide)).1

/-- **`Polynomial<T>::encode`** (and `Polynomial::coefficients()`: `rposition` of the last non-zero coefficient): the
    regenerated code is the `poly` case of the hand model's `encode` (the *normalised* coefficients as a `Vec`, preceded by the
    length of that encoding) whenever the coefficient encoder and `is_zero` are the model's -/
theorem gen_poly_encoder_eq_model {α : Type} (t : Ty) (enc : α → List Nat) (isz : α → Bool) (toVal : α → Val)
    (he : ∀ x, vals (enc x) = encode t (toVal x)) (hz : ∀ a, isz a = valIsZero (toVal a)) (cs : List α)
    (hn : (Loops.codec_poly_coefficients isz cs).length < TF.BF.Pn)
    (hl : ∀ x ∈ Loops.codec_poly_coefficients isz cs, (enc x).length < TF.BF.Pn)
    (hlen : (Loops.codec_vec_encode (staticLength t) enc (Loops.codec_poly_coefficients isz cs)).length < TF.BF.Pn) :
    (Loops.codec_poly_coefficients isz cs).map toVal = normalize (cs.map toVal) ∧
    vals (Loops.codec_poly_encode (staticLength t) enc isz cs) = encode (.poly t) (.list (cs.map toVal)) :=
  ⟨poly_coefficients_map toVal isz hz cs, gen_poly_encode t enc isz toVal he hz cs hn hl hlen⟩
example : (Loops.codec_poly_coefficients (fun x : Nat => x == 0) [1, 0, 2, 0, 0]).map Val.num =
    normalize ([1, 0, 2, 0, 0].map Val.num) :=
  poly_coefficients_map Val.num (fun x => x == 0) (fun _ => rfl) _

/-- **2-tuples**: the regenerated `decode` / `static_length` of `impl_bfield_codec_for_tuple!(A, B)` are the `tuple` case of the
    hand model (components read from the last to the first, `decodeItem` each, nothing may be left) whenever the component
    decoders are the model's -/
theorem gen_tuple2_decode_eq_model {A A_Error B B_Error : Type} (tA : Ty) (tB : Ty)
    (A_dec : List Nat → Res A_Error A) (A_into : A_Error → DynErr) (A_toVal : A → Val) (B_dec : List Nat → Res B_Error B) (B_into : B_Error → DynErr) (B_toVal : B → Val)
    (hA : Item A_dec A_toVal (decode tA)) (hB : Item B_dec B_toVal (decode tB)) :
    Item (Loops.codec_tuple2_decode (staticLength tA) A_dec A_into (staticLength tB) B_dec B_into)
      (fun p => Val.list [A_toVal p.1, B_toVal p.2]) (decode (.tuple [tA, tB])) ∧
    Loops.codec_tuple2_static_length (staticLength tA) (staticLength tB) = staticLength (.tuple [tA, tB]) :=
  ⟨tuple_item fun r =>
    compStep_chain hB fun _ _ _ => compStep_chain hA fun _ _ _ _ => tuple_finish rfl,
   tuple_static_length tA [tB]⟩
example : Loops.codec_tuple2_static_length (staticLength .phantom) (staticLength .phantom) = staticLength (.tuple [.phantom, .phantom]) :=
  (gen_tuple2_decode_eq_model .phantom .phantom Loops.codec_phantom_decode (fun e => ⟨e⟩) (fun _ => Val.unit) Loops.codec_phantom_decode (fun e => ⟨e⟩) (fun _ => Val.unit) phantom_item phantom_item).2

/-- regenerated `encode` of the 2-tuple = the `tuple` case of the hand model's `encode` (reverse declaration order, a component
    is prefixed by its length iff its `static_length()` is `None`) whenever the component encoders are the model's -/
theorem gen_tuple2_encode_eq_model {A B : Type} (tA : Ty) (tB : Ty) (A_enc : A → List Nat) (A_toVal : A → Val) (B_enc : B → List Nat) (B_toVal : B → Val)
    (heA : ∀ x, vals (A_enc x) = encode tA (A_toVal x)) (heB : ∀ x, vals (B_enc x) = encode tB (B_toVal x))
    (self : (A × B)) (hlA : (A_enc self.1).length < TF.BF.Pn) (hlB : (B_enc self.2).length < TF.BF.Pn) :
    vals (Loops.codec_tuple2_encode (staticLength tA) A_enc (staticLength tB) B_enc self) =
      encode (.tuple [tA, tB]) (.list [A_toVal self.1, B_toVal self.2]) :=
  by
  rw [layout_tuple]
  exact pushComp_chain (heA _) hlA <| pushComp_chain (heB _) hlB <| (encodeFields_nil _).symm
example : vals (Loops.codec_tuple2_encode (staticLength .phantom) Loops.codec_phantom_encode (staticLength .phantom) Loops.codec_phantom_encode ((), ())) =
    encode (.tuple [.phantom, .phantom]) (.list [Val.unit, Val.unit]) :=
  gen_tuple2_encode_eq_model .phantom .phantom Loops.codec_phantom_encode (fun _ => Val.unit) Loops.codec_phantom_encode (fun _ => Val.unit) (fun _ => rfl) (fun _ => rfl) ((), ()) (by decide) (by decide)

/-- **3-tuples**: the regenerated `decode` / `static_length` of `impl_bfield_codec_for_tuple!(A, B, C)` are the `tuple` case of the
    hand model (components read from the last to the first, `decodeItem` each, nothing may be left) whenever the component
    decoders are the model's -/
theorem gen_tuple3_decode_eq_model {A A_Error B B_Error C C_Error : Type} (tA : Ty) (tB : Ty) (tC : Ty)
    (A_dec : List Nat → Res A_Error A) (A_into : A_Error → DynErr) (A_toVal : A → Val) (B_dec : List Nat → Res B_Error B) (B_into : B_Error → DynErr) (B_toVal : B → Val) (C_dec : List Nat → Res C_Error C) (C_into : C_Error → DynErr) (C_toVal : C → Val)
    (hA : Item A_dec A_toVal (decode tA)) (hB : Item B_dec B_toVal (decode tB)) (hC : Item C_dec C_toVal (decode tC)) :
    Item (Loops.codec_tuple3_decode (staticLength tA) A_dec A_into (staticLength tB) B_dec B_into (staticLength tC) C_dec C_into)
      (fun p => Val.list [A_toVal p.1, B_toVal p.2.1, C_toVal p.2.2]) (decode (.tuple [tA, tB, tC])) ∧
    Loops.codec_tuple3_static_length (staticLength tA) (staticLength tB) (staticLength tC) = staticLength (.tuple [tA, tB, tC]) :=
  ⟨tuple_item fun r =>
    compStep_chain hC fun _ _ _ => compStep_chain hB fun _ _ _ => compStep_chain hA fun _ _ _ _ => tuple_finish rfl,
   tuple_static_length tA [tB, tC]⟩
example : Loops.codec_tuple3_static_length (staticLength .phantom) (staticLength .phantom) (staticLength .phantom) = staticLength (.tuple [.phantom, .phantom, .phantom]) :=
  (gen_tuple3_decode_eq_model .phantom .phantom .phantom Loops.codec_phantom_decode (fun e => ⟨e⟩) (fun _ => Val.unit) Loops.codec_phantom_decode (fun e => ⟨e⟩) (fun _ => Val.unit) Loops.codec_phantom_decode (fun e => ⟨e⟩) (fun _ => Val.unit) phantom_item phantom_item phantom_item).2

/-- regenerated `encode` of the 3-tuple = the `tuple` case of the hand model's `encode` (reverse declaration order, a component
    is prefixed by its length iff its `static_length()` is `None`) whenever the component encoders are the model's -/
theorem gen_tuple3_encode_eq_model {A B C : Type} (tA : Ty) (tB : Ty) (tC : Ty) (A_enc : A → List Nat) (A_toVal : A → Val) (B_enc : B → List Nat) (B_toVal : B → Val) (C_enc : C → List Nat) (C_toVal : C → Val)
    (heA : ∀ x, vals (A_enc x) = encode tA (A_toVal x)) (heB : ∀ x, vals (B_enc x) = encode tB (B_toVal x)) (heC : ∀ x, vals (C_enc x) = encode tC (C_toVal x))
    (self : (A × B × C)) (hlA : (A_enc self.1).length < TF.BF.Pn) (hlB : (B_enc self.2.1).length < TF.BF.Pn) (hlC : (C_enc self.2.2).length < TF.BF.Pn) :
    vals (Loops.codec_tuple3_encode (staticLength tA) A_enc (staticLength tB) B_enc (staticLength tC) C_enc self) =
      encode (.tuple [tA, tB, tC]) (.list [A_toVal self.1, B_toVal self.2.1, C_toVal self.2.2]) :=
  by
  rw [layout_tuple]
  exact pushComp_chain (heA _) hlA <| pushComp_chain (heB _) hlB <| pushComp_chain (heC _) hlC <|
    (encodeFields_nil _).symm
example : vals (Loops.codec_tuple3_encode (staticLength .phantom) Loops.codec_phantom_encode (staticLength .phantom) Loops.codec_phantom_encode (staticLength .phantom) Loops.codec_phantom_encode ((), (), ())) =
    encode (.tuple [.phantom, .phantom, .phantom]) (.list [Val.unit, Val.unit, Val.unit]) :=
  gen_tuple3_encode_eq_model .phantom .phantom .phantom Loops.codec_phantom_encode (fun _ => Val.unit) Loops.codec_phantom_encode (fun _ => Val.unit) Loops.codec_phantom_encode (fun _ => Val.unit) (fun _ => rfl) (fun _ => rfl) (fun _ => rfl) ((), (), ()) (by decide) (by decide) (by decide)

/-- **4-tuples**: the regenerated `decode` / `static_length` of `impl_bfield_codec_for_tuple!(A, B, C, D)` are the `tuple` case of the
    hand model (components read from the last to the first, `decodeItem` each, nothing may be left) whenever the component
    decoders are the model's -/
theorem gen_tuple4_decode_eq_model {A A_Error B B_Error C C_Error D D_Error : Type} (tA : Ty) (tB : Ty) (tC : Ty) (tD : Ty)
    (A_dec : List Nat → Res A_Error A) (A_into : A_Error → DynErr) (A_toVal : A → Val) (B_dec : List Nat → Res B_Error B) (B_into : B_Error → DynErr) (B_toVal : B → Val) (C_dec : List Nat → Res C_Error C) (C_into : C_Error → DynErr) (C_toVal : C → Val) (D_dec : List Nat → Res D_Error D) (D_into : D_Error → DynErr) (D_toVal : D → Val)
    (hA : Item A_dec A_toVal (decode tA)) (hB : Item B_dec B_toVal (decode tB)) (hC : Item C_dec C_toVal (decode tC)) (hD : Item D_dec D_toVal (decode tD)) :
    Item (Loops.codec_tuple4_decode (staticLength tA) A_dec A_into (staticLength tB) B_dec B_into (staticLength tC) C_dec C_into (staticLength tD) D_dec D_into)
      (fun p => Val.list [A_toVal p.1, B_toVal p.2.1, C_toVal p.2.2.1, D_toVal p.2.2.2]) (decode (.tuple [tA, tB, tC, tD])) ∧
    Loops.codec_tuple4_static_length (staticLength tA) (staticLength tB) (staticLength tC) (staticLength tD) = staticLength (.tuple [tA, tB, tC, tD]) :=
  ⟨tuple_item fun r =>
    compStep_chain hD fun _ _ _ => compStep_chain hC fun _ _ _ => compStep_chain hB fun _ _ _ =>
      compStep_chain hA fun _ _ _ _ => tuple_finish rfl,
   tuple_static_length tA [tB, tC, tD]⟩
example : Loops.codec_tuple4_static_length (staticLength .phantom) (staticLength .phantom) (staticLength .phantom) (staticLength .phantom) = staticLength (.tuple [.phantom, .phantom, .phantom, .phantom]) :=
  (gen_tuple4_decode_eq_model .phantom .phantom .phantom .phantom Loops.codec_phantom_decode (fun e => ⟨e⟩) (fun _ => Val.unit) Loops.codec_phantom_decode (fun e => ⟨e⟩) (fun _ => Val.unit) Loops.codec_phantom_decode (fun e => ⟨e⟩) (fun _ => Val.unit) Loops.codec_phantom_decode (fun e => ⟨e⟩) (fun _ => Val.unit) phantom_item phantom_item phantom_item phantom_item).2

/-- regenerated `encode` of the 4-tuple = the `tuple` case of the hand model's `encode` (reverse declaration order, a component
    is prefixed by its length iff its `static_length()` is `None`) whenever the component encoders are the model's -/
theorem gen_tuple4_encode_eq_model {A B C D : Type} (tA : Ty) (tB : Ty) (tC : Ty) (tD : Ty) (A_enc : A → List Nat) (A_toVal : A → Val) (B_enc : B → List Nat) (B_toVal : B → Val) (C_enc : C → List Nat) (C_toVal : C → Val) (D_enc : D → List Nat) (D_toVal : D → Val)
    (heA : ∀ x, vals (A_enc x) = encode tA (A_toVal x)) (heB : ∀ x, vals (B_enc x) = encode tB (B_toVal x)) (heC : ∀ x, vals (C_enc x) = encode tC (C_toVal x)) (heD : ∀ x, vals (D_enc x) = encode tD (D_toVal x))
    (self : (A × B × C × D)) (hlA : (A_enc self.1).length < TF.BF.Pn) (hlB : (B_enc self.2.1).length < TF.BF.Pn) (hlC : (C_enc self.2.2.1).length < TF.BF.Pn) (hlD : (D_enc self.2.2.2).length < TF.BF.Pn) :
    vals (Loops.codec_tuple4_encode (staticLength tA) A_enc (staticLength tB) B_enc (staticLength tC) C_enc (staticLength tD) D_enc self) =
      encode (.tuple [tA, tB, tC, tD]) (.list [A_toVal self.1, B_toVal self.2.1, C_toVal self.2.2.1, D_toVal self.2.2.2]) :=
  by
  rw [layout_tuple]
  exact pushComp_chain (heA _) hlA <| pushComp_chain (heB _) hlB <| pushComp_chain (heC _) hlC <|
    pushComp_chain (heD _) hlD <| (encodeFields_nil _).symm
example : vals (Loops.codec_tuple4_encode (staticLength .phantom) Loops.codec_phantom_encode (staticLength .phantom) Loops.codec_phantom_encode (staticLength .phantom) Loops.codec_phantom_encode (staticLength .phantom) Loops.codec_phantom_encode ((), (), (), ())) =
    encode (.tuple [.phantom, .phantom, .phantom, .phantom]) (.list [Val.unit, Val.unit, Val.unit, Val.unit]) :=
  gen_tuple4_encode_eq_model .phantom .phantom .phantom .phantom Loops.codec_phantom_encode (fun _ => Val.unit) Loops.codec_phantom_encode (fun _ => Val.unit) Loops.codec_phantom_encode (fun _ => Val.unit) Loops.codec_phantom_encode (fun _ => Val.unit) (fun _ => rfl) (fun _ => rfl) (fun _ => rfl) (fun _ => rfl) ((), (), (), ()) (by decide) (by decide) (by decide) (by decide)

/-- **5-tuples**: the regenerated `decode` / `static_length` of `impl_bfield_codec_for_tuple!(A, B, C, D, E)` are the `tuple` case of the
    hand model (components read from the last to the first, `decodeItem` each, nothing may be left) whenever the component
    decoders are the model's -/
theorem gen_tuple5_decode_eq_model {A A_Error B B_Error C C_Error D D_Error E E_Error : Type} (tA : Ty) (tB : Ty) (tC : Ty) (tD : Ty) (tE : Ty)
    (A_dec : List Nat → Res A_Error A) (A_into : A_Error → DynErr) (A_toVal : A → Val) (B_dec : List Nat → Res B_Error B) (B_into : B_Error → DynErr) (B_toVal : B → Val) (C_dec : List Nat → Res C_Error C) (C_into : C_Error → DynErr) (C_toVal : C → Val) (D_dec : List Nat → Res D_Error D) (D_into : D_Error → DynErr) (D_toVal : D → Val) (E_dec : List Nat → Res E_Error E) (E_into : E_Error → DynErr) (E_toVal : E → Val)
    (hA : Item A_dec A_toVal (decode tA)) (hB : Item B_dec B_toVal (decode tB)) (hC : Item C_dec C_toVal (decode tC)) (hD : Item D_dec D_toVal (decode tD)) (hE : Item E_dec E_toVal (decode tE)) :
    Item (Loops.codec_tuple5_decode (staticLength tA) A_dec A_into (staticLength tB) B_dec B_into (staticLength tC) C_dec C_into (staticLength tD) D_dec D_into (staticLength tE) E_dec E_into)
      (fun p => Val.list [A_toVal p.1, B_toVal p.2.1, C_toVal p.2.2.1, D_toVal p.2.2.2.1, E_toVal p.2.2.2.2]) (decode (.tuple [tA, tB, tC, tD, tE])) ∧
    Loops.codec_tuple5_static_length (staticLength tA) (staticLength tB) (staticLength tC) (staticLength tD) (staticLength tE) = staticLength (.tuple [tA, tB, tC, tD, tE]) :=
  ⟨tuple_item fun r =>
    compStep_chain hE fun _ _ _ => compStep_chain hD fun _ _ _ => compStep_chain hC fun _ _ _ =>
      compStep_chain hB fun _ _ _ => compStep_chain hA fun _ _ _ _ => tuple_finish rfl,
   tuple_static_length tA [tB, tC, tD, tE]⟩
example : Loops.codec_tuple5_static_length (staticLength .phantom) (staticLength .phantom) (staticLength .phantom) (staticLength .phantom) (staticLength .phantom) = staticLength (.tuple [.phantom, .phantom, .phantom, .phantom, .phantom]) :=
  (gen_tuple5_decode_eq_model .phantom .phantom .phantom .phantom .phantom Loops.codec_phantom_decode (fun e => ⟨e⟩) (fun _ => Val.unit) Loops.codec_phantom_decode (fun e => ⟨e⟩) (fun _ => Val.unit) Loops.codec_phantom_decode (fun e => ⟨e⟩) (fun _ => Val.unit) Loops.codec_phantom_decode (fun e => ⟨e⟩) (fun _ => Val.unit) Loops.codec_phantom_decode (fun e => ⟨e⟩) (fun _ => Val.unit) phantom_item phantom_item phantom_item phantom_item phantom_item).2

/-- regenerated `encode` of the 5-tuple = the `tuple` case of the hand model's `encode` (reverse declaration order, a component
    is prefixed by its length iff its `static_length()` is `None`) whenever the component encoders are the model's -/
theorem gen_tuple5_encode_eq_model {A B C D E : Type} (tA : Ty) (tB : Ty) (tC : Ty) (tD : Ty) (tE : Ty) (A_enc : A → List Nat) (A_toVal : A → Val) (B_enc : B → List Nat) (B_toVal : B → Val) (C_enc : C → List Nat) (C_toVal : C → Val) (D_enc : D → List Nat) (D_toVal : D → Val) (E_enc : E → List Nat) (E_toVal : E → Val)
    (heA : ∀ x, vals (A_enc x) = encode tA (A_toVal x)) (heB : ∀ x, vals (B_enc x) = encode tB (B_toVal x)) (heC : ∀ x, vals (C_enc x) = encode tC (C_toVal x)) (heD : ∀ x, vals (D_enc x) = encode tD (D_toVal x)) (heE : ∀ x, vals (E_enc x) = encode tE (E_toVal x))
    (self : (A × B × C × D × E)) (hlA : (A_enc self.1).length < TF.BF.Pn) (hlB : (B_enc self.2.1).length < TF.BF.Pn) (hlC : (C_enc self.2.2.1).length < TF.BF.Pn) (hlD : (D_enc self.2.2.2.1).length < TF.BF.Pn) (hlE : (E_enc self.2.2.2.2).length < TF.BF.Pn) :
    vals (Loops.codec_tuple5_encode (staticLength tA) A_enc (staticLength tB) B_enc (staticLength tC) C_enc (staticLength tD) D_enc (staticLength tE) E_enc self) =
      encode (.tuple [tA, tB, tC, tD, tE]) (.list [A_toVal self.1, B_toVal self.2.1, C_toVal self.2.2.1, D_toVal self.2.2.2.1, E_toVal self.2.2.2.2]) :=
  by
  rw [layout_tuple]
  exact pushComp_chain (heA _) hlA <| pushComp_chain (heB _) hlB <| pushComp_chain (heC _) hlC <|
    pushComp_chain (heD _) hlD <| pushComp_chain (heE _) hlE <| (encodeFields_nil _).symm
example : vals (Loops.codec_tuple5_encode (staticLength .phantom) Loops.codec_phantom_encode (staticLength .phantom) Loops.codec_phantom_encode (staticLength .phantom) Loops.codec_phantom_encode (staticLength .phantom) Loops.codec_phantom_encode (staticLength .phantom) Loops.codec_phantom_encode ((), (), (), (), ())) =
    encode (.tuple [.phantom, .phantom, .phantom, .phantom, .phantom]) (.list [Val.unit, Val.unit, Val.unit, Val.unit, Val.unit]) :=
  gen_tuple5_encode_eq_model .phantom .phantom .phantom .phantom .phantom Loops.codec_phantom_encode (fun _ => Val.unit) Loops.codec_phantom_encode (fun _ => Val.unit) Loops.codec_phantom_encode (fun _ => Val.unit) Loops.codec_phantom_encode (fun _ => Val.unit) Loops.codec_phantom_encode (fun _ => Val.unit) (fun _ => rfl) (fun _ => rfl) (fun _ => rfl) (fun _ => rfl) (fun _ => rfl) ((), (), (), (), ()) (by decide) (by decide) (by decide) (by decide) (by decide)

/-- **6-tuples**: the regenerated `decode` / `static_length` of `impl_bfield_codec_for_tuple!(A, B, C, D, E, F)` are the `tuple` case of the
    hand model (components read from the last to the first, `decodeItem` each, nothing may be left) whenever the component
    decoders are the model's -/
theorem gen_tuple6_decode_eq_model {A A_Error B B_Error C C_Error D D_Error E E_Error F F_Error : Type} (tA : Ty) (tB : Ty) (tC : Ty) (tD : Ty) (tE : Ty) (tF : Ty)
    (A_dec : List Nat → Res A_Error A) (A_into : A_Error → DynErr) (A_toVal : A → Val) (B_dec : List Nat → Res B_Error B) (B_into : B_Error → DynErr) (B_toVal : B → Val) (C_dec : List Nat → Res C_Error C) (C_into : C_Error → DynErr) (C_toVal : C → Val) (D_dec : List Nat → Res D_Error D) (D_into : D_Error → DynErr) (D_toVal : D → Val) (E_dec : List Nat → Res E_Error E) (E_into : E_Error → DynErr) (E_toVal : E → Val) (F_dec : List Nat → Res F_Error F) (F_into : F_Error → DynErr) (F_toVal : F → Val)
    (hA : Item A_dec A_toVal (decode tA)) (hB : Item B_dec B_toVal (decode tB)) (hC : Item C_dec C_toVal (decode tC)) (hD : Item D_dec D_toVal (decode tD)) (hE : Item E_dec E_toVal (decode tE)) (hF : Item F_dec F_toVal (decode tF)) :
    Item (Loops.codec_tuple6_decode (staticLength tA) A_dec A_into (staticLength tB) B_dec B_into (staticLength tC) C_dec C_into (staticLength tD) D_dec D_into (staticLength tE) E_dec E_into (staticLength tF) F_dec F_into)
      (fun p => Val.list [A_toVal p.1, B_toVal p.2.1, C_toVal p.2.2.1, D_toVal p.2.2.2.1, E_toVal p.2.2.2.2.1, F_toVal p.2.2.2.2.2]) (decode (.tuple [tA, tB, tC, tD, tE, tF])) ∧
    Loops.codec_tuple6_static_length (staticLength tA) (staticLength tB) (staticLength tC) (staticLength tD) (staticLength tE) (staticLength tF) = staticLength (.tuple [tA, tB, tC, tD, tE, tF]) :=
  ⟨tuple_item fun r =>
    compStep_chain hF fun _ _ _ => compStep_chain hE fun _ _ _ => compStep_chain hD fun _ _ _ =>
      compStep_chain hC fun _ _ _ => compStep_chain hB fun _ _ _ => compStep_chain hA fun _ _ _ _ => tuple_finish rfl,
   tuple_static_length tA [tB, tC, tD, tE, tF]⟩
example : Loops.codec_tuple6_static_length (staticLength .phantom) (staticLength .phantom) (staticLength .phantom) (staticLength .phantom) (staticLength .phantom) (staticLength .phantom) = staticLength (.tuple [.phantom, .phantom, .phantom, .phantom, .phantom, .phantom]) :=
  (gen_tuple6_decode_eq_model .phantom .phantom .phantom .phantom .phantom .phantom Loops.codec_phantom_decode (fun e => ⟨e⟩) (fun _ => Val.unit) Loops.codec_phantom_decode (fun e => ⟨e⟩) (fun _ => Val.unit) Loops.codec_phantom_decode (fun e => ⟨e⟩) (fun _ => Val.unit) Loops.codec_phantom_decode (fun e => ⟨e⟩) (fun _ => Val.unit) Loops.codec_phantom_decode (fun e => ⟨e⟩) (fun _ => Val.unit) Loops.codec_phantom_decode (fun e => ⟨e⟩) (fun _ => Val.unit) phantom_item phantom_item phantom_item phantom_item phantom_item phantom_item).2

/-- regenerated `encode` of the 6-tuple = the `tuple` case of the hand model's `encode` (reverse declaration order, a component
    is prefixed by its length iff its `static_length()` is `None`) whenever the component encoders are the model's -/
theorem gen_tuple6_encode_eq_model {A B C D E F : Type} (tA : Ty) (tB : Ty) (tC : Ty) (tD : Ty) (tE : Ty) (tF : Ty) (A_enc : A → List Nat) (A_toVal : A → Val) (B_enc : B → List Nat) (B_toVal : B → Val) (C_enc : C → List Nat) (C_toVal : C → Val) (D_enc : D → List Nat) (D_toVal : D → Val) (E_enc : E → List Nat) (E_toVal : E → Val) (F_enc : F → List Nat) (F_toVal : F → Val)
    (heA : ∀ x, vals (A_enc x) = encode tA (A_toVal x)) (heB : ∀ x, vals (B_enc x) = encode tB (B_toVal x)) (heC : ∀ x, vals (C_enc x) = encode tC (C_toVal x)) (heD : ∀ x, vals (D_enc x) = encode tD (D_toVal x)) (heE : ∀ x, vals (E_enc x) = encode tE (E_toVal x)) (heF : ∀ x, vals (F_enc x) = encode tF (F_toVal x))
    (self : (A × B × C × D × E × F)) (hlA : (A_enc self.1).length < TF.BF.Pn) (hlB : (B_enc self.2.1).length < TF.BF.Pn) (hlC : (C_enc self.2.2.1).length < TF.BF.Pn) (hlD : (D_enc self.2.2.2.1).length < TF.BF.Pn) (hlE : (E_enc self.2.2.2.2.1).length < TF.BF.Pn) (hlF : (F_enc self.2.2.2.2.2).length < TF.BF.Pn) :
    vals (Loops.codec_tuple6_encode (staticLength tA) A_enc (staticLength tB) B_enc (staticLength tC) C_enc (staticLength tD) D_enc (staticLength tE) E_enc (staticLength tF) F_enc self) =
      encode (.tuple [tA, tB, tC, tD, tE, tF]) (.list [A_toVal self.1, B_toVal self.2.1, C_toVal self.2.2.1, D_toVal self.2.2.2.1, E_toVal self.2.2.2.2.1, F_toVal self.2.2.2.2.2]) :=
  by
  rw [layout_tuple]
  exact pushComp_chain (heA _) hlA <| pushComp_chain (heB _) hlB <| pushComp_chain (heC _) hlC <|
    pushComp_chain (heD _) hlD <| pushComp_chain (heE _) hlE <| pushComp_chain (heF _) hlF <|
    (encodeFields_nil _).symm
example : vals (Loops.codec_tuple6_encode (staticLength .phantom) Loops.codec_phantom_encode (staticLength .phantom) Loops.codec_phantom_encode (staticLength .phantom) Loops.codec_phantom_encode (staticLength .phantom) Loops.codec_phantom_encode (staticLength .phantom) Loops.codec_phantom_encode (staticLength .phantom) Loops.codec_phantom_encode ((), (), (), (), (), ())) =
    encode (.tuple [.phantom, .phantom, .phantom, .phantom, .phantom, .phantom]) (.list [Val.unit, Val.unit, Val.unit, Val.unit, Val.unit, Val.unit]) :=
  gen_tuple6_encode_eq_model .phantom .phantom .phantom .phantom .phantom .phantom Loops.codec_phantom_encode (fun _ => Val.unit) Loops.codec_phantom_encode (fun _ => Val.unit) Loops.codec_phantom_encode (fun _ => Val.unit) Loops.codec_phantom_encode (fun _ => Val.unit) Loops.codec_phantom_encode (fun _ => Val.unit) Loops.codec_phantom_encode (fun _ => Val.unit) (fun _ => rfl) (fun _ => rfl) (fun _ => rfl) (fun _ => rfl) (fun _ => rfl) (fun _ => rfl) ((), (), (), (), (), ()) (by decide) (by decide) (by decide) (by decide) (by decide) (by decide)

/-- **7-tuples**: the regenerated `decode` / `static_length` of `impl_bfield_codec_for_tuple!(A, B, C, D, E, F, G)` are the `tuple` case of the
    hand model (components read from the last to the first, `decodeItem` each, nothing may be left) whenever the component
    decoders are the model's -/
theorem gen_tuple7_decode_eq_model {A A_Error B B_Error C C_Error D D_Error E E_Error F F_Error G G_Error : Type} (tA : Ty) (tB : Ty) (tC : Ty) (tD : Ty) (tE : Ty) (tF : Ty) (tG : Ty)
    (A_dec : List Nat → Res A_Error A) (A_into : A_Error → DynErr) (A_toVal : A → Val) (B_dec : List Nat → Res B_Error B) (B_into : B_Error → DynErr) (B_toVal : B → Val) (C_dec : List Nat → Res C_Error C) (C_into : C_Error → DynErr) (C_toVal : C → Val) (D_dec : List Nat → Res D_Error D) (D_into : D_Error → DynErr) (D_toVal : D → Val) (E_dec : List Nat → Res E_Error E) (E_into : E_Error → DynErr) (E_toVal : E → Val) (F_dec : List Nat → Res F_Error F) (F_into : F_Error → DynErr) (F_toVal : F → Val) (G_dec : List Nat → Res G_Error G) (G_into : G_Error → DynErr) (G_toVal : G → Val)
    (hA : Item A_dec A_toVal (decode tA)) (hB : Item B_dec B_toVal (decode tB)) (hC : Item C_dec C_toVal (decode tC)) (hD : Item D_dec D_toVal (decode tD)) (hE : Item E_dec E_toVal (decode tE)) (hF : Item F_dec F_toVal (decode tF)) (hG : Item G_dec G_toVal (decode tG)) :
    Item (Loops.codec_tuple7_decode (staticLength tA) A_dec A_into (staticLength tB) B_dec B_into (staticLength tC) C_dec C_into (staticLength tD) D_dec D_into (staticLength tE) E_dec E_into (staticLength tF) F_dec F_into (staticLength tG) G_dec G_into)
      (fun p => Val.list [A_toVal p.1, B_toVal p.2.1, C_toVal p.2.2.1, D_toVal p.2.2.2.1, E_toVal p.2.2.2.2.1, F_toVal p.2.2.2.2.2.1, G_toVal p.2.2.2.2.2.2]) (decode (.tuple [tA, tB, tC, tD, tE, tF, tG])) ∧
    Loops.codec_tuple7_static_length (staticLength tA) (staticLength tB) (staticLength tC) (staticLength tD) (staticLength tE) (staticLength tF) (staticLength tG) = staticLength (.tuple [tA, tB, tC, tD, tE, tF, tG]) :=
  ⟨tuple_item fun r =>
    compStep_chain hG fun _ _ _ => compStep_chain hF fun _ _ _ => compStep_chain hE fun _ _ _ =>
      compStep_chain hD fun _ _ _ => compStep_chain hC fun _ _ _ => compStep_chain hB fun _ _ _ =>
      compStep_chain hA fun _ _ _ _ => tuple_finish rfl,
   tuple_static_length tA [tB, tC, tD, tE, tF, tG]⟩
example : Loops.codec_tuple7_static_length (staticLength .phantom) (staticLength .phantom) (staticLength .phantom) (staticLength .phantom) (staticLength .phantom) (staticLength .phantom) (staticLength .phantom) = staticLength (.tuple [.phantom, .phantom, .phantom, .phantom, .phantom, .phantom, .phantom]) :=
  (gen_tuple7_decode_eq_model .phantom .phantom .phantom .phantom .phantom .phantom .phantom Loops.codec_phantom_decode (fun e => ⟨e⟩) (fun _ => Val.unit) Loops.codec_phantom_decode (fun e => ⟨e⟩) (fun _ => Val.unit) Loops.codec_phantom_decode (fun e => ⟨e⟩) (fun _ => Val.unit) Loops.codec_phantom_decode (fun e => ⟨e⟩) (fun _ => Val.unit) Loops.codec_phantom_decode (fun e => ⟨e⟩) (fun _ => Val.unit) Loops.codec_phantom_decode (fun e => ⟨e⟩) (fun _ => Val.unit) Loops.codec_phantom_decode (fun e => ⟨e⟩) (fun _ => Val.unit) phantom_item phantom_item phantom_item phantom_item phantom_item phantom_item phantom_item).2

/-- regenerated `encode` of the 7-tuple = the `tuple` case of the hand model's `encode` (reverse declaration order, a component
    is prefixed by its length iff its `static_length()` is `None`) whenever the component encoders are the model's -/
theorem gen_tuple7_encode_eq_model {A B C D E F G : Type} (tA : Ty) (tB : Ty) (tC : Ty) (tD : Ty) (tE : Ty) (tF : Ty) (tG : Ty) (A_enc : A → List Nat) (A_toVal : A → Val) (B_enc : B → List Nat) (B_toVal : B → Val) (C_enc : C → List Nat) (C_toVal : C → Val) (D_enc : D → List Nat) (D_toVal : D → Val) (E_enc : E → List Nat) (E_toVal : E → Val) (F_enc : F → List Nat) (F_toVal : F → Val) (G_enc : G → List Nat) (G_toVal : G → Val)
    (heA : ∀ x, vals (A_enc x) = encode tA (A_toVal x)) (heB : ∀ x, vals (B_enc x) = encode tB (B_toVal x)) (heC : ∀ x, vals (C_enc x) = encode tC (C_toVal x)) (heD : ∀ x, vals (D_enc x) = encode tD (D_toVal x)) (heE : ∀ x, vals (E_enc x) = encode tE (E_toVal x)) (heF : ∀ x, vals (F_enc x) = encode tF (F_toVal x)) (heG : ∀ x, vals (G_enc x) = encode tG (G_toVal x))
    (self : (A × B × C × D × E × F × G)) (hlA : (A_enc self.1).length < TF.BF.Pn) (hlB : (B_enc self.2.1).length < TF.BF.Pn) (hlC : (C_enc self.2.2.1).length < TF.BF.Pn) (hlD : (D_enc self.2.2.2.1).length < TF.BF.Pn) (hlE : (E_enc self.2.2.2.2.1).length < TF.BF.Pn) (hlF : (F_enc self.2.2.2.2.2.1).length < TF.BF.Pn) (hlG : (G_enc self.2.2.2.2.2.2).length < TF.BF.Pn) :
    vals (Loops.codec_tuple7_encode (staticLength tA) A_enc (staticLength tB) B_enc (staticLength tC) C_enc (staticLength tD) D_enc (staticLength tE) E_enc (staticLength tF) F_enc (staticLength tG) G_enc self) =
      encode (.tuple [tA, tB, tC, tD, tE, tF, tG]) (.list [A_toVal self.1, B_toVal self.2.1, C_toVal self.2.2.1, D_toVal self.2.2.2.1, E_toVal self.2.2.2.2.1, F_toVal self.2.2.2.2.2.1, G_toVal self.2.2.2.2.2.2]) :=
  by
  rw [layout_tuple]
  exact pushComp_chain (heA _) hlA <| pushComp_chain (heB _) hlB <| pushComp_chain (heC _) hlC <|
    pushComp_chain (heD _) hlD <| pushComp_chain (heE _) hlE <| pushComp_chain (heF _) hlF <|
    pushComp_chain (heG _) hlG <| (encodeFields_nil _).symm
example : vals (Loops.codec_tuple7_encode (staticLength .phantom) Loops.codec_phantom_encode (staticLength .phantom) Loops.codec_phantom_encode (staticLength .phantom) Loops.codec_phantom_encode (staticLength .phantom) Loops.codec_phantom_encode (staticLength .phantom) Loops.codec_phantom_encode (staticLength .phantom) Loops.codec_phantom_encode (staticLength .phantom) Loops.codec_phantom_encode ((), (), (), (), (), (), ())) =
    encode (.tuple [.phantom, .phantom, .phantom, .phantom, .phantom, .phantom, .phantom]) (.list [Val.unit, Val.unit, Val.unit, Val.unit, Val.unit, Val.unit, Val.unit]) :=
  gen_tuple7_encode_eq_model .phantom .phantom .phantom .phantom .phantom .phantom .phantom Loops.codec_phantom_encode (fun _ => Val.unit) Loops.codec_phantom_encode (fun _ => Val.unit) Loops.codec_phantom_encode (fun _ => Val.unit) Loops.codec_phantom_encode (fun _ => Val.unit) Loops.codec_phantom_encode (fun _ => Val.unit) Loops.codec_phantom_encode (fun _ => Val.unit) Loops.codec_phantom_encode (fun _ => Val.unit) (fun _ => rfl) (fun _ => rfl) (fun _ => rfl) (fun _ => rfl) (fun _ => rfl) (fun _ => rfl) (fun _ => rfl) ((), (), (), (), (), (), ()) (by decide) (by decide) (by decide) (by decide) (by decide) (by decide) (by decide)

/-- **8-tuples**: the regenerated `decode` / `static_length` of `impl_bfield_codec_for_tuple!(A, B, C, D, E, F, G, H)` are the `tuple` case of the
    hand model (components read from the last to the first, `decodeItem` each, nothing may be left) whenever the component
    decoders are the model's -/
theorem gen_tuple8_decode_eq_model {A A_Error B B_Error C C_Error D D_Error E E_Error F F_Error G G_Error H H_Error : Type} (tA : Ty) (tB : Ty) (tC : Ty) (tD : Ty) (tE : Ty) (tF : Ty) (tG : Ty) (tH : Ty)
    (A_dec : List Nat → Res A_Error A) (A_into : A_Error → DynErr) (A_toVal : A → Val) (B_dec : List Nat → Res B_Error B) (B_into : B_Error → DynErr) (B_toVal : B → Val) (C_dec : List Nat → Res C_Error C) (C_into : C_Error → DynErr) (C_toVal : C → Val) (D_dec : List Nat → Res D_Error D) (D_into : D_Error → DynErr) (D_toVal : D → Val) (E_dec : List Nat → Res E_Error E) (E_into : E_Error → DynErr) (E_toVal : E → Val) (F_dec : List Nat → Res F_Error F) (F_into : F_Error → DynErr) (F_toVal : F → Val) (G_dec : List Nat → Res G_Error G) (G_into : G_Error → DynErr) (G_toVal : G → Val) (H_dec : List Nat → Res H_Error H) (H_into : H_Error → DynErr) (H_toVal : H → Val)
    (hA : Item A_dec A_toVal (decode tA)) (hB : Item B_dec B_toVal (decode tB)) (hC : Item C_dec C_toVal (decode tC)) (hD : Item D_dec D_toVal (decode tD)) (hE : Item E_dec E_toVal (decode tE)) (hF : Item F_dec F_toVal (decode tF)) (hG : Item G_dec G_toVal (decode tG)) (hH : Item H_dec H_toVal (decode tH)) :
    Item (Loops.codec_tuple8_decode (staticLength tA) A_dec A_into (staticLength tB) B_dec B_into (staticLength tC) C_dec C_into (staticLength tD) D_dec D_into (staticLength tE) E_dec E_into (staticLength tF) F_dec F_into (staticLength tG) G_dec G_into (staticLength tH) H_dec H_into)
      (fun p => Val.list [A_toVal p.1, B_toVal p.2.1, C_toVal p.2.2.1, D_toVal p.2.2.2.1, E_toVal p.2.2.2.2.1, F_toVal p.2.2.2.2.2.1, G_toVal p.2.2.2.2.2.2.1, H_toVal p.2.2.2.2.2.2.2]) (decode (.tuple [tA, tB, tC, tD, tE, tF, tG, tH])) ∧
    Loops.codec_tuple8_static_length (staticLength tA) (staticLength tB) (staticLength tC) (staticLength tD) (staticLength tE) (staticLength tF) (staticLength tG) (staticLength tH) = staticLength (.tuple [tA, tB, tC, tD, tE, tF, tG, tH]) :=
  ⟨tuple_item fun r =>
    compStep_chain hH fun _ _ _ => compStep_chain hG fun _ _ _ => compStep_chain hF fun _ _ _ =>
      compStep_chain hE fun _ _ _ => compStep_chain hD fun _ _ _ => compStep_chain hC fun _ _ _ =>
      compStep_chain hB fun _ _ _ => compStep_chain hA fun _ _ _ _ => tuple_finish rfl,
   tuple_static_length tA [tB, tC, tD, tE, tF, tG, tH]⟩
example : Loops.codec_tuple8_static_length (staticLength .phantom) (staticLength .phantom) (staticLength .phantom) (staticLength .phantom) (staticLength .phantom) (staticLength .phantom) (staticLength .phantom) (staticLength .phantom) = staticLength (.tuple [.phantom, .phantom, .phantom, .phantom, .phantom, .phantom, .phantom, .phantom]) :=
  (gen_tuple8_decode_eq_model .phantom .phantom .phantom .phantom .phantom .phantom .phantom .phantom Loops.codec_phantom_decode (fun e => ⟨e⟩) (fun _ => Val.unit) Loops.codec_phantom_decode (fun e => ⟨e⟩) (fun _ => Val.unit) Loops.codec_phantom_decode (fun e => ⟨e⟩) (fun _ => Val.unit) Loops.codec_phantom_decode (fun e => ⟨e⟩) (fun _ => Val.unit) Loops.codec_phantom_decode (fun e => ⟨e⟩) (fun _ => Val.unit) Loops.codec_phantom_decode (fun e => ⟨e⟩) (fun _ => Val.unit) Loops.codec_phantom_decode (fun e => ⟨e⟩) (fun _ => Val.unit) Loops.codec_phantom_decode (fun e => ⟨e⟩) (fun _ => Val.unit) phantom_item phantom_item phantom_item phantom_item phantom_item phantom_item phantom_item phantom_item).2

/-- regenerated `encode` of the 8-tuple = the `tuple` case of the hand model's `encode` (reverse declaration order, a component
    is prefixed by its length iff its `static_length()` is `None`) whenever the component encoders are the model's -/
theorem gen_tuple8_encode_eq_model {A B C D E F G H : Type} (tA : Ty) (tB : Ty) (tC : Ty) (tD : Ty) (tE : Ty) (tF : Ty) (tG : Ty) (tH : Ty) (A_enc : A → List Nat) (A_toVal : A → Val) (B_enc : B → List Nat) (B_toVal : B → Val) (C_enc : C → List Nat) (C_toVal : C → Val) (D_enc : D → List Nat) (D_toVal : D → Val) (E_enc : E → List Nat) (E_toVal : E → Val) (F_enc : F → List Nat) (F_toVal : F → Val) (G_enc : G → List Nat) (G_toVal : G → Val) (H_enc : H → List Nat) (H_toVal : H → Val)
    (heA : ∀ x, vals (A_enc x) = encode tA (A_toVal x)) (heB : ∀ x, vals (B_enc x) = encode tB (B_toVal x)) (heC : ∀ x, vals (C_enc x) = encode tC (C_toVal x)) (heD : ∀ x, vals (D_enc x) = encode tD (D_toVal x)) (heE : ∀ x, vals (E_enc x) = encode tE (E_toVal x)) (heF : ∀ x, vals (F_enc x) = encode tF (F_toVal x)) (heG : ∀ x, vals (G_enc x) = encode tG (G_toVal x)) (heH : ∀ x, vals (H_enc x) = encode tH (H_toVal x))
    (self : (A × B × C × D × E × F × G × H)) (hlA : (A_enc self.1).length < TF.BF.Pn) (hlB : (B_enc self.2.1).length < TF.BF.Pn) (hlC : (C_enc self.2.2.1).length < TF.BF.Pn) (hlD : (D_enc self.2.2.2.1).length < TF.BF.Pn) (hlE : (E_enc self.2.2.2.2.1).length < TF.BF.Pn) (hlF : (F_enc self.2.2.2.2.2.1).length < TF.BF.Pn) (hlG : (G_enc self.2.2.2.2.2.2.1).length < TF.BF.Pn) (hlH : (H_enc self.2.2.2.2.2.2.2).length < TF.BF.Pn) :
    vals (Loops.codec_tuple8_encode (staticLength tA) A_enc (staticLength tB) B_enc (staticLength tC) C_enc (staticLength tD) D_enc (staticLength tE) E_enc (staticLength tF) F_enc (staticLength tG) G_enc (staticLength tH) H_enc self) =
      encode (.tuple [tA, tB, tC, tD, tE, tF, tG, tH]) (.list [A_toVal self.1, B_toVal self.2.1, C_toVal self.2.2.1, D_toVal self.2.2.2.1, E_toVal self.2.2.2.2.1, F_toVal self.2.2.2.2.2.1, G_toVal self.2.2.2.2.2.2.1, H_toVal self.2.2.2.2.2.2.2]) :=
  by
  rw [layout_tuple]
  exact pushComp_chain (heA _) hlA <| pushComp_chain (heB _) hlB <| pushComp_chain (heC _) hlC <|
    pushComp_chain (heD _) hlD <| pushComp_chain (heE _) hlE <| pushComp_chain (heF _) hlF <|
    pushComp_chain (heG _) hlG <| pushComp_chain (heH _) hlH <| (encodeFields_nil _).symm
example : vals (Loops.codec_tuple8_encode (staticLength .phantom) Loops.codec_phantom_encode (staticLength .phantom) Loops.codec_phantom_encode (staticLength .phantom) Loops.codec_phantom_encode (staticLength .phantom) Loops.codec_phantom_encode (staticLength .phantom) Loops.codec_phantom_encode (staticLength .phantom) Loops.codec_phantom_encode (staticLength .phantom) Loops.codec_phantom_encode (staticLength .phantom) Loops.codec_phantom_encode ((), (), (), (), (), (), (), ())) =
    encode (.tuple [.phantom, .phantom, .phantom, .phantom, .phantom, .phantom, .phantom, .phantom]) (.list [Val.unit, Val.unit, Val.unit, Val.unit, Val.unit, Val.unit, Val.unit, Val.unit]) :=
  gen_tuple8_encode_eq_model .phantom .phantom .phantom .phantom .phantom .phantom .phantom .phantom Loops.codec_phantom_encode (fun _ => Val.unit) Loops.codec_phantom_encode (fun _ => Val.unit) Loops.codec_phantom_encode (fun _ => Val.unit) Loops.codec_phantom_encode (fun _ => Val.unit) Loops.codec_phantom_encode (fun _ => Val.unit) Loops.codec_phantom_encode (fun _ => Val.unit) Loops.codec_phantom_encode (fun _ => Val.unit) Loops.codec_phantom_encode (fun _ => Val.unit) (fun _ => rfl) (fun _ => rfl) (fun _ => rfl) (fun _ => rfl) (fun _ => rfl) (fun _ => rfl) (fun _ => rfl) (fun _ => rfl) ((), (), (), (), (), (), (), ()) (by decide) (by decide) (by decide) (by decide) (by decide) (by decide) (by decide) (by decide)

/-- **9-tuples**: the regenerated `decode` / `static_length` of `impl_bfield_codec_for_tuple!(A, B, C, D, E, F, G, H, I)` are the `tuple` case of the
    hand model (components read from the last to the first, `decodeItem` each, nothing may be left) whenever the component
    decoders are the model's -/
theorem gen_tuple9_decode_eq_model {A A_Error B B_Error C C_Error D D_Error E E_Error F F_Error G G_Error H H_Error I I_Error : Type} (tA : Ty) (tB : Ty) (tC : Ty) (tD : Ty) (tE : Ty) (tF : Ty) (tG : Ty) (tH : Ty) (tI : Ty)
    (A_dec : List Nat → Res A_Error A) (A_into : A_Error → DynErr) (A_toVal : A → Val) (B_dec : List Nat → Res B_Error B) (B_into : B_Error → DynErr) (B_toVal : B → Val) (C_dec : List Nat → Res C_Error C) (C_into : C_Error → DynErr) (C_toVal : C → Val) (D_dec : List Nat → Res D_Error D) (D_into : D_Error → DynErr) (D_toVal : D → Val) (E_dec : List Nat → Res E_Error E) (E_into : E_Error → DynErr) (E_toVal : E → Val) (F_dec : List Nat → Res F_Error F) (F_into : F_Error → DynErr) (F_toVal : F → Val) (G_dec : List Nat → Res G_Error G) (G_into : G_Error → DynErr) (G_toVal : G → Val) (H_dec : List Nat → Res H_Error H) (H_into : H_Error → DynErr) (H_toVal : H → Val) (I_dec : List Nat → Res I_Error I) (I_into : I_Error → DynErr) (I_toVal : I → Val)
    (hA : Item A_dec A_toVal (decode tA)) (hB : Item B_dec B_toVal (decode tB)) (hC : Item C_dec C_toVal (decode tC)) (hD : Item D_dec D_toVal (decode tD)) (hE : Item E_dec E_toVal (decode tE)) (hF : Item F_dec F_toVal (decode tF)) (hG : Item G_dec G_toVal (decode tG)) (hH : Item H_dec H_toVal (decode tH)) (hI : Item I_dec I_toVal (decode tI)) :
    Item (Loops.codec_tuple9_decode (staticLength tA) A_dec A_into (staticLength tB) B_dec B_into (staticLength tC) C_dec C_into (staticLength tD) D_dec D_into (staticLength tE) E_dec E_into (staticLength tF) F_dec F_into (staticLength tG) G_dec G_into (staticLength tH) H_dec H_into (staticLength tI) I_dec I_into)
      (fun p => Val.list [A_toVal p.1, B_toVal p.2.1, C_toVal p.2.2.1, D_toVal p.2.2.2.1, E_toVal p.2.2.2.2.1, F_toVal p.2.2.2.2.2.1, G_toVal p.2.2.2.2.2.2.1, H_toVal p.2.2.2.2.2.2.2.1, I_toVal p.2.2.2.2.2.2.2.2]) (decode (.tuple [tA, tB, tC, tD, tE, tF, tG, tH, tI])) ∧
    Loops.codec_tuple9_static_length (staticLength tA) (staticLength tB) (staticLength tC) (staticLength tD) (staticLength tE) (staticLength tF) (staticLength tG) (staticLength tH) (staticLength tI) = staticLength (.tuple [tA, tB, tC, tD, tE, tF, tG, tH, tI]) :=
  ⟨tuple_item fun r =>
    compStep_chain hI fun _ _ _ => compStep_chain hH fun _ _ _ => compStep_chain hG fun _ _ _ =>
      compStep_chain hF fun _ _ _ => compStep_chain hE fun _ _ _ => compStep_chain hD fun _ _ _ =>
      compStep_chain hC fun _ _ _ => compStep_chain hB fun _ _ _ => compStep_chain hA fun _ _ _ _ => tuple_finish rfl,
   tuple_static_length tA [tB, tC, tD, tE, tF, tG, tH, tI]⟩
example : Loops.codec_tuple9_static_length (staticLength .phantom) (staticLength .phantom) (staticLength .phantom) (staticLength .phantom) (staticLength .phantom) (staticLength .phantom) (staticLength .phantom) (staticLength .phantom) (staticLength .phantom) = staticLength (.tuple [.phantom, .phantom, .phantom, .phantom, .phantom, .phantom, .phantom, .phantom, .phantom]) :=
  (gen_tuple9_decode_eq_model .phantom .phantom .phantom .phantom .phantom .phantom .phantom .phantom .phantom Loops.codec_phantom_decode (fun e => ⟨e⟩) (fun _ => Val.unit) Loops.codec_phantom_decode (fun e => ⟨e⟩) (fun _ => Val.unit) Loops.codec_phantom_decode (fun e => ⟨e⟩) (fun _ => Val.unit) Loops.codec_phantom_decode (fun e => ⟨e⟩) (fun _ => Val.unit) Loops.codec_phantom_decode (fun e => ⟨e⟩) (fun _ => Val.unit) Loops.codec_phantom_decode (fun e => ⟨e⟩) (fun _ => Val.unit) Loops.codec_phantom_decode (fun e => ⟨e⟩) (fun _ => Val.unit) Loops.codec_phantom_decode (fun e => ⟨e⟩) (fun _ => Val.unit) Loops.codec_phantom_decode (fun e => ⟨e⟩) (fun _ => Val.unit) phantom_item phantom_item phantom_item phantom_item phantom_item phantom_item phantom_item phantom_item phantom_item).2

/-- regenerated `encode` of the 9-tuple = the `tuple` case of the hand model's `encode` (reverse declaration order, a component
    is prefixed by its length iff its `static_length()` is `None`) whenever the component encoders are the model's -/
theorem gen_tuple9_encode_eq_model {A B C D E F G H I : Type} (tA : Ty) (tB : Ty) (tC : Ty) (tD : Ty) (tE : Ty) (tF : Ty) (tG : Ty) (tH : Ty) (tI : Ty) (A_enc : A → List Nat) (A_toVal : A → Val) (B_enc : B → List Nat) (B_toVal : B → Val) (C_enc : C → List Nat) (C_toVal : C → Val) (D_enc : D → List Nat) (D_toVal : D → Val) (E_enc : E → List Nat) (E_toVal : E → Val) (F_enc : F → List Nat) (F_toVal : F → Val) (G_enc : G → List Nat) (G_toVal : G → Val) (H_enc : H → List Nat) (H_toVal : H → Val) (I_enc : I → List Nat) (I_toVal : I → Val)
    (heA : ∀ x, vals (A_enc x) = encode tA (A_toVal x)) (heB : ∀ x, vals (B_enc x) = encode tB (B_toVal x)) (heC : ∀ x, vals (C_enc x) = encode tC (C_toVal x)) (heD : ∀ x, vals (D_enc x) = encode tD (D_toVal x)) (heE : ∀ x, vals (E_enc x) = encode tE (E_toVal x)) (heF : ∀ x, vals (F_enc x) = encode tF (F_toVal x)) (heG : ∀ x, vals (G_enc x) = encode tG (G_toVal x)) (heH : ∀ x, vals (H_enc x) = encode tH (H_toVal x)) (heI : ∀ x, vals (I_enc x) = encode tI (I_toVal x))
    (self : (A × B × C × D × E × F × G × H × I)) (hlA : (A_enc self.1).length < TF.BF.Pn) (hlB : (B_enc self.2.1).length < TF.BF.Pn) (hlC : (C_enc self.2.2.1).length < TF.BF.Pn) (hlD : (D_enc self.2.2.2.1).length < TF.BF.Pn) (hlE : (E_enc self.2.2.2.2.1).length < TF.BF.Pn) (hlF : (F_enc self.2.2.2.2.2.1).length < TF.BF.Pn) (hlG : (G_enc self.2.2.2.2.2.2.1).length < TF.BF.Pn) (hlH : (H_enc self.2.2.2.2.2.2.2.1).length < TF.BF.Pn) (hlI : (I_enc self.2.2.2.2.2.2.2.2).length < TF.BF.Pn) :
    vals (Loops.codec_tuple9_encode (staticLength tA) A_enc (staticLength tB) B_enc (staticLength tC) C_enc (staticLength tD) D_enc (staticLength tE) E_enc (staticLength tF) F_enc (staticLength tG) G_enc (staticLength tH) H_enc (staticLength tI) I_enc self) =
      encode (.tuple [tA, tB, tC, tD, tE, tF, tG, tH, tI]) (.list [A_toVal self.1, B_toVal self.2.1, C_toVal self.2.2.1, D_toVal self.2.2.2.1, E_toVal self.2.2.2.2.1, F_toVal self.2.2.2.2.2.1, G_toVal self.2.2.2.2.2.2.1, H_toVal self.2.2.2.2.2.2.2.1, I_toVal self.2.2.2.2.2.2.2.2]) :=
  by
  rw [layout_tuple]
  exact pushComp_chain (heA _) hlA <| pushComp_chain (heB _) hlB <| pushComp_chain (heC _) hlC <|
    pushComp_chain (heD _) hlD <| pushComp_chain (heE _) hlE <| pushComp_chain (heF _) hlF <|
    pushComp_chain (heG _) hlG <| pushComp_chain (heH _) hlH <| pushComp_chain (heI _) hlI <|
    (encodeFields_nil _).symm
example : vals (Loops.codec_tuple9_encode (staticLength .phantom) Loops.codec_phantom_encode (staticLength .phantom) Loops.codec_phantom_encode (staticLength .phantom) Loops.codec_phantom_encode (staticLength .phantom) Loops.codec_phantom_encode (staticLength .phantom) Loops.codec_phantom_encode (staticLength .phantom) Loops.codec_phantom_encode (staticLength .phantom) Loops.codec_phantom_encode (staticLength .phantom) Loops.codec_phantom_encode (staticLength .phantom) Loops.codec_phantom_encode ((), (), (), (), (), (), (), (), ())) =
    encode (.tuple [.phantom, .phantom, .phantom, .phantom, .phantom, .phantom, .phantom, .phantom, .phantom]) (.list [Val.unit, Val.unit, Val.unit, Val.unit, Val.unit, Val.unit, Val.unit, Val.unit, Val.unit]) :=
  gen_tuple9_encode_eq_model .phantom .phantom .phantom .phantom .phantom .phantom .phantom .phantom .phantom Loops.codec_phantom_encode (fun _ => Val.unit) Loops.codec_phantom_encode (fun _ => Val.unit) Loops.codec_phantom_encode (fun _ => Val.unit) Loops.codec_phantom_encode (fun _ => Val.unit) Loops.codec_phantom_encode (fun _ => Val.unit) Loops.codec_phantom_encode (fun _ => Val.unit) Loops.codec_phantom_encode (fun _ => Val.unit) Loops.codec_phantom_encode (fun _ => Val.unit) Loops.codec_phantom_encode (fun _ => Val.unit) (fun _ => rfl) (fun _ => rfl) (fun _ => rfl) (fun _ => rfl) (fun _ => rfl) (fun _ => rfl) (fun _ => rfl) (fun _ => rfl) (fun _ => rfl) ((), (), (), (), (), (), (), (), ()) (by decide) (by decide) (by decide) (by decide) (by decide) (by decide) (by decide) (by decide) (by decide)

/-- **10-tuples**: the regenerated `decode` / `static_length` of `impl_bfield_codec_for_tuple!(A, B, C, D, E, F, G, H, I, J)` are the `tuple` case of the
    hand model (components read from the last to the first, `decodeItem` each, nothing may be left) whenever the component
    decoders are the model's -/
theorem gen_tuple10_decode_eq_model {A A_Error B B_Error C C_Error D D_Error E E_Error F F_Error G G_Error H H_Error I I_Error J J_Error : Type} (tA : Ty) (tB : Ty) (tC : Ty) (tD : Ty) (tE : Ty) (tF : Ty) (tG : Ty) (tH : Ty) (tI : Ty) (tJ : Ty)
    (A_dec : List Nat → Res A_Error A) (A_into : A_Error → DynErr) (A_toVal : A → Val) (B_dec : List Nat → Res B_Error B) (B_into : B_Error → DynErr) (B_toVal : B → Val) (C_dec : List Nat → Res C_Error C) (C_into : C_Error → DynErr) (C_toVal : C → Val) (D_dec : List Nat → Res D_Error D) (D_into : D_Error → DynErr) (D_toVal : D → Val) (E_dec : List Nat → Res E_Error E) (E_into : E_Error → DynErr) (E_toVal : E → Val) (F_dec : List Nat → Res F_Error F) (F_into : F_Error → DynErr) (F_toVal : F → Val) (G_dec : List Nat → Res G_Error G) (G_into : G_Error → DynErr) (G_toVal : G → Val) (H_dec : List Nat → Res H_Error H) (H_into : H_Error → DynErr) (H_toVal : H → Val) (I_dec : List Nat → Res I_Error I) (I_into : I_Error → DynErr) (I_toVal : I → Val) (J_dec : List Nat → Res J_Error J) (J_into : J_Error → DynErr) (J_toVal : J → Val)
    (hA : Item A_dec A_toVal (decode tA)) (hB : Item B_dec B_toVal (decode tB)) (hC : Item C_dec C_toVal (decode tC)) (hD : Item D_dec D_toVal (decode tD)) (hE : Item E_dec E_toVal (decode tE)) (hF : Item F_dec F_toVal (decode tF)) (hG : Item G_dec G_toVal (decode tG)) (hH : Item H_dec H_toVal (decode tH)) (hI : Item I_dec I_toVal (decode tI)) (hJ : Item J_dec J_toVal (decode tJ)) :
    Item (Loops.codec_tuple10_decode (staticLength tA) A_dec A_into (staticLength tB) B_dec B_into (staticLength tC) C_dec C_into (staticLength tD) D_dec D_into (staticLength tE) E_dec E_into (staticLength tF) F_dec F_into (staticLength tG) G_dec G_into (staticLength tH) H_dec H_into (staticLength tI) I_dec I_into (staticLength tJ) J_dec J_into)
      (fun p => Val.list [A_toVal p.1, B_toVal p.2.1, C_toVal p.2.2.1, D_toVal p.2.2.2.1, E_toVal p.2.2.2.2.1, F_toVal p.2.2.2.2.2.1, G_toVal p.2.2.2.2.2.2.1, H_toVal p.2.2.2.2.2.2.2.1, I_toVal p.2.2.2.2.2.2.2.2.1, J_toVal p.2.2.2.2.2.2.2.2.2]) (decode (.tuple [tA, tB, tC, tD, tE, tF, tG, tH, tI, tJ])) ∧
    Loops.codec_tuple10_static_length (staticLength tA) (staticLength tB) (staticLength tC) (staticLength tD) (staticLength tE) (staticLength tF) (staticLength tG) (staticLength tH) (staticLength tI) (staticLength tJ) = staticLength (.tuple [tA, tB, tC, tD, tE, tF, tG, tH, tI, tJ]) :=
  ⟨tuple_item fun r =>
    compStep_chain hJ fun _ _ _ => compStep_chain hI fun _ _ _ => compStep_chain hH fun _ _ _ =>
      compStep_chain hG fun _ _ _ => compStep_chain hF fun _ _ _ => compStep_chain hE fun _ _ _ =>
      compStep_chain hD fun _ _ _ => compStep_chain hC fun _ _ _ => compStep_chain hB fun _ _ _ =>
      compStep_chain hA fun _ _ _ _ => tuple_finish rfl,
   tuple_static_length tA [tB, tC, tD, tE, tF, tG, tH, tI, tJ]⟩
example : Loops.codec_tuple10_static_length (staticLength .phantom) (staticLength .phantom) (staticLength .phantom) (staticLength .phantom) (staticLength .phantom) (staticLength .phantom) (staticLength .phantom) (staticLength .phantom) (staticLength .phantom) (staticLength .phantom) = staticLength (.tuple [.phantom, .phantom, .phantom, .phantom, .phantom, .phantom, .phantom, .phantom, .phantom, .phantom]) :=
  (gen_tuple10_decode_eq_model .phantom .phantom .phantom .phantom .phantom .phantom .phantom .phantom .phantom .phantom Loops.codec_phantom_decode (fun e => ⟨e⟩) (fun _ => Val.unit) Loops.codec_phantom_decode (fun e => ⟨e⟩) (fun _ => Val.unit) Loops.codec_phantom_decode (fun e => ⟨e⟩) (fun _ => Val.unit) Loops.codec_phantom_decode (fun e => ⟨e⟩) (fun _ => Val.unit) Loops.codec_phantom_decode (fun e => ⟨e⟩) (fun _ => Val.unit) Loops.codec_phantom_decode (fun e => ⟨e⟩) (fun _ => Val.unit) Loops.codec_phantom_decode (fun e => ⟨e⟩) (fun _ => Val.unit) Loops.codec_phantom_decode (fun e => ⟨e⟩) (fun _ => Val.unit) Loops.codec_phantom_decode (fun e => ⟨e⟩) (fun _ => Val.unit) Loops.codec_phantom_decode (fun e => ⟨e⟩) (fun _ => Val.unit) phantom_item phantom_item phantom_item phantom_item phantom_item phantom_item phantom_item phantom_item phantom_item phantom_item).2

/-- regenerated `encode` of the 10-tuple = the `tuple` case of the hand model's `encode` (reverse declaration order, a component
    is prefixed by its length iff its `static_length()` is `None`) whenever the component encoders are the model's -/
theorem gen_tuple10_encode_eq_model {A B C D E F G H I J : Type} (tA : Ty) (tB : Ty) (tC : Ty) (tD : Ty) (tE : Ty) (tF : Ty) (tG : Ty) (tH : Ty) (tI : Ty) (tJ : Ty) (A_enc : A → List Nat) (A_toVal : A → Val) (B_enc : B → List Nat) (B_toVal : B → Val) (C_enc : C → List Nat) (C_toVal : C → Val) (D_enc : D → List Nat) (D_toVal : D → Val) (E_enc : E → List Nat) (E_toVal : E → Val) (F_enc : F → List Nat) (F_toVal : F → Val) (G_enc : G → List Nat) (G_toVal : G → Val) (H_enc : H → List Nat) (H_toVal : H → Val) (I_enc : I → List Nat) (I_toVal : I → Val) (J_enc : J → List Nat) (J_toVal : J → Val)
    (heA : ∀ x, vals (A_enc x) = encode tA (A_toVal x)) (heB : ∀ x, vals (B_enc x) = encode tB (B_toVal x)) (heC : ∀ x, vals (C_enc x) = encode tC (C_toVal x)) (heD : ∀ x, vals (D_enc x) = encode tD (D_toVal x)) (heE : ∀ x, vals (E_enc x) = encode tE (E_toVal x)) (heF : ∀ x, vals (F_enc x) = encode tF (F_toVal x)) (heG : ∀ x, vals (G_enc x) = encode tG (G_toVal x)) (heH : ∀ x, vals (H_enc x) = encode tH (H_toVal x)) (heI : ∀ x, vals (I_enc x) = encode tI (I_toVal x)) (heJ : ∀ x, vals (J_enc x) = encode tJ (J_toVal x))
    (self : (A × B × C × D × E × F × G × H × I × J)) (hlA : (A_enc self.1).length < TF.BF.Pn) (hlB : (B_enc self.2.1).length < TF.BF.Pn) (hlC : (C_enc self.2.2.1).length < TF.BF.Pn) (hlD : (D_enc self.2.2.2.1).length < TF.BF.Pn) (hlE : (E_enc self.2.2.2.2.1).length < TF.BF.Pn) (hlF : (F_enc self.2.2.2.2.2.1).length < TF.BF.Pn) (hlG : (G_enc self.2.2.2.2.2.2.1).length < TF.BF.Pn) (hlH : (H_enc self.2.2.2.2.2.2.2.1).length < TF.BF.Pn) (hlI : (I_enc self.2.2.2.2.2.2.2.2.1).length < TF.BF.Pn) (hlJ : (J_enc self.2.2.2.2.2.2.2.2.2).length < TF.BF.Pn) :
    vals (Loops.codec_tuple10_encode (staticLength tA) A_enc (staticLength tB) B_enc (staticLength tC) C_enc (staticLength tD) D_enc (staticLength tE) E_enc (staticLength tF) F_enc (staticLength tG) G_enc (staticLength tH) H_enc (staticLength tI) I_enc (staticLength tJ) J_enc self) =
      encode (.tuple [tA, tB, tC, tD, tE, tF, tG, tH, tI, tJ]) (.list [A_toVal self.1, B_toVal self.2.1, C_toVal self.2.2.1, D_toVal self.2.2.2.1, E_toVal self.2.2.2.2.1, F_toVal self.2.2.2.2.2.1, G_toVal self.2.2.2.2.2.2.1, H_toVal self.2.2.2.2.2.2.2.1, I_toVal self.2.2.2.2.2.2.2.2.1, J_toVal self.2.2.2.2.2.2.2.2.2]) :=
  by
  rw [layout_tuple]
  exact pushComp_chain (heA _) hlA <| pushComp_chain (heB _) hlB <| pushComp_chain (heC _) hlC <|
    pushComp_chain (heD _) hlD <| pushComp_chain (heE _) hlE <| pushComp_chain (heF _) hlF <|
    pushComp_chain (heG _) hlG <| pushComp_chain (heH _) hlH <| pushComp_chain (heI _) hlI <|
    pushComp_chain (heJ _) hlJ <| (encodeFields_nil _).symm
example : vals (Loops.codec_tuple10_encode (staticLength .phantom) Loops.codec_phantom_encode (staticLength .phantom) Loops.codec_phantom_encode (staticLength .phantom) Loops.codec_phantom_encode (staticLength .phantom) Loops.codec_phantom_encode (staticLength .phantom) Loops.codec_phantom_encode (staticLength .phantom) Loops.codec_phantom_encode (staticLength .phantom) Loops.codec_phantom_encode (staticLength .phantom) Loops.codec_phantom_encode (staticLength .phantom) Loops.codec_phantom_encode (staticLength .phantom) Loops.codec_phantom_encode ((), (), (), (), (), (), (), (), (), ())) =
    encode (.tuple [.phantom, .phantom, .phantom, .phantom, .phantom, .phantom, .phantom, .phantom, .phantom, .phantom]) (.list [Val.unit, Val.unit, Val.unit, Val.unit, Val.unit, Val.unit, Val.unit, Val.unit, Val.unit, Val.unit]) :=
  gen_tuple10_encode_eq_model .phantom .phantom .phantom .phantom .phantom .phantom .phantom .phantom .phantom .phantom Loops.codec_phantom_encode (fun _ => Val.unit) Loops.codec_phantom_encode (fun _ => Val.unit) Loops.codec_phantom_encode (fun _ => Val.unit) Loops.codec_phantom_encode (fun _ => Val.unit) Loops.codec_phantom_encode (fun _ => Val.unit) Loops.codec_phantom_encode (fun _ => Val.unit) Loops.codec_phantom_encode (fun _ => Val.unit) Loops.codec_phantom_encode (fun _ => Val.unit) Loops.codec_phantom_encode (fun _ => Val.unit) Loops.codec_phantom_encode (fun _ => Val.unit) (fun _ => rfl) (fun _ => rfl) (fun _ => rfl) (fun _ => rfl) (fun _ => rfl) (fun _ => rfl) (fun _ => rfl) (fun _ => rfl) (fun _ => rfl) (fun _ => rfl) ((), (), (), (), (), (), (), (), (), ()) (by decide) (by decide) (by decide) (by decide) (by decide) (by decide) (by decide) (by decide) (by decide) (by decide)

/-- **11-tuples**: the regenerated `decode` / `static_length` of `impl_bfield_codec_for_tuple!(A, B, C, D, E, F, G, H, I, J, K)` are the `tuple` case of the
    hand model (components read from the last to the first, `decodeItem` each, nothing may be left) whenever the component
    decoders are the model's -/
theorem gen_tuple11_decode_eq_model {A A_Error B B_Error C C_Error D D_Error E E_Error F F_Error G G_Error H H_Error I I_Error J J_Error K K_Error : Type} (tA : Ty) (tB : Ty) (tC : Ty) (tD : Ty) (tE : Ty) (tF : Ty) (tG : Ty) (tH : Ty) (tI : Ty) (tJ : Ty) (tK : Ty)
    (A_dec : List Nat → Res A_Error A) (A_into : A_Error → DynErr) (A_toVal : A → Val) (B_dec : List Nat → Res B_Error B) (B_into : B_Error → DynErr) (B_toVal : B → Val) (C_dec : List Nat → Res C_Error C) (C_into : C_Error → DynErr) (C_toVal : C → Val) (D_dec : List Nat → Res D_Error D) (D_into : D_Error → DynErr) (D_toVal : D → Val) (E_dec : List Nat → Res E_Error E) (E_into : E_Error → DynErr) (E_toVal : E → Val) (F_dec : List Nat → Res F_Error F) (F_into : F_Error → DynErr) (F_toVal : F → Val) (G_dec : List Nat → Res G_Error G) (G_into : G_Error → DynErr) (G_toVal : G → Val) (H_dec : List Nat → Res H_Error H) (H_into : H_Error → DynErr) (H_toVal : H → Val) (I_dec : List Nat → Res I_Error I) (I_into : I_Error → DynErr) (I_toVal : I → Val) (J_dec : List Nat → Res J_Error J) (J_into : J_Error → DynErr) (J_toVal : J → Val) (K_dec : List Nat → Res K_Error K) (K_into : K_Error → DynErr) (K_toVal : K → Val)
    (hA : Item A_dec A_toVal (decode tA)) (hB : Item B_dec B_toVal (decode tB)) (hC : Item C_dec C_toVal (decode tC)) (hD : Item D_dec D_toVal (decode tD)) (hE : Item E_dec E_toVal (decode tE)) (hF : Item F_dec F_toVal (decode tF)) (hG : Item G_dec G_toVal (decode tG)) (hH : Item H_dec H_toVal (decode tH)) (hI : Item I_dec I_toVal (decode tI)) (hJ : Item J_dec J_toVal (decode tJ)) (hK : Item K_dec K_toVal (decode tK)) :
    Item (Loops.codec_tuple11_decode (staticLength tA) A_dec A_into (staticLength tB) B_dec B_into (staticLength tC) C_dec C_into (staticLength tD) D_dec D_into (staticLength tE) E_dec E_into (staticLength tF) F_dec F_into (staticLength tG) G_dec G_into (staticLength tH) H_dec H_into (staticLength tI) I_dec I_into (staticLength tJ) J_dec J_into (staticLength tK) K_dec K_into)
      (fun p => Val.list [A_toVal p.1, B_toVal p.2.1, C_toVal p.2.2.1, D_toVal p.2.2.2.1, E_toVal p.2.2.2.2.1, F_toVal p.2.2.2.2.2.1, G_toVal p.2.2.2.2.2.2.1, H_toVal p.2.2.2.2.2.2.2.1, I_toVal p.2.2.2.2.2.2.2.2.1, J_toVal p.2.2.2.2.2.2.2.2.2.1, K_toVal p.2.2.2.2.2.2.2.2.2.2]) (decode (.tuple [tA, tB, tC, tD, tE, tF, tG, tH, tI, tJ, tK])) ∧
    Loops.codec_tuple11_static_length (staticLength tA) (staticLength tB) (staticLength tC) (staticLength tD) (staticLength tE) (staticLength tF) (staticLength tG) (staticLength tH) (staticLength tI) (staticLength tJ) (staticLength tK) = staticLength (.tuple [tA, tB, tC, tD, tE, tF, tG, tH, tI, tJ, tK]) :=
  ⟨tuple_item fun r =>
    compStep_chain hK fun _ _ _ => compStep_chain hJ fun _ _ _ => compStep_chain hI fun _ _ _ =>
      compStep_chain hH fun _ _ _ => compStep_chain hG fun _ _ _ => compStep_chain hF fun _ _ _ =>
      compStep_chain hE fun _ _ _ => compStep_chain hD fun _ _ _ => compStep_chain hC fun _ _ _ =>
      compStep_chain hB fun _ _ _ => compStep_chain hA fun _ _ _ _ => tuple_finish rfl,
   tuple_static_length tA [tB, tC, tD, tE, tF, tG, tH, tI, tJ, tK]⟩
example : Loops.codec_tuple11_static_length (staticLength .phantom) (staticLength .phantom) (staticLength .phantom) (staticLength .phantom) (staticLength .phantom) (staticLength .phantom) (staticLength .phantom) (staticLength .phantom) (staticLength .phantom) (staticLength .phantom) (staticLength .phantom) = staticLength (.tuple [.phantom, .phantom, .phantom, .phantom, .phantom, .phantom, .phantom, .phantom, .phantom, .phantom, .phantom]) :=
  (gen_tuple11_decode_eq_model .phantom .phantom .phantom .phantom .phantom .phantom .phantom .phantom .phantom .phantom .phantom Loops.codec_phantom_decode (fun e => ⟨e⟩) (fun _ => Val.unit) Loops.codec_phantom_decode (fun e => ⟨e⟩) (fun _ => Val.unit) Loops.codec_phantom_decode (fun e => ⟨e⟩) (fun _ => Val.unit) Loops.codec_phantom_decode (fun e => ⟨e⟩) (fun _ => Val.unit) Loops.codec_phantom_decode (fun e => ⟨e⟩) (fun _ => Val.unit) Loops.codec_phantom_decode (fun e => ⟨e⟩) (fun _ => Val.unit) Loops.codec_phantom_decode (fun e => ⟨e⟩) (fun _ => Val.unit) Loops.codec_phantom_decode (fun e => ⟨e⟩) (fun _ => Val.unit) Loops.codec_phantom_decode (fun e => ⟨e⟩) (fun _ => Val.unit) Loops.codec_phantom_decode (fun e => ⟨e⟩) (fun _ => Val.unit) Loops.codec_phantom_decode (fun e => ⟨e⟩) (fun _ => Val.unit) phantom_item phantom_item phantom_item phantom_item phantom_item phantom_item phantom_item phantom_item phantom_item phantom_item phantom_item).2

/-- regenerated `encode` of the 11-tuple = the `tuple` case of the hand model's `encode` (reverse declaration order, a component
    is prefixed by its length iff its `static_length()` is `None`) whenever the component encoders are the model's -/
theorem gen_tuple11_encode_eq_model {A B C D E F G H I J K : Type} (tA : Ty) (tB : Ty) (tC : Ty) (tD : Ty) (tE : Ty) (tF : Ty) (tG : Ty) (tH : Ty) (tI : Ty) (tJ : Ty) (tK : Ty) (A_enc : A → List Nat) (A_toVal : A → Val) (B_enc : B → List Nat) (B_toVal : B → Val) (C_enc : C → List Nat) (C_toVal : C → Val) (D_enc : D → List Nat) (D_toVal : D → Val) (E_enc : E → List Nat) (E_toVal : E → Val) (F_enc : F → List Nat) (F_toVal : F → Val) (G_enc : G → List Nat) (G_toVal : G → Val) (H_enc : H → List Nat) (H_toVal : H → Val) (I_enc : I → List Nat) (I_toVal : I → Val) (J_enc : J → List Nat) (J_toVal : J → Val) (K_enc : K → List Nat) (K_toVal : K → Val)
    (heA : ∀ x, vals (A_enc x) = encode tA (A_toVal x)) (heB : ∀ x, vals (B_enc x) = encode tB (B_toVal x)) (heC : ∀ x, vals (C_enc x) = encode tC (C_toVal x)) (heD : ∀ x, vals (D_enc x) = encode tD (D_toVal x)) (heE : ∀ x, vals (E_enc x) = encode tE (E_toVal x)) (heF : ∀ x, vals (F_enc x) = encode tF (F_toVal x)) (heG : ∀ x, vals (G_enc x) = encode tG (G_toVal x)) (heH : ∀ x, vals (H_enc x) = encode tH (H_toVal x)) (heI : ∀ x, vals (I_enc x) = encode tI (I_toVal x)) (heJ : ∀ x, vals (J_enc x) = encode tJ (J_toVal x)) (heK : ∀ x, vals (K_enc x) = encode tK (K_toVal x))
    (self : (A × B × C × D × E × F × G × H × I × J × K)) (hlA : (A_enc self.1).length < TF.BF.Pn) (hlB : (B_enc self.2.1).length < TF.BF.Pn) (hlC : (C_enc self.2.2.1).length < TF.BF.Pn) (hlD : (D_enc self.2.2.2.1).length < TF.BF.Pn) (hlE : (E_enc self.2.2.2.2.1).length < TF.BF.Pn) (hlF : (F_enc self.2.2.2.2.2.1).length < TF.BF.Pn) (hlG : (G_enc self.2.2.2.2.2.2.1).length < TF.BF.Pn) (hlH : (H_enc self.2.2.2.2.2.2.2.1).length < TF.BF.Pn) (hlI : (I_enc self.2.2.2.2.2.2.2.2.1).length < TF.BF.Pn) (hlJ : (J_enc self.2.2.2.2.2.2.2.2.2.1).length < TF.BF.Pn) (hlK : (K_enc self.2.2.2.2.2.2.2.2.2.2).length < TF.BF.Pn) :
    vals (Loops.codec_tuple11_encode (staticLength tA) A_enc (staticLength tB) B_enc (staticLength tC) C_enc (staticLength tD) D_enc (staticLength tE) E_enc (staticLength tF) F_enc (staticLength tG) G_enc (staticLength tH) H_enc (staticLength tI) I_enc (staticLength tJ) J_enc (staticLength tK) K_enc self) =
      encode (.tuple [tA, tB, tC, tD, tE, tF, tG, tH, tI, tJ, tK]) (.list [A_toVal self.1, B_toVal self.2.1, C_toVal self.2.2.1, D_toVal self.2.2.2.1, E_toVal self.2.2.2.2.1, F_toVal self.2.2.2.2.2.1, G_toVal self.2.2.2.2.2.2.1, H_toVal self.2.2.2.2.2.2.2.1, I_toVal self.2.2.2.2.2.2.2.2.1, J_toVal self.2.2.2.2.2.2.2.2.2.1, K_toVal self.2.2.2.2.2.2.2.2.2.2]) :=
  by
  rw [layout_tuple]
  exact pushComp_chain (heA _) hlA <| pushComp_chain (heB _) hlB <| pushComp_chain (heC _) hlC <|
    pushComp_chain (heD _) hlD <| pushComp_chain (heE _) hlE <| pushComp_chain (heF _) hlF <|
    pushComp_chain (heG _) hlG <| pushComp_chain (heH _) hlH <| pushComp_chain (heI _) hlI <|
    pushComp_chain (heJ _) hlJ <| pushComp_chain (heK _) hlK <| (encodeFields_nil _).symm
example : vals (Loops.codec_tuple11_encode (staticLength .phantom) Loops.codec_phantom_encode (staticLength .phantom) Loops.codec_phantom_encode (staticLength .phantom) Loops.codec_phantom_encode (staticLength .phantom) Loops.codec_phantom_encode (staticLength .phantom) Loops.codec_phantom_encode (staticLength .phantom) Loops.codec_phantom_encode (staticLength .phantom) Loops.codec_phantom_encode (staticLength .phantom) Loops.codec_phantom_encode (staticLength .phantom) Loops.codec_phantom_encode (staticLength .phantom) Loops.codec_phantom_encode (staticLength .phantom) Loops.codec_phantom_encode ((), (), (), (), (), (), (), (), (), (), ())) =
    encode (.tuple [.phantom, .phantom, .phantom, .phantom, .phantom, .phantom, .phantom, .phantom, .phantom, .phantom, .phantom]) (.list [Val.unit, Val.unit, Val.unit, Val.unit, Val.unit, Val.unit, Val.unit, Val.unit, Val.unit, Val.unit, Val.unit]) :=
  gen_tuple11_encode_eq_model .phantom .phantom .phantom .phantom .phantom .phantom .phantom .phantom .phantom .phantom .phantom Loops.codec_phantom_encode (fun _ => Val.unit) Loops.codec_phantom_encode (fun _ => Val.unit) Loops.codec_phantom_encode (fun _ => Val.unit) Loops.codec_phantom_encode (fun _ => Val.unit) Loops.codec_phantom_encode (fun _ => Val.unit) Loops.codec_phantom_encode (fun _ => Val.unit) Loops.codec_phantom_encode (fun _ => Val.unit) Loops.codec_phantom_encode (fun _ => Val.unit) Loops.codec_phantom_encode (fun _ => Val.unit) Loops.codec_phantom_encode (fun _ => Val.unit) Loops.codec_phantom_encode (fun _ => Val.unit) (fun _ => rfl) (fun _ => rfl) (fun _ => rfl) (fun _ => rfl) (fun _ => rfl) (fun _ => rfl) (fun _ => rfl) (fun _ => rfl) (fun _ => rfl) (fun _ => rfl) (fun _ => rfl) ((), (), (), (), (), (), (), (), (), (), ()) (by decide) (by decide) (by decide) (by decide) (by decide) (by decide) (by decide) (by decide) (by decide) (by decide) (by decide)

/-- **12-tuples**: the regenerated `decode` / `static_length` of `impl_bfield_codec_for_tuple!(A, B, C, D, E, F, G, H, I, J, K, L)` are the `tuple` case of the
    hand model (components read from the last to the first, `decodeItem` each, nothing may be left) whenever the component
    decoders are the model's -/
theorem gen_tuple12_decode_eq_model {A A_Error B B_Error C C_Error D D_Error E E_Error F F_Error G G_Error H H_Error I I_Error J J_Error K K_Error L L_Error : Type} (tA : Ty) (tB : Ty) (tC : Ty) (tD : Ty) (tE : Ty) (tF : Ty) (tG : Ty) (tH : Ty) (tI : Ty) (tJ : Ty) (tK : Ty) (tL : Ty)
    (A_dec : List Nat → Res A_Error A) (A_into : A_Error → DynErr) (A_toVal : A → Val) (B_dec : List Nat → Res B_Error B) (B_into : B_Error → DynErr) (B_toVal : B → Val) (C_dec : List Nat → Res C_Error C) (C_into : C_Error → DynErr) (C_toVal : C → Val) (D_dec : List Nat → Res D_Error D) (D_into : D_Error → DynErr) (D_toVal : D → Val) (E_dec : List Nat → Res E_Error E) (E_into : E_Error → DynErr) (E_toVal : E → Val) (F_dec : List Nat → Res F_Error F) (F_into : F_Error → DynErr) (F_toVal : F → Val) (G_dec : List Nat → Res G_Error G) (G_into : G_Error → DynErr) (G_toVal : G → Val) (H_dec : List Nat → Res H_Error H) (H_into : H_Error → DynErr) (H_toVal : H → Val) (I_dec : List Nat → Res I_Error I) (I_into : I_Error → DynErr) (I_toVal : I → Val) (J_dec : List Nat → Res J_Error J) (J_into : J_Error → DynErr) (J_toVal : J → Val) (K_dec : List Nat → Res K_Error K) (K_into : K_Error → DynErr) (K_toVal : K → Val) (L_dec : List Nat → Res L_Error L) (L_into : L_Error → DynErr) (L_toVal : L → Val)
    (hA : Item A_dec A_toVal (decode tA)) (hB : Item B_dec B_toVal (decode tB)) (hC : Item C_dec C_toVal (decode tC)) (hD : Item D_dec D_toVal (decode tD)) (hE : Item E_dec E_toVal (decode tE)) (hF : Item F_dec F_toVal (decode tF)) (hG : Item G_dec G_toVal (decode tG)) (hH : Item H_dec H_toVal (decode tH)) (hI : Item I_dec I_toVal (decode tI)) (hJ : Item J_dec J_toVal (decode tJ)) (hK : Item K_dec K_toVal (decode tK)) (hL : Item L_dec L_toVal (decode tL)) :
    Item (Loops.codec_tuple12_decode (staticLength tA) A_dec A_into (staticLength tB) B_dec B_into (staticLength tC) C_dec C_into (staticLength tD) D_dec D_into (staticLength tE) E_dec E_into (staticLength tF) F_dec F_into (staticLength tG) G_dec G_into (staticLength tH) H_dec H_into (staticLength tI) I_dec I_into (staticLength tJ) J_dec J_into (staticLength tK) K_dec K_into (staticLength tL) L_dec L_into)
      (fun p => Val.list [A_toVal p.1, B_toVal p.2.1, C_toVal p.2.2.1, D_toVal p.2.2.2.1, E_toVal p.2.2.2.2.1, F_toVal p.2.2.2.2.2.1, G_toVal p.2.2.2.2.2.2.1, H_toVal p.2.2.2.2.2.2.2.1, I_toVal p.2.2.2.2.2.2.2.2.1, J_toVal p.2.2.2.2.2.2.2.2.2.1, K_toVal p.2.2.2.2.2.2.2.2.2.2.1, L_toVal p.2.2.2.2.2.2.2.2.2.2.2]) (decode (.tuple [tA, tB, tC, tD, tE, tF, tG, tH, tI, tJ, tK, tL])) ∧
    Loops.codec_tuple12_static_length (staticLength tA) (staticLength tB) (staticLength tC) (staticLength tD) (staticLength tE) (staticLength tF) (staticLength tG) (staticLength tH) (staticLength tI) (staticLength tJ) (staticLength tK) (staticLength tL) = staticLength (.tuple [tA, tB, tC, tD, tE, tF, tG, tH, tI, tJ, tK, tL]) :=
  ⟨tuple_item fun r =>
    compStep_chain hL fun _ _ _ => compStep_chain hK fun _ _ _ => compStep_chain hJ fun _ _ _ =>
      compStep_chain hI fun _ _ _ => compStep_chain hH fun _ _ _ => compStep_chain hG fun _ _ _ =>
      compStep_chain hF fun _ _ _ => compStep_chain hE fun _ _ _ => compStep_chain hD fun _ _ _ =>
      compStep_chain hC fun _ _ _ => compStep_chain hB fun _ _ _ => compStep_chain hA fun _ _ _ _ => tuple_finish rfl,
   tuple_static_length tA [tB, tC, tD, tE, tF, tG, tH, tI, tJ, tK, tL]⟩
example : Loops.codec_tuple12_static_length (staticLength .phantom) (staticLength .phantom) (staticLength .phantom) (staticLength .phantom) (staticLength .phantom) (staticLength .phantom) (staticLength .phantom) (staticLength .phantom) (staticLength .phantom) (staticLength .phantom) (staticLength .phantom) (staticLength .phantom) = staticLength (.tuple [.phantom, .phantom, .phantom, .phantom, .phantom, .phantom, .phantom, .phantom, .phantom, .phantom, .phantom, .phantom]) :=
  (gen_tuple12_decode_eq_model .phantom .phantom .phantom .phantom .phantom .phantom .phantom .phantom .phantom .phantom .phantom .phantom Loops.codec_phantom_decode (fun e => ⟨e⟩) (fun _ => Val.unit) Loops.codec_phantom_decode (fun e => ⟨e⟩) (fun _ => Val.unit) Loops.codec_phantom_decode (fun e => ⟨e⟩) (fun _ => Val.unit) Loops.codec_phantom_decode (fun e => ⟨e⟩) (fun _ => Val.unit) Loops.codec_phantom_decode (fun e => ⟨e⟩) (fun _ => Val.unit) Loops.codec_phantom_decode (fun e => ⟨e⟩) (fun _ => Val.unit) Loops.codec_phantom_decode (fun e => ⟨e⟩) (fun _ => Val.unit) Loops.codec_phantom_decode (fun e => ⟨e⟩) (fun _ => Val.unit) Loops.codec_phantom_decode (fun e => ⟨e⟩) (fun _ => Val.unit) Loops.codec_phantom_decode (fun e => ⟨e⟩) (fun _ => Val.unit) Loops.codec_phantom_decode (fun e => ⟨e⟩) (fun _ => Val.unit) Loops.codec_phantom_decode (fun e => ⟨e⟩) (fun _ => Val.unit) phantom_item phantom_item phantom_item phantom_item phantom_item phantom_item phantom_item phantom_item phantom_item phantom_item phantom_item phantom_item).2

/-- regenerated `encode` of the 12-tuple = the `tuple` case of the hand model's `encode` (reverse declaration order, a component
    is prefixed by its length iff its `static_length()` is `None`) whenever the component encoders are the model's -/
theorem gen_tuple12_encode_eq_model {A B C D E F G H I J K L : Type} (tA : Ty) (tB : Ty) (tC : Ty) (tD : Ty) (tE : Ty) (tF : Ty) (tG : Ty) (tH : Ty) (tI : Ty) (tJ : Ty) (tK : Ty) (tL : Ty) (A_enc : A → List Nat) (A_toVal : A → Val) (B_enc : B → List Nat) (B_toVal : B → Val) (C_enc : C → List Nat) (C_toVal : C → Val) (D_enc : D → List Nat) (D_toVal : D → Val) (E_enc : E → List Nat) (E_toVal : E → Val) (F_enc : F → List Nat) (F_toVal : F → Val) (G_enc : G → List Nat) (G_toVal : G → Val) (H_enc : H → List Nat) (H_toVal : H → Val) (I_enc : I → List Nat) (I_toVal : I → Val) (J_enc : J → List Nat) (J_toVal : J → Val) (K_enc : K → List Nat) (K_toVal : K → Val) (L_enc : L → List Nat) (L_toVal : L → Val)
    (heA : ∀ x, vals (A_enc x) = encode tA (A_toVal x)) (heB : ∀ x, vals (B_enc x) = encode tB (B_toVal x)) (heC : ∀ x, vals (C_enc x) = encode tC (C_toVal x)) (heD : ∀ x, vals (D_enc x) = encode tD (D_toVal x)) (heE : ∀ x, vals (E_enc x) = encode tE (E_toVal x)) (heF : ∀ x, vals (F_enc x) = encode tF (F_toVal x)) (heG : ∀ x, vals (G_enc x) = encode tG (G_toVal x)) (heH : ∀ x, vals (H_enc x) = encode tH (H_toVal x)) (heI : ∀ x, vals (I_enc x) = encode tI (I_toVal x)) (heJ : ∀ x, vals (J_enc x) = encode tJ (J_toVal x)) (heK : ∀ x, vals (K_enc x) = encode tK (K_toVal x)) (heL : ∀ x, vals (L_enc x) = encode tL (L_toVal x))
    (self : (A × B × C × D × E × F × G × H × I × J × K × L)) (hlA : (A_enc self.1).length < TF.BF.Pn) (hlB : (B_enc self.2.1).length < TF.BF.Pn) (hlC : (C_enc self.2.2.1).length < TF.BF.Pn) (hlD : (D_enc self.2.2.2.1).length < TF.BF.Pn) (hlE : (E_enc self.2.2.2.2.1).length < TF.BF.Pn) (hlF : (F_enc self.2.2.2.2.2.1).length < TF.BF.Pn) (hlG : (G_enc self.2.2.2.2.2.2.1).length < TF.BF.Pn) (hlH : (H_enc self.2.2.2.2.2.2.2.1).length < TF.BF.Pn) (hlI : (I_enc self.2.2.2.2.2.2.2.2.1).length < TF.BF.Pn) (hlJ : (J_enc self.2.2.2.2.2.2.2.2.2.1).length < TF.BF.Pn) (hlK : (K_enc self.2.2.2.2.2.2.2.2.2.2.1).length < TF.BF.Pn) (hlL : (L_enc self.2.2.2.2.2.2.2.2.2.2.2).length < TF.BF.Pn) :
    vals (Loops.codec_tuple12_encode (staticLength tA) A_enc (staticLength tB) B_enc (staticLength tC) C_enc (staticLength tD) D_enc (staticLength tE) E_enc (staticLength tF) F_enc (staticLength tG) G_enc (staticLength tH) H_enc (staticLength tI) I_enc (staticLength tJ) J_enc (staticLength tK) K_enc (staticLength tL) L_enc self) =
      encode (.tuple [tA, tB, tC, tD, tE, tF, tG, tH, tI, tJ, tK, tL]) (.list [A_toVal self.1, B_toVal self.2.1, C_toVal self.2.2.1, D_toVal self.2.2.2.1, E_toVal self.2.2.2.2.1, F_toVal self.2.2.2.2.2.1, G_toVal self.2.2.2.2.2.2.1, H_toVal self.2.2.2.2.2.2.2.1, I_toVal self.2.2.2.2.2.2.2.2.1, J_toVal self.2.2.2.2.2.2.2.2.2.1, K_toVal self.2.2.2.2.2.2.2.2.2.2.1, L_toVal self.2.2.2.2.2.2.2.2.2.2.2]) :=
  by
  rw [layout_tuple]
  exact pushComp_chain (heA _) hlA <| pushComp_chain (heB _) hlB <| pushComp_chain (heC _) hlC <|
    pushComp_chain (heD _) hlD <| pushComp_chain (heE _) hlE <| pushComp_chain (heF _) hlF <|
    pushComp_chain (heG _) hlG <| pushComp_chain (heH _) hlH <| pushComp_chain (heI _) hlI <|
    pushComp_chain (heJ _) hlJ <| pushComp_chain (heK _) hlK <| pushComp_chain (heL _) hlL <|
    (encodeFields_nil _).symm
example : vals (Loops.codec_tuple12_encode (staticLength .phantom) Loops.codec_phantom_encode (staticLength .phantom) Loops.codec_phantom_encode (staticLength .phantom) Loops.codec_phantom_encode (staticLength .phantom) Loops.codec_phantom_encode (staticLength .phantom) Loops.codec_phantom_encode (staticLength .phantom) Loops.codec_phantom_encode (staticLength .phantom) Loops.codec_phantom_encode (staticLength .phantom) Loops.codec_phantom_encode (staticLength .phantom) Loops.codec_phantom_encode (staticLength .phantom) Loops.codec_phantom_encode (staticLength .phantom) Loops.codec_phantom_encode (staticLength .phantom) Loops.codec_phantom_encode ((), (), (), (), (), (), (), (), (), (), (), ())) =
    encode (.tuple [.phantom, .phantom, .phantom, .phantom, .phantom, .phantom, .phantom, .phantom, .phantom, .phantom, .phantom, .phantom]) (.list [Val.unit, Val.unit, Val.unit, Val.unit, Val.unit, Val.unit, Val.unit, Val.unit, Val.unit, Val.unit, Val.unit, Val.unit]) :=
  gen_tuple12_encode_eq_model .phantom .phantom .phantom .phantom .phantom .phantom .phantom .phantom .phantom .phantom .phantom .phantom Loops.codec_phantom_encode (fun _ => Val.unit) Loops.codec_phantom_encode (fun _ => Val.unit) Loops.codec_phantom_encode (fun _ => Val.unit) Loops.codec_phantom_encode (fun _ => Val.unit) Loops.codec_phantom_encode (fun _ => Val.unit) Loops.codec_phantom_encode (fun _ => Val.unit) Loops.codec_phantom_encode (fun _ => Val.unit) Loops.codec_phantom_encode (fun _ => Val.unit) Loops.codec_phantom_encode (fun _ => Val.unit) Loops.codec_phantom_encode (fun _ => Val.unit) Loops.codec_phantom_encode (fun _ => Val.unit) Loops.codec_phantom_encode (fun _ => Val.unit) (fun _ => rfl) (fun _ => rfl) (fun _ => rfl) (fun _ => rfl) (fun _ => rfl) (fun _ => rfl) (fun _ => rfl) (fun _ => rfl) (fun _ => rfl) (fun _ => rfl) (fun _ => rfl) (fun _ => rfl) ((), (), (), (), (), (), (), (), (), (), (), ()) (by decide) (by decide) (by decide) (by decide) (by decide) (by decide) (by decide) (by decide) (by decide) (by decide) (by decide) (by decide)

/-- **transfer to the regenerated tuple code**: what the regenerated pair decoder accepts re-encodes (model encoder) to the values
    of the accepted words -- `encode_decode` of the hand model carried over by the bridge; the same holds for every arity and
    every composite through `gen_combinators_roundtrip_transfer` -/
theorem gen_tuple_roundtrip_transfer {A A_Error B B_Error : Type} (tA tB : Ty)
    (A_dec : List Nat → Res A_Error A) (A_into : A_Error → DynErr) (A_toVal : A → Val)
    (B_dec : List Nat → Res B_Error B) (B_into : B_Error → DynErr) (B_toVal : B → Val)
    (hA : Item A_dec A_toVal (decode tA)) (hB : Item B_dec B_toVal (decode tB)) (r : List Nat) (hw : Words r) (a : A) (b : B)
    (hg : Loops.codec_tuple2_decode (staticLength tA) A_dec A_into (staticLength tB) B_dec B_into r = .ok (a, b)) :
    encode (.tuple [tA, tB]) (.list [A_toVal a, B_toVal b]) = vals r :=
  gen_combinators_roundtrip_transfer (.tuple [tA, tB]) _ _
    (gen_tuple2_decode_eq_model tA tB A_dec A_into A_toVal B_dec B_into B_toVal hA hB).1 r hw (a, b) hg
example : Loops.codec_tuple2_decode (staticLength .phantom) Loops.codec_phantom_decode (fun e => ⟨e⟩)
    (staticLength .phantom) Loops.codec_phantom_decode (fun e => ⟨e⟩) [] = .ok ((), ()) := rfl

end TF.C03
