import TF.Proofs.PolyVal
import TF.Proofs.PolyApi
import TF.Proofs.PolyValDiv
import TF.Proofs.GenBridgePoly
/-!
# C17 — polynomials have value semantics: stored leading zeros never change results

Property theorems only (lemmas: `TF/Proofs/Poly.lean`, `TF/Proofs/PolyMul.lean`, `TF/Proofs/PolyVal.lean`; models:
`TF/Model/Poly.lean`, `TF/Model/PolyMul.lean`, `TF/Model/PolyVal.lean`).

Notation.  `K` an arbitrary field, `FK = FieldOps.ofField K root`.  A polynomial is its raw coefficient storage
`List K` (lowest degree first); `p ++ List.replicate k 0` is `p` with `k` stored leading zeros;
`denote : List K → K[X]`.  "`a` and `a'` are two storages of the same polynomial" is `denote a = denote a'`
(`storage_eq_iff_padding` shows this is the same as "equal up to stored zeros").  A result `none` is a panic.

Every theorem `…_respects_denote` has the form `denote a = denote a' → op a = op a'`:
* for operations reading their operand through `degree()/coefficients()/resize` the two results are **literally
  equal**, as `Option` values — so the panic behaviour is the same as well (*no panic under padding*), for **every**
  transform `T`, threshold and thread count, with no hypothesis on `T`;
* for operations that copy raw storage (`+`, `-`, `scalar_mul`, `scale`, `shift_coefficients`, …) the results denote
  the same polynomial (their raw storages may differ in stored zeros, which no public accessor shows).

`Cow::Borrowed` versus `Cow::Owned` has no counterpart in the model (both are the same list); that borrowing never
changes a result is covered by the differential run (family `polyv`) only.
-/
open Polynomial

namespace TF.C17
open TF TF.Model.Poly
variable {K : Type} [Field K] (root : Nat → Option K)
local notation "FK" => FieldOps.ofField K root
open Classical

/-! ### storage versus value -/

/-- appending zero coefficients above the leading term does not change the denoted polynomial -/
theorem padding_denote (p : List K) (k : Nat) : denote (p ++ List.replicate k 0) = denote p :=
  denote_append_zeros p k
example : denote ([1, 2] ++ List.replicate 17 (0 : ℚ)) = denote [1, 2] := padding_denote _ _

/-- two storages denote the same polynomial iff they are equal up to stored leading zeros
    (they have the same normalisation, and each is its normalisation padded) -/
theorem storage_eq_iff_padding (a a' : List K) :
    denote a = denote a' ↔
      ∃ c k k', a = c ++ List.replicate k 0 ∧ a' = c ++ List.replicate k' 0 := by
  constructor
  · intro h
    obtain ⟨k, hk⟩ := exists_zeros (fun _ => none) a
    obtain ⟨k', hk'⟩ := exists_zeros (fun _ => none) a'
    exact ⟨normalize (FieldOps.ofField K) a, k, k', hk, by rw [normalize_congr _ h]; exact hk'⟩
  · rintro ⟨c, k, k', rfl, rfl⟩
    rw [denote_append_zeros, denote_append_zeros]
example : denote ([1, 2, 0] : List ℚ) = denote [1, 2] := padding_denote [1, 2] 1

/-- `==` is equality of the denoted polynomials -/
theorem eq_iff_denote (a b : List K) : Model.Poly.eq FK a b = true ↔ denote a = denote b :=
  Model.Poly.eq_iff_denote root a b
example : Model.Poly.eq (FieldOps.ofField ℚ) [1, 2] [1, 2, 0] = true :=
  (eq_iff_denote _ _ _).2 (padding_denote [1, 2] 1).symm

/-- `==` respects storage in both argument positions -/
theorem eq_respects_denote {a a' b b' : List K} (ha : denote a = denote a') (hb : denote b = denote b') :
    Model.Poly.eq FK a b = Model.Poly.eq FK a' b' := eq_congr root ha hb
example : denote ([3, 0, 0] : List ℚ) = denote [3] := padding_denote [3] 2

/-- equal polynomials hash equally (after fix F4 the hasher is fed `coefficients()`), for every hasher `h` -/
theorem hash_respects_eq {δ : Type} (h : List K → δ) (a b : List K) (hab : Model.Poly.eq FK a b = true) :
    hashWith FK h a = hashWith FK h b := by
  unfold hashWith
  rw [normalize_congr root ((eq_iff_denote root a b).1 hab)]
example : Model.Poly.eq (FieldOps.ofField ℚ) [1, 2] [1, 2, 0] = true :=
  (eq_iff_denote _ _ _).2 (padding_denote [1, 2] 1).symm

/-- `degree()`: −1 exactly for the zero polynomial, else Mathlib's `natDegree` -/
theorem degree_spec (p : List K) :
    Model.Poly.degree FK p = if denote p = 0 then -1 else ((denote p).natDegree : Int) :=
  Model.Poly.degree_spec root p
example : Model.Poly.degree (FieldOps.ofField ℚ) [0, 0] = -1 :=
  (degree_eq_neg_one_iff _ _).2 (padding_denote [] 2)

/-- `leading_coefficient()`: `None` exactly for zero, else the leading coefficient — never `Some(0)` -/
theorem leading_coefficient_spec (p : List K) :
    leadingCoefficient FK p = (if denote p = 0 then none else some (denote p).leadingCoeff) ∧
    leadingCoefficient FK p ≠ some 0 := by
  have h := Model.Poly.leadingCoefficient_spec root p
  refine ⟨h, ?_⟩
  rw [h]
  split
  · simp
  · next hne => simpa using hne
example : leadingCoefficient (FieldOps.ofField ℚ) [1, 2, 0] ≠ some 0 := (leading_coefficient_spec _ _).2

/-- `coefficients()` / `into_coefficients()`: the unique storage of the same polynomial whose last element is
    non-zero (empty for zero) -/
theorem coefficients_spec (p : List K) :
    denote (coefficients FK p) = denote p ∧ Normal (coefficients FK p) ∧
    (∀ q, denote q = denote p → Normal q → q = coefficients FK p) :=
  ⟨denote_normalize root p, normal_normalize root p,
    fun q hq hn => by
      unfold coefficients
      rw [← normalize_congr root hq, normalize_of_normal root hn]⟩
example : Normal ([1, 2] : List ℚ) := by simp [Normal]

/-- all accessors and predicates depend on the denoted polynomial only -/
theorem accessors_respect_denote {a a' : List K} (h : denote a = denote a') :
    Model.Poly.degree FK a = Model.Poly.degree FK a' ∧ coefficients FK a = coefficients FK a' ∧
    intoCoefficients FK a = intoCoefficients FK a' ∧
    leadingCoefficient FK a = leadingCoefficient FK a' ∧ isZero FK a = isZero FK a' ∧
    isOne FK a = isOne FK a' ∧ isX FK a = isX FK a' := by
  have hn := normalize_congr root h
  unfold Model.Poly.degree coefficients intoCoefficients leadingCoefficient isZero isOne isX
  rw [hn]
  exact ⟨rfl, rfl, rfl, rfl, rfl, rfl, rfl⟩
example : denote ([0, 1, 0, 0] : List ℚ) = denote [0, 1] := padding_denote [0, 1] 2

/-- the `BFieldCodec` encoding depends on the denoted polynomial only (it is the encoding of `coefficients()`),
    for every item encoding -/
theorem encode_respects_denote (encE : K → List Nat) {a a' : List K} (h : denote a = denote a') :
    encode FK encE a = encode FK encE a' := by
  unfold encode; rw [normalize_congr root h]
example : encode (FieldOps.ofField ℚ) (fun _ => [7]) [1, 2, 0] = encode (FieldOps.ofField ℚ) (fun _ => [7]) [1, 2] :=
  encode_respects_denote _ _ (padding_denote [1, 2] 1)

/-- the hash depends on the denoted polynomial only -/
theorem hash_respects_denote {δ : Type} (h : List K → δ) {a a' : List K} (haa : denote a = denote a') :
    hashWith FK h a = hashWith FK h a' := by
  unfold hashWith; rw [normalize_congr root haa]
example : hashWith (FieldOps.ofField ℚ) List.length [1, 2, 0] = hashWith (FieldOps.ofField ℚ) List.length [1, 2] :=
  hash_respects_denote _ _ (padding_denote [1, 2] 1)

/-! ### ring operations that copy raw storage: same polynomial -/

/-- `+`, `+=`, `-`, unary `-`, `scalar_mul(_mut)`, `scale`, `shift_coefficients`, `formal_derivative`, `mod_x_to_the_n`
    in every argument position -/
theorem ring_ops_respect_denote {a a' b b' : List K} (ha : denote a = denote a') (hb : denote b = denote b')
    (s : K) (n : Nat) :
    denote (add FK a b) = denote (add FK a' b') ∧
    denote (addAssign FK a b) = denote (addAssign FK a' b') ∧
    denote (sub FK a b) = denote (sub FK a' b') ∧
    denote (neg FK a) = denote (neg FK a') ∧
    denote (scalarMul FK a s) = denote (scalarMul FK a' s) ∧
    denote (scale FK a s) = denote (scale FK a' s) ∧
    denote (shiftCoefficients FK a n) = denote (shiftCoefficients FK a' n) ∧
    denote (formalDerivative FK a) = denote (formalDerivative FK a') ∧
    denote (modXToTheN a n) = denote (modXToTheN a' n) := by
  refine ⟨?_, ?_, ?_, ?_, ?_, ?_, ?_, ?_, ?_⟩
  · rw [denote_add, denote_add, ha, hb]
  · rw [denote_addAssign, denote_addAssign, ha, hb]
  · rw [denote_sub, denote_sub, ha, hb]
  · rw [denote_neg, denote_neg, ha]
  · rw [denote_scalarMul, denote_scalarMul, ha]
  · rw [denote_scale, denote_scale, ha]
  · rw [denote_shiftCoefficients, denote_shiftCoefficients, ha]
  · rw [denote_formalDerivative, denote_formalDerivative, ha]
  · exact denote_modXToTheN_congr ha n
example : denote ([1, 2, 0] : List ℚ) = denote [1, 2] ∧ denote ([] : List ℚ) = denote [0, 0] :=
  ⟨padding_denote [1, 2] 1, (padding_denote [] 2).symm⟩

/-- `+=` is `+` -/
theorem add_assign_spec (a b : List K) : denote (addAssign FK a b) = denote a + denote b := denote_addAssign root a b
example : denote (addAssign (FieldOps.ofField ℚ) [1] [1, 2, 0]) = denote ([1] : List ℚ) + denote [1, 2, 0] :=
  add_assign_spec _ _ _
/-- `formal_derivative` is the derivative of `K[X]` -/
theorem formal_derivative_spec (p : List K) : denote (formalDerivative FK p) = derivative (denote p) :=
  denote_formalDerivative root p
example : denote (formalDerivative (FieldOps.ofField ℚ) [1, 2, 0]) = derivative (denote ([1, 2, 0] : List ℚ)) :=
  formal_derivative_spec _ _

/-- evaluation (Horner over the raw storage) depends on the denoted polynomial only -/
theorem evaluate_respects_denote {a a' : List K} (h : denote a = denote a') (x : K) :
    evaluate FK a x = evaluate FK a' x := by
  rw [eval_denote, eval_denote, h]
example : evaluate (FieldOps.ofField ℚ) [1, 2, 0, 0] 5 = evaluate (FieldOps.ofField ℚ) [1, 2] 5 :=
  evaluate_respects_denote _ (padding_denote [1, 2] 2) _

/-- `truncate(k)` (after fix F6) reads `coefficients()`: literally the same result on every storage -/
theorem truncate_respects_denote {a a' : List K} (h : denote a = denote a') (k : Nat) :
    truncate FK a k = truncate FK a' k := truncate_congr root h k
example : truncate (FieldOps.ofField ℚ) [1, 2, 0] 0 = truncate (FieldOps.ofField ℚ) [1, 2] 0 :=
  truncate_respects_denote _ (padding_denote [1, 2] 1) _
/-- `truncate(k)` is the polynomial with the `k+1` highest coefficients -/
theorem truncate_spec (p : List K) (k i : Nat) :
    (denote (truncate FK p k)).coeff i = (denote p).coeff (i + ((coefficients FK p).length - (k + 1))) :=
  coeff_truncate root p k i
example : (denote (truncate (FieldOps.ofField ℚ) [1, 2, 0] 0)).coeff 0
    = (denote ([1, 2, 0] : List ℚ)).coeff (0 + ((coefficients (FieldOps.ofField ℚ) [1, 2, 0]).length - (0 + 1))) :=
  truncate_spec _ _ _ _

/-- `mod_x_to_the_n(n)` keeps the coefficients below `n` -/
theorem mod_x_to_the_n_spec (p : List K) (n i : Nat) :
    (denote (modXToTheN p n)).coeff i = if i < n then (denote p).coeff i else 0 := coeff_modXToTheN p n i
example : (denote (modXToTheN ([1, 2, 3] : List ℚ) 2)).coeff 2 = if 2 < 2 then (denote ([1, 2, 3] : List ℚ)).coeff 2 else 0 :=
  mod_x_to_the_n_spec _ _ _

/-! ### products: literally the same result, including the same panic behaviour -/

/-- `naive_multiply`, `*`, `slow_square`, `pow` — NTT-free, total -/
theorem naive_products_respect_denote {a a' b b' : List K} (ha : denote a = denote a') (hb : denote b = denote b')
    (e : Nat) :
    naiveMultiply FK a b = naiveMultiply FK a' b' ∧ mul FK a b = mul FK a' b' ∧
    slowSquare FK a = slowSquare FK a' ∧ pow FK a e = pow FK a' e :=
  ⟨naiveMultiply_congr root ha hb, naiveMultiply_congr root ha hb, slowSquare_congr root ha, pow_congr root ha e⟩
example : slowSquare (FieldOps.ofField ℚ) [1, 2, 0] = slowSquare (FieldOps.ofField ℚ) [1, 2] :=
  (naive_products_respect_denote _ (padding_denote [1, 2] 1) (rfl : denote ([] : List ℚ) = denote []) 0).2.2.1

/-- `fast_multiply`, `multiply`, `fast_square`, `square`, `fast_pow`: for **every** transform pair (no hypothesis),
    every threshold and cut-off, the results on two storages of the same polynomials are equal as `Option` values —
    the same polynomial storage *and* the same panic behaviour (no panic under padding; F5's `[1,2,0]`) -/
theorem ntt_products_respect_denote (T : Transform K) (threshold : Int) (cutoff : Nat)
    {a a' b b' : List K} (ha : denote a = denote a') (hb : denote b = denote b') (e : Nat) :
    fastMultiply FK T a b = fastMultiply FK T a' b' ∧
    multiply FK threshold T a b = multiply FK threshold T a' b' ∧
    fastSquare FK T a = fastSquare FK T a' ∧
    square FK cutoff T a = square FK cutoff T a' ∧
    fastPow FK cutoff threshold T a e = fastPow FK cutoff threshold T a' e :=
  ⟨fastMultiply_congr root T ha hb, multiply_congr root threshold T ha hb, fastSquare_congr root T ha,
    square_congr root cutoff T ha, fastPow_congr root cutoff threshold T ha e⟩
example : square (FieldOps.ofField ℚ) 64 exampleTransform [1, 2, 0] = square (FieldOps.ofField ℚ) 64 exampleTransform [1, 2] :=
  (ntt_products_respect_denote _ exampleTransform 256 64 (padding_denote [1, 2] 1) (rfl : denote ([] : List ℚ) = denote []) 0).2.2.2.1

/-- `square` on a padded operand: no panic under padding, stated with explicit padding -/
theorem square_padding (T : Transform K) (cutoff : Nat) (p : List K) (k : Nat) :
    square FK cutoff T (p ++ List.replicate k 0) = square FK cutoff T p :=
  square_congr root cutoff T (denote_append_zeros p k)
example : square (FieldOps.ofField ℚ) 64 exampleTransform ([1, 2] ++ List.replicate 1 0)
    = square (FieldOps.ofField ℚ) 64 exampleTransform [1, 2] := square_padding _ _ _ _ _

/-- `batch_multiply` and `par_batch_multiply` (every thread count) on factor lists that agree as polynomials
    position by position: both panic, or both return storages of the same polynomial -/
theorem batch_products_respect_denote (T : Transform K) (threshold : Int) (numThreads : Nat)
    {fs gs : List (List K)} (h : List.Forall₂ (fun a b => denote a = denote b) fs gs) :
    RelO (batchMultiply FK threshold T fs) (batchMultiply FK threshold T gs) ∧
    RelO (parBatchMultiply FK threshold T numThreads fs) (parBatchMultiply FK threshold T numThreads gs) := by
  have hm : MulCongr (multiply FK threshold T) := fun a a' b b' ha hb => multiply_congr root threshold T ha hb
  exact ⟨batchMultiplyWith_rel root hm (forall₂_map_some h),
    parBatchMultiplyWith_rel root hm numThreads (forall₂_map_some h)⟩
example : List.Forall₂ (fun a b => denote a = denote b) [[1, 2, 0], ([] : List ℚ)] [[1, 2], [0]] := by
  exact .cons (padding_denote [1, 2] 1) (.cons (padding_denote [] 1).symm .nil)

/-! ### the rest of the public API (docs/POLY_API_COVERAGE.md)

Constructors, scalar operators, evaluation across fields, `truncate` with machine arithmetic, and the operations whose
models live in `TF/Model/PolyDiv.lean` / `TF/Model/PolyInterp.lean` (division, reduction, gcd, bulk and coset
evaluation).  `Rel2`/`Rel3`/`RelO`: both sides panic, or both return storages of the same polynomial(s). -/

open TF.Proofs.PolyV TF.Model.PolyD in
/-- constructors: `x_to_the(n) = Xⁿ`, `from_constant(c) = c`, `Zero::zero() = 0`, `One::one() = 1`,
    `From<XFieldElement>` is the coordinate polynomial, and `From<Vec<_>>`/`From<[_; N]>`/`From<&[_]>` applied to two
    lists that differ in trailing zeros give `==` polynomials -/
theorem constructors_spec (n : Nat) (c : K) (t : K × K × K) {a a' : List K} (h : denote a = denote a') :
    denote (xToThe FK n) = X ^ n ∧ denote (fromConstant c) = C c ∧ denote (zero : List K) = 0 ∧
    denote (one FK) = 1 ∧ denote (fromXfe t) = C t.1 + C t.2.1 * X + C t.2.2 * X ^ 2 ∧
    Model.Poly.eq FK (fromList a) (fromList a') = true :=
  ⟨denote_xToThe root n, denote_fromConstant c, denote_zero, denote_one root, denote_fromXfe t,
    (eq_iff_denote root _ _).2 h⟩
example : denote ([1, 2, 0] : List ℚ) = denote [1, 2] := padding_denote [1, 2] 1

/-- the scalar operators `p * s`, `s * p` (`BFieldElement`/`XFieldElement` on the left) and `scalar_mul`, scalar and
    coefficients possibly in different fields (`φ₁`, `φ₂` the embeddings into the result field): the result is
    `φ₁(p) · φ₂(s)`, on every storage -/
theorem scalar_operators_respect_denote {K₁ K₂ : Type} [Field K₁] [Field K₂] (φ₁ : K₁ →+* K) (φ₂ : K₂ →+* K)
    {a a' : List K₁} (h : denote a = denote a') (s : K₂) :
    denote (scalarMulG (fun x y => φ₁ x * φ₂ y) a s) = (denote a).map φ₁ * C (φ₂ s) ∧
    denote (scalarMulG (fun x y => φ₁ x * φ₂ y) a s) = denote (scalarMulG (fun x y => φ₁ x * φ₂ y) a' s) := by
  rw [denote_scalarMulG, denote_scalarMulG, h]; exact ⟨rfl, rfl⟩
example : denote ([3, 0] : List ℚ) = denote [3] := padding_denote [3] 1

/-- `evaluate::<Ind, Eval>` of a polynomial over `K` at a point of an extension field `L` is `eval₂` along the
    embedding — it depends on the denoted polynomial only; at a point of `K` itself it is `eval` -/
theorem evaluate_mixed_respects_denote {L : Type} [Field L] [Algebra K L] (rootL : Nat → Option L)
    {a a' : List K} (h : denote a = denote a') (x : L) (y : K) :
    evaluateLift (FieldOps.ofField L rootL) (algebraMap K L) a x = (denote a).eval₂ (algebraMap K L) x ∧
    evaluateLift (FieldOps.ofField L rootL) (algebraMap K L) a x
      = evaluateLift (FieldOps.ofField L rootL) (algebraMap K L) a' x ∧
    evaluateLift FK id a y = evaluateLift FK id a' y := by
  refine ⟨evaluateLift_spec rootL a x, ?_, ?_⟩
  · rw [evaluateLift_spec, evaluateLift_spec, h]
  · rw [evaluateLift_id, evaluateLift_id, h]
example : evaluateLift (FieldOps.ofField ℚ) (algebraMap ℚ ℚ) [1, 2, 0] 3
    = evaluateLift (FieldOps.ofField ℚ) (algebraMap ℚ ℚ) [1, 2] 3 :=
  (evaluate_mixed_respects_denote (fun _ => none) (fun _ => none) (padding_denote [1, 2] 1) 3 0).2.1

/-- `truncate(k)` as compiled (after the repair F13: `take(k.saturating_add(1))`): for EVERY `k` (`usize::MAX` included)
    it reads `coefficients()` only — the same result on every storage — and it is the `truncate` of `truncate_spec` for
    every polynomial with fewer than `2^64` coefficients -/
theorem truncate_usize_respects_denote {a a' : List K} (h : denote a = denote a') (k : Nat) :
    truncateUsize FK a k = truncateUsize FK a' k ∧
    ((normalize FK a).length < 2 ^ 64 → truncateUsize FK a k = truncate FK a k) :=
  ⟨truncateUsize_congr root h k, truncateUsize_eq root a k⟩
example : truncateUsize (FieldOps.ofField ℚ) [1, 2, 0] 0 = truncateUsize (FieldOps.ofField ℚ) [1, 2] 0 :=
  (truncate_usize_respects_denote _ (padding_denote [1, 2] 1) 0).1

/-- **defect F13, for the record** (repaired by a `fix:` commit; negation witness for the code as it was): at
    `k = usize::MAX` the `truncate` compiled before the repair returned the zero polynomial for every input, whereas the
    documented result ("degree = min(k, degree)", `truncate_spec`) is the polynomial itself;
    `[1,2,3].truncate(usize::MAX)` was `0 ≠ 1 + 2X + 3X²`; the repaired function returns `[1,2,3]` -/
theorem truncate_usize_max_violated_before_F13 :
    truncateBeforeF13 (FieldOps.ofField ℚ) [1, 2, 3] (2 ^ 64 - 1) = [] ∧
    truncate (FieldOps.ofField ℚ) [1, 2, 3] (2 ^ 64 - 1) = [1, 2, 3] ∧
    denote (truncateBeforeF13 (FieldOps.ofField ℚ) [1, 2, 3] (2 ^ 64 - 1)) ≠ denote ([1, 2, 3] : List ℚ) := by
  have h0 := truncateBeforeF13_max (fun _ => none) ([1, 2, 3] : List ℚ)
  refine ⟨h0, ?_, ?_⟩
  · have hn : normalize (FieldOps.ofField ℚ) [1, 2, 3] = [1, 2, 3] :=
      normalize_of_normal (fun _ => none) (by simp [Normal])
    unfold truncate
    rw [hn]
    show List.drop (([1, 2, 3] : List ℚ).length - (2 ^ 64 - 1 + 1)) [1, 2, 3] = [1, 2, 3]
    have : ([1, 2, 3] : List ℚ).length - (2 ^ 64 - 1 + 1) = 0 := Nat.sub_eq_zero_of_le (by decide)
    rw [this]; rfl
  · rw [h0]
    intro h
    have := congrArg (fun p => p.coeff 0) h
    simp only [coeff_denote] at this
    exact zero_ne_one this
example : (2 : Nat) ^ 64 - 1 + 1 = 2 ^ 64 := by norm_num

open TF.Proofs.PolyV TF.Model.PolyD in
/-- `divide`, `naive_divide`, `/`, `%` in both argument positions: both panic (zero divisor), or both return
    storages of the same quotient and remainder -/
theorem division_respects_denote {a a' d d' : List K} (ha : denote a = denote a') (hd : denote d = denote d') :
    Rel2 (naiveDivide FK a d) (naiveDivide FK a' d') ∧ Rel2 (divide FK a d) (divide FK a' d') ∧
    RelO (Model.PolyD.div FK a d) (Model.PolyD.div FK a' d') ∧
    RelO (Model.PolyD.rem FK a d) (Model.PolyD.rem FK a' d') :=
  ⟨naiveDivide_congr root ha hd, naiveDivide_congr root ha hd, div_congr root ha hd, rem_congr root ha hd⟩
example : denote ([0, 0] : List ℚ) = denote [] := padding_denote [] 2

open TF.Proofs.PolyV TF.Model.PolyD in
/-- `xgcd` in both argument positions: the gcd **and both Bézout coefficients** depend on the denoted polynomials
    only (the Euclid loop is run on the two storages side by side; no certificate determines the coefficients) -/
theorem xgcd_respects_denote {x x' y y' : List K} (hx : denote x = denote x') (hy : denote y = denote y') :
    Rel3 (xgcd FK x y) (xgcd FK x' y') := xgcd_congr root hx hy
example : denote ([1, 0, 1, 0] : List ℚ) = denote [1, 0, 1] := padding_denote [1, 0, 1] 1

open TF.Proofs.PolyV TF.Model.PolyD TF.Proofs.PolyD in
/-- `reduce` (all four arms) and `fast_reduce` (all three stages), every threshold value, both argument positions:
    both panic (zero modulus) or both return storages of the same remainder.  `NttDft N ω` is property C06. -/
theorem reduce_respects_denote (N : NttOps K) (ω : Nat → K) (hN : NttDft N ω) (ms cutoff stage2 : Nat)
    {a a' m m' : List K} (ha : denote a = denote a') (hm : denote m = denote m') :
    RelO (reduce FK N ms cutoff stage2 a m) (reduce FK N ms cutoff stage2 a' m') ∧
    RelO (fastReduce FK N cutoff stage2 a m) (fastReduce FK N cutoff stage2 a' m') :=
  ⟨reduce_congr root N (nttConv_of_nttDft hN) ms cutoff stage2 ha hm,
    fastReduce_congr root N (nttConv_of_nttDft hN) cutoff stage2 ha hm⟩
example : denote ([3, 1, 0] : List ℚ) = denote [3, 1] := padding_denote [3, 1] 1

open TF.Model.PolyD TF.Proofs.PolyD in
/-- `structured_multiple_of_degree(n)` for a polynomial of degree ≥ 1: the same panic behaviour and the same multiple
    on every storage (for constants the code returns `c⁻¹·Xⁿ`, tied by the correspondence run only) -/
theorem structured_multiple_respects_denote {p p' : List K} (h : denote p = denote p') (n : Nat)
    (hd : 1 ≤ (denote p).natDegree) :
    RelO (structuredMultipleOfDegree FK p n) (structuredMultipleOfDegree FK p' n) := by
  have hp : denote p ≠ 0 := by intro h0; rw [h0] at hd; simp at hd
  by_cases hn : (denote p).natDegree ≤ n
  · obtain ⟨s, h1, _, h2, h3, h4⟩ := structuredMultipleOfDegree_spec root p n hp hn
    obtain ⟨s', h1', _, h2', h3', h4'⟩ := structuredMultipleOfDegree_spec root p' n (h ▸ hp) (h ▸ hn)
    rw [h1, h1']
    show denote s = denote s'
    rw [eq_sub_mod_of_dvd (t := denote s) h2 (h4 hd).2,
      eq_sub_mod_of_dvd (t := denote s') (d := denote p) (h ▸ h2') (h ▸ (h4' (h ▸ hd)).2)]
  · rw [structuredMultipleOfDegree_none root p n (Or.inr (by omega)),
      structuredMultipleOfDegree_none root p' n (Or.inr (by rw [← h]; omega))]
    trivial
example : (1 : Nat) ≤ (X ^ 2 + 1 : ℚ[X]).natDegree := by
  rw [show (X ^ 2 + 1 : ℚ[X]) = X ^ 2 + C 1 by simp, natDegree_X_pow_add_C]; norm_num

open TF.Proofs.PolyV TF.Model.PolyD TF.Proofs.PolyD in
/-- `clean_divide` inside its contract (non-zero divisor dividing the dividend), every cut-off, both positions:
    both return storages of the same quotient -/
theorem clean_divide_respects_denote {L : Type} [Field L] [Algebra K L] (rootL : Nat → Option L) (E : ExtOps K L)
    (NX : NttOps L) (ω : Nat → L) (hN : NttDft NX ω)
    (hlift : ∀ k, E.lift k = algebraMap K L k) (hunlift : ∀ k, E.unlift (algebraMap K L k) = some k)
    (hoff : E.offset ≠ 0) (cutoff : Nat) {a a' d d' : List K} (ha : denote a = denote a') (hd : denote d = denote d')
    (hd0 : denote d ≠ 0) (hdvd : denote d ∣ denote a) :
    RelO (cleanDivide FK (FieldOps.ofField L rootL) E NX cutoff a d)
      (cleanDivide FK (FieldOps.ofField L rootL) E NX cutoff a' d') := by
  obtain ⟨q, h1, h2⟩ := cleanDivide_spec root rootL E hN hlift hunlift hoff cutoff a d hd0 hdvd
  obtain ⟨q', h1', h2'⟩ := cleanDivide_spec root rootL E hN hlift hunlift hoff cutoff a' d' (hd ▸ hd0)
    (ha ▸ hd ▸ hdvd)
  rw [h1, h1']
  show denote q = denote q'
  rw [← ha, ← hd, ← h2] at h2'
  exact (mul_right_cancel₀ hd0 h2').symm
example : denote ([1, 1] : List ℚ) ∣ denote ([0, 1, 1] : List ℚ) := ⟨X, by rw [denote_cons, C_0, zero_add, mul_comm]⟩

open TF.Model.PolyI in
/-- bulk evaluation — `batch_evaluate` (every ratio, leaf size ≥ 1, cut-off ≥ 2), `par_batch_evaluate` (every thread
    count), `iterative_batch_evaluate`, `divide_and_conquer_batch_evaluate` over any correct tree — returns
    literally the same values on every storage of the polynomial -/
theorem batch_evaluate_respects_denote {E : Ext K} (hE : E.Lawful) (R RT T threads : Nat) (hRT : 0 < RT) (hT : 2 ≤ T)
    {p p' : List K} (h : denote p = denote p') (domain : List K) (t : ZTree K) (ht : t.Good) :
    batchEvaluateWith FK E R RT T p domain = batchEvaluateWith FK E R RT T p' domain ∧
    iterativeBatchEvaluate FK p domain = iterativeBatchEvaluate FK p' domain ∧
    dcEval FK E p t = dcEval FK E p' t ∧
    (∀ out out', parBatchEvaluateWith FK E R RT T threads p domain = some out →
      parBatchEvaluateWith FK E R RT T threads p' domain = some out' → out = out') := by
  refine ⟨?_, ?_, ?_, ?_⟩
  · rw [batchEvaluateWith_total root hE R RT T hRT hT, batchEvaluateWith_total root hE R RT T hRT hT, h]
  · unfold iterativeBatchEvaluate
    exact List.map_congr_left (fun x _ => by rw [eval_denote, eval_denote, h])
  · rw [dcEval_spec root hE p t ht, dcEval_spec root hE p' t ht, h]
  · intro out out' h1 h2
    rw [parBatchEvaluateWith_sound root hE R RT T threads p domain out h1,
      parBatchEvaluateWith_sound root hE R RT T threads p' domain out' h2, h]
example : denote ([0, 1, 0, 0] : List ℚ) = denote [0, 1] := padding_denote [0, 1] 2


open TF.Model.PolyI in
/-- (helper) the panic condition of `fast_coset_evaluate` -/
theorem fce_none_iff {E : Ext K} (p : List K) (offset : K) (order : Nat) :
    fastCosetEvaluate FK E p offset order = none ↔
      ¬ (TF.Model.PolyI.degSucc FK p ≤ order ∧ (order = 0 ∨ TF.Model.PolyI.isPow2 order = true)) := by
  unfold fastCosetEvaluate nttChecked
  simp only [TF.Model.PolyI.length_resize]
  by_cases h1 : TF.Model.PolyI.degSucc FK p ≤ order <;> by_cases h2 : order = 0 <;>
    by_cases h3 : TF.Model.PolyI.isPow2 order = true <;>
    simp [h1, h2, h3]

open TF.Model.PolyI in
/-- `fast_coset_evaluate`: the same panic condition (order not above the degree, or not a power of two) and the same
    values on every storage -/
theorem fast_coset_evaluate_respects_denote {E : Ext K} (hN : Ext.LawfulNtt root E) {p p' : List K}
    (h : denote p = denote p') (offset : K) (order : Nat) (ω : K) (hω : root order = some ω) :
    (fastCosetEvaluate FK E p offset order = none ↔ fastCosetEvaluate FK E p' offset order = none) ∧
    (∀ out out', fastCosetEvaluate FK E p offset order = some out →
      fastCosetEvaluate FK E p' offset order = some out' → out = out') := by
  constructor
  · rw [TF.C17.fce_none_iff root p, TF.C17.fce_none_iff root p']
    unfold TF.Model.PolyI.degSucc; rw [normalize_congr root h]
  · intro out out' h1 h2
    rw [fastCosetEvaluate_sound root hN p offset order ω hω out h1,
      fastCosetEvaluate_sound root hN p' offset order ω hω out' h2, h]
example : denote ([5, 0, 0] : List ℚ) = denote [5] := padding_denote [5] 2

/-! ## regenerated-from-source bridge (tools/rs2lean_poly.py, `TF/Gen/PolyLoops.lean`)

The storage observers of `polynomial.rs` — `degree`, `coefficients()`, `normalize`, `into_coefficients`,
`leading_coefficient`, `==`, `is_zero`, `is_one`, `is_x` — and the constructors `new`, `zero`, `one`, `from_constant`,
`into_owned` are **also regenerated from the text of `polynomial.rs` on every run** (`TF.Gen.Poly.*`): the field operations are
the parameter `F : FieldOps α`, a polynomial is its storage list, a function that can panic (index, `unwrap`, …) returns
`Option` with `none` = panic, `while` loops carry a fuel.  The theorems below (proofs in `TF/Proofs/GenBridgePoly.lean`) say, for
**every** `F` and **every** storage (stored leading zeros included): the regenerated function returns exactly the hand
model's value — in particular it never panics and its fuel suffices.  "Stored leading zeros never change results" hinges on
exactly these functions; a one-token change in one of them (e.g. `degree` not skipping zeros) breaks the corresponding
theorem here.  The driver evaluates the regenerated definitions next to the hand model (`GEN-MISMATCH`). -/

/-- regenerated `degree` (the `while deg >= 0 && coefficients[deg].is_zero()` loop) = hand model: all `F`, all storages -/
theorem gen_degree_eq_model {α : Type} (F : FieldOps α) (p : List α) :
    TF.Gen.Poly.degree F p = some (Model.Poly.degree F p) := TF.GenBridge.Poly.degree_eq F p
example : TF.Gen.Poly.degree bfieldOps [1, 2, 0, 0] = some 1 ∧ TF.Gen.Poly.degree bfieldOps [0, 0] = some (-1) := by decide +kernel

/-- regenerated `coefficients()` (`rposition` + slice), `normalize` (the `pop` loop) and `into_coefficients` = hand models -/
theorem gen_coefficients_eq_model {α : Type} (F : FieldOps α) (p : List α) :
    TF.Gen.Poly.coefficients F p = some (coefficients F p) ∧ TF.Gen.Poly.normalize F p = some (normalize F p) ∧
    TF.Gen.Poly.into_coefficients F p = some (intoCoefficients F p) :=
  ⟨TF.GenBridge.Poly.coefficients_eq F p, TF.GenBridge.Poly.normalize_eq F p, TF.GenBridge.Poly.into_coefficients_eq F p⟩
example : TF.Gen.Poly.coefficients bfieldOps [1, 2, 0, 0] = some [1, 2] ∧ TF.Gen.Poly.normalize bfieldOps [0, 0] = some [] := by
  decide +kernel

/-- regenerated `leading_coefficient` (`match self.degree() { -1 => None, n => Some(coefficients[n]) }`) = hand model -/
theorem gen_leading_coefficient_eq_model {α : Type} (F : FieldOps α) (p : List α) :
    TF.Gen.Poly.leading_coefficient F p = some (leadingCoefficient F p) := TF.GenBridge.Poly.leading_coefficient_eq F p
example : TF.Gen.Poly.leading_coefficient bfieldOps [1, 2, 0] = some (some 2) ∧
    TF.Gen.Poly.leading_coefficient bfieldOps [0] = some none := by decide +kernel

/-- regenerated `PartialEq::eq`, `is_zero` (`*self == Self::zero()`), `is_one`, `is_x` = hand models -/
theorem gen_predicates_eq_model {α : Type} (F : FieldOps α) (p q : List α) :
    TF.Gen.Poly.eq F p q = some (Model.Poly.eq F p q) ∧ TF.Gen.Poly.is_zero F p = some (isZero F p) ∧
    TF.Gen.Poly.is_one F p = some (isOne F p) ∧ TF.Gen.Poly.is_x F p = some (isX F p) :=
  ⟨TF.GenBridge.Poly.eq_eq F p q, TF.GenBridge.Poly.is_zero_eq F p, TF.GenBridge.Poly.is_one_eq F p,
    TF.GenBridge.Poly.is_x_eq F p⟩
example : TF.Gen.Poly.eq bfieldOps [1, 2] [1, 2, 0] = some true ∧ TF.Gen.Poly.is_zero bfieldOps [0, 0] = some true ∧
    TF.Gen.Poly.is_one bfieldOps [1, 0] = some true ∧ TF.Gen.Poly.is_x bfieldOps [0, 1, 0] = some true := by decide +kernel

/-- regenerated constructors = hand models (definitionally) -/
theorem gen_constructors_eq_model {α : Type} (F : FieldOps α) (c : α) (l : List α) :
    TF.Gen.Poly.new l = l ∧ (TF.Gen.Poly.zero : List α) = zero ∧ TF.Gen.Poly.one F = one F ∧
    TF.Gen.Poly.from_constant c = fromConstant c ∧ TF.Gen.Poly.into_owned l = intoOwned l :=
  ⟨rfl, rfl, rfl, rfl, rfl⟩
example : TF.Gen.Poly.one bfieldOps = [1] ∧ TF.Gen.Poly.from_constant (7 : Nat) = [7] := by decide +kernel

/-- **`accessors_respect_denote` / `degree_spec` / `leading_coefficient_spec` for the regenerated code**: on two storages of
    the same polynomial every regenerated observer returns the same `some` value (no panic under padding), and
    regenerated `degree` / `leading_coefficient` compute Mathlib's degree / leading coefficient -/
theorem gen_accessors_transfer {a a' : List K} (h : denote a = denote a') :
    TF.Gen.Poly.degree FK a = TF.Gen.Poly.degree FK a' ∧ TF.Gen.Poly.coefficients FK a = TF.Gen.Poly.coefficients FK a' ∧
    TF.Gen.Poly.into_coefficients FK a = TF.Gen.Poly.into_coefficients FK a' ∧
    TF.Gen.Poly.leading_coefficient FK a = TF.Gen.Poly.leading_coefficient FK a' ∧
    TF.Gen.Poly.is_zero FK a = TF.Gen.Poly.is_zero FK a' ∧ TF.Gen.Poly.is_one FK a = TF.Gen.Poly.is_one FK a' ∧
    TF.Gen.Poly.is_x FK a = TF.Gen.Poly.is_x FK a' ∧
    TF.Gen.Poly.degree FK a = some (if denote a = 0 then -1 else ((denote a).natDegree : Int)) ∧
    TF.Gen.Poly.leading_coefficient FK a = some (if denote a = 0 then none else some (denote a).leadingCoeff) := by
  obtain ⟨h1, h2, h3, h4, h5, h6, h7⟩ := accessors_respect_denote root h
  simp only [TF.GenBridge.Poly.degree_eq, TF.GenBridge.Poly.coefficients_eq, TF.GenBridge.Poly.into_coefficients_eq,
    TF.GenBridge.Poly.leading_coefficient_eq, TF.GenBridge.Poly.is_zero_eq, TF.GenBridge.Poly.is_one_eq,
    TF.GenBridge.Poly.is_x_eq, h1, h2, h3, h4, h5, h6, h7, true_and]
  exact ⟨by rw [← h1, degree_spec], by rw [← h4, (leading_coefficient_spec root a).1]⟩
example : denote ([0, 1, 0, 0] : List ℚ) = denote [0, 1] := padding_denote [0, 1] 2

/-- `eq_iff_denote` for the regenerated `==`: it never panics and decides equality of the denoted polynomials -/
theorem gen_eq_transfer (a b : List K) : TF.Gen.Poly.eq FK a b = some (decide (denote a = denote b)) := by
  rw [(gen_predicates_eq_model FK a b).1]
  congr 1
  by_cases h : denote a = denote b
  · simp [h, (eq_iff_denote root a b).2 h]
  · have : Model.Poly.eq FK a b ≠ true := fun he => h ((eq_iff_denote root a b).1 he)
    simp [h, this]
example : TF.Gen.Poly.eq (FieldOps.ofField ℚ) [1, 2] [1, 2, 0] = some true := by
  have h : denote ([1, 2] : List ℚ) = denote [1, 2, 0] := (padding_denote [1, 2] 1).symm
  simp only [gen_eq_transfer, h, decide_true]

/-! ### regenerated ring operations, evaluation, truncation -/

/-- regenerated `+`, `-` (`zip_longest` + `match`), unary `-` (`scalar_mul_mut(-ONE)`), `+=` = hand models -/
theorem gen_ring_ops_eq_model {α : Type} (F : FieldOps α) (a b : List α) :
    TF.Gen.Poly.add F a b = add F a b ∧ TF.Gen.Poly.sub F a b = sub F a b ∧ TF.Gen.Poly.neg F a = neg F a ∧
    TF.Gen.Poly.add_assign F a b = some (addAssign F a b) :=
  ⟨TF.GenBridge.Poly.add_eq F a b, TF.GenBridge.Poly.sub_eq F a b, rfl, TF.GenBridge.Poly.add_assign_eq F a b⟩
example : TF.Gen.Poly.add bfieldOps [1, 2] [1, 1, 1] = [2, 3, 1] ∧ TF.Gen.Poly.sub bfieldOps [1] [1, 1] = [0, 18446744069414584320] ∧
    TF.Gen.Poly.add_assign bfieldOps [1, 2] [1, 1, 1] = some [2, 3, 1] := by decide +kernel

/-- regenerated `evaluate` (Horner loop, any indeterminate / result type), `formal_derivative` = hand models -/
theorem gen_evaluate_eq_model {α ι ε : Type} (F : FieldOps α) (zeroE : ε) (mulX : ε → ι → ε) (addC : ε → α → ε)
    (p : List α) (x : ι) :
    TF.Gen.Poly.evaluate F zeroE mulX addC p x = evaluateG zeroE mulX addC p x ∧
    TF.Gen.Poly.formal_derivative F p = formalDerivative F p :=
  ⟨TF.GenBridge.Poly.evaluate_eq F zeroE mulX addC p x, TF.GenBridge.Poly.formal_derivative_eq F p⟩
example : TF.Gen.Poly.evaluate bfieldOps 0 bfieldOps.mul bfieldOps.add [1, 2, 3] 2 = 17 ∧
    TF.Gen.Poly.formal_derivative bfieldOps [1, 2, 3] = [2, 6] := by decide +kernel

/-- regenerated `truncate` reads `coefficients()` (not the raw storage) and saturates `k + 1` in `usize`: it is the hand
    model `truncateUsize` for every `k`; regenerated `mod_x_to_the_n` and `reverse` = hand models -/
theorem gen_truncate_eq_model {α : Type} (F : FieldOps α) (p : List α) (k : Nat) :
    TF.Gen.Poly.truncate F p k = some (truncateUsize F p k) ∧ TF.Gen.Poly.mod_x_to_the_n F p k = some (modXToTheN p k) ∧
    TF.Gen.Poly.reverse F p = some (Model.Poly.reverse F p) :=
  ⟨by rw [TF.GenBridge.Poly.truncate_eq, List.take_reverse, List.reverse_reverse]; rfl,
    TF.GenBridge.Poly.mod_x_to_the_n_eq F p k, TF.GenBridge.Poly.reverse_eq F p⟩
example : TF.Gen.Poly.truncate bfieldOps [0, 1, 2, 3, 4, 0, 0] 1 = some [3, 4] := by decide +kernel

/-- **`truncate_usize_respects_denote`, `evaluate_respects_denote`, `add_assign_spec`, `formal_derivative_spec` for the
    regenerated code**: on two storages of the same polynomial regenerated `truncate` and `evaluate` return the same value -/
theorem gen_value_semantics_transfer {a a' : List K} (h : denote a = denote a') (b : List K) (k : Nat) (x : K) :
    TF.Gen.Poly.truncate FK a k = TF.Gen.Poly.truncate FK a' k ∧
    TF.Gen.Poly.evaluate FK (FK).zero (FK).mul (FK).add a x = TF.Gen.Poly.evaluate FK (FK).zero (FK).mul (FK).add a' x ∧
    (∃ r, TF.Gen.Poly.add_assign FK a b = some r ∧ denote r = denote a + denote b) ∧
    denote (TF.Gen.Poly.formal_derivative FK a) = derivative (denote a) := by
  refine ⟨?_, ?_, ⟨_, (gen_ring_ops_eq_model FK a b).2.2.2, add_assign_spec root a b⟩, ?_⟩
  · rw [(gen_truncate_eq_model FK a k).1, (gen_truncate_eq_model FK a' k).1, (truncate_usize_respects_denote root h k).1]
  · rw [(gen_evaluate_eq_model FK _ _ _ a x).1, (gen_evaluate_eq_model FK _ _ _ a' x).1]
    exact evaluate_respects_denote root h x
  · rw [(gen_evaluate_eq_model FK (FK).zero (FK).mul (FK).add a x).2]; exact formal_derivative_spec root a
example : denote ([1, 2, 0, 0] : List ℚ) = denote [1, 2] := padding_denote [1, 2] 2

end TF.C17
