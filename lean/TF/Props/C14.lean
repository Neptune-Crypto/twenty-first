import TF.Proofs.Codec
/-!
# C14 — the derive macro generates a correct, layout-compatible codec

The constructors `Ty.struct fs` (unit / named-field / tuple structs: `fs` = the *included* fields in declaration
order; `#[bfield_codec(ignore)]` fields are not part of the shape, the generated `decode` fills them with
`Default::default()`) and `Ty.enum vars` (variants in declaration order with their tuple fields) model what
`bfieldcodec_derive/src/lib.rs` generates. The quantifier over *all programs* of the shape grammar is the
quantifier over `fs : List Ty` / `vars : List (List Ty)` (any field count, any static/dynamic mix, any nesting —
generic parameters are instantiated types). The tie between the `quote!` templates and these constructors is a
finite corpus (family `derive`: 43 type definitions × both macro versions, compared bit for bit, plus 48 random
shape definitions generated from the seed by `harness/build.rs`) — see `tools/props/C14.json`.

The theorems below are the C03/C13 guarantees *for these constructors* (the mutual induction of
`TF/Proofs/Codec.lean` covers them together with the hand-written types, so derived and hand-written types nest
freely), plus the documented layout.
-/
namespace TF.C14
open TF.Codec

/-- round trip for every derived struct and enum (fields of any codec type) -/
theorem derive_round_trip_struct (fs : List Ty) (vs : List Val) (hv : HasTy (.struct fs) (.list vs))
    (hz : NoZeroWidthItems (.struct fs)) (hb : (encode (.struct fs) (.list vs)).length < 2^64) :
    decode (.struct fs) (encode (.struct fs) (.list vs)) = .ok (.list vs) :=
  TF.Codec.decode_encode _ _ hv hz hb
example : HasTy (.struct [.vec .u32, .u8, .option (.struct [.u64])])
    (.list [.list [.num 1, .num 2], .num 255, .opt (some (.list [.num (2^64-1)]))]) := by decide
theorem derive_round_trip_enum (vars : List (List Ty)) (k : Nat) (vs : List Val)
    (hv : HasTy (.enum vars) (.variant k vs)) (hz : NoZeroWidthItems (.enum vars))
    (hb : (encode (.enum vars) (.variant k vs)).length < 2^64) :
    decode (.enum vars) (encode (.enum vars) (.variant k vs)) = .ok (.variant k vs) :=
  TF.Codec.decode_encode _ _ hv hz hb
example : HasTy (.enum [[], [.u8, .vec .u8, .u16], [.option .u8]]) (.variant 1 [.num 3, .list [.num 4], .num 5]) := by
  decide

/-- uniqueness: whatever generated `decode` accepts is the encoding of the decoded value -/
theorem derive_unique_struct (fs : List Ty) (s : List Nat) (v : Val) (h : decode (.struct fs) s = .ok v) :
    encode (.struct fs) v = s := TF.Codec.encode_decode _ s v h
theorem derive_unique_enum (vars : List (List Ty)) (s : List Nat) (v : Val) (h : decode (.enum vars) s = .ok v) :
    encode (.enum vars) v = s := TF.Codec.encode_decode _ s v h
example : decode (.enum [[], [.u32, .vec .u64]]) [1, 5, 2, 7, 0, 8, 0, 9] =
    .ok (.variant 1 [.num 9, .list [.num 7, .num 8]]) := rfl

/-- an accepted value has the right shape: an existing variant with well-typed fields / all fields well-typed -/
theorem derive_decode_welltyped (t : Ty) (s : List Nat) (v : Val) (hc : Canon s) (h : decode t s = .ok v) :
    HasTy t v := TF.Codec.decode_hasTy t s v hc h
example : Canon [1, 5, 2, 7, 0, 8, 0, 9] := by decide

/-- static length of generated impls is honoured by every encoding -/
theorem derive_static_length_spec (t : Ty) (v : Val) (n : Nat) (hv : HasTy t v) (hs : staticLength t = some n) :
    (encode t v).length = n := TF.Codec.encode_length_static t v n hv hs
example : staticLength (.enum [[.u64], [.u32, .u32], [.array 2 .u8]]) = some 3 := by decide

/-- total and strict: no panic, and nothing but the encoding of a value is accepted -/
theorem derive_total_strict (t : Ty) (s : List Nat) (hz : NoZeroWidthItems t) (hc : Canon s) (hl : s.length < 2^32) :
    (∃ k, decode t s = .err k) ∨ (∃ v, decode t s = .ok v ∧ HasTy t v ∧ encode t v = s) :=
  TF.Codec.decode_strict t s hz hc hl
example : NoZeroWidthItems (.struct [.enum [[], [.vec (.struct [.u8])]], .u32]) := by decide

/-- struct: the included fields in **reverse** declaration order, each length-prefixed iff its type is dynamically
    sized; ignored fields do not occur -/
theorem derive_layout_struct (fs : List Ty) (vs : List Val) :
    encode (.struct fs) (.list vs) =
      ((fs.zip vs).reverse.flatMap fun tv => prefixed (isDyn tv.1) (encode tv.1 tv.2)) := by
  simp only [encode, encodeFields_eq_flatMap]
example : encode (.struct [.u32, .vec .u8, .u64]) (.list [.num 9, .list [.num 1, .num 2], .num (2^32)]) =
    [0, 1, 3, 2, 1, 2, 9] := rfl

/-- enum: the **discriminant first** (index of the variant in declaration order), then the variant's fields laid
    out like a struct -/
theorem derive_layout_enum (vars : List (List Ty)) (k : Nat) (fs : List Ty) (vs : List Val) (h : vars[k]? = some fs) :
    encode (.enum vars) (.variant k vs) = k :: encode (.struct fs) (.list vs) := by
  simp [encode, TF.Codec.encodeVariant_eq vars k fs vs h]
example : encode (.enum [[], [.u32, .vec .u64]]) (.variant 1 [.num 9, .list [.num 7, .num 8]]) = [1, 5, 2, 7, 0, 8, 0, 9] :=
  rfl

/-- the length prefix of a field is present iff the field type's `static_length()` is `None` -/
theorem derive_prefix_iff_dynamic (t : Ty) (e : List Nat) :
    prefixed (isDyn t) e = if staticLength t = none then e.length :: e else e :=
  prefixed_isDyn t e

/-- struct static length: the sum of the field lengths if all are static, else `None` -/
theorem derive_static_length_struct (fs : List Ty) :
    staticLength (.struct fs) =
      if fs.all (fun t => (staticLength t).isSome) then some ((fs.map fun t => (staticLength t).getD 0).sum) else none := by
  simp only [staticLength]
  induction fs with
  | nil => simp [staticLengthSum]
  | cons t ts ih =>
    simp only [staticLengthSum, ih, List.all_cons, List.map_cons, List.sum_cons]
    cases h1 : staticLength t with
    | none => simp
    | some a =>
      by_cases h2 : (ts.all fun t => (staticLength t).isSome) = true
      · simp [h2]
      · simp [h2]
example : staticLength (.struct [.u64, .array 3 .u32, .phantom]) = some 5 ∧ staticLength (.struct [.u64, .vec .u8]) = none := by
  decide

/-- enum static length: `Some(w + 1)` iff every variant is static of the same width `w` (at least one variant) -/
theorem derive_static_length_enum (fs : List Ty) (rest : List (List Ty)) (n : Nat) :
    staticLength (.enum (fs :: rest)) = some n ↔
      ∃ w, n = w + 1 ∧ ∀ gs ∈ fs :: rest, staticLength (.struct gs) = some w := by
  simp only [staticLength]
  constructor
  · intro h
    obtain ⟨w, rfl, hv⟩ := staticLengthEnum_some h
    exact ⟨w, rfl, variantsHaveWidth_iff.1 hv⟩
  · rintro ⟨w, rfl, hall⟩
    have h1 := hall fs (by simp)
    have h2 : variantsHaveWidth rest w = true := variantsHaveWidth_iff.2 (fun gs hg => hall gs (by simp [hg]))
    simp [staticLengthEnum, h1, h2]
example : staticLength (.enum [[], [.u32]]) = none ∧ staticLength (.enum [[.u32], [.u32]]) = some 2 ∧
    staticLength (.enum [[], [], []]) = some 1 ∧ staticLength (.enum [[.phantom], []]) = some 1 := by decide

/-- decoding reads the discriminant first and rejects unknown ones -/
theorem derive_rejects_unknown_discriminant (vars : List (List Ty)) (d : Nat) (rest : List Nat)
    (h : vars.length ≤ d) : decode (.enum vars) (d :: rest) = .err .badDiscriminant :=
  decode_enum_of_length_le vars d rest h
example : decode (.enum [[], [.u32]]) [2] = .err .badDiscriminant := rfl
theorem derive_rejects_empty_enum_sequence (vars : List (List Ty)) : decode (.enum vars) [] = .err .empty := by
  simp [decode]
/-- a unit variant followed by anything, a unit struct given anything -/
theorem derive_rejects_trailing (x : Nat) (rest : List Nat) :
    decode (.struct []) (x :: rest) = .err .tooLong ∧ decode (.enum [[]]) (0 :: x :: rest) = .err .tooLong := by
  simp [decode, decodeFields, decodeVariant, finishFields]
/-- decoding a known discriminant is decoding the variant's fields as a struct -/
theorem derive_decode_variant (vars : List (List Ty)) (d : Nat) (fs : List Ty) (rest : List Nat)
    (h : vars[d]? = some fs) :
    decode (.enum vars) (d :: rest) = (decode (.struct fs) rest).bind fun v =>
      match v with
      | .list vs => .ok (.variant d vs)
      | _ => .panic := by
  simp only [decode, decodeVariant_eq vars d fs rest h]
  cases finishFields (decodeFields fs rest) <;> rfl
example : decode (.enum [[], [.u32, .vec .u8]]) [1, 2, 1, 7, 9] = .ok (.variant 1 [.num 9, .list [.num 7]]) ∧
    decode (.struct [.u32, .vec .u8]) [2, 1, 7, 9] = .ok (.list [.num 9, .list [.num 7]]) := ⟨rfl, rfl⟩

/-! ## derived types of static width 0 inherit finding F10 when used as list items -/
theorem derive_zero_width_shapes :
    staticLength (.struct []) = some 0 ∧ staticLength (.struct [.phantom, .phantom]) = some 0 ∧
    decode (.vec (.struct [])) [2] = .panic ∧
    decode (.array 2 (.struct [.phantom, .phantom]))
      (encode (.array 2 (.struct [.phantom, .phantom])) (.list [.list [.unit, .unit], .list [.unit, .unit]])) = .err .empty :=
  ⟨rfl, rfl, rfl, rfl⟩

end TF.C14
