import TF.Proofs.Tip5
import TF.Proofs.GenBridgeTip5
import TF.Proofs.Tip5Eval
/-!
# C02 — the Tip5 permutation and the fixed-length hashes conform to the Tip5 specification

Property theorems only (helper lemmas live in `TF/Proofs/Tip5.lean`).

* Model (`TF/Model/Tip5.lean`): the Rust state, a `Vector Nat 16` of **raw Montgomery words**; a word `w` is canonical
  iff `w < P`; its value is `bfe_value w` (the translated `canonical_representation`).  `CanonV v` says every word of
  `v` is canonical.
* Specification (`TF/Spec/Tip5.lean`): the paper-level round on canonical values — byte map `(b+1)^3 − 1 mod 257` on
  the bytes of the Montgomery form of lanes 0–3, `x^7` on lanes 4–15, the circulant matrix
  `M[i][j] = MDS_MATRIX_FIRST_COLUMN[(i−j) mod 16]` (`mdsRow i`, `dot`), the listed round constants, five rounds.
* Regenerated from the Rust source on every run and used below: `LOOKUP_TABLE`, `ROUND_CONSTANTS`,
  `MDS_MATRIX_FIRST_COLUMN`, `offset_fermat_cube_map`, `generated_function` (wrapping `u64` = `UInt64`),
  `mds_recombine` (body of the `for r` loop of `mds_generated`), `bfe_new`, `bfe_value`, `bfe_mul`, `bfe_add`;
  every `…_ok` flag is the generated "no plain arithmetic operation overflows" predicate.

All theorems quantify over **every** state; none is bounded.
-/
namespace TF.C02
open TF.Gen TF.BF TF.Model.Tip5 TF.Tip5P
open TF.Spec.Tip5 (dot mdsRow)

/-! ## tables -/

/-- the whole `LOOKUP_TABLE` is the offset Fermat cube map `(b+1)^3 − 1 mod 257`, both as the source's
    `offset_fermat_cube_map` (which does not overflow on bytes) and as the specification's formula -/
theorem lookup_is_offset_fermat_cube (b : Fin 256) :
    lookup b = offset_fermat_cube_map b.val ∧ offset_fermat_cube_map_ok b.val = true ∧
    lookup b = ((b.val + 1) ^ 3 + 256) % 257 :=
  ⟨(lookup_eq b).trans (fermatCube_byte b).1.symm, (fermatCube_byte b).2.1, lookup_eq b⟩
example : lookup 17 = 177 := by decide +kernel

/-- the byte map is a permutation of the bytes (injective on a finite set) -/
theorem lookup_is_permutation (a b : Fin 256) : lookup a = lookup b ↔ a = b :=
  ⟨lookup_injective a b, fun h => by rw [h]⟩
example : lookup 0 = 0 ∧ lookup 255 = 255 ∧ lookup 1 = 7 := by decide +kernel

/-- every round constant's raw word is at most `2P − 2^64 = P − 2^32 + 1` (so that adding it to *any* 64-bit word
    stays below `2P`), and the raw word represents the listed value -/
theorem round_constants_small (r : Fin 5) (i : Fin 16) :
    roundConstant r i ≤ P - 2 ^ 32 + 1 ∧ roundConstant r i + (2 ^ 64 - 1) < 2 * P ∧
    bfe_value (roundConstant r i) = TF.Spec.Tip5.roundConstant r i := by
  obtain ⟨h1, _, h3⟩ := round_constants_all r i
  have hP : P = 18446744069414584321 := rfl
  refine ⟨?_, ?_, h3⟩ <;> rw [hP] <;> omega
example : roundConstant 0 0 = 7037825344483254583 := by decide +kernel

/-! ## S-boxes -/

/-- `split_and_lookup` maps canonical words to canonical words, and on values it is the specification's
    lookup S-box -/
theorem lookup_keeps_canonical (w : Nat) (hw : w < P) :
    split_and_lookup w < P ∧ bfe_value (split_and_lookup w) = TF.Spec.Tip5.sboxL (bfe_value w) :=
  ⟨split_and_lookup_canon w hw, split_and_lookup_value w hw⟩
example : (18446744069414584320 : Nat) < P := by decide

/-- the power-map lane (`sq`, `qu`, `x·(sq·qu)`): canonical, value `x^7`, no `u128` overflow in any product -/
theorem power_map_is_seventh_power (x : Nat) (hx : x < P) :
    pow7 x < P ∧ bfe_value (pow7 x) = bfe_value x ^ 7 % P ∧
    bfe_mul_ok x x = true ∧ bfe_mul_ok (bfe_mul x x) (bfe_mul x x) = true ∧
    bfe_mul_ok (bfe_mul x x) (bfe_mul (bfe_mul x x) (bfe_mul x x)) = true ∧
    bfe_mul_ok x (bfe_mul (bfe_mul x x) (bfe_mul (bfe_mul x x) (bfe_mul x x))) = true :=
  ⟨(pow7_spec x hx).1, (pow7_spec x hx).2, pow7_ok x hx⟩
example : (4294967295 : Nat) < P := by decide

/-! ## linear layer -/

/-- each output lane of the translated `generated_function` is `16 ×` (circulant row · input) modulo `2^64`, for
    **all** sixteen 64-bit inputs -/
theorem generated_function_is_16x_circulant (x : Vector UInt64 16) (i : Fin 16) :
    (genFn x)[i].toNat = 16 * dot (mdsRow i) (x.toList.map UInt64.toNat) % 2 ^ 64 :=
  genFn_mod x i
example : mdsRow 1 = [1108, 61402, 17845, 26798, 59689, 12021, 40901, 41351, 27521, 56951, 12034, 53865, 43244,
    7454, 33823, 28750] := by decide

/-- … and on 32-bit limbs nothing wraps: the lane *is* `16 · Σⱼ M[i][j]·xⱼ`, and the sum is below `2^52` -/
theorem generated_function_no_wrap (x : Vector UInt64 16) (hx : ∀ y ∈ x.toList, y.toNat < 2 ^ 32) (i : Fin 16) :
    (genFn x)[i].toNat = 16 * dot (mdsRow i) (x.toList.map UInt64.toNat) ∧
    dot (mdsRow i) (x.toList.map UInt64.toNat) < 2 ^ 52 :=
  genFn_toNat x hx i
example : ∀ y ∈ (Vector.replicate 16 (4294967295 : UInt64)).toList, y.toNat < 2 ^ 32 := by decide

/-- the recombination `(lo >> 4) + (hi << 28)`, folding of the high word with `2^64 ≡ 2^32 − 1`, including the
    `over` branch: on `lo = 16·A`, `hi = 16·B` with `A, B < 2^52` nothing overflows (`s_hi * 0xffffffff`,
    `res + 0xffffffff`), the result is a 64-bit word, and it is congruent to `A + 2^32·B` modulo `P` -/
theorem mds_recombine_spec (A B : Nat) (hA : A < 2 ^ 52) (hB : B < 2 ^ 52) :
    mds_recombine (16 * A) (16 * B) < 2 ^ 64 ∧ mds_recombine_ok (16 * A) (16 * B) = true ∧
    mds_recombine (16 * A) (16 * B) % P = (A + 2 ^ 32 * B) % P := by
  obtain ⟨h1, h2, h3⟩ := mds_recombine_lin A B hA hB
  refine ⟨h1, h2, ?_⟩
  show _ % Pn = (A + H * B) % Pn
  rcases h3 with h3 | h3
  · rw [← h3, Nat.add_mul_mod_self_right]
  · rw [← h3, Nat.add_mul_mod_self_right]
example : mds_recombine (16 * 4503599627370495) (16 * 4503599627370495) = 9007194958725119 := by decide +kernel

/-- `mds_generated` on **any** state of 64-bit words: every lane is a 64-bit word congruent modulo `P` to the
    circulant matrix row applied to the raw words, and no recombination overflows.  The lane may lie in `[P, 2^64)`. -/
theorem mds_generated_spec (s : State) (hs : ∀ (j : Nat) (h : j < 16), s[j] < 2 ^ 64) (i : Nat) (h : i < 16) :
    (mds_generated s)[i] < 2 ^ 64 ∧ (mds_generated s)[i] % P = dot (mdsRow ⟨i, h⟩) s.toList % P ∧
    mds_recombine_ok (genFn (s.map limbLo))[(⟨i, h⟩ : Fin 16)].toNat
      (genFn (s.map limbHi))[(⟨i, h⟩ : Fin 16)].toNat = true :=
  let ⟨h1, h2, h3⟩ := mds_lane s hs i h
  ⟨h1, h3, h2⟩
/-- the subtle point is real: a canonical state whose lane 0 of the linear layer is the non-canonical word `2^64 − 1` -/
example : let s : State := #v[300726211092271285, 36561, 0, 0, 0, 0, 0, 0, 0, 0, 0, 0, 0, 0, 0, 0]
    (∀ (j : Nat) (h : j < 16), s[j] < P) ∧ (mds_generated s)[0] = 2 ^ 64 - 1 := by decide +kernel

/-- `+` with a canonical right operand `c ≤ 2P − 2^64` and an **arbitrary 64-bit** left operand is exact and lands
    in `[0, P)` -/
theorem add_noncanonical_left (a c : Nat) (ha : a < 2 ^ 64) (hc : c ≤ P - 2 ^ 32 + 1) :
    bfe_add a c = (a + c) % P ∧ bfe_add a c < P ∧ bfe_add_ok a c = true :=
  TF.Tip5P.add_noncanonical_left a c ha (by have hP : P = 18446744069414584321 := rfl; rw [hP] at hc; omega)
example : bfe_add (2 ^ 64 - 1) (P - 2 ^ 32 + 1) = P - 1 := by decide +kernel

/-! ## round, permutation, trace -/

/-- a round maps canonical states to canonical states -/
theorem round_canonical (r : Fin 5) (s : State) (hs : CanonV s) : CanonV (round r s) :=
  round_canon r s hs
example : CanonV (Vector.replicate 16 18446744069414584320 : State) := by
  intro j h; rw [Vector.getElem_replicate]; decide

/-- a round of the implementation model is the specification round on the values -/
theorem round_refines_spec (r : Fin 5) (s : State) (hs : CanonV s) :
    (round r s).map bfe_value = TF.Spec.Tip5.round r (s.map bfe_value) :=
  round_refines r s hs
example : CanonV (#v[0, 1, 18446744069414584320, 4294967295, 4294967296, 5, 6, 7, 8, 9, 10, 11, 12, 13, 14, 15] : State) :=
  (forall_mem_toList (p := fun x => x < Pn) _).mp (by decide)

/-- the permutation: canonical output whose values are the specification permutation of the input values -/
theorem permutation_refines_spec (s : State) (hs : CanonV s) :
    CanonV (permutation s) ∧ (permutation s).map bfe_value = TF.Spec.Tip5.permutation (s.map bfe_value) :=
  fold_refines (List.finRange 5) s hs

/-- the trace: six states, the first is the input, every word of every state is canonical, the values are the
    specification trace, and the last state is `permutation` -/
theorem trace_spec (s : State) (hs : CanonV s) :
    (trace s).length = 6 ∧ (trace s).head? = some s ∧ (∀ t ∈ trace s, CanonV t) ∧
    (trace s).map (fun t => t.map bfe_value) = TF.Spec.Tip5.trace (s.map bfe_value) ∧
    (trace s).getLast? = some (permutation s) := by
  obtain ⟨t1, t2⟩ := traceFrom_refines (List.finRange 5) s hs
  refine ⟨?_, rfl, ?_, ?_, ?_⟩
  · simp only [trace, List.length_cons, traceFrom_length, List.length_finRange]
  · intro t ht
    simp only [trace, List.mem_cons] at ht
    rcases ht with rfl | ht
    · exact hs
    · exact t1 t ht
  · simp only [trace, TF.Spec.Tip5.trace, List.map_cons, t2]
  · unfold trace permutation
    rw [List.getLast?_eq_some_getLast (List.cons_ne_nil _ _), traceFrom_last]

/-! ## fixed-length hashes (inputs and outputs as field values, as on the API) -/

/-- `Tip5::hash_10` of ten field elements: canonical digest, equal to the specification (capacity all ones, one
    permutation, first five elements) -/
theorem hash10_spec (v : Vector Nat 10) (hv : CanonV v) :
    CanonV (hash_10 (v.map bfe_new)) ∧ (hash_10 (v.map bfe_new)).map bfe_value = TF.Spec.Tip5.hash10 v := by
  obtain ⟨c, e⟩ := new_canonV v hv
  have := hash_10_refines (v.map bfe_new) c
  rw [e] at this
  exact this
example : CanonV (Vector.replicate 10 7 : Vector Nat 10) := by
  intro j h; rw [Vector.getElem_replicate]; decide
/-- the last step of the vector pinned by the repository's `hash10_test_vectors`, evaluated by the kernel on the
    model (raw words) and on the specification -/
example :
    let v : Vector Nat 10 := #v[941080798860502477, 15888421881075650037, 11494362724359741120, 627201255727529993,
      4790238723037855394, 16959020643814878453, 12118009629857908438, 10239930869937551135, 6889489196156760098,
      5774309862903741805]
    let d : Vector Nat 5 := #v[10869784347448351760, 1853783032222938415, 6856460589287344822, 17178399545409290325,
      7650660984651717733]
    (hash_10 (v.map bfe_new)).map bfe_value = d ∧ TF.Spec.Tip5.hash10 v = d := by
  simp only [hash_10, permutation, round, sbox_layer, split_and_lookup, TF.Tip5Eval.lookup_fun]
  decide +kernel

/-- `Tip5::hash_pair(l, r)`: canonical digest, the specification hash of `l ++ r` -/
theorem hash_pair_spec (l r : Vector Nat 5) (hl : CanonV l) (hr : CanonV r) :
    CanonV (hash_pair (l.map bfe_new) (r.map bfe_new)) ∧
    (hash_pair (l.map bfe_new) (r.map bfe_new)).map bfe_value = TF.Spec.Tip5.hashPair l r := by
  obtain ⟨cl, el⟩ := new_canonV l hl
  obtain ⟨cr, er⟩ := new_canonV r hr
  have := hash_pair_refines _ _ cl cr
  rw [el, er] at this
  exact this
example : CanonV (#v[0, 1, 18446744069414584320, 4294967295, 4294967296] : Vector Nat 5) :=
  (forall_mem_toList (p := fun x => x < Pn) _).mp (by decide)

/-- `Digest::hash(d) = hash_pair(d, 0)` -/
theorem digest_hash_spec (d : Vector Nat 5) (hd : CanonV d) :
    CanonV (digest_hash (d.map bfe_new)) ∧
    (digest_hash (d.map bfe_new)).map bfe_value = TF.Spec.Tip5.hashPair d (Vector.replicate 5 0) := by
  obtain ⟨c, e⟩ := new_canonV d hd
  have := digest_hash_refines _ c
  rw [e] at this
  exact this

end TF.C02

/-! ## regenerated-from-source bridge

`Tip5::{split_and_lookup, sbox_layer, mds_generated, round, permutation, trace, new, hash_10}` are **also regenerated from `tip5.rs` on
every run** (`TF/Gen/Tip5Loops.lean`, `TF.Gen.Loops.tip5_*`, written by `tools/rs2lean_bfe.py`; the helpers
`raw_bytes`/`from_raw_bytes`/`raw_u64`/`from_raw_u64` come from `b_field_element.rs`, `TF/Gen/BFieldLoops.lean`): the
state is the list of its 16 raw words, the BFieldElement operators are the translated `bfe_add`/`bfe_mul`, the tables
are the regenerated tables, `for` loops are recursions on the number of remaining iterations.  The theorems below
(proofs in `TF/Proofs/GenBridgeTip5.lean`) say that the regenerated definitions are the hand model on **every** state
(no bound, no canonicity hypothesis); `gen_tip5_transfer` restates `permutation_refines_spec` / `trace_spec` /
`hash10_spec` / `hash_pair_spec` for the regenerated code.  A one-token change of one of these Rust functions changes
`TF.Gen.Loops.tip5_*`; these theorems are then re-checked or break (e.g. a shortcut in `sbox_layer` that reuses a
neighbouring lane's 7th power, whose trigger has probability 2⁻⁶⁴ under sampling). -/
namespace TF.C02
open TF.Gen TF.BF TF.Model.Tip5 TF.Tip5P

/-- regenerated `split_and_lookup` (`raw_bytes`, the table loop over the 8 bytes, `from_raw_bytes`) = hand model, every word -/
theorem gen_split_and_lookup_eq_model (w : Nat) : Loops.tip5_split_and_lookup w = split_and_lookup w :=
  TF.GenBridge.Tip5.gen_split_and_lookup_eq w
example : Loops.tip5_split_and_lookup 18446744069414584320 = 18446744069414584320 ∧
    Loops.tip5_split_and_lookup 65537 = 458759 ∧ Loops.tip5_split_and_lookup_ok 65537 = true := by decide +kernel

/-- regenerated `sbox_layer` = hand model, every state -/
theorem gen_sbox_layer_eq_model (s : State) : Loops.tip5_sbox_layer s.toList = (sbox_layer s).toList :=
  TF.GenBridge.Tip5.gen_sbox_layer_eq s
/-- non-vacuity, on the trigger of the seeded shortcut: lane 5 holds the 7th power of lane 4 -/
example : let x := bfe_new 3
    (Loops.tip5_sbox_layer [0, 0, 0, 0, x, pow7 x, 0, 0, 0, 0, 0, 0, 0, 0, 0, 0]).getD 5 0 = pow7 (pow7 x) ∧
    pow7 (pow7 x) ≠ pow7 x := by decide +kernel

/-- regenerated `mds_generated` (limb split, two calls of `generated_function`, recombination loop) = hand model -/
theorem gen_mds_generated_eq_model (s : State) : Loops.tip5_mds_generated s.toList = (mds_generated s).toList :=
  TF.GenBridge.Tip5.gen_mds_generated_eq s
example : (Loops.tip5_mds_generated [300726211092271285, 36561, 0, 0, 0, 0, 0, 0, 0, 0, 0, 0, 0, 0, 0, 0]).length = 16 ∧
    Loops.tip5_mds_generated_ok [300726211092271285, 36561, 0, 0, 0, 0, 0, 0, 0, 0, 0, 0, 0, 0, 0, 0] = true := by
  decide +kernel

/-- regenerated `round` = hand model, every state, every round index -/
theorem gen_round_eq_model (r : Fin 5) (s : State) : Loops.tip5_round s.toList r.val = (round r s).toList :=
  TF.GenBridge.Tip5.gen_round_eq s r.val r.isLt

/-- regenerated `permutation` = hand model, every state -/
theorem gen_permutation_eq_model (s : State) : Loops.tip5_permutation s.toList = (permutation s).toList :=
  TF.GenBridge.Tip5.gen_permutation_eq s
example : Loops.tip5_permutation_ok (List.replicate 16 (bfe_new 1)) = true ∧
    (Loops.tip5_permutation (List.replicate 16 (bfe_new 1))).length = 16 := by
  rw [TF.Tip5Eval.perm_ok_eq, TF.Tip5Eval.perm_eq]
  decide +kernel

/-- regenerated `trace`: the returned array is the hand model's trace, the state left behind is its permutation -/
theorem gen_trace_eq_model (s : State) :
    (Loops.tip5_trace s.toList).1 = (trace s).map Vector.toList ∧
    (Loops.tip5_trace s.toList).2 = (permutation s).toList :=
  TF.GenBridge.Tip5.gen_trace_eq s
example : (Loops.tip5_trace (List.replicate 16 (bfe_new 1))).1.length = 6 ∧
    Loops.tip5_trace_ok (List.replicate 16 (bfe_new 1)) = true := by
  simp only [Loops.tip5_trace, Loops.tip5_trace_ok, Loops.tip5_trace_for, Loops.tip5_trace_for_ok, Nat.sub_zero,
    TF.Tip5Eval.round_eq, TF.Tip5Eval.round_ok_eq]
  decide +kernel

/-- regenerated `Tip5::new(domain)` (the `match` on `Domain` read from sponge.rs: `VariableLength` = 0, `FixedLength` = 1;
    the `while` loop over the capacity lanes) = the hand model's start states -/
theorem gen_new_eq_model :
    Loops.tip5_new 0 = some varlenState.toList ∧
    Loops.tip5_new 1 = some (fixedLengthState (Vector.replicate 10 zero)).toList ∧ Loops.tip5_new_ok 1 = true := by
  refine ⟨TF.GenBridge.Tip5.gen_new_eq.1, ?_, by decide +kernel⟩
  rw [TF.GenBridge.Tip5.gen_new_eq.2, TF.GenBridge.Tip5.fixedLengthState_toList]
  rfl

/-- regenerated `hash_10` (`Self::new(FixedLength)`, `copy_from_slice`, `permutation`, `try_into().unwrap()`) = hand
    model, every input -/
theorem gen_hash_10_eq_model (input : Vector Nat 10) :
    Loops.tip5_hash_10 input.toList = some (hash_10 input).toList :=
  TF.GenBridge.Tip5.gen_hash_10_eq input
example : Loops.tip5_hash_10_ok (List.replicate 10 (bfe_new 7)) = true ∧
    (Loops.tip5_hash_10 (List.replicate 10 (bfe_new 7))).isSome = true ∧
    Loops.tip5_hash_10_ok (List.replicate 9 (bfe_new 7)) = false := by
  simp only [Loops.tip5_hash_10, Loops.tip5_hash_10_ok, TF.Tip5Eval.perm_eq, TF.Tip5Eval.perm_ok_eq]
  decide +kernel

/-- **transfer**: the C02 statements for the code as it is in the source now.  For every canonical state the regenerated
    `permutation` returns canonical words whose values are the specification permutation of the input values; the
    regenerated `trace` returns six canonical states whose values are the specification trace; the regenerated `hash_10`
    terminates with a canonical digest whose values are the specification's; `hash_pair` (whose `Digest` glue is
    modelled by hand) is the first five words of the regenerated permutation of the hand model's start state, with the
    specification's values -/
theorem gen_tip5_transfer (s : State) (hs : CanonV s) :
    (∀ w ∈ Loops.tip5_permutation s.toList, w < P) ∧
    (Loops.tip5_permutation s.toList).map bfe_value = (TF.Spec.Tip5.permutation (s.map bfe_value)).toList ∧
    (Loops.tip5_trace s.toList).1.map (fun t => t.map bfe_value)
      = (TF.Spec.Tip5.trace (s.map bfe_value)).map Vector.toList ∧
    (∀ v : Vector Nat 10, CanonV v →
      ∃ d, Loops.tip5_hash_10 (v.map bfe_new).toList = some d ∧ (∀ w ∈ d, w < P) ∧
        d.map bfe_value = (TF.Spec.Tip5.hash10 v).toList) ∧
    (∀ l r : Vector Nat 5, CanonV l → CanonV r →
      ((Loops.tip5_permutation (fixedLengthState (pairInput (l.map bfe_new) (r.map bfe_new))).toList).take 5).map bfe_value
        = (TF.Spec.Tip5.hashPair l r).toList) := by
  have hp := permutation_refines_spec s hs
  have ht := trace_spec s hs
  refine ⟨?_, ?_, ?_, ?_, ?_⟩
  · rw [gen_permutation_eq_model]
    exact (forall_mem_toList (p := fun x => x < P) _).mpr hp.1
  · rw [gen_permutation_eq_model, ← hp.2, Vector.toList_map]
  · rw [(gen_trace_eq_model s).1, ← ht.2.2.2.1]
    simp only [List.map_map]
    apply List.map_congr_left
    intro t _
    simp only [Function.comp, Vector.toList_map]
  · intro v hv
    have h10 := hash10_spec v hv
    refine ⟨_, gen_hash_10_eq_model _, (forall_mem_toList (p := fun x => x < P) _).mpr h10.1, ?_⟩
    rw [← h10.2, Vector.toList_map]
  · intro l r hl hr
    have hpair := hash_pair_spec l r hl hr
    rw [gen_permutation_eq_model, TF.GenBridge.Tip5.toList_take _ 5 (by decide), ← hpair.2, Vector.toList_map]
    rfl
example : CanonV (Vector.replicate 16 18446744069414584320 : State) := by
  intro j h; rw [Vector.getElem_replicate]; decide

end TF.C02
