import TF.Proofs.PolyDiv
import TF.Proofs.PolyDivNtt
import TF.Proofs.PolyApiD
import TF.Proofs.GenBridgePoly
/-!
# C09 — polynomial division, reduction, gcd and power-series inversion are exact

Helper lemmas: `TF/Proofs/PolyDiv.lean`, `TF/Proofs/PolyDivNtt.lean` (what needs `NttDft`), `TF/Proofs/PolyApiD.lean`,
`TF/Proofs/GenBridgePoly.lean`; shared core `TF/Proofs/Poly.lean`.

Notation.  `K` is an arbitrary field, `FK = FieldOps.ofField K root` its operation record; a polynomial is its
coefficient **storage** `List K` (lowest degree first, stored leading zeros allowed) and `denote : List K → K[X]` is the
polynomial it stands for.  The model functions (`TF/Model/PolyDiv.lean`, on the shared core `TF/Model/Poly.lean`) follow
the control flow of `twenty-first/src/math/polynomial.rs`; `none` is a Rust panic.  `/` and `%` on `K[X]` are Mathlib's
Euclidean quotient and remainder.  Every dispatch threshold (`FAST_REDUCE_MAKES_SENSE_MULTIPLE`,
`FAST_REDUCE_CUTOFF_THRESHOLD`, `FORMAL_POWER_SERIES_INVERSE_CUTOFF`, `CLEAN_DIVIDE_CUTOFF_THRESHOLD`, the literal 4 of
`fast_reduce`) is a universally quantified parameter, so the theorems cover the production values (512 for clean
division), the `cfg(test)` value 0 and every other value.

The NTT-based strategies take the transform pair as a parameter `N : NttOps`; their theorems assume `NttDft N ω`
(`TF/Proofs/PolyDiv.lean`): `ntt l` is the list of evaluations of `l` at the powers of a primitive `|l|`-th root of
unity `ω |l|`, `intt` is its inverse, the roots for different lengths are compatible — the statement of property C06.
`clean_divide` is stated for an arbitrary field extension `L/K` (`lift = algebraMap`), every non-zero offset.
The model is tied to the Rust code by the correspondence family `polyd` (both fields, production build).
-/
open Polynomial

namespace TF.C09
open TF TF.Model.Poly TF.Model.PolyD TF.Proofs.PolyD

variable {K : Type} [Field K] (root : Nat → Option K)
local notation "FK" => FieldOps.ofField K root

/-- **certificate** (DESIGN §3.3): `a = q·d + r ∧ deg r < deg d` determines `q` and `r` — they are the Euclidean
    quotient and remainder. The harness and the driver check this certificate for every instance they run. -/
theorem divmod_unique {a d q r : K[X]} (h : a = q * d + r) (hr : r.degree < d.degree) :
    q = a / d ∧ r = a % d :=
  div_mod_of_certificate h hr
example : (X ^ 2 + 1 : ℚ[X]) = (X - 1) * (X + 1) + 2 := by ring

/-- `naive_divide` (= `divide`), any dividend, any non-zero divisor, any storage (stored leading zeros on either
    side, dividend degree below divisor degree, zero dividend): it does not panic and returns the quotient and the
    remainder -/
theorem naive_divide_spec (a d : List K) (hd : denote d ≠ 0) :
    ∃ q r, naiveDivide FK a d = some (q, r) ∧ denote a = denote q * denote d + denote r ∧
      (denote r).degree < (denote d).degree ∧ denote q = denote a / denote d ∧ denote r = denote a % denote d := by
  obtain ⟨q, r, h1, h2, h3⟩ := naiveDivide_spec root a d hd
  exact ⟨q, r, h1, h2, h3, (div_mod_of_certificate h2 h3).1, (div_mod_of_certificate h2 h3).2⟩
example : denote ([1, 0, 2, 0] : List ℚ) ≠ 0 := denote_ne_zero_of_getD 0 (by norm_num)

/-- `naive_divide` panics exactly for a zero divisor (`[]`, `[0]`, `[0,0]`, …) -/
theorem naive_divide_panics_iff (a d : List K) : naiveDivide FK a d = none ↔ denote d = 0 := by
  constructor
  · intro h
    by_contra hd
    obtain ⟨q, r, h1, _⟩ := naiveDivide_spec root a d hd
    rw [h] at h1
    exact absurd h1 (by simp)
  · exact naiveDivide_zero root a d
example : denote ([0, 0] : List ℚ) = 0 := denote_replicate_zero 2

/-- `divide` is `naive_divide` ("for no practical parameter set is the NTT-based algorithm faster") -/
theorem divide_spec (a d : List K) (hd : denote d ≠ 0) :
    ∃ q r, divide FK a d = some (q, r) ∧ denote q = denote a / denote d ∧ denote r = denote a % denote d := by
  obtain ⟨q, r, h1, _, _, h4, h5⟩ := naive_divide_spec root a d hd
  exact ⟨q, r, h1, h4, h5⟩
example : denote ([0, 0, 7] : List ℚ) ≠ 0 := denote_ne_zero_of_getD 2 (by norm_num)

/-- the `Div` operator -/
theorem div_spec (a d : List K) (hd : denote d ≠ 0) :
    ∃ q, div FK a d = some q ∧ denote q = denote a / denote d :=
  TF.Proofs.PolyD.div_spec root a d hd
example : denote ([3, 1] : List ℚ) ≠ 0 := denote_ne_zero_of_getD 1 (by norm_num)

/-- the `Rem` operator (and `reduce_long_division`) -/
theorem rem_spec (a d : List K) (hd : denote d ≠ 0) :
    ∃ r, rem FK a d = some r ∧ denote r = denote a % denote d :=
  TF.Proofs.PolyD.rem_spec root a d hd
example : denote ([3, 1] : List ℚ) ≠ 0 := denote_ne_zero_of_getD 1 (by norm_num)

/-- `reduce`: the four-way dispatch returns the remainder in every arm and for every value of the thresholds,
    provided the fast arm does (see `fast_reduce_spec…`) -/
theorem reduce_spec (N : NttOps K) (makesSense cutoff stage2 : Nat) (a m : List K) (hm : denote m ≠ 0)
    (hfast : Model.Poly.degree FK a > (makesSense : Int) * Model.Poly.degree FK m →
      ∃ r, fastReduce FK N cutoff stage2 a m = some r ∧ denote r = denote a % denote m) :
    ∃ r, reduce FK N makesSense cutoff stage2 a m = some r ∧ denote r = denote a % denote m :=
  TF.Proofs.PolyD.reduce_spec root N makesSense cutoff stage2 a m hm hfast
example : denote ([3, 1] : List ℚ) ≠ 0 := denote_ne_zero_of_getD 1 (by norm_num)

/-- `reduce` panics for the zero modulus -/
theorem reduce_zero_modulus (N : NttOps K) (makesSense cutoff stage2 : Nat) (a m : List K) (hm : denote m = 0) :
    reduce FK N makesSense cutoff stage2 a m = none :=
  reduce_zero root N makesSense cutoff stage2 a m hm
example : denote ([] : List ℚ) = 0 := rfl

/-- `xgcd` on all inputs (zero, equal, any storage): it never panics; the returned gcd is zero or monic, divides
    both inputs, satisfies Bézout's identity — hence every common divisor divides it -/
theorem xgcd_spec (x y : List K) :
    ∃ g a b, xgcd FK x y = some (g, a, b) ∧
      (denote g = 0 ∨ (denote g).Monic) ∧
      denote g ∣ denote x ∧ denote g ∣ denote y ∧
      denote g = denote a * denote x + denote b * denote y ∧
      (∀ h : K[X], h ∣ denote x → h ∣ denote y → h ∣ denote g) := by
  obtain ⟨g, a, b, h1, h2, h3, h4, h5⟩ := TF.Proofs.PolyD.xgcd_spec root x y
  refine ⟨g, a, b, h1, h2, h3, h4, h5, ?_⟩
  intro h hx hy
  rw [h5]
  exact dvd_add (Dvd.dvd.mul_left hx _) (Dvd.dvd.mul_left hy _)
example : ∃ x y : List ℚ, denote x = 0 ∧ denote y = 0 := ⟨[], [0], rfl, denote_replicate_zero 1⟩

/-- the gcd returned by `xgcd` is zero exactly when both inputs are zero -/
theorem xgcd_zero_iff (x y : List K) :
    ∀ g a b, xgcd FK x y = some (g, a, b) → (denote g = 0 ↔ denote x = 0 ∧ denote y = 0) := by
  intro g a b hxy
  obtain ⟨g', a', b', h1, _, h3, h4, h5, _⟩ := xgcd_spec root x y
  rw [hxy] at h1
  obtain ⟨rfl, rfl, rfl⟩ : g = g' ∧ a = a' ∧ b = b' := by simpa using h1
  constructor
  · intro h0
    rw [h0] at h3 h4
    exact ⟨zero_dvd_iff.1 h3, zero_dvd_iff.1 h4⟩
  · rintro ⟨hx, hy⟩
    rw [h5, hx, hy]; simp
example : denote ([] : List ℚ) = 0 := rfl

/-- `formal_power_series_inverse_minimal(n)` for every precision `n` and every storage of `f` with non-zero
    constant term: `n+1` coefficients `g` with `f·g ≡ 1 (mod X^(n+1))` -/
theorem fps_inverse_minimal_spec (f : List K) (n : Nat) (h0 : (denote f).coeff 0 ≠ 0) :
    ∃ g, fpsInverseMinimal FK f n = some g ∧ g.length = n + 1 ∧
      (X ^ (n + 1) : K[X]) ∣ denote f * denote g - 1 :=
  fpsInverseMinimal_spec root f n h0
example : (denote ([2, 0, 1] : List ℚ)).coeff 0 ≠ 0 := by rw [coeff_denote]; norm_num

/-- … and it panics exactly when the constant term is zero (or there is no stored coefficient) -/
theorem fps_inverse_minimal_panics_iff (f : List K) (n : Nat) :
    fpsInverseMinimal FK f n = none ↔ (denote f).coeff 0 = 0 := by
  constructor
  · intro h
    by_contra h0
    obtain ⟨g, h1, _⟩ := fpsInverseMinimal_spec root f n h0
    rw [h] at h1
    exact absurd h1 (by simp)
  · exact fpsInverseMinimal_none root f n
example : (denote ([0, 1] : List ℚ)).coeff 0 = 0 := by rw [coeff_denote]; rfl

/-- `mod_x_to_the_n(n)` is the remainder modulo `X^n` for every storage and every `n` (also `n = 0`, `n > len`) -/
theorem mod_x_to_the_n_spec (p : List K) (n : Nat) : denote (modXToTheN p n) = denote p % X ^ n :=
  modXToTheN_spec p n
example : modXToTheN ([0, 1, 2, 3, 4] : List ℚ) 2 = [0, 1] := rfl

/-- `truncate(k)` (after the repair F6: on the *normalised* coefficients) is the quotient by `X^(deg+1-(k+1))`:
    the `k+1` highest coefficients; the whole polynomial when `k ≥ deg` -/
theorem truncate_spec (p : List K) (k : Nat) :
    denote (truncate FK p k) = denote p / X ^ (degSucc FK p - (k + 1)) :=
  TF.Proofs.PolyD.truncate_spec root p k
example : (3 : Nat) - (5 + 1) = 0 := rfl

/-- `truncate(k)` **as compiled** (after the repair F13: `take(k.saturating_add(1))` in `usize`): for EVERY `k`,
    `usize::MAX` included, and every polynomial with fewer than `2^64` coefficients (every one that fits in memory) it
    is the function of `truncate_spec` — the `k+1` highest coefficients, for every storage -/
theorem truncate_usize_spec (p : List K) (k : Nat) (hlen : (revNorm FK p).length < 2 ^ 64) :
    denote (truncateUsize FK p k) = denote p / X ^ (degSucc FK p - (k + 1)) := by
  rw [TF.Model.PolyD.truncateUsize_eq root p k hlen]; exact TF.Proofs.PolyD.truncate_spec root p k
example : truncateUsize (FieldOps.ofField ℚ) [1, 2, 3] (2 ^ 64 - 1) = [1, 2, 3] := by
  unfold truncateUsize revNorm TF.Model.PolyD.USIZE_MOD; simp [FieldOps.ofField]

/-- **defect F13, for the record** (repaired by a `fix:` commit): `truncate` as it was compiled before the repair
    (`take(k + 1)`, `k + 1` wrapping in `usize`) returned the zero polynomial at `k = usize::MAX` for every input (the
    dev/test profile panicked instead), while the documented result — the right-hand side of `truncate_spec` — is the
    polynomial itself; so the property failed there for every non-zero polynomial.  Witness on the implementation
    before the repair: `[1,2,3].truncate(usize::MAX) = 0`. -/
theorem truncate_usize_max_violated_before_F13 (p : List K) (hlen : degSucc FK p ≤ 2 ^ 64) (hp : denote p ≠ 0) :
    truncateBeforeF13 FK p (2 ^ 64 - 1) = [] ∧
    denote p / X ^ (degSucc FK p - (2 ^ 64 - 1 + 1)) = denote p ∧
    denote (truncateBeforeF13 FK p (2 ^ 64 - 1)) ≠ denote p / X ^ (degSucc FK p - (2 ^ 64 - 1 + 1)) := by
  have h0 := TF.Model.PolyD.truncateBeforeF13_max root p
  have he : degSucc FK p - (2 ^ 64 - 1 + 1) = 0 := by omega
  have hq : denote p / X ^ (degSucc FK p - (2 ^ 64 - 1 + 1)) = denote p := by
    rw [he, pow_zero]; exact EuclideanDomain.div_one _
  refine ⟨h0, hq, ?_⟩
  rw [h0, hq]
  exact fun h => hp h.symm
example : denote ([1, 2, 3] : List ℚ) ≠ 0 := denote_ne_zero_of_getD 0 (by norm_num)

/-- `structured_multiple_of_degree(n)` for every non-zero `p` (any storage, any factor `X^k`) and every `n ≥ deg p`:
    it does not panic and returns a multiple of `p` of degree **exactly** `n`; for `deg p ≥ 1` the multiple is monic,
    of the form `X^n + (degree < deg p)`, i.e. it is `X^n - (X^n mod p)`.  (For a constant `p = c` the Rust code
    returns `c⁻¹·X^n`, which is a multiple of degree `n` but monic only for `c = 1`.) -/
theorem structured_multiple_of_degree_spec (p : List K) (n : Nat) (hp : denote p ≠ 0)
    (hn : (denote p).natDegree ≤ n) :
    ∃ s, structuredMultipleOfDegree FK p n = some s ∧ denote p ∣ denote s ∧ (denote s).natDegree = n ∧
      (1 ≤ (denote p).natDegree → (denote s).Monic ∧ denote s = X ^ n - X ^ n % denote p) := by
  obtain ⟨s, h1, _, h2, h3, h4⟩ := structuredMultipleOfDegree_spec root p n hp hn
  refine ⟨s, h1, h2, h3, fun hd => ⟨(h4 hd).1, ?_⟩⟩
  obtain ⟨q, hq⟩ := h2
  have hcert : (X ^ n : K[X]) = q * denote p + (X ^ n - denote s) := by rw [hq]; ring
  have hdeg : (X ^ n - denote s : K[X]).degree < (denote p).degree := by
    rw [← neg_sub, degree_neg]; exact (h4 hd).2
  rw [← (div_mod_of_certificate hcert hdeg).2]; ring
example : (denote ([1, 2, 3] : List ℚ)).natDegree ≤ 7 := by
  refine le_trans (natDegree_denote_le _ 2 (by simp)) (by norm_num)

/-- … and it panics for the zero polynomial and for `n < deg p` -/
theorem structured_multiple_of_degree_panics (p : List K) (n : Nat)
    (h : denote p = 0 ∨ n < (denote p).natDegree) : structuredMultipleOfDegree FK p n = none :=
  structuredMultipleOfDegree_none root p n h
example : denote ([0] : List ℚ) = 0 ∨ 3 < (denote ([0] : List ℚ)).natDegree := Or.inl (denote_replicate_zero 1)

/-- `reduce_by_structured_modulus` (stage 2 of `fast_reduce`) for a monic multiple `X^md + (degree < md-1)`:
    it does not panic and the result is congruent to the input -/
theorem reduce_by_structured_modulus_spec (a multiple : List K) (md : Nat) (hmd : 1 ≤ md)
    (hmonic : (denote multiple).Monic) (hnat : (denote multiple).natDegree = md)
    (htail : (denote multiple - X ^ md).degree < ((md - 1 : ℕ) : WithBot ℕ)) :
    ∃ r, reduceByStructuredModulus FK a multiple = some r ∧ denote multiple ∣ denote a - denote r :=
  reduceByStructuredModulus_spec root a multiple md hmd hmonic hnat htail
example : (1 : Nat) ≤ 7 := by decide

/-- `shift_factor_ntt_with_tail_length` for a modulus of degree ≥ 1 and every cut-off: the transform of the low `n`
    coefficients of a multiple `X^n + low` of the modulus (`n` a power of two) and a tail with `deg low < tail < n` -/
theorem shift_factor_ntt_with_tail_length_spec (N : NttOps K) (cutoff : Nat) (m : List K) (hm : denote m ≠ 0)
    (hd : 1 ≤ (denote m).natDegree) :
    ∃ low tail, shiftFactorNtt FK N cutoff m = some (N.ntt low, tail) ∧ isPowerOfTwo low.length = true ∧
      tail < low.length ∧ (denote low).degree < tail ∧ denote m ∣ X ^ low.length + denote low :=
  shiftFactorNtt_spec root N cutoff m hm hd
example : (1 : Nat) ≤ (X ^ 2 + 1 : ℚ[X]).natDegree := by
  rw [show (X ^ 2 + 1 : ℚ[X]) = X ^ 2 + C 1 by simp, natDegree_X_pow_add_C]; norm_num

/-- `reduce_by_ntt_friendly_modulus` (stage 1 of `fast_reduce`): for `low` of power-of-two length `n` with
    `deg low < tail < n` the result is congruent to the input modulo `X^n + low`; `NttDft N ω` — `ntt` is the DFT at
    the primitive roots `ω n`, `intt` its inverse — is what property C06 establishes about the transform pair -/
theorem reduce_by_ntt_friendly_modulus_spec (N : NttOps K) (ω : Nat → K) (hN : NttDft N ω) (a low : List K) (tail : Nat)
    (hpow : isPowerOfTwo low.length = true) (htail : tail < low.length) (hS : (denote low).degree < tail) :
    ∃ r, reduceByNttFriendlyModulus FK N a (N.ntt low) tail = some r ∧
      (X ^ low.length + denote low : K[X]) ∣ denote a - denote r :=
  reduceByNttFriendlyModulus_spec root N (nttConv_of_nttDft hN) a low tail hpow htail hS
example : isPowerOfTwo ([1, 2, 3, 4] : List ℚ).length = true := by decide

/-- **`fast_reduce`** — all three stages (NTT-friendly chunk-wise reduction, structured-multiple reduction, long
    division), every dividend, every non-zero modulus, every storage, every value of `FAST_REDUCE_CUTOFF_THRESHOLD` and
    of the stage-2 factor: no panic, and the result is the remainder -/
theorem fast_reduce_spec (N : NttOps K) (ω : Nat → K) (hN : NttDft N ω) (cutoff stage2 : Nat) (a m : List K)
    (hm : denote m ≠ 0) :
    ∃ r, fastReduce FK N cutoff stage2 a m = some r ∧ denote r = denote a % denote m :=
  fastReduce_spec root N (nttConv_of_nttDft hN) cutoff stage2 a m hm
example : denote ([3, 0, 1] : List ℚ) ≠ 0 := denote_ne_zero_of_getD 0 (by norm_num)

/-- `fast_reduce` panics for the zero modulus -/
theorem fast_reduce_zero_modulus (N : NttOps K) (cutoff stage2 : Nat) (a m : List K) (hm : denote m = 0) :
    fastReduce FK N cutoff stage2 a m = none :=
  fastReduce_zero root N cutoff stage2 a m hm
example : denote ([0] : List ℚ) = 0 := denote_replicate_zero 1

/-- **every reduction strategy returns the same remainder**: `reduce` for every dividend, every non-zero modulus,
    every storage and every value of the three thresholds -/
theorem reduce_spec_all_arms (N : NttOps K) (ω : Nat → K) (hN : NttDft N ω) (makesSense cutoff stage2 : Nat)
    (a m : List K)
    (hm : denote m ≠ 0) :
    ∃ r, reduce FK N makesSense cutoff stage2 a m = some r ∧ denote r = denote a % denote m :=
  reduce_spec root N makesSense cutoff stage2 a m hm (fun _ => fastReduce_spec root N (nttConv_of_nttDft hN) cutoff stage2 a m hm)
example : denote ([3, 0, 1] : List ℚ) ≠ 0 := denote_ne_zero_of_getD 0 (by norm_num)

/-- **`formal_power_series_inverse_newton`**: for every transform pair that is the DFT (`NttDft`, property C06), every
    value of `FORMAL_POWER_SERIES_INVERSE_CUTOFF`, every storage of `f` with non-zero constant term and **every
    precision `n`** (0, 1, non-powers of two, …): no panic and `f·g ≡ 1 (mod X^n)` — in all arms: constant `f`,
    polynomial-arithmetic rounds only, and the rounds computed in the NTT domain with domain growth -/
theorem fps_inverse_newton_spec (N : NttOps K) (ω : Nat → K) (hN : NttDft N ω) (cutoff : Nat) (f : List K)
    (precision : Nat) (h0 : (denote f).coeff 0 ≠ 0) :
    ∃ g, fpsInverseNewton FK N cutoff f precision = some g ∧
      (X ^ precision : K[X]) ∣ denote f * denote g - 1 :=
  fpsInverseNewton_spec root hN cutoff f precision h0
example : (denote ([1, 1, 0, 5] : List ℚ)).coeff 0 ≠ 0 := by rw [coeff_denote]; norm_num

/-- `formal_power_series_inverse_newton` panics for the zero polynomial and for a zero constant term -/
theorem fps_inverse_newton_panics (N : NttOps K) (cutoff : Nat) (f : List K) (precision : Nat)
    (h : denote f = 0 ∨ (1 ≤ (denote f).natDegree ∧ (denote f).coeff 0 = 0)) :
    fpsInverseNewton FK N cutoff f precision = none :=
  fpsInverseNewton_none root N cutoff f precision h
example : denote ([0, 0] : List ℚ) = 0 := denote_replicate_zero 2

/-- **`clean_divide`** (with the repairs F9 and F11): for every field extension `L/K` (twenty-first: the cubic extension
    over the base field), every transform pair over `L` that is the DFT (`NttDft`, property C06), every non-zero
    offset, **every cut-off value and every divisor degree**, every non-zero divisor — with or without roots on the
    internal evaluation coset `x·⟨ω⟩` (then the model, like the repaired code, falls back to long division), with or
    without factors `X^k`, any storage — and every dividend it divides, including the zero dividend in any storage:
    no panic, and the result is the exact quotient -/
theorem clean_divide_spec {L : Type} [Field L] [Algebra K L] (rootL : Nat → Option L) (E : ExtOps K L)
    (NX : NttOps L) (ω : Nat → L) (hN : NttDft NX ω)
    (hlift : ∀ k, E.lift k = algebraMap K L k) (hunlift : ∀ k, E.unlift (algebraMap K L k) = some k)
    (hoff : E.offset ≠ 0) (cutoff : Nat) (a d : List K) (hd : denote d ≠ 0) (hdvd : denote d ∣ denote a) :
    ∃ q, cleanDivide FK (FieldOps.ofField L rootL) E NX cutoff a d = some q ∧ denote q * denote d = denote a ∧
      denote q = denote a / denote d := by
  obtain ⟨q, h1, h2⟩ := cleanDivide_spec root rootL E hN hlift hunlift hoff cutoff a d hd hdvd
  exact ⟨q, h1, h2, EuclideanDomain.eq_div_of_mul_eq_left hd h2⟩
example : denote ([1, 1] : List ℚ) ∣ denote ([0, 1, 1] : List ℚ) :=
  ⟨X, by simp; ring⟩

/-- the Montgomery batch inversion inside `clean_divide`: element-wise inverses when no input is zero, and a panic
    exactly when some input is zero — which is why a divisor with a root on the evaluation coset needs the
    long-division fallback (defect F9 before the repair) -/
theorem batch_inversion_spec {L : Type} [Field L] (rootL : Nat → Option L) (l : List L) :
    (batchInversion (FieldOps.ofField L rootL) l = none ↔ ∃ y ∈ l, y = 0) ∧
    ((∀ y ∈ l, y ≠ 0) → batchInversion (FieldOps.ofField L rootL) l = some (l.map (fun y => y⁻¹))) := by
  refine ⟨?_, batchInversion_spec rootL l⟩
  constructor
  · intro h
    by_contra hne
    have hall : ∀ y ∈ l, y ≠ 0 := fun y hy h0 => hne ⟨y, hy, h0⟩
    rw [batchInversion_spec rootL l hall] at h
    exact absurd h (by simp)
  · rintro ⟨y, hy, h0⟩
    unfold batchInversion
    have : l.any (FieldOps.ofField L rootL).isZero = true := by
      rw [List.any_eq_true]
      exact ⟨y, hy, (FieldOps.ofField_isZero rootL y).2 h0⟩
    rw [this]; rfl
example : ∀ y ∈ ([2, 3] : List ℚ), y ≠ 0 := by simp

/-- below the cut-off (every cut-off value; in the production build every divisor of degree < 512) `clean_divide` is
    long division: it returns the Euclidean quotient also when the division is not clean -/
theorem clean_divide_below_cutoff {χ : Type} (FX : FieldOps χ) (E : ExtOps K χ) (NX : NttOps χ) (cutoff : Nat)
    (a d : List K) (hd : denote d ≠ 0) (hlt : (denote d).natDegree < cutoff) :
    ∃ q, cleanDivide FK FX E NX cutoff a d = some q ∧ denote q = denote a / denote d :=
  cleanDivide_below_cutoff root FX E NX cutoff a d hd hlt
example : (denote ([1, 1] : List ℚ)).natDegree < 512 :=
  lt_of_le_of_lt (natDegree_denote_le _ 1 (by simp)) (by norm_num)

/-- `clean_divide` panics for the zero divisor (every cut-off ≥ 0 … the degree `-1` is below every cut-off) -/
theorem clean_divide_zero_divisor {χ : Type} (FX : FieldOps χ) (E : ExtOps K χ) (NX : NttOps χ) (cutoff : Nat)
    (a d : List K) (hd : denote d = 0) : cleanDivide FK FX E NX cutoff a d = none := by
  unfold cleanDivide
  have hdeg := degree_spec root d
  rw [if_pos hd] at hdeg
  rw [if_pos (by rw [hdeg]; omega)]
  unfold Model.PolyD.div
  rw [naiveDivide_zero root a d hd]
  rfl
example : denote ([0, 0, 0] : List ℚ) = 0 := denote_replicate_zero 3

end TF.C09

/-! ## regenerated-from-source bridge (tools/rs2lean_poly.py, `TF/Gen/PolyLoops.lean`)

`reverse`, `truncate`, `mod_x_to_the_n`, the wrappers `divide`, `Div::div`, `Rem::rem`, `reduce_long_division` and the dispatcher
`reduce` are **also regenerated from the text of `polynomial.rs` on every run** (`TF.Gen.Poly.*`; `fast_reduce` is a parameter of
`reduce`).  Proved for every record of field operations and every storage (proofs: `TF/Proofs/GenBridgePoly.lean`).
`naive_divide` (the long-division loop over `pop()` / `enumerate()` with `continue`) is regenerated too and PROVED equal to the
hand model `naiveDivide` (`gen_naive_divide_eq_model`: same quotient and remainder storage, panic exactly for the zero divisor);
the wrappers are proved to be exactly that regenerated function, so a fast path added to `divide` breaks `gen_divide_wrappers`.
The driver evaluates the regenerated definitions next to the hand model (`GEN-MISMATCH`). -/
namespace TF.C09
open TF TF.Model.Poly TF.Model.PolyD

/-- regenerated `reverse` = hand model; regenerated `mod_x_to_the_n` = hand model (slice always in range); regenerated
    `truncate` = the hand model with the `usize` saturation of `k + 1`, for EVERY `k` -/
theorem gen_truncate_eq_model {α : Type} (F : FieldOps α) (p : List α) (k : Nat) :
    TF.Gen.Poly.reverse F p = some (Model.Poly.reverse F p) ∧
    TF.Gen.Poly.mod_x_to_the_n F p k = some (Model.PolyD.modXToTheN p k) ∧
    TF.Gen.Poly.truncate F p k = some (Model.PolyD.truncateUsize F p k) := by
  refine ⟨TF.GenBridge.Poly.reverse_eq F p, TF.GenBridge.Poly.mod_x_to_the_n_eq F p k, ?_⟩
  rw [TF.GenBridge.Poly.truncate_eq]
  simp [Model.PolyD.truncateUsize, revNorm, Model.Poly.normalize, Model.PolyD.USIZE_MOD]
example : TF.Gen.Poly.truncate bfieldOps [0, 1, 2, 3, 4, 0] 1 = some [3, 4] ∧
    TF.Gen.Poly.truncate bfieldOps [1, 2, 0] 18446744073709551615 = some [1, 2] ∧
    TF.Gen.Poly.mod_x_to_the_n bfieldOps [1, 2, 3] 5 = some [1, 2, 3] ∧ TF.Gen.Poly.reverse bfieldOps [1, 2, 0] = some [2, 1] := by
  decide

/-- the regenerated `divide`, `/`, `%`, `reduce_long_division` are the regenerated `naive_divide` and its projections -/
theorem gen_divide_wrappers {α : Type} (F : FieldOps α) (a d : List α) :
    TF.Gen.Poly.divide F a d = TF.Gen.Poly.naive_divide F a d ∧
    TF.Gen.Poly.div F a d = (TF.Gen.Poly.naive_divide F a d).map (·.1) ∧
    TF.Gen.Poly.rem F a d = (TF.Gen.Poly.naive_divide F a d).map (·.2) ∧
    TF.Gen.Poly.reduce_long_division F a d = (TF.Gen.Poly.naive_divide F a d).map (·.2) :=
  ⟨TF.GenBridge.Poly.divide_eq_naive F a d, TF.GenBridge.Poly.div_eq_naive F a d, TF.GenBridge.Poly.rem_eq_naive F a d,
    TF.GenBridge.Poly.reduce_long_division_eq_naive F a d⟩
example : TF.Gen.Poly.divide bfieldOps [1, 0] [5, 6, 0] = some ([], [1, 0]) ∧
    TF.Gen.Poly.naive_divide bfieldOps [1, 2, 1] [0, 0] = none := by decide

/-- regenerated dispatcher `reduce`: panic for the zero modulus, zero for a constant modulus, `self` below the modulus degree,
    the `fast_reduce` parameter above `4·deg m` (`FAST_REDUCE_MAKES_SENSE_MULTIPLE` is read from the source), else long division -/
theorem gen_reduce_dispatch {α : Type} (F : FieldOps α) (fr : List α → List α → Option (List α)) (a m : List α) :
    TF.Gen.Poly.reduce F fr a m =
      if Model.Poly.degree F m < 0 then none
      else if Model.Poly.degree F m = 0 then some []
      else if Model.Poly.degree F a < Model.Poly.degree F m then some a
      else if Model.Poly.degree F a > 4 * Model.Poly.degree F m then fr a m
      else (TF.Gen.Poly.naive_divide F a m).map (·.2) :=
  TF.GenBridge.Poly.reduce_dispatch F fr a m
example : TF.Gen.Poly.reduce bfieldOps (fun _ _ => none) [1, 2] [0, 0] = none ∧
    TF.Gen.Poly.reduce bfieldOps (fun _ _ => none) [1, 2] [5, 0] = some [] ∧
    TF.Gen.Poly.reduce bfieldOps (fun _ _ => none) [1, 2, 0] [5, 0, 1] = some [1, 2, 0] ∧ 4 = TF.Gen.FAST_REDUCE_MAKES_SENSE_MULTIPLE := by
  decide

/-- **regenerated `naive_divide` = hand model `naiveDivide`** — every record of field operations, every dividend and divisor
    storage (stored leading zeros on either side): the regenerated long division (remainder kept lowest degree first,
    `pop().unwrap()`, `remainder[remainder_degree - i] -= q · divisor_coeff`, `continue` on a zero quotient coefficient)
    returns the same `(quotient, remainder)` storages and panics exactly when the model does (zero divisor); hence also
    `divide`, `/`, `%` = hand models -/
theorem gen_naive_divide_eq_model {α : Type} (F : FieldOps α) (a d : List α) :
    TF.Gen.Poly.naive_divide F a d = naiveDivide F a d ∧ TF.Gen.Poly.divide F a d = divide F a d ∧
    TF.Gen.Poly.div F a d = div F a d ∧ TF.Gen.Poly.rem F a d = rem F a d := by
  obtain ⟨h1, h2, h3, _⟩ := gen_divide_wrappers F a d
  rw [h1, h2, h3, TF.GenBridge.Poly.naive_divide_eq]
  exact ⟨rfl, rfl, rfl, rfl⟩
example : TF.Gen.Poly.naive_divide bfieldOps [1, 0] [5, 6, 0] = some ([], [1, 0]) ∧
    TF.Gen.Poly.rem bfieldOps [1, 2] [0] = none := by decide

/-- **regenerated `reduce` = hand model `reduce`** with `makesSense` = the regenerated `FAST_REDUCE_MAKES_SENSE_MULTIPLE`, for
    every `fast_reduce` arm of the model (every transform, cut-off, stage-2 multiple) -/
theorem gen_reduce_eq_model {α : Type} (F : FieldOps α) (N : NttOps α) (cutoff stage2 : Nat) (a m : List α) :
    TF.Gen.Poly.reduce F (fastReduce F N cutoff stage2) a m =
      reduce F N TF.Gen.FAST_REDUCE_MAKES_SENSE_MULTIPLE cutoff stage2 a m := by
  rw [gen_reduce_dispatch, TF.GenBridge.Poly.naive_divide_eq]
  simp only [reduce, rem, TF.Gen.FAST_REDUCE_MAKES_SENSE_MULTIPLE, Nat.cast_ofNat]
  rfl
example : TF.Gen.FAST_REDUCE_MAKES_SENSE_MULTIPLE = 4 := rfl

section transfer
variable {K : Type} [Field K] (root : Nat → Option K)
local notation "FK" => FieldOps.ofField K root
open Polynomial

/-- **`naive_divide_spec` / `naive_divide_panics_iff` for the regenerated code**: for any dividend, any non-zero divisor, any
    storage the regenerated `naive_divide` (= `divide`) does not panic and returns the quotient and remainder; it panics
    exactly for a zero divisor -/
theorem gen_naive_divide_transfer (a d : List K) :
    (denote d ≠ 0 → ∃ q r, TF.Gen.Poly.divide FK a d = some (q, r) ∧ TF.Gen.Poly.naive_divide FK a d = some (q, r) ∧
      denote a = denote q * denote d + denote r ∧ (denote r).degree < (denote d).degree ∧
      denote q = denote a / denote d ∧ denote r = denote a % denote d) ∧
    (TF.Gen.Poly.naive_divide FK a d = none ↔ denote d = 0) := by
  obtain ⟨h1, h2, _, _⟩ := gen_naive_divide_eq_model FK a d
  rw [h1, h2]
  refine ⟨fun hd => ?_, naive_divide_panics_iff root a d⟩
  obtain ⟨q, r, hq, rest⟩ := naive_divide_spec root a d hd
  exact ⟨q, r, hq, hq, rest⟩
example : denote ([1, 0, 2, 0] : List ℚ) ≠ 0 := denote_ne_zero_of_getD 0 (by norm_num)

/-- **`truncate_usize_spec` / `mod_x_to_the_n_spec` for the regenerated code**: no panic, the `k+1` highest coefficients
    for every `k` (`usize::MAX` included) and every storage with fewer than `2^64` coefficients; `self % X^n` -/
theorem gen_truncate_transfer (p : List K) (k n : Nat) (hlen : (revNorm FK p).length < 2 ^ 64) :
    (∃ r, TF.Gen.Poly.truncate FK p k = some r ∧ denote r = denote p / X ^ (degSucc FK p - (k + 1))) ∧
    (∃ r, TF.Gen.Poly.mod_x_to_the_n FK p n = some r ∧ denote r = denote p % X ^ n) :=
  ⟨⟨_, (gen_truncate_eq_model FK p k).2.2, truncate_usize_spec root p k hlen⟩,
   ⟨_, (gen_truncate_eq_model FK p n).2.1, mod_x_to_the_n_spec p n⟩⟩
example : (revNorm (FieldOps.ofField ℚ) [1, 2, 0]).length < 2 ^ 64 := by
  have : revNorm (FieldOps.ofField ℚ) [1, 2, 0] = [2, 1] := by simp [revNorm]
  rw [this]; norm_num

end transfer
end TF.C09
