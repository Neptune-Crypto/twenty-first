import TF.Proofs.MmrMember
import TF.Proofs.MmrNodeIndex
import TF.Proofs.MmrUpdAppend
import TF.Proofs.MmrUpdAppendBatch
import TF.Proofs.MmrUpdMutate
import TF.Proofs.MmrBatchMutate
import TF.Proofs.GenBridgeMmrProof
/-!
# C05 — MMR membership proofs stay exact through every history; verification exact

Property theorems only (helper lemmas: `TF/Proofs/MmrE.lean`, `TF/Proofs/MmrBlocks.lean`, `TF/Proofs/MmrDigests.lean`,
`TF/Proofs/MmrMember.lean`, `TF/Proofs/MmrNodeIndex.lean`, `TF/Proofs/MmrAppendIdx.lean`, `TF/Proofs/MmrUpdAppend.lean`,
`TF/Proofs/MmrUpdAppendBatch.lean`, `TF/Proofs/MmrAMap.lean`, `TF/Proofs/MmrUpdMutate.lean`,
`TF/Proofs/MmrBatchMutate.lean`; the bridge to the regenerated code: `TF/Proofs/GenBridgeMmrProof.lean`).

Model (`TF/Model/MmrMember.lean`, `TF/Model/MmrAccE.lean`; `none` = panic or non-termination of the Rust code):
`memberVerify` = `MmrMembershipProof::verify`, `updateFromAppend`, `batchUpdateFromAppend`, `updateFromLeafMutation`,
`batchUpdateFromLeafMutation`, `batchUpdateFromBatchLeafMutation`, `Acc.batchMutateLeafAndUpdateMps`, `Acc.append`,
`Acc.mutateLeaf`; `HState.run` replays a history with every leaf's proof tracked.  A membership proof is its list of
digests; `H` is an arbitrary hash.  The index function inside `verify` is regenerated from `shared_basic.rs`.

Specification (`TF/Spec/MmrE.lean`), for a leaf list `g : Nat → D` and `n` leaves: `peaks H n g` the from-scratch
peaks; `locate n i = (height, index in tree, peak index)` of the tree containing leaf `i`;
`authPathOf H g n i` the from-scratch authentication path of leaf `i` (siblings from the bottom up to, excluding, the
peak); `foldBlk H i leaf path` hashes the leaf up the path, left/right by the bits of `i`.
-/
namespace TF.C05
open TF.Model.MmrE TF.Spec.MmrE TF.MmrE

variable {D : Type} [DecidableEq D] (H : D → D → D)

/-! ## verification is exact and total -/

/-- **verify_iff**: a claim `(leaf index, leaf, peaks, leaf count, path)` is accepted if and only if the index is in
    range, the number of peaks matches the leaf count, the path length is the height of the leaf's tree, and hashing the
    leaf up the path (left/right by the bits of the index) reproduces the peak covering that index. -/
theorem verify_iff (path : List D) (i : Nat) (leaf : D) (pks : List D) (n : Nat) (hn : n < 2 ^ 64)
    (hlen : pks.length < 2 ^ 32) :
    memberVerify H path i leaf pks n = some true ↔
      i < n ∧ pks.length = TF.popCount n ∧ path.length = (locate n i).1 ∧
      pks[(locate n i).2.2]? = some (foldBlk H i leaf path) := by
  rw [memberVerify_eq_spec H path i leaf pks n hn hlen]
  simp only [Option.some.injEq, memberVerifyRef, Bool.and_eq_true, decide_eq_true_eq, beq_iff_eq]
  constructor
  · rintro ⟨⟨⟨a, b⟩, c⟩, d⟩; exact ⟨a, b, c, d⟩
  · rintro ⟨a, b, c, d⟩; exact ⟨⟨⟨a, b⟩, c⟩, d⟩

/-- **never panics**: on every tuple (any index, any peak list shorter than 2^32, any path length, any `u64` count)
    `verify` returns `true` or `false` -/
theorem verify_total (path : List D) (i : Nat) (leaf : D) (pks : List D) (n : Nat) (hn : n < 2 ^ 64)
    (hlen : pks.length < 2 ^ 32) : ∃ b, memberVerify H path i leaf pks n = some b :=
  ⟨_, memberVerify_eq_spec H path i leaf pks n hn hlen⟩
example : ∃ b, memberVerify (fun a b : Nat => a + 2 * b) [1, 2, 3] 7 0 [] 5 = some b :=
  verify_total _ _ _ _ _ _ (by decide) (by decide)

/-- the only panic: a peak vector that does not fit a `u32` length, for an in-range index -/
theorem verify_panics_iff (path : List D) (i : Nat) (leaf : D) (pks : List D) (n : Nat) (hn : n < 2 ^ 64) :
    memberVerify H path i leaf pks n = none ↔ i < n ∧ 2 ^ 32 ≤ pks.length := by
  by_cases h1 : i ≥ n
  · unfold memberVerify; rw [if_pos h1]
    constructor
    · intro h; cases h
    · intro h; omega
  · by_cases h2 : pks.length ≥ 2 ^ 32
    · unfold memberVerify; rw [if_neg h1]
      refine ⟨fun _ => ⟨by omega, h2⟩, fun _ => ?_⟩
      simp only [if_pos h2]
    · rw [memberVerify_eq_spec H path i leaf pks n hn (by omega)]
      constructor
      · intro h; cases h
      · intro h; omega

/-- malformed claims (index out of range, wrong number of peaks, path too long or too short) are rejected -/
theorem verify_rejects_malformed (path : List D) (i : Nat) (leaf : D) (pks : List D) (n : Nat) (hn : n < 2 ^ 64)
    (hlen : pks.length < 2 ^ 32)
    (h : n ≤ i ∨ pks.length ≠ TF.popCount n ∨ path.length ≠ (locate n i).1) :
    memberVerify H path i leaf pks n = some false := by
  obtain ⟨b, hb⟩ := verify_total H path i leaf pks n hn hlen
  cases b with
  | false => exact hb
  | true =>
    have := (verify_iff H path i leaf pks n hn hlen).mp hb
    rcases h with h | h | h
    · omega
    · exact absurd this.2.1 h
    · exact absurd this.2.2.1 h
example : memberVerify (fun a b : Nat => a + 2 * b) [] 0 7 [7, 8] 1 = some false :=
  verify_rejects_malformed _ _ _ _ _ _ (by decide) (by decide) (Or.inr (Or.inl (by simp [TF.popCount])))

/-- completeness against the from-scratch forest: the from-scratch authentication path of every leaf verifies against
    the from-scratch peaks -/
theorem verify_accepts_auth_path (g : Nat → D) (n i : Nat) (hlt : i < n) (hn : n < 2 ^ 64) :
    memberVerify H (authPathOf H g n i) i (g i) (peaks H n g) n = some true := by
  have hl : (peaks H n g).length < 2 ^ 32 := by
    rw [peaks_length]; have := TF.Mmr.popCount_le_bits 64 n hn; omega
  rw [memberVerify_eq_spec H _ i (g i) _ n hn hl, member_complete H g n i hlt]

/-- soundness against the from-scratch forest: whatever verifies against the from-scratch peaks is the true leaf with
    its from-scratch path — or an explicit collision of the hash function -/
theorem verify_sound_leaves (g : Nat → D) (path : List D) (n i : Nat) (leaf : D) (hn : n < 2 ^ 64)
    (h : memberVerify H path i leaf (peaks H n g) n = some true) :
    (i < n ∧ leaf = g i ∧ path = authPathOf H g n i) ∨ Collision H := by
  have hl : (peaks H n g).length < 2 ^ 32 := by
    rw [peaks_length]; have := TF.Mmr.popCount_le_bits 64 n hn; omega
  rw [memberVerify_eq_spec H path i leaf _ n hn hl] at h
  exact member_sound H g path n i leaf (Option.some.inj h)

/-! ## append and mutation -/

/-- **append_returns_auth_path**: appending leaf `g n` to the accumulator of `g 0 … g (n-1)` yields the accumulator of
    `g 0 … g n` and returns exactly the from-scratch authentication path of the new leaf -/
theorem append_returns_auth_path (g : Nat → D) (n : Nat) (hn : n + 1 < 2 ^ 64) :
    Acc.append H ⟨n, peaks H n g⟩ (g n) = some (⟨n + 1, peaks H (n + 1) g⟩, authPathOf H g (n + 1) n) :=
  append_spec H n g hn
example : Acc.append (fun a b : Nat => a + 2 * b) ⟨1, [3]⟩ 5 = some (⟨2, [13]⟩, [3]) := by decide +kernel

/-- **mutation_keeps_own_proof**: mutating leaf `i` with its from-scratch path yields the from-scratch accumulator of
    the changed leaf list; the leaf's own path is unchanged, is the from-scratch path in the new range, and verifies
    for the new leaf against the new peaks -/
theorem mutation_keeps_own_proof (g : Nat → D) (n i : Nat) (d : D) (hlt : i < n) (hn : n < 2 ^ 64) :
    Acc.mutateLeaf H ⟨n, peaks H n g⟩ i d (authPathOf H g n i) = some ⟨n, peaks H n (Function.update g i d)⟩ ∧
    authPathOf H (Function.update g i d) n i = authPathOf H g n i ∧
    memberVerify H (authPathOf H g n i) i d (peaks H n (Function.update g i d)) n = some true := by
  refine ⟨mutateLeaf_spec H g n i d hlt hn, authPathOf_update_self H g n i d, ?_⟩
  have := verify_accepts_auth_path H (Function.update g i d) n i hlt hn
  rwa [authPathOf_update_self, Function.update_self] at this

/-! ## the update routines and whole histories

Append routines (`update_from_append_spec`, `batch_update_from_append_spec`): the index functions
`node_indices_added_by_append`, `get_peak_heights_and_peak_node_indices`, `get_authentication_path_node_indices`,
`get_peak_index_and_height` in post-order `nodeIdx` form and the `HashMap` bookkeeping of `known_digests`
(`TF/Proofs/MmrAppendIdx.lean`, `MmrUpdAppend.lean`, `MmrUpdAppendBatch.lean`).  Mutation routines
(`update_from_leaf_mutation_spec`, `batch_update_from_leaf_mutation_spec`, `batch_update_from_batch_leaf_mutation_spec`,
`batch_mutate_leaf_and_update_mps_spec`; `TF/Proofs/MmrUpdMutate.lean`, `MmrBatchMutate.lean`); duplicated mutated leafs
panic and have their own theorems.  `history_preserves_proofs` at the end of the file is the induction over the
operation list on top of the per-routine theorems.  The bounded model check `mmrp free_check` (all MMR shapes up to 64
leaves over a free hash algebra) and the correspondence histories are tests of the model. -/

/-- indices `k` of the handed proofs whose digests changed between the leaf lists `g` and `g'` -/
def changedSlots (g g' : Nat → D) (n n' : Nat) (lis : List Nat) : List Nat :=
  (List.range lis.length).filter fun k => decide (authPathOf H g' n' (lis.getD k 0) ≠ authPathOf H g n (lis.getD k 0))

/-- apply a batch of leaf assignments -/
def applyMuts (g : Nat → D) (ms : List (Nat × D)) : Nat → D := ms.foldl (fun g m => Function.update g m.1 m.2) g

/-- **update_from_append_spec** (`MmrMembershipProof::update_from_append`): given the from-scratch path of leaf `i` in
    the `n`-leaf range, the old peaks and the new leaf, the routine returns exactly the from-scratch path of leaf `i`
    in the `(n+1)`-leaf range, and `true` iff the path changed — for every hash, every leaf list, every `i < n`, every
    leaf count with `n + 1 < 2^63`; it never panics there.  (Helper lemmas: `TF/Proofs/MmrUpdAppend.lean`.) -/
theorem update_from_append_spec (g : Nat → D) (n i : Nat) (hlt : i < n) (hn : n + 1 < 2 ^ 63) :
    updateFromAppend H (authPathOf H g n i) i n (g n) (peaks H n g)
      = some (authPathOf H g (n + 1) i, decide (authPathOf H g (n + 1) i ≠ authPathOf H g n i)) :=
  UpdAppend.updateFromAppend_spec H g n i hlt hn
/-- non-vacuity: 3 leaves `1, 2, 3` under the toy hash `a + 2 b`, peaks `[5, 3]`; appending `4` merges everything, the
    proof `[2]` of leaf 0 becomes `[2, 11]` -/
example : updateFromAppend (fun a b : Nat => a + 2 * b) [2] 0 3 4 [5, 3] = some ([2, 11], true) := by decide +kernel
example : authPathOf (fun a b : Nat => a + 2 * b) (fun k => k + 1) 4 0 = [2, 11] ∧
    authPathOf (fun a b : Nat => a + 2 * b) (fun k => k + 1) 3 0 = [2] ∧
    peaks (fun a b : Nat => a + 2 * b) 3 (fun k => k + 1) = [5, 3] := by decide +kernel

/-- **batch_update_from_append_spec** (`MmrMembershipProof::batch_update_from_append`): for any list of old leaf
    indices (any subset, any order, repetitions allowed) handed over with their from-scratch paths, the routine returns
    exactly the from-scratch paths in the `(n+1)`-leaf range and reports exactly the slots whose path changed — for every
    hash, every leaf list, every leaf count with `n + 1 < 2^63`; it never panics there. -/
theorem batch_update_from_append_spec (g : Nat → D) (n : Nat) (lis : List Nat) (hall : ∀ i ∈ lis, i < n)
    (hn : n + 1 < 2 ^ 63) :
    batchUpdateFromAppend H (lis.map (authPathOf H g n)) lis n (g n) (peaks H n g)
      = some (lis.map (authPathOf H g (n + 1)), changedSlots H g g n (n + 1) lis) :=
  UpdAppend.batchUpdateFromAppend_spec H g n lis hall hn
/-- non-vacuity: 7 leaves `1 … 7` under the toy hash `a + 2 b` (peaks `[27, 17, 7]`), appending `8` merges all three
    trees; the proofs of the leaves `6, 0, 4` (in this order) are extended by 3, 1, 2 digests and all slots are reported -/
example : batchUpdateFromAppend (fun a b : Nat => a + 2 * b) [[], [2, 11], [6]] [6, 0, 4] 7 8 [27, 17, 7]
    = some ([[8, 17, 27], [2, 11, 63], [6, 23, 27]], [0, 1, 2]) := by decide +kernel
example : [6, 0, 4].map (authPathOf (fun a b : Nat => a + 2 * b) (fun k => k + 1) 7) = [[], [2, 11], [6]] ∧
    [6, 0, 4].map (authPathOf (fun a b : Nat => a + 2 * b) (fun k => k + 1) 8) = [[8, 17, 27], [2, 11, 63], [6, 23, 27]] ∧
    peaks (fun a b : Nat => a + 2 * b) 7 (fun k => k + 1) = [27, 17, 7] := by decide +kernel
/-- non-vacuity, mixed: 5 leaves, appending a 6th merges only the last tree; leaf 4 handed over twice: slots 0 and 2
    change, slot 1 (leaf 0) does not -/
example : batchUpdateFromAppend (fun a b : Nat => a + 2 * b) [[], [2, 11], []] [4, 0, 4] 5 6 [27, 5]
    = some ([[6], [2, 11], [6]], [0, 2]) := by decide +kernel
/-- non-vacuity of the early return: 6 leaves, appending a 7th merges nothing, nothing is reported -/
example : batchUpdateFromAppend (fun a b : Nat => a + 2 * b) [[2, 11], [6]] [0, 4] 6 7 [27, 17] = some ([[2, 11], [6]], [])
    := by decide +kernel

/-! ### leaf mutations: the three membership-proof routines, proved (helper lemmas: `TF/Proofs/MmrUpdMutate.lean`,
`TF/Proofs/MmrBatchMutate.lean`)

The digest at slot `t` of the path of leaf `i` is the root of the sibling block `sibBlk (i / 2^t)` of level `t`, stored
under its post-order node index; a mutation of leaf `j` recomputes the blocks `j / 2^t` bottom-up along `j`'s path.  The
routines' maps of recomputed digests satisfy: what is stored under a node below a peak is its digest in the new leaf
list, what is not stored did not change (`TF.MmrBM.Inv`, `Inv.sibling`); the replacement loops turn that into the new
from-scratch path. -/

/-- **update_from_leaf_mutation_spec**: `update_from_leaf_mutation`, given the from-scratch path of leaf `i` and the
    mutation of leaf `j` (with its from-scratch path), never panics and leaves exactly the from-scratch path of `i` in
    the changed leaf list; it returns `false` only if nothing changed.  (It returns `true` whenever the mutated leaf
    lies under one of the path's sibling nodes, also when the recomputed digest equals the stored one.) -/
theorem update_from_leaf_mutation_spec :
  ∀ (D : Type) [DecidableEq D] (H : D → D → D) (g : Nat → D) (n i j : Nat) (d : D), i < n → j < n → n < 2 ^ 63 →
    ∃ b, updateFromLeafMutation H (authPathOf H g n i) i ⟨j, d, authPathOf H g n j⟩
        = some (authPathOf H (Function.update g j d) n i, b) ∧
      (b = false → authPathOf H (Function.update g j d) n i = authPathOf H g n i) := by
  intro D _ H g n i j d hi hj hn
  obtain ⟨b, h1, h2, _⟩ := updateFromLeafMutation_spec H g n i j d hi hj hn
  exact ⟨b, h1, h2⟩
example : (0 : Nat) < 7 ∧ (3 : Nat) < 7 ∧ (7 : Nat) < 2 ^ 63 := by decide
/-- 7 leafs `1 … 7`, leaf 3 becomes 100: the proof `[2, 11]` of leaf 0 becomes `[2, 203]`; a mutation in another tree
    leaves it alone -/
example : updateFromLeafMutation (fun a b : Nat => a + 2 * b) [2, 11] 0 ⟨3, 100, [3, 5]⟩ = some ([2, 203], true) ∧
    updateFromLeafMutation (fun a b : Nat => a + 2 * b) [2, 11] 0 ⟨5, 100, [5]⟩ = some ([2, 11], false) := by
  decide +kernel

/-- the flag of `update_from_leaf_mutation` exactly: `true` iff the mutated leaf `j` lies under one of the sibling
    nodes of `i`'s path (i.e. `j ≠ i` is in the tree of `i`) - whether or not the recomputed digest differs -/
theorem update_from_leaf_mutation_flag :
  ∀ (D : Type) [DecidableEq D] (H : D → D → D) (g : Nat → D) (n i j : Nat) (d : D), i < n → j < n → n < 2 ^ 63 →
    ∃ b, updateFromLeafMutation H (authPathOf H g n i) i ⟨j, d, authPathOf H g n j⟩
        = some (authPathOf H (Function.update g j d) n i, b) ∧
      (b = true ↔ ∃ t < (locate n i).1, sibBlk (i / 2 ^ t) = j / 2 ^ t) := by
  intro D _ H g n i j d hi hj hn
  obtain ⟨b, h1, _, h3⟩ := updateFromLeafMutation_spec H g n i j d hi hj hn
  exact ⟨b, h1, h3⟩
/-- leaf 3 "becomes" 4, the digest it holds: the proof of leaf 0 is unchanged, the routine still returns `true` -/
example : updateFromLeafMutation (fun a b : Nat => a + 2 * b) [2, 11] 0 ⟨3, 4, [3, 5]⟩ = some ([2, 11], true) := by
  decide +kernel

/-- **batch_update_from_leaf_mutation_spec**: `batch_update_from_leaf_mutation`, given the from-scratch paths of any
    list of leafs (any subset, any order, repetitions allowed) and the mutation of leaf `j` with its from-scratch path,
    never panics, leaves exactly the from-scratch paths in the changed leaf list, and reports exactly the positions of
    the proofs whose digests changed (none if the leaf is "mutated" to a digest that leaves them all unchanged) -/
theorem batch_update_from_leaf_mutation_spec :
  ∀ (D : Type) [DecidableEq D] (H : D → D → D) (g : Nat → D) (n j : Nat) (d : D) (lis : List Nat),
    (∀ i ∈ lis, i < n) → j < n → n < 2 ^ 63 →
    batchUpdateFromLeafMutation H (lis.map (authPathOf H g n)) lis ⟨j, d, authPathOf H g n j⟩
      = some (lis.map (authPathOf H (Function.update g j d) n), changedSlots H g (Function.update g j d) n n lis) := by
  intro D _ H g n j d lis hlis hj hn
  exact batchUpdateFromLeafMutation_spec H g n j d lis hlis hj hn
example : (∀ i ∈ [0, 2, 5, 3, 6], i < 7) ∧ (3 : Nat) < 7 ∧ (7 : Nat) < 2 ^ 63 := by decide
/-- 7 leafs `1 … 7`, proofs of the leafs 0, 2, 5, 3, 6; leaf 3 becomes 100: the proofs of leafs 0 and 2 (positions 0
    and 1) change; leaf 3 "becomes" 4, the digest it holds: nothing changes, nothing is reported -/
example : batchUpdateFromLeafMutation (fun a b : Nat => a + 2 * b) [[2, 11], [4, 5], [5], [3, 5], []] [0, 2, 5, 3, 6]
      ⟨3, 100, [3, 5]⟩ = some ([[2, 203], [100, 5], [5], [3, 5], []], [0, 1]) ∧
    batchUpdateFromLeafMutation (fun a b : Nat => a + 2 * b) [[2, 11], [4, 5], [5], [3, 5], []] [0, 2, 5, 3, 6]
      ⟨3, 4, [3, 5]⟩ = some ([[2, 11], [4, 5], [5], [3, 5], []], []) := by
  decide +kernel

/-- **batch_update_from_batch_leaf_mutation_spec**: `batch_update_from_batch_leaf_mutation`, given the from-scratch
    paths of any list of leafs and mutations of distinct leafs in any order, each with its from-scratch path *before*
    the batch, never panics, leaves exactly the from-scratch paths in the leaf list after the whole batch, and reports
    exactly the positions of the proofs whose digests changed -/
theorem batch_update_from_batch_leaf_mutation_spec :
  ∀ (D : Type) [DecidableEq D] (H : D → D → D) (g : Nat → D) (n : Nat) (ms : List (Nat × D)) (lis : List Nat),
    (∀ i ∈ lis, i < n) → (∀ m ∈ ms, m.1 < n) → (ms.map (·.1)).Nodup → n < 2 ^ 63 →
    batchUpdateFromBatchLeafMutation H (lis.map (authPathOf H g n)) lis
        (ms.map fun m => ⟨m.1, m.2, authPathOf H g n m.1⟩)
      = some (lis.map (authPathOf H (applyMuts g ms) n), changedSlots H g (applyMuts g ms) n n lis) := by
  intro D _ H g n ms lis hlis hms hnd hn
  exact batchUpdateFromBatchLeafMutation_spec H g n ms lis hlis hms hnd hn
example : (∀ m ∈ [((3 : Nat), (100 : Nat)), (0, 50), (5, 9)], m.1 < 7) ∧
    ([((3 : Nat), (100 : Nat)), (0, 50), (5, 9)].map (·.1)).Nodup := by decide
/-- 7 leafs `1 … 7`, proofs of the leafs 0, 2, 5, 3, 6; the leafs 3, 0, 5 become 100, 50, 9 -/
example : batchUpdateFromBatchLeafMutation (fun a b : Nat => a + 2 * b) [[2, 11], [4, 5], [5], [3, 5], []]
      [0, 2, 5, 3, 6] [⟨3, 100, [3, 5]⟩, ⟨0, 50, [2, 11]⟩, ⟨5, 9, [5]⟩]
    = some ([[2, 203], [100, 54], [5], [3, 54], []], [0, 1, 3]) := by
  decide +kernel

/-- the excluded branch of `batch_update_from_batch_leaf_mutation_spec`: a batch that mutates a leaf twice makes
    `batch_update_from_batch_leaf_mutation` panic (`assert!(former_value.is_none())`), whatever proofs are handed -/
theorem batch_update_from_batch_leaf_mutation_duplicate_panics :
  ∀ (D : Type) [DecidableEq D] (H : D → D → D) (paths : List (List D)) (lis : List Nat) (lms : List (LeafMutation D)),
    ¬ (lms.map (·.leaf_index)).Nodup → batchUpdateFromBatchLeafMutation H paths lis lms = none := by
  intro D _ H paths lis lms h
  exact batchUpdateFromBatchLeafMutation_dup_panics H paths lis lms h
example : batchUpdateFromBatchLeafMutation (fun a b : Nat => a + 2 * b) [[2, 11]] [0]
    [⟨1, 100, [1, 11]⟩, ⟨3, 7, [3, 5]⟩, ⟨1, 101, [1, 11]⟩] = none := by decide +kernel

/-- `MmrAccumulator::batch_mutate_leaf_and_update_mps`: additionally the accumulator becomes the from-scratch one -/
def batch_mutate_leaf_and_update_mps_spec_statement : Prop :=
  ∀ (D : Type) [DecidableEq D] (H : D → D → D) (g : Nat → D) (n : Nat) (ms : List (Nat × D)) (lis : List Nat),
    (∀ i ∈ lis, i < n) → (∀ m ∈ ms, m.1 < n) → (ms.map (·.1)).Nodup → n < 2 ^ 63 →
    Acc.batchMutateLeafAndUpdateMps H ⟨n, peaks H n g⟩ (lis.map (authPathOf H g n)) lis
        (ms.map fun m => ⟨m.1, m.2, authPathOf H g n m.1⟩)
      = some (⟨n, peaks H n (applyMuts g ms)⟩, lis.map (authPathOf H (applyMuts g ms) n),
          changedSlots H g (applyMuts g ms) n n lis)

/-- the leaf list after an operation -/
def leavesStep (s : Nat × (Nat → D)) : HOp D → Nat × (Nat → D)
  | .append d => (s.1 + 1, Function.update s.2 s.1 d)
  | .mutate i d => (s.1, Function.update s.2 i d)
  | .batch ms => (s.1, applyMuts s.2 ms)

/-- operations are applied to existing leafs, batches mutate distinct leafs, the range stays below `2^63` leafs -/
def validHistory : Nat × (Nat → D) → List (HOp D) → Prop
  | _, [] => True
  | s, op :: ops =>
    (match op with
      | .append _ => s.1 + 1 < 2 ^ 63
      | .mutate i _ => i < s.1
      | .batch ms => (∀ m ∈ ms, m.1 < s.1) ∧ (ms.map (·.1)).Nodup) ∧ validHistory (leavesStep s op) ops

/-- the state is the from-scratch accumulator together with the from-scratch path of every leaf -/
def Honest (st : HState D) (s : Nat × (Nat → D)) : Prop :=
  st.acc = ⟨s.1, peaks H s.1 s.2⟩ ∧ st.proofs = (List.range s.1).map (authPathOf H s.2 s.1)

/-- **history_preserves_proofs**: from the empty range, after any valid history in which every
    proof is passed through the matching update routine, the accumulator is the from-scratch accumulator of the
    current leaf list and every leaf's proof is exactly its from-scratch authentication path (hence verifies, by
    `verify_accepts_auth_path`) -/
def history_preserves_proofs_statement : Prop :=
  ∀ (D : Type) [DecidableEq D] (H : D → D → D) (g0 : Nat → D) (ops : List (HOp D)), validHistory (0, g0) ops →
    ∃ st, HState.run H ⟨⟨0, []⟩, []⟩ ops = some st ∧ Honest H st (ops.foldl leavesStep (0, g0))

/-- **what is proved about `update_from_append`** (specification level): after an append, the from-scratch path of an
    old leaf is its old path extended by the sibling digests between its old peak and its new peak, and nothing else
    changes; the tree above a leaf never gets lower.  (That the routine computes exactly this extension from the old
    peaks and the new leaf is `update_from_append_spec`, proved above.) -/
theorem auth_path_after_append (g : Nat → D) (n i : Nat) (hlt : i < n) :
    (locate n i).1 ≤ (locate (n + 1) i).1 ∧
    authPathOf H g (n + 1) i = authPathOf H g n i ++
      sibPath H g (locate n i).1 ((locate (n + 1) i).1 - (locate n i).1) (i / 2 ^ (locate n i).1) :=
  authPathOf_append H g n i hlt
example : (3 : Nat) < 5 := by decide

/-- **what is proved about `update_from_leaf_mutation`**: the mutated leaf's own path does not change (so the supplied
    `membership_proof` is valid before and after, as the Rust doc comment claims), and a proof is untouched by
    mutations of leafs it does not cover: paths of leafs of other trees... are determined by the leaves of their own tree. -/
theorem auth_path_locality (g g' : Nat → D) (n i j : Nat) (d : D) (hlt : i < n) :
    authPathOf H (Function.update g j d) n j = authPathOf H g n j ∧
    ((∀ k < n, g k = g' k) → authPathOf H g n i = authPathOf H g' n i) :=
  ⟨authPathOf_update_self H g n j d, authPathOf_congr H g g' n i hlt⟩

/-- **one append keeps every tracked proof exact** (no assumption): from the from-scratch state of `n` leaves, the step
    "pass every tracked proof through `update_from_append`, then `append`" yields the from-scratch state of `n+1` leaves -/
theorem append_step_honest (g : Nat → D) (n : Nat) (d : D) (hop : n + 1 < 2 ^ 63) :
    ∃ st1, HState.step H ⟨⟨n, peaks H n g⟩, (List.range n).map (authPathOf H g n)⟩ (.append d) = some st1 ∧
      Honest H st1 (leavesStep (n, g) (.append d)) := by
  have hg' : ∀ j < n, g j = Function.update g n d j := fun j hj => by
    rw [Function.update_of_ne (by omega)]
  have hpk : peaks H n g = peaks H n (Function.update g n d) := peaks_congr H n _ _ hg'
  have hd : d = Function.update g n d n := by simp
  have happ := append_spec H n (Function.update g n d) (by omega)
  have hup : ∀ k < n, updateFromAppend H (authPathOf H g n k) k n d (peaks H n g)
      = some (authPathOf H (Function.update g n d) (n + 1) k,
          decide (authPathOf H (Function.update g n d) (n + 1) k ≠ authPathOf H (Function.update g n d) n k)) := by
    intro k hk
    have := update_from_append_spec H (Function.update g n d) n k hk hop
    rw [← hpk, ← hd, ← authPathOf_congr H g _ n k hk hg'] at this
    rw [this, ← authPathOf_congr H g _ n k hk hg']
  rw [← hpk, ← hd] at happ
  have hmap : mapIdxM (fun i p => (updateFromAppend H p i n d (peaks H n g)).map (·.1))
        ((List.range n).map (authPathOf H g n)) 0
      = some ((List.range' 0 n).map (authPathOf H (Function.update g n d) (n + 1))) := by
    rw [List.range_eq_range']
    apply mapIdxM_spec
    intro k _ hk
    rw [hup k (by omega)]; rfl
  refine ⟨⟨⟨n + 1, peaks H (n + 1) (Function.update g n d)⟩,
    (List.range' 0 n).map (authPathOf H (Function.update g n d) (n + 1))
      ++ [authPathOf H (Function.update g n d) (n + 1) n]⟩, ?_, ⟨rfl, ?_⟩⟩
  · unfold HState.step; simp only [hmap, Option.bind_some, happ]
  · simp only [leavesStep]
    rw [List.range_succ, List.map_append, List.range_eq_range']
    rfl
example : (HState.step (fun a b : Nat => a + 2 * b) ⟨⟨3, [5, 3]⟩, [[2], [1], []]⟩ (.append 4)).map
      (fun st => (st.acc.count, st.acc.peaks, st.proofs))
    = some (4, [27], [[2, 11], [1, 11], [4, 5], [3, 5]]) := by decide +kernel

/-- **append-only histories keep every tracked proof exact** (no assumption): from the empty range, after appending any
    list of fewer than `2^63` leaves with every tracked proof passed through `update_from_append` at every step, the
    accumulator is the from-scratch accumulator and every leaf's proof is exactly its from-scratch authentication path -/
theorem append_history_preserves_proofs (g0 : Nat → D) (ds : List D) (hlen : ds.length < 2 ^ 63) :
    ∃ st, HState.run H ⟨⟨0, []⟩, []⟩ (ds.map .append) = some st ∧
      Honest H st ((ds.map HOp.append).foldl leavesStep (0, g0)) := by
  suffices hgen : ∀ (ds : List D) (s : Nat × (Nat → D)) (st : HState D), s.1 + ds.length < 2 ^ 63 → Honest H st s →
      ∃ st', HState.run H st (ds.map .append) = some st' ∧
        Honest H st' ((ds.map HOp.append).foldl leavesStep s) from
    hgen ds (0, g0) ⟨⟨0, []⟩, []⟩ (by simpa using hlen) ⟨by simp [peaks_zero], by simp⟩
  intro ds
  induction ds with
  | nil => intro s st _ hh; exact ⟨st, rfl, hh⟩
  | cons d ds ih =>
    intro s st hs hh
    obtain ⟨n, g⟩ := s
    obtain ⟨hacc, hpr⟩ := hh
    obtain ⟨acc, proofs⟩ := st
    simp only [List.length_cons] at hs hacc hpr
    subst hacc; subst hpr
    obtain ⟨st1, h1, hh1⟩ := append_step_honest H g n d (by omega)
    obtain ⟨st', h2, hh2⟩ := ih (leavesStep (n, g) (.append d)) st1 (by simp only [leavesStep]; omega) hh1
    exact ⟨st', by rw [List.map_cons, HState.run, h1, Option.bind_some, h2], hh2⟩
example : (HState.run (fun a b : Nat => a + 2 * b) ⟨⟨0, []⟩, []⟩ ([1, 2, 3, 4].map .append)).map
      (fun st => (st.acc.count, st.acc.peaks, st.proofs))
    = some (4, [27], [[2, 11], [1, 11], [4, 5], [3, 5]]) := by decide +kernel

/-- **history_preserves_proofs, reduced to the per-routine mutation statements**: the induction over the operation list.
    Given the specifications of `update_from_leaf_mutation` and `batch_mutate_leaf_and_update_mps` (the append step needs
    no assumption: `update_from_append_spec`, `append_returns_auth_path`), every valid history from the empty range keeps
    the accumulator and every tracked proof equal to the from-scratch ones.  In particular every history that consists
    of appends only is covered unconditionally (`append_history_preserves_proofs`). -/
theorem history_preserves_proofs_reduction
    (hB : batch_mutate_leaf_and_update_mps_spec_statement) : history_preserves_proofs_statement := by
  have hM := update_from_leaf_mutation_spec
  intro D _ H g0 ops
  -- generalise the start: any honest state below 2^63 leafs
  suffices hgen : ∀ (ops : List (HOp D)) (s : Nat × (Nat → D)) (st : HState D), s.1 < 2 ^ 63 → Honest H st s →
      validHistory s ops → ∃ st', HState.run H st ops = some st' ∧ Honest H st' (ops.foldl leavesStep s) by
    intro hv
    exact hgen ops (0, g0) ⟨⟨0, []⟩, []⟩ (by simp) ⟨by simp [peaks_zero], by simp⟩ hv
  intro ops
  induction ops with
  | nil => intro s st _ hh _; exact ⟨st, rfl, hh⟩
  | cons op ops ih =>
    intro s st hs hh hv
    obtain ⟨n, g⟩ := s
    obtain ⟨hacc, hpr⟩ := hh
    obtain ⟨hop, hrest⟩ := hv
    obtain ⟨acc, proofs⟩ := st
    simp only at hs hacc hpr
    subst hacc; subst hpr
    have hn64 : n < 2 ^ 64 := by omega
    -- one step
    have hstep : ∃ st1, HState.step H ⟨⟨n, peaks H n g⟩, (List.range n).map (authPathOf H g n)⟩ op = some st1 ∧ Honest H st1 (leavesStep (n, g) op) ∧ (leavesStep (n, g) op).1 < 2 ^ 63 := by
      cases op with
      | append d =>
        simp only at hop
        obtain ⟨st1, h1, h2⟩ := append_step_honest H g n d hop
        exact ⟨st1, h1, h2, hop⟩
      | mutate i d =>
        simp only at hop
        have hpi : ((List.range n).map (authPathOf H g n))[i]? = some (authPathOf H g n i) :=
          range_map_getElem? _ n i hop
        have hmap : mapIdxM (fun k p => (updateFromLeafMutation H p k
              { leaf_index := i, new_leaf := d, path := authPathOf H g n i }).map (·.1))
              ((List.range n).map (authPathOf H g n)) 0
            = some ((List.range' 0 n).map (authPathOf H (Function.update g i d) n)) := by
          rw [List.range_eq_range']
          apply mapIdxM_spec
          intro k _ hk
          obtain ⟨b, hb, _⟩ := hM D H g n k i d (by omega) hop hs
          rw [hb]; rfl
        refine ⟨⟨⟨n, peaks H n (Function.update g i d)⟩,
          (List.range' 0 n).map (authPathOf H (Function.update g i d) n)⟩, ?_, ⟨rfl, ?_⟩, hs⟩
        · unfold HState.step; simp only [hpi, Option.bind_some, hmap, mutateLeaf_spec H g n i d hop hn64]
        · simp only [leavesStep]; rw [List.range_eq_range']
      | batch ms =>
        simp only at hop
        obtain ⟨hin, hnd⟩ := hop
        have hlms : ms.mapM (fun m => (((List.range n).map (authPathOf H g n))[m.1]?).map
              (fun pi => ({ leaf_index := m.1, new_leaf := m.2, path := pi } : LeafMutation D)))
            = some (ms.map fun m => ⟨m.1, m.2, authPathOf H g n m.1⟩) := by
          clear hnd hrest
          induction ms with
          | nil => rfl
          | cons m ms ihm =>
            rw [List.mapM_cons, range_map_getElem? _ n m.1 (hin m (by simp)),
              ihm (fun x hx => hin x (by simp [hx]))]
            rfl
        have hlen : ((List.range n).map (authPathOf H g n)).length = n := by simp
        have hb := hB D H g n ms (List.range n) (fun i hi => List.mem_range.mp hi) hin hnd hs
        refine ⟨⟨⟨n, peaks H n (applyMuts g ms)⟩, (List.range n).map (authPathOf H (applyMuts g ms) n)⟩, ?_,
          ⟨rfl, rfl⟩, hs⟩
        unfold HState.step; simp only [hlms, Option.bind_some, hlen, hb]
    obtain ⟨st1, h1, hh1, hs1⟩ := hstep
    obtain ⟨st', h2, hh2⟩ := ih _ st1 hs1 hh1 hrest
    exact ⟨st', by rw [HState.run, h1, Option.bind_some, h2], hh2⟩

/-! ## node-index foundations of the update routines

`nodeIdx l j = (j+1)·2^(l+1) − 1 − popCount j` is the post-order node index of the root of the aligned block `j` of
`2^l` leaves.  The update routines find the digests to replace through these indices. -/

/-- `right_lineage_length_and_own_height` (the binary search from the leftmost ancestor) returns, for the node `(l, j)`,
    the number of trailing one bits of `j` and the height `l` — for every node index below `2^64`; it never runs out
    of its 65 rounds. -/
theorem right_lineage_length_and_own_height_exact (l j : Nat) (h : nodeIdx l j < 2 ^ 64) :
    TF.Model.Mmr.right_lineage_length_and_own_height (nodeIdx l j) = some (TF.trailingOnes j, l) := rll_spec l j h
example : nodeIdx 2 1 < 2 ^ 64 := by decide +kernel

/-- distinct nodes have distinct indices: a digest stored under a node index belongs to exactly one node -/
theorem node_numbering_injective (l j l' j' : Nat) (h : nodeIdx l j < 2 ^ 64) (he : nodeIdx l j = nodeIdx l' j') :
    l = l' ∧ j = j' := nodeIdx_inj l j l' j' h he

/-- `parent`: the parent of the node `(l, j)` is `(l+1, j/2)` -/
theorem parent_exact (l j : Nat) (hl : l < 63) (h : nodeIdx (l + 1) (j / 2) < 2 ^ 64) :
    TF.Model.Mmr.parent (nodeIdx l j) = some (nodeIdx (l + 1) (j / 2)) := parent_spec l j hl h

/-- `MmrMembershipProof::get_node_indices`: the `t`-th digest of a proof of leaf `i` is looked up under the index of
    the sibling block of `i`'s ancestor at level `t` -/
theorem proof_node_indices_exact (i len : Nat) (hi : i < 2 ^ 63) (hlen : len ≤ 63)
    (h : nodeIdx len (i / 2 ^ len) < 2 ^ 64) :
    TF.Model.Mmr.get_node_indices i len = some ((List.range len).map (fun t => nodeIdx t (sibBlk (i / 2 ^ t)))) :=
  get_node_indices_spec i len hi hlen h

/-- `get_direct_path_indices`: the nodes whose digests a leaf mutation changes are the ancestors `(t, i / 2^t)` -/
theorem direct_path_indices_exact (i len : Nat) (hi : i < 2 ^ 63) (hlen : len ≤ 63)
    (h : nodeIdx len (i / 2 ^ len) < 2 ^ 64) :
    TF.Model.Mmr.get_direct_path_indices i len = some ((List.range (len + 1)).map (fun t => nodeIdx t (i / 2 ^ t))) :=
  get_direct_path_indices_spec i len hi hlen h

/-! ## the batch mutation routine of the accumulator (`TF/Proofs/MmrBatchMutate.lean`) -/

/-- **`MmrAccumulator::batch_mutate_leaf_and_update_mps`** (`batch_mutate_leaf_and_update_mps_spec_statement`, proved):
    on the from-scratch accumulator of `n < 2^63` leaves, for any batch of mutations of distinct in-range leafs in any
    order, each carrying the from-scratch path it had *before* the batch, and any in-range tracked leafs with their
    from-scratch paths, the routine does not panic, the accumulator becomes the from-scratch accumulator of the mutated
    leaf list, every tracked path becomes the from-scratch path of its leaf in the mutated list (hence verifies, by
    `verify_accepts_auth_path`), and the reported indices are exactly the tracked proofs whose digests changed.
    (Invariant of the loop: the map `new_ap_digests` holds, for every non-peak ancestor block of an already mutated
    leaf, that block's root in the current leaf list, and nothing else.) -/
theorem batch_mutate_leaf_and_update_mps_spec : batch_mutate_leaf_and_update_mps_spec_statement := by
  intro D _ H g n ms lis hlis hms hnd hn
  exact batchMutateLeafAndUpdateMps_spec H g n ms lis hlis hms hnd hn
example : ([(0, 7), (2, 9)] : List (Nat × Nat)).map (·.1) |>.Nodup := by decide

/-- **history_preserves_proofs** (the property's main statement): from the empty range, after ANY valid
    history of appends, single-leaf mutations and batch mutations (below `2^63` leafs; batches mutate distinct existing
    leafs, in any order) in which every tracked proof is passed through the matching update routine, no routine panics,
    the accumulator is the from-scratch accumulator of the current leaf list and every leaf's proof is exactly its
    from-scratch authentication path — hence verifies against the new peaks (`verify_accepts_auth_path`).  Induction over
    the operation list (`history_preserves_proofs_reduction`) on top of `update_from_append_spec`,
    `update_from_leaf_mutation_spec` and `batch_mutate_leaf_and_update_mps_spec`. -/
theorem history_preserves_proofs : history_preserves_proofs_statement :=
  history_preserves_proofs_reduction batch_mutate_leaf_and_update_mps_spec
example : validHistory (D := Nat) (0, fun _ => 0)
    [.append 1, .append 2, .append 3, .mutate 1 7, .batch [(2, 9), (0, 4)], .append 5] := by
  simp [validHistory, leavesStep]


/-! ## regenerated-from-source bridge

`MmrMembershipProof::{verify, get_node_indices, get_direct_path_indices, get_peak_index_and_height}`
(`mmr_membership_proof.rs`) are regenerated from the source text on every run into `TF/Gen/MmrProofLoops.lean`
(`tools/rs2lean_mmr.py`): digests opaque (`D`), `Tip5::hash_pair` the parameter `H`, `d0` the value read after a panic
(the `_ok` twin is false there), a membership proof = its field `authentication_path`; the index functions they call are
the regenerated ones of `TF/Gen/MmrIndex.lean` / `TF/Gen/MmrLoops.lean`.  `outcome ok v = if ok then v else none` turns the
pair (`_ok` flag, value) into the hand model's convention (`none` = panic).  Proofs: `TF/Proofs/GenBridgeMmrProof.lean`. -/
section GenBridge
open TF.GenBridge.MmrPeaks (outcome outcome_eq_some)
open TF.Gen.Loops (mmrmp_verify mmrmp_verify_ok mmrmp_get_node_indices mmrmp_get_direct_path_indices
  mmrmp_get_peak_index_and_height)

/-- regenerated `MmrMembershipProof::verify` (bounds check, `peaks.len().try_into::<u32>().unwrap()`, peak-count check,
    path-length check `mt_index.ilog2() != len`, the `while mt_index != 1` fold indexing the path, `peaks[peak_index]`,
    the final comparison) = hand model; every `H`, every path / index / leaf / peak list, every `u64` leaf count -/
theorem gen_member_verify_eq_model (d0 : D) (path : List D) (i : Nat) (leaf : D) (pks : List D) (n : Nat)
    (hn : n < 2 ^ 64) (hap : path.length < 2 ^ 64) :
    outcome (mmrmp_verify_ok H d0 path i leaf pks n) (mmrmp_verify H d0 path i leaf pks n)
      = memberVerify H path i leaf pks n :=
  TF.GenBridge.MmrProof.gen_member_verify_eq H d0 path i leaf pks n hn hap
/-- non-vacuity: an accepted claim (leaf 1 of 3, path `[1]`), a rejected one (path too long: the `!=` of the path-length
    check), one that would index past the path if the length check were weakened to `>` (path too short) -/
example : let H := fun a b : Nat => a * 10 + b
    mmrmp_verify H 0 [1] 1 7 [17, 3] 3 = some true ∧ mmrmp_verify_ok H 0 [1] 1 7 [17, 3] 3 = true ∧
    mmrmp_verify H 0 [1, 1] 1 7 [17, 3] 3 = some false ∧ mmrmp_verify H 0 [] 1 7 [17, 3] 3 = some false ∧
    mmrmp_verify_ok H 0 [] 1 7 [17, 3] 3 = true ∧
    memberVerify H [] 1 7 [17, 3] 3 = some false := by decide +kernel

/-- regenerated `get_node_indices`, `get_direct_path_indices`, `get_peak_index_and_height` = hand models, every input
    (the index functions they call are the regenerated `leaf_index_to_node_index`, `right_lineage_length_and_own_height`,
    `left_sibling`, `right_sibling`, `parent`; release arithmetic on both sides; `last().unwrap()` on an empty vector is
    a panic) -/
theorem gen_member_index_helpers_eq_model (d0 : D) (path : List D) (li : Nat) :
    mmrmp_get_node_indices H d0 path li = TF.Model.Mmr.get_node_indices li path.length ∧
    mmrmp_get_direct_path_indices H d0 path li = TF.Model.Mmr.get_direct_path_indices li path.length ∧
    outcome ((mmrmp_get_direct_path_indices H d0 path li).elim true fun l => !l.isEmpty)
        (mmrmp_get_peak_index_and_height H d0 path li) = getPeakIndexAndHeight path li :=
  ⟨TF.GenBridge.MmrProof.gen_get_node_indices_eq H d0 path li,
   TF.GenBridge.MmrProof.gen_get_direct_path_indices_eq H d0 path li,
   TF.GenBridge.MmrProof.gen_get_peak_index_and_height_eq H d0 path li⟩
example : mmrmp_get_node_indices (fun a b : Nat => a + b) 0 [0, 0] 2 = some [5, 3] ∧
    mmrmp_get_direct_path_indices (fun a b : Nat => a + b) 0 [0, 0] 2 = some [4, 6, 7] ∧
    mmrmp_get_peak_index_and_height (fun a b : Nat => a + b) 0 [0, 0] 2 = some (7, 2) := by decide +kernel

/-- **transfer** of `verify_iff` and `verify_total` to the code as it is in the source now: for every `u64` leaf count,
    every peak list shorter than 2^32 and every path, the regenerated `verify` does not panic (its `_ok` flag is true),
    terminates within its fuel, and answers `true` exactly when the index is in range, the number of peaks matches, the
    path length is the height of the leaf's tree and the fold of the leaf up the path is the covering peak -/
theorem gen_verify_transfer (d0 : D) (path : List D) (i : Nat) (leaf : D) (pks : List D) (n : Nat) (hn : n < 2 ^ 64)
    (hlen : pks.length < 2 ^ 32) (hap : path.length < 2 ^ 64) :
    mmrmp_verify_ok H d0 path i leaf pks n = true ∧
    (∃ b, mmrmp_verify H d0 path i leaf pks n = some b) ∧
    (mmrmp_verify H d0 path i leaf pks n = some true ↔
      i < n ∧ pks.length = TF.popCount n ∧ path.length = (locate n i).1 ∧
      pks[(locate n i).2.2]? = some (foldBlk H i leaf path)) := by
  have hg := gen_member_verify_eq_model H d0 path i leaf pks n hn hap
  obtain ⟨b, hb⟩ := verify_total H path i leaf pks n hn hlen
  rw [hb] at hg
  obtain ⟨h1, h2⟩ := outcome_eq_some hg
  refine ⟨h1, ⟨b, h2⟩, ?_⟩
  rw [← verify_iff H path i leaf pks n hn hlen, hb, h2]
example : (18446744073709551615 : Nat) < 2 ^ 64 ∧ ([] : List Nat).length < 2 ^ 32 := by decide

end GenBridge

end TF.C05
