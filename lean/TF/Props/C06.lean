import TF.Proofs.NttFinal
import TF.Proofs.GenBridgeNtt2
/-!
# C06 — NTT is the discrete Fourier transform over the field; INTT is its inverse

Property theorems only (helper lemmas live in `TF/Proofs/Ntt*.lean` and `TF/Proofs/GenBridgeNtt*.lean`).

* `TF.Gen.PRIMITIVE_ROOTS` is **regenerated from `b_field_element.rs`** on every run; the table theorems are
  re-checked against what the source says now.
* `TF.Model.Ntt.*` is the hand-written executable model of `ntt.rs` (swap loop + one `Array.ofFn` pass per butterfly
  stage), generic over a record of ring operations `Ops σ α`; it is tied to the Rust code by the correspondence family
  `ntt` (base field and extension field).  Three instances occur:
  `ringOps R inv inv0` — the operations of an arbitrary commutative ring `R` (the general theorems);
  `bOps` — canonical values `< P` with the integer arithmetic of `TF/Spec/Field.lean` (what the driver runs for `b`);
  `xOps` — triples of canonical values (what the driver runs for `x`).
  `Nat.cast : bOps → ZMod P` and the coordinate projections `xOps → bOps` commute with all operations, so the general
  theorems transfer to the executable instances (`TF/Proofs/NttHom.lean`, `NttField.lean`).

Notation: `toFn x i` is `x[i]` (0 outside); `zvec x i` is `x[i]` read in `ZMod P`;
`dft n ω f i = Σ_{j<n} f j · ω^(j·i)`; `bitrev L i` reverses the low `L` bits of `i`; `none` is a panic.
-/
namespace TF.C06
open TF.Gen TF.Model.Ntt TF.NttFn TF.NttProofs TF.Spec

/-! ## the root table -/

/-- Every entry `(n, r)` of the translated root table: `n = 0, r = 1`, or `n = 2^k` with `k ≤ 32`, `r` canonical,
    `r = 1` for `n = 1` and `r^(n/2) ≡ -1 (mod P)` for `n ≥ 2` (whole table decided by the kernel). -/
theorem primitive_roots_table (n r : Nat) (h : (n, r) ∈ PRIMITIVE_ROOTS) :
    (n = 0 ∧ r = 1) ∨ ∃ k, k ≤ 32 ∧ n = 2^k ∧ r < P ∧ (if k = 0 then r = 1 else r^(2^(k-1)) % P = P - 1) :=
  table_entries n r h
example : (4294967296, 1753635133440165772) ∈ PRIMITIVE_ROOTS := by decide

/-- Every tabulated root for `n ≥ 1` has multiplicative order exactly `n` in `ZMod P`. -/
theorem primitive_roots_order (n r : Nat) (h : (n, r) ∈ PRIMITIVE_ROOTS) (hn : 0 < n) :
    orderOf ((r : ℕ) : ZMod P) = n := by
  rcases table_entries n r h with ⟨h0, _⟩ | ⟨k, _, hk, _, hr⟩
  · omega
  · subst hk
    by_cases hk0 : k = 0
    · subst hk0; simp at hr; subst hr; simp
    · simp only [hk0, if_false] at hr
      exact orderOf_of_half_pow _ k (by omega) (cast_pow_eq_neg_one r _ hr)
example : (2, 18446744069414584320) ∈ PRIMITIVE_ROOTS ∧ 0 < 2 := by decide

/-- `primitive_root_of_unity(2^L)` is `Some` for every `L ≤ 32` (and for 0), and only table entries are returned. -/
theorem primitive_root_defined (L : Nat) (hL : L ≤ 32) :
    ∃ r, primitiveRoot (2^L) = some r ∧ 0 < r ∧ r < P ∧ (if L = 0 then r = 1 else r^(2^(L-1)) % P = P - 1) :=
  primitiveRoot_pow2 L hL
theorem primitive_root_is_entry (n r : Nat) (h : primitiveRoot n = some r) : (n, r) ∈ PRIMITIVE_ROOTS :=
  primitiveRoot_mem n r h
example : primitiveRoot 8 = some 18446744069397807105 ∧ primitiveRoot 0 = some 1 ∧ primitiveRoot 3 = none := by decide

/-! ## the transforms over an arbitrary commutative ring -/

/-- **NTT = DFT.**  For every `L`, every commutative ring `R`, every `ω` with `ω^(2^(L-1)) = -1` (for `L ≥ 1`) and
    every vector `x` of length `2^L`: `ntt_unchecked` (bit-reversal swap loop followed by `L` butterfly stages) does
    not panic and returns `y` with `y[i] = Σ_j x[j]·ω^(j·i)`. -/
theorem ntt_unchecked_eq_dft {R : Type} [CommRing R] (inv : R → Option R) (inv0 : R → R)
    (L : Nat) (ω : R) (hω : 0 < L → ω^(2^(L-1)) = -1) (x : Array R) (hx : x.size = 2^L) :
    ∃ y, nttUnchecked (ringOps R inv inv0) x ω L = some y ∧ y.size = 2^L ∧
      ∀ i, i < 2^L → toFn y i = dft (2^L) ω (toFn x) i :=
  nttUnchecked_eq_dft inv inv0 L ω hω x hx
example : (0 < 1 → ((-1 : ℤ))^(2^(1-1)) = -1) ∧ (#[3, 5] : Array ℤ).size = 2^1 := by decide

/-- `ntt` with any root table: for a length `2^L`, `L ≤ 31`, it looks the root up and returns the DFT. -/
theorem ntt_eq_dft {R : Type} [CommRing R] (inv : R → Option R) (inv0 : R → R) (root : Nat → Option R)
    (L : Nat) (hL : L ≤ 31) (ω : R) (hr : root (2^L) = some ω) (hω : 0 < L → ω^(2^(L-1)) = -1)
    (x : Array R) (hx : x.size = 2^L) :
    ∃ y, ntt (ringOps R inv inv0) root x = some y ∧ y.size = 2^L ∧
      ∀ i, i < 2^L → toFn y i = dft (2^L) ω (toFn x) i :=
  ntt_eq_dft_model inv inv0 root L hL ω hr hω x hx
example : (2 : ℕ) ≤ 31 ∧ (0 < 2 → ((2 : ZMod 5))^(2^(2-1)) = -1) := by decide

/-- `intt` is the DFT with the inverse root, scaled by `inverse_or_zero(n)`. -/
theorem intt_eq_inverse_dft {R : Type} [CommRing R] (inv : R → Option R) (inv0 : R → R) (root : Nat → Option R)
    (L : Nat) (hL : L ≤ 31) (ω ωi : R) (hr : root (2^L) = some ω) (hi : inv ω = some ωi) (hinv : ωi * ω = 1)
    (hω : 0 < L → ω^(2^(L-1)) = -1) (x : Array R) (hx : x.size = 2^L) :
    ∃ y, intt (ringOps R inv inv0) root x = some y ∧ y.size = 2^L ∧
      ∀ i, i < 2^L → toFn y i = inv0 ((2^L : ℕ) : R) * dft (2^L) ωi (toFn x) i :=
  intt_eq_dft_model inv inv0 root L hL ω ωi hr hi hinv hω x hx
example : (3 : ZMod 5) * 2 = 1 := by decide

/-- **INTT inverts NTT** over every commutative ring in which `ω` and `n` are invertible (orthogonality of the powers
    of `ω` needs only `ω^(n/2) = -1`, no field or domain hypothesis). -/
theorem intt_ntt {R : Type} [CommRing R] (inv : R → Option R) (inv0 : R → R) (root : Nat → Option R)
    (L : Nat) (hL : L ≤ 31) (ω ωi : R) (hr : root (2^L) = some ω) (hi : inv ω = some ωi) (hinv : ωi * ω = 1)
    (hn : inv0 ((2^L : ℕ) : R) * ((2^L : ℕ) : R) = 1) (hω : 0 < L → ω^(2^(L-1)) = -1)
    (x : Array R) (hx : x.size = 2^L) :
    ∃ y, ntt (ringOps R inv inv0) root x = some y ∧ intt (ringOps R inv inv0) root y = some x :=
  intt_ntt_model inv inv0 root L hL ω ωi hr hi hinv hn hω x hx
example : (3 : ZMod 5) * 2 = 1 ∧ (4 : ZMod 5) * ((2^2 : ℕ) : ZMod 5) = 1 ∧ ((2 : ZMod 5))^(2^(2-1)) = -1 := by decide

/-- **NTT inverts INTT**, same generality. -/
theorem ntt_intt {R : Type} [CommRing R] (inv : R → Option R) (inv0 : R → R) (root : Nat → Option R)
    (L : Nat) (hL : L ≤ 31) (ω ωi : R) (hr : root (2^L) = some ω) (hi : inv ω = some ωi) (hinv : ωi * ω = 1)
    (hn : inv0 ((2^L : ℕ) : R) * ((2^L : ℕ) : R) = 1) (hω : 0 < L → ω^(2^(L-1)) = -1)
    (x : Array R) (hx : x.size = 2^L) :
    ∃ y, intt (ringOps R inv inv0) root x = some y ∧ ntt (ringOps R inv inv0) root y = some x :=
  ntt_intt_model inv inv0 root L hL ω ωi hr hi hinv hn hω x hx
example : (3 : ZMod 5) * 2 = 1 ∧ (4 : ZMod 5) * ((2^2 : ℕ) : ZMod 5) = 1 := by decide

/-- `ntt_noswap` returns the same DFT in bit-reversed order: `y[i] = DFT(x)[bitrev i]`. -/
theorem ntt_noswap_eq_dft_bitreversed {R : Type} [CommRing R] (inv : R → Option R) (inv0 : R → R)
    (root : Nat → Option R) (L : Nat) (ω : R) (hr : root (2^L) = some ω) (hω : 0 < L → ω^(2^(L-1)) = -1)
    (x : Array R) (hx : x.size = 2^L) :
    ∃ y, nttNoswap (ringOps R inv inv0) root x = some y ∧ y.size = 2^L ∧
      ∀ i, i < 2^L → toFn y i = dft (2^L) ω (toFn x) (bitrev L i) :=
  nttNoswap_eq_dft inv inv0 root L ω hr hω x hx
example : bitrev 3 1 = 4 ∧ bitrev 3 6 = 3 := by decide

/-- `intt_noswap ∘ ntt_noswap = n · id` (the documented scaling; `unscale` removes the factor). -/
theorem intt_noswap_ntt_noswap {R : Type} [CommRing R] (inv : R → Option R) (inv0 : R → R)
    (root : Nat → Option R) (L : Nat) (ω ωi : R) (hr : root (2^L) = some ω) (hi : inv ω = some ωi)
    (hinv : ωi * ω = 1) (hω : 0 < L → ω^(2^(L-1)) = -1) (x : Array R) (hx : x.size = 2^L) :
    ∃ y z, nttNoswap (ringOps R inv inv0) root x = some y ∧ inttNoswap (ringOps R inv inv0) root y = some z ∧
      z.size = 2^L ∧ ∀ i, i < 2^L → toFn z i = ((2^L : ℕ) : R) * toFn x i :=
  inttNoswap_nttNoswap_model inv inv0 root L ω ωi hr hi hinv hω x hx
example : (3 : ZMod 5) * 2 = 1 := by decide

/-- `bitreverse_order` on a length `2^L` is the bit-reversal permutation (which is an involution). -/
theorem bitreverse_order_spec {α : Type} (L : Nat) (x : Array α) (hx : x.size = 2^L) :
    (∃ b, bitreverseOrder x = some b ∧ b.size = 2^L ∧ ∀ i, i < 2^L → b[i]? = x[bitrev L i]?) ∧
    (∀ i, i < 2^L → bitrev L i < 2^L ∧ bitrev L (bitrev L i) = i) :=
  ⟨bitreverseOrder_spec L x hx, fun i hi => ⟨bitrev_lt L i, bitrev_involutive L i hi⟩⟩
example : bitreverseOrder #[10, 11, 12, 13] = some #[10, 12, 11, 13] := by decide

/-- For any operations: `intt x = unscale (intt_noswap (bitreverse_order x))`, provided `inverse` and
    `inverse_or_zero` agree on the length (they do whenever `n ≠ 0` in the field). -/
theorem intt_eq_unscale_intt_noswap_bitreverse {σ α : Type} (ops : Ops σ α) (root : Nat → Option σ)
    (L : Nat) (hL : L ≤ 31) (ω ωi ninv : σ) (hr : root (2^L) = some ω) (hi : ops.sinv ω = some ωi)
    (hn : ops.sinv (ops.sofNat (2^L)) = some ninv) (hn0 : ops.sinv0 (ops.sofNat (2^L)) = ninv)
    (x : Array α) (hx : x.size = 2^L) :
    ∃ b c, bitreverseOrder x = some b ∧ inttNoswap ops root b = some c ∧ intt ops root x = unscale ops c :=
  intt_via_noswap ops root L hL ω ωi ninv hr hi hn hn0 x hx
example : bOps.sinv (bOps.sofNat (2^1)) = some (finv 2) ∧ bOps.sinv0 (bOps.sofNat (2^1)) = finv 2 := by
  constructor <;> rfl

/-- `ntt` and `intt` panic on every length that is not 0 or a power of two `≤ 2^31` (any operations, any table). -/
theorem ntt_intt_reject_other_lengths {σ α : Type} (ops : Ops σ α) (root : Nat → Option σ) (x : Array α)
    (h : ¬ (x.size = 0 ∨ ∃ k, k ≤ 31 ∧ x.size = 2^k)) : ntt ops root x = none ∧ intt ops root x = none :=
  ntt_rejects ops root x h
example : ¬ ((#[1, 2, 3] : Array Nat).size = 0 ∨ ∃ k, k ≤ 31 ∧ (#[1, 2, 3] : Array Nat).size = 2^k) :=
  fun h => absurd ((admissible_iff 3).2 h).2 (by decide)

/-- The empty vector: every transform returns it unchanged; `unscale` panics (inverse of zero). -/
theorem empty_vector :
    ntt bOps primitiveRoot #[] = some #[] ∧ intt bOps primitiveRoot #[] = some #[] ∧
    nttNoswap bOps primitiveRoot #[] = some #[] ∧ inttNoswap bOps primitiveRoot #[] = some #[] ∧
    bitreverseOrder (#[] : Array Nat) = some #[] ∧ unscale bOps #[] = none := by
  refine ⟨by decide +kernel, by decide +kernel, by decide +kernel, by decide +kernel, by decide +kernel, by decide +kernel⟩

/-! ## the instances the driver runs: base field (canonical values) and extension field (triples) -/

/-- **Base field: `ntt` is the DFT in `ZMod P` at the powers of the tabulated root**, for every `L ≤ 31` and every
    vector of length `2^L`. -/
theorem ntt_b_is_dft (L : Nat) (hL : L ≤ 31) (x : Array Nat) (hx : x.size = 2^L) :
    ∃ r y, primitiveRoot (2^L) = some r ∧ ntt bOps primitiveRoot x = some y ∧ y.size = 2^L ∧
      ∀ i, i < 2^L → zvec y i = dft (2^L) ((r : ℕ) : ZMod P) (zvec x) i :=
  ntt_b_eq_dft L hL x hx
example : ntt bOps primitiveRoot #[1, 4, 0, 0] =
    some #[5, 1125899906842625, 18446744069414584318, 18445618169507741698] := by decide +kernel

/-- Base field: `intt` is `n⁻¹ ·` DFT at the powers of the inverse root. -/
theorem intt_b_is_inverse_dft (L : Nat) (hL : L ≤ 31) (x : Array Nat) (hx : x.size = 2^L) :
    ∃ r y, primitiveRoot (2^L) = some r ∧ intt bOps primitiveRoot x = some y ∧ y.size = 2^L ∧
      ∀ i, i < 2^L → zvec y i = ((2^L : ℕ) : ZMod P)⁻¹ * dft (2^L) (((r : ℕ) : ZMod P)⁻¹) (zvec x) i :=
  intt_b_eq_dft L hL x hx
example : intt bOps primitiveRoot #[5, 1125899906842625, 18446744069414584318, 18445618169507741698]
    = some #[1, 4, 0, 0] := by decide +kernel

/-- Base field: `intt (ntt x) = x` and `ntt (intt x) = x` as field elements. -/
theorem intt_ntt_b_roundtrip (L : Nat) (hL : L ≤ 31) (x : Array Nat) (hx : x.size = 2^L) :
    (∃ y z, ntt bOps primitiveRoot x = some y ∧ intt bOps primitiveRoot y = some z ∧ z.size = x.size ∧
      ∀ i, zvec z i = zvec x i) ∧
    (∃ y z, intt bOps primitiveRoot x = some y ∧ ntt bOps primitiveRoot y = some z ∧ z.size = x.size ∧
      ∀ i, zvec z i = zvec x i) :=
  ⟨intt_ntt_b L hL x hx, ntt_intt_b L hL x hx⟩
example : (#[7, 0, 3, 9] : Array Nat).size = 2^2 := by decide

/-- Base field: `ntt_noswap` is the DFT in bit-reversed order, `intt_noswap ∘ ntt_noswap = n·id`, and
    `intt = unscale ∘ intt_noswap ∘ bitreverse_order`. -/
theorem noswap_b (L : Nat) (hL : L ≤ 31) (x : Array Nat) (hx : x.size = 2^L) :
    (∃ r y, primitiveRoot (2^L) = some r ∧ nttNoswap bOps primitiveRoot x = some y ∧ y.size = 2^L ∧
      ∀ i, i < 2^L → zvec y i = dft (2^L) ((r : ℕ) : ZMod P) (zvec x) (bitrev L i)) ∧
    (∃ y z, nttNoswap bOps primitiveRoot x = some y ∧ inttNoswap bOps primitiveRoot y = some z ∧ z.size = 2^L ∧
      ∀ i, i < 2^L → zvec z i = ((2^L : ℕ) : ZMod P) * zvec x i) ∧
    (∃ b c, bitreverseOrder x = some b ∧ inttNoswap bOps primitiveRoot b = some c ∧
      intt bOps primitiveRoot x = unscale bOps c) :=
  ⟨nttNoswap_b_eq_dft L (by omega) x hx, inttNoswap_nttNoswap_b L (by omega) x hx, intt_via_noswap_b L hL x hx⟩
example : nttNoswap bOps primitiveRoot #[1, 4, 0, 0] =
    some #[5, 18446744069414584318, 1125899906842625, 18445618169507741698] := by decide +kernel

/-- Base field: on canonical input every function returns canonical values (`< P`), so together with the theorems
    above the outputs are determined as natural numbers, not only modulo `P`. -/
theorem outputs_canonical (x : Array Nat) (hx : Canon x) :
    (∀ y, ntt bOps primitiveRoot x = some y → Canon y) ∧
    (∀ y, intt bOps primitiveRoot x = some y → Canon y) ∧
    (∀ y, nttNoswap bOps primitiveRoot x = some y → Canon y) ∧
    (∀ y, inttNoswap bOps primitiveRoot x = some y → Canon y) ∧
    (∀ y, bitreverseOrder x = some y → Canon y) ∧
    (∀ y, unscale bOps x = some y → Canon y) :=
  transforms_canon x hx
example : Canon #[0, 1, 18446744069414584320] := by
  unfold Canon; decide

/-- **Extension field: every transform acts coordinatewise** (all twiddles are base-field scalars), so the four
    theorems above hold for each of the three coordinate vectors of an extension-field vector. -/
theorem x_transforms_coordinatewise (k : Nat) (x : Array X3) :
    (ntt xOps primitiveRoot x).map (Array.map (coord k)) = ntt bOps primitiveRoot (x.map (coord k)) ∧
    (intt xOps primitiveRoot x).map (Array.map (coord k)) = intt bOps primitiveRoot (x.map (coord k)) ∧
    (nttNoswap xOps primitiveRoot x).map (Array.map (coord k)) = nttNoswap bOps primitiveRoot (x.map (coord k)) ∧
    (inttNoswap xOps primitiveRoot x).map (Array.map (coord k)) = inttNoswap bOps primitiveRoot (x.map (coord k)) :=
  x_coordinatewise k x
example : coord 0 (1, 2, 3) = 1 ∧ coord 1 (1, 2, 3) = 2 ∧ coord 2 (1, 2, 3) = 3 := by decide

end TF.C06

/-! ## regenerated-from-source bridge (tools/rs2lean_ext.py, `TF/Gen/NttLoops.lean`)

**Every function of `ntt.rs`** — `bitreverse`, `bitreverse_usize`, `bitreverse_order`, `ntt_unchecked`, `intt_noswap`,
`ntt_noswap`, `unscale` and the wrappers `ntt`, `intt` — is **also regenerated from `ntt.rs` on every run**, with the field
operations as a parameter `ops : Ops σ α` (so one generated definition serves both fields; the driver evaluates it on
`bOps` and `xOps` next to the hand model and prints `GEN-MISMATCH` on a difference).
Proved here (loop by loop in `TF/Proofs/GenBridgeNtt.lean`, function by function in `GenBridgeNtt2.lean`), for every `ops`:

* the `u32` bit loop `bitreverse` = the model's `bitreverse`, never panics (`l ≤ 32`);
* the bit-reversal swap loop of `ntt_unchecked` (`for k in 0..len { rk = bitreverse(k, log); if k < rk { x.swap(rk, k) } }`)
  = the model's `swapLoop`, **including the panic** (`swap` out of bounds ⇔ `_ok = false`);
* the inner butterfly loops (`for j in 0..m`) of `ntt_unchecked` (indices computed in `u32` and cast) and of `intt_noswap`
  (`usize`) = the in-place reference pass `refBlock` with unbounded indices, with no index out of range and no index
  arithmetic overflowing, whenever the block `[k, k + 2m)` lies inside the slice.

* `gen_butterfly_block_pointwise`: the in-place inner loop, pointwise in terms of the slice before the loop (each index
  pair written once) — the block-level content of "in-place loop = functional stage".

* `gen_ntt_unchecked_eq_model`, `gen_intt_noswap_eq_model`, `gen_bitreverse_order_eq_model`: the composition over the
  `while k < len { ..; k += 2 * m }` block loop (invariant: blocks
  below `k` hold the stage formula of the slice before the stage, the rest is untouched; `#blocks + 1` evaluations of the
  loop head suffice), the identification of the result with the model's `stage` (`Array.ofFn`, twiddle table `powers` =
  repeated `w *= w_m`), the stage loop = `stagesLoop`, the `logn` loops = `ceilLog2`.  **The step from the in-place Rust
  loops to the functional stages is proved, not tied by correspondence.**  The statements have the form
  `(gen x).bind (fun r => if gen_ok x then some r else none) = (model x).map Array.toList`: the left side is `none` when the
  regenerated function runs out of fuel (never, that is part of what is proved) or when its `_ok` twin is false (an index
  out of range, an arithmetic overflow, an `unwrap` of `None` — a panic), the right side is `none` when the model panics. -/
namespace TF.C06
open TF.Gen TF.Model.Ntt

/-- regenerated `bitreverse` (u32 loop `r = (r << 1) | (n & 1); n >>= 1`) = hand model; the shift cannot overflow -/
theorem gen_bitreverse_eq_model (n l : Nat) (hl : l ≤ 32) :
    Loops.ntt_bitreverse n l = bitreverse n l ∧ Loops.ntt_bitreverse_ok n l = true :=
  TF.GenBridge.Ntt.gen_bitreverse_eq n l hl
example : Loops.ntt_bitreverse 6 3 = 3 ∧ Loops.ntt_bitreverse 1 32 = 2147483648 := by decide

/-- regenerated swap loop of `ntt_unchecked` = the model's `swapLoop` (value and panic), every `ops`, every array -/
theorem gen_swap_loop_eq_model {σ α : Type} (ops : Ops σ α) (log : Nat) (hl : log ≤ 32) (n k : Nat) (a : Array α) :
    (if Loops.ntt_unchecked_for_ok ops log n k a.toList then some (Loops.ntt_unchecked_for ops log n k a.toList) else none)
      = (swapLoop log n k a).map Array.toList :=
  TF.GenBridge.Ntt.unchecked_for_eq ops log hl n k a
example : Loops.ntt_unchecked_for bOps 2 4 0 [10, 11, 12, 13] = [10, 12, 11, 13] ∧
    Loops.ntt_unchecked_for_ok bOps 3 4 0 [10, 11, 12, 13] = false := by decide

/-- regenerated `bitreverse_usize` = hand model (`l ≤ 64`), and the swap loop of `bitreverse_order` = the model's `swapLoop`
    (value and panic) -/
theorem gen_bitreverse_order_loop_eq_model {σ α : Type} (ops : Ops σ α) (log : Nat) (hl : log ≤ 64) (n k : Nat) (a : Array α) :
    (Loops.ntt_bitreverse_usize n log = bitreverse n log ∧ Loops.ntt_bitreverse_usize_ok n log = true) ∧
    (if Loops.ntt_bitreverse_order_for2_ok ops log n k a.toList then some (Loops.ntt_bitreverse_order_for2 ops log n k a.toList)
      else none) = (swapLoop log n k a).map Array.toList :=
  ⟨TF.GenBridge.Ntt.gen_bitreverse_usize_eq n log hl, TF.GenBridge.Ntt.bitreverse_order_for2_eq ops log hl n k a⟩
example : Loops.ntt_bitreverse_usize 1 64 = 9223372036854775808 ∧
    Loops.ntt_bitreverse_order_for2 bOps 3 8 0 [0, 1, 2, 3, 4, 5, 6, 7] = [0, 4, 2, 6, 1, 5, 3, 7] := by decide +kernel

/-- regenerated inner butterfly loops = the in-place reference pass over one block; they cannot panic when the block is
    inside the slice -/
theorem gen_butterfly_block_eq {σ α : Type} (ops : Ops σ α) (root : Nat → Option σ) (m : Nat) (w_m : σ) (k n j : Nat)
    (x : List α) (w : σ) (hlen : k + j + n + m ≤ x.length) (hU : x.length < 4294967296) :
    (Loops.ntt_unchecked_for4 ops m w_m k n j x w = TF.GenBridge.Ntt.refBlock ops m w_m k n j x w ∧
      Loops.ntt_unchecked_for4_ok ops m w_m k n j x w = true) ∧
    (Loops.intt_noswap_for4 ops root m w_m k n j x w = TF.GenBridge.Ntt.refBlock ops m w_m k n j x w ∧
      Loops.intt_noswap_for4_ok ops root m w_m k n j x w = true) :=
  ⟨TF.GenBridge.Ntt.unchecked_for4_eq ops m w_m k n j x w hlen hU,
   TF.GenBridge.Ntt.intt_noswap_for4_eq ops root m w_m k n j x w hlen (by omega)⟩
example : (Loops.ntt_unchecked_for4 bOps 2 5 0 2 0 [1, 2, 3, 4] 1).1 = [4, 22, 18446744069414584319, 18446744069414584303] := by
  decide +kernel

/-- **the in-place butterfly loop of the source, pointwise**: after the regenerated `for j in 0..m` loop of `ntt_unchecked`
    over the block at `k` (started with twiddle `w`), position `k + j` holds `x[k+j] + w·w_mʲ · x[k+j+m]`, position
    `k + m + j` holds `x[k+j] - w·w_mʲ · x[k+j+m]` — in terms of the slice **before** the loop (each index pair is written
    exactly once, so the in-place update is the functional butterfly on the block) — everything outside the block is
    untouched, and nothing panics.  The same holds for `intt_noswap` (`gen_butterfly_block_eq`). -/
theorem gen_butterfly_block_pointwise {σ α : Type} (ops : Ops σ α) (m : Nat) (w_m : σ) (k : Nat) (x : List α) (w : σ)
    (hlen : k + 2 * m ≤ x.length) (hU : x.length < 4294967296) (idx : Nat) :
    Loops.ntt_unchecked_for4_ok ops m w_m k m 0 x w = true ∧
    (Loops.ntt_unchecked_for4 ops m w_m k m 0 x w).1[idx]? =
      if k ≤ idx ∧ idx < k + m then
        some (ops.add (x.getD idx ops.zero)
          (ops.scale (TF.GenBridge.Ntt.wp ops w_m w (idx - k)) (x.getD (idx + m) ops.zero)))
      else if k + m ≤ idx ∧ idx < k + m + m then
        some (ops.sub (x.getD (idx - m) ops.zero)
          (ops.scale (TF.GenBridge.Ntt.wp ops w_m w (idx - (k + m))) (x.getD idx ops.zero)))
      else x[idx]? := by
  obtain ⟨e, ok⟩ := TF.GenBridge.Ntt.unchecked_for4_eq ops m w_m k m 0 x w (by omega) hU
  refine ⟨ok, ?_⟩
  rw [e, TF.GenBridge.Ntt.refBlock_eq_pass]
  exact (TF.GenBridge.Bfly.pass_spec _ _ ops.zero m m k x (Nat.le_refl _) (by omega)).2 idx
example : TF.GenBridge.Ntt.wp bOps 5 1 2 = 25 := by decide

/-- **`ntt_unchecked` regenerated from source = the model** (bit-reversal swap loop, then one functional `Array.ofFn` pass
    per stage), for every `ops`, every `ω`, every `log ≤ 31` and every vector of length `2^log` (the only way `ntt`/`intt`
    call it, besides the empty slice): the regenerated function finishes within its fuel, panics exactly when the model
    does, and returns the model's result.  (`log = 32` is excluded because `x.len() as u32` is then `0`.) -/
theorem gen_ntt_unchecked_eq_model {σ α : Type} (ops : Ops σ α) (x : Array α) (omega : σ) (log : Nat) (hl : log ≤ 31)
    (hx : x.size = 2 ^ log) :
    (Loops.ntt_unchecked ops x.toList omega log).bind
        (fun r => if Loops.ntt_unchecked_ok ops x.toList omega log then some r else none)
      = (nttUnchecked ops x omega log).map Array.toList :=
  TF.GenBridge.Ntt.gen_ntt_unchecked_eq ops x omega log hl hx
example : Loops.ntt_unchecked bOps [1, 4, 0, 0] 281474976710656 2 =
    some [5, 1125899906842625, 18446744069414584318, 18445618169507741698] ∧
    Loops.ntt_unchecked_ok bOps [1, 4, 0, 0] 281474976710656 2 = true := by decide +kernel

/-- the empty slice: `ntt_unchecked(x, ω, 0)` does nothing on either side -/
theorem gen_ntt_unchecked_empty {σ α : Type} (ops : Ops σ α) (omega : σ) :
    Loops.ntt_unchecked ops ([] : List α) omega 0 = some [] ∧ Loops.ntt_unchecked_ok ops ([] : List α) omega 0 = true ∧
    nttUnchecked ops (#[] : Array α) omega 0 = some #[] :=
  TF.GenBridge.Ntt.gen_ntt_unchecked_empty ops omega
example : Loops.ntt_unchecked bOps [] 1 0 = some [] := by decide

/-- one stage of the source's in-place loops is the model's functional stage: after the regenerated block loop
    `while k < len { for j in 0..m { .. }; k += 2 * m }` over a slice of `B` blocks of size `2m` the slice is
    `stage ops m (powers ops w_m m) a` — within `B + 1` evaluations of the loop head, with no overflow -/
theorem gen_block_loop_eq_stage {σ α : Type} (ops : Ops σ α) (m : Nat) (hm : 0 < m) (w_m : σ) (a : Array α) (B : Nat)
    (hlen : a.size = B * (2 * m)) (hU : a.size < 4294967296) (fuel : Nat) (hf : B + 1 ≤ fuel) :
    Loops.ntt_unchecked_loop3 ops a.size m w_m fuel a.toList 0 = some ((stage ops m (powers ops w_m m) a).toList, a.size) ∧
    Loops.ntt_unchecked_loop3_ok ops a.size m w_m fuel a.toList 0 = true :=
  TF.GenBridge.Ntt.unchecked_loop3_eq ops m hm w_m a B hlen hU fuel hf
example : Loops.ntt_unchecked_loop3 bOps 4 1 1 3 [1, 2, 3, 4] 0 = some ([3, 18446744069414584320, 7, 18446744069414584320], 4) := by
  decide +kernel

/-- **`intt_noswap` regenerated from source = the model** for *every* vector, every `ops`, and every root look-up that is
    defined only on `0` and the powers of two up to `2^32` (as `BFieldElement::primitive_root_of_unity` is —
    `primitive_roots_table`): same panics (`unwrap` of a missing root on every other length, `inverse` of zero), finishes
    within its fuel, same values -/
theorem gen_intt_noswap_eq_model {σ α : Type} (ops : Ops σ α) (root : Nat → Option σ)
    (hroot : ∀ n, (root n).isSome = true → n = 0 ∨ ∃ L, L ≤ 32 ∧ n = 2 ^ L) (x : Array α) :
    (Loops.intt_noswap ops root x.toList).bind
        (fun r => if Loops.intt_noswap_ok ops root x.toList then some r else none)
      = (inttNoswap ops root x).map Array.toList :=
  TF.GenBridge.Ntt.gen_intt_noswap_of ops root x fun h => (hroot _ h).imp Array.eq_empty_of_size_eq_zero id
example : ∀ n, (primitiveRoot n).isSome = true → n = 0 ∨ ∃ L, L ≤ 32 ∧ n = 2 ^ L := by
  intro n h
  obtain ⟨r, hr⟩ := Option.isSome_iff_exists.mp h
  rcases primitive_roots_table n r (primitive_root_is_entry n r hr) with ⟨h0, _⟩ | ⟨k, hk, hn, _⟩
  · exact Or.inl h0
  · exact Or.inr ⟨k, hk, hn⟩

/-- the same for a fixed length `2^L`, `L ≤ 32`, with an arbitrary root look-up -/
theorem gen_intt_noswap_eq_model_pow2 {σ α : Type} (ops : Ops σ α) (root : Nat → Option σ) (x : Array α) (L : Nat)
    (hL : L ≤ 32) (hx : x.size = 2 ^ L) :
    (Loops.intt_noswap ops root x.toList).bind
        (fun r => if Loops.intt_noswap_ok ops root x.toList then some r else none)
      = (inttNoswap ops root x).map Array.toList :=
  TF.GenBridge.Ntt.gen_intt_noswap_of ops root x fun _ => Or.inr ⟨L, hL, hx⟩
example : Loops.intt_noswap bOps primitiveRoot [5, 18446744069414584318, 1125899906842625, 18445618169507741698]
    = some [4, 16, 0, 0] := by decide +kernel

/-- **`bitreverse_order` regenerated from source = the model**, every array of length `≤ 2^63`, every `ops`: the `logn`
    loop finishes within 65 evaluations of its head without a shift overflow and yields `⌈log₂ len⌉`; the swap loop agrees
    in value and in panic (a swap target beyond the end, on lengths that are not a power of two) -/
theorem gen_bitreverse_order_eq_model {σ α : Type} (ops : Ops σ α) (a : Array α) (ha : a.size ≤ 2 ^ 63) :
    (Loops.ntt_bitreverse_order ops a.toList).bind
        (fun r => if Loops.ntt_bitreverse_order_ok ops a.toList then some r else none)
      = (bitreverseOrder a).map Array.toList :=
  TF.GenBridge.Ntt.gen_bitreverse_order_eq ops a ha
example : Loops.ntt_bitreverse_order bOps [0, 1, 2, 3, 4, 5, 6, 7] = some [0, 4, 2, 6, 1, 5, 3, 7] ∧
    Loops.ntt_bitreverse_order_ok bOps [0, 1, 2, 3, 4] = false ∧ bitreverseOrder #[0, 1, 2, 3, 4] = none := by decide +kernel

/-! ### the wrappers `ntt` / `intt`, `ntt_noswap`, `unscale` (proofs in `TF/Proofs/GenBridgeNtt2.lean`) -/

/-- **`ntt` regenerated from source = the model, for every vector, every `ops`, every root look-up**:
    `u32::try_from(len).expect(..)`, `assert!(len == 0 || len.is_power_of_two())`, `checked_ilog2().unwrap_or(0)`,
    `primitive_root_of_unity(len).unwrap()` and the regenerated `ntt_unchecked`; rejected lengths panic on both sides -/
theorem gen_ntt_eq_model {σ α : Type} (ops : Ops σ α) (root : Nat → Option σ) (x : Array α) :
    (Loops.ntt_ntt ops root x.toList).bind (fun r => if Loops.ntt_ntt_ok ops root x.toList then some r else none)
      = (ntt ops root x).map Array.toList :=
  TF.GenBridge.Ntt.gen_ntt_eq ops root x
example : Loops.ntt_ntt bOps primitiveRoot [1, 4, 0, 0] =
    some [5, 1125899906842625, 18446744069414584318, 18445618169507741698] ∧
    Loops.ntt_ntt_ok bOps primitiveRoot [1, 4, 0, 0] = true ∧ Loops.ntt_ntt_ok bOps primitiveRoot [1, 4, 0] = false := by
  decide +kernel

/-- **`intt` regenerated from source = the model, for every vector**: the checks of `ntt`, `omega.inverse()`, the
    regenerated `ntt_unchecked`, then `*elem *= BFieldElement::from(len).inverse_or_zero()` over the whole slice -/
theorem gen_intt_eq_model {σ α : Type} (ops : Ops σ α) (root : Nat → Option σ) (x : Array α) :
    (Loops.ntt_intt ops root x.toList).bind (fun r => if Loops.ntt_intt_ok ops root x.toList then some r else none)
      = (intt ops root x).map Array.toList :=
  TF.GenBridge.Ntt.gen_intt_eq ops root x
example : Loops.ntt_intt bOps primitiveRoot [5, 1125899906842625, 18446744069414584318, 18445618169507741698] =
    some [1, 4, 0, 0] := by decide +kernel

/-- **`ntt_noswap` regenerated from source = the model for every vector** (root look-up defined only on `0` and the powers
    of two up to `2^32`): the `logn` loop, the table `powers_of_omega_bitreversed` (`vec![ZERO; n]`, writes at
    `bitreverse_usize(i, logn - 1)`; `logn - 1` is never evaluated for `n = 1`), the `while m < n` stage loop with the
    `enumerate().take(m)` block loop and the in-place butterflies = `powersBitrev` / `noswapLoop` / `stageNoswap` -/
theorem gen_ntt_noswap_eq_model {σ α : Type} (ops : Ops σ α) (root : Nat → Option σ)
    (hroot : ∀ n, (root n).isSome = true → n = 0 ∨ ∃ L, L ≤ 32 ∧ n = 2 ^ L) (x : Array α) :
    (Loops.ntt_noswap ops root x.toList).bind
        (fun r => if Loops.ntt_noswap_ok ops root x.toList then some r else none)
      = (nttNoswap ops root x).map Array.toList :=
  TF.GenBridge.Ntt.gen_ntt_noswap_of ops root x fun h => (hroot _ h).imp Array.eq_empty_of_size_eq_zero id
example : Loops.ntt_noswap bOps primitiveRoot [1, 4, 0, 0] =
    some [5, 18446744069414584318, 1125899906842625, 18445618169507741698] ∧
    Loops.ntt_noswap_ok bOps primitiveRoot [1, 4, 0, 0] = true := by decide +kernel

/-- the same for a fixed length `2^L`, `L ≤ 32`, with an arbitrary root look-up -/
theorem gen_ntt_noswap_eq_model_pow2 {σ α : Type} (ops : Ops σ α) (root : Nat → Option σ) (x : Array α) (L : Nat)
    (hL : L ≤ 32) (hx : x.size = 2 ^ L) :
    (Loops.ntt_noswap ops root x.toList).bind
        (fun r => if Loops.ntt_noswap_ok ops root x.toList then some r else none)
      = (nttNoswap ops root x).map Array.toList :=
  TF.GenBridge.Ntt.gen_ntt_noswap_of ops root x fun _ => Or.inr ⟨L, hL, hx⟩
example : (#[1, 4, 0, 0] : Array Nat).size = 2 ^ 2 := by decide

/-- **`unscale` regenerated from source = the model** (slices of `BFieldElement`: scalar type = element type; `*a *= ninv`
    is the scalar multiplication, the model's `scale ninv a` — equal when multiplication commutes), value and panic
    (`inverse` of zero on the empty slice); instance: the executable base field -/
theorem gen_unscale_eq_model {σ : Type} (ops : Ops σ σ) (hc : ∀ a w, ops.smul a w = ops.scale w a) (a : Array σ) :
    (if Loops.ntt_unscale_ok ops a.toList then some (Loops.ntt_unscale ops a.toList) else none)
      = (unscale ops a).map Array.toList :=
  TF.GenBridge.Ntt.gen_unscale_eq ops hc a
example : (∀ a w, bOps.smul a w = bOps.scale w a) ∧ Loops.ntt_unscale bOps [4, 16, 0, 0] = [1, 4, 0, 0] ∧
    Loops.ntt_unscale_ok bOps [] = false := by
  refine ⟨fun a w => ?_, by decide +kernel, by decide +kernel⟩
  show Spec.fmul a w = Spec.fmul w a
  simp only [Spec.fmul, Nat.mul_comm]

/-! ### transfer: C06's main results hold for the code regenerated from the current source -/

open TF.NttFn TF.NttProofs in
/-- **NTT = DFT, for the regenerated `ntt`** (`ntt_eq_dft` transferred): it finishes, does not panic and returns the DFT -/
theorem gen_ntt_eq_dft {R : Type} [CommRing R] (inv : R → Option R) (inv0 : R → R) (root : Nat → Option R)
    (L : Nat) (hL : L ≤ 31) (ω : R) (hr : root (2^L) = some ω) (hω : 0 < L → ω^(2^(L-1)) = -1)
    (x : Array R) (hx : x.size = 2^L) :
    ∃ y : Array R, Loops.ntt_ntt (ringOps R inv inv0) root x.toList = some y.toList ∧
      Loops.ntt_ntt_ok (ringOps R inv inv0) root x.toList = true ∧ y.size = 2^L ∧
      ∀ i, i < 2^L → toFn y i = dft (2^L) ω (toFn x) i := by
  obtain ⟨y, hy, hs, hd⟩ := ntt_eq_dft inv inv0 root L hL ω hr hω x hx
  obtain ⟨g, ok⟩ := TF.GenBridge.Ntt.run_transfer (gen_ntt_eq_model (ringOps R inv inv0) root x) hy
  exact ⟨y, g, ok, hs, hd⟩
example : (2 : ℕ) ≤ 31 ∧ (0 < 2 → ((2 : ZMod 5))^(2^(2-1)) = -1) := by decide

open TF.NttFn TF.NttProofs in
/-- **INTT inverts NTT, for the regenerated `ntt` and `intt`** (`intt_ntt` transferred) -/
theorem gen_intt_ntt {R : Type} [CommRing R] (inv : R → Option R) (inv0 : R → R) (root : Nat → Option R)
    (L : Nat) (hL : L ≤ 31) (ω ωi : R) (hr : root (2^L) = some ω) (hi : inv ω = some ωi) (hinv : ωi * ω = 1)
    (hn : inv0 ((2^L : ℕ) : R) * ((2^L : ℕ) : R) = 1) (hω : 0 < L → ω^(2^(L-1)) = -1)
    (x : Array R) (hx : x.size = 2^L) :
    ∃ y : Array R, Loops.ntt_ntt (ringOps R inv inv0) root x.toList = some y.toList ∧
      Loops.ntt_ntt_ok (ringOps R inv inv0) root x.toList = true ∧
      Loops.ntt_intt (ringOps R inv inv0) root y.toList = some x.toList ∧
      Loops.ntt_intt_ok (ringOps R inv inv0) root y.toList = true := by
  obtain ⟨y, hy, hz⟩ := intt_ntt inv inv0 root L hL ω ωi hr hi hinv hn hω x hx
  obtain ⟨g, ok⟩ := TF.GenBridge.Ntt.run_transfer (gen_ntt_eq_model (ringOps R inv inv0) root x) hy
  obtain ⟨g2, ok2⟩ := TF.GenBridge.Ntt.run_transfer (gen_intt_eq_model (ringOps R inv inv0) root y) hz
  exact ⟨y, g, ok, g2, ok2⟩
example : (Loops.ntt_ntt bOps primitiveRoot [7, 0, 3, 9]).bind (Loops.ntt_intt bOps primitiveRoot) = some [7, 0, 3, 9] := by
  decide +kernel

open TF.NttFn TF.NttProofs in
/-- **the regenerated `ntt_noswap` returns the DFT in bit-reversed order** (`ntt_noswap_eq_dft_bitreversed` transferred) -/
theorem gen_ntt_noswap_eq_dft_bitreversed {R : Type} [CommRing R] (inv : R → Option R) (inv0 : R → R)
    (root : Nat → Option R) (L : Nat) (hL : L ≤ 32) (ω : R) (hr : root (2^L) = some ω) (hω : 0 < L → ω^(2^(L-1)) = -1)
    (x : Array R) (hx : x.size = 2^L) :
    ∃ y : Array R, Loops.ntt_noswap (ringOps R inv inv0) root x.toList = some y.toList ∧
      Loops.ntt_noswap_ok (ringOps R inv inv0) root x.toList = true ∧ y.size = 2^L ∧
      ∀ i, i < 2^L → toFn y i = dft (2^L) ω (toFn x) (bitrev L i) := by
  obtain ⟨y, hy, hs, hd⟩ := ntt_noswap_eq_dft_bitreversed inv inv0 root L ω hr hω x hx
  obtain ⟨g, ok⟩ := TF.GenBridge.Ntt.run_transfer (gen_ntt_noswap_eq_model_pow2 (ringOps R inv inv0) root x L hL hx) hy
  exact ⟨y, g, ok, hs, hd⟩
example : TF.NttFn.bitrev 2 1 = 2 ∧ TF.NttFn.bitrev 2 2 = 1 := by decide

open TF.NttFn TF.NttProofs in
/-- **regenerated `intt_noswap ∘ ntt_noswap = n · id`** (`intt_noswap_ntt_noswap` transferred) -/
theorem gen_intt_noswap_ntt_noswap {R : Type} [CommRing R] (inv : R → Option R) (inv0 : R → R)
    (root : Nat → Option R) (L : Nat) (hL : L ≤ 32) (ω ωi : R) (hr : root (2^L) = some ω) (hi : inv ω = some ωi)
    (hinv : ωi * ω = 1) (hω : 0 < L → ω^(2^(L-1)) = -1) (x : Array R) (hx : x.size = 2^L) :
    ∃ y z : Array R, Loops.ntt_noswap (ringOps R inv inv0) root x.toList = some y.toList ∧
      Loops.ntt_noswap_ok (ringOps R inv inv0) root x.toList = true ∧
      Loops.intt_noswap (ringOps R inv inv0) root y.toList = some z.toList ∧
      Loops.intt_noswap_ok (ringOps R inv inv0) root y.toList = true ∧
      z.size = 2^L ∧ ∀ i, i < 2^L → toFn z i = ((2^L : ℕ) : R) * toFn x i := by
  obtain ⟨y, z, hy, hz, hs, hd⟩ := intt_noswap_ntt_noswap inv inv0 root L ω ωi hr hi hinv hω x hx
  obtain ⟨y', hy', hys, _⟩ := ntt_noswap_eq_dft_bitreversed inv inv0 root L ω hr hω x hx
  have hyy : y' = y := by rw [hy] at hy'; exact (Option.some.inj hy').symm
  subst hyy
  obtain ⟨g, ok⟩ := TF.GenBridge.Ntt.run_transfer (gen_ntt_noswap_eq_model_pow2 (ringOps R inv inv0) root x L hL hx) hy
  obtain ⟨g2, ok2⟩ := TF.GenBridge.Ntt.run_transfer (gen_intt_noswap_eq_model_pow2 (ringOps R inv inv0) root y' L hL hys) hz
  exact ⟨y', z, g, ok, g2, ok2, hs, hd⟩
example : (Loops.ntt_noswap bOps primitiveRoot [1, 4, 0, 0]).bind (Loops.intt_noswap bOps primitiveRoot) = some [4, 16, 0, 0] := by
  decide +kernel

open TF.NttFn TF.NttProofs in
/-- **base field, regenerated code**: on canonical values the regenerated `ntt` is the DFT in `ZMod P` at the powers of the
    tabulated root and the regenerated `intt` inverts it (`ntt_b_is_dft`, `intt_ntt_b_roundtrip` transferred) -/
theorem gen_ntt_b_is_dft (L : Nat) (hL : L ≤ 31) (x : Array Nat) (hx : x.size = 2^L) :
    ∃ (r : Nat) (y z : Array Nat), primitiveRoot (2^L) = some r ∧
      Loops.ntt_ntt bOps primitiveRoot x.toList = some y.toList ∧ Loops.ntt_ntt_ok bOps primitiveRoot x.toList = true ∧
      y.size = 2^L ∧ (∀ i, i < 2^L → zvec y i = dft (2^L) ((r : ℕ) : ZMod P) (zvec x) i) ∧
      Loops.ntt_intt bOps primitiveRoot y.toList = some z.toList ∧ Loops.ntt_intt_ok bOps primitiveRoot y.toList = true ∧
      z.size = x.size ∧ ∀ i, zvec z i = zvec x i := by
  obtain ⟨r, y, hr, hy, hs, hd⟩ := ntt_b_is_dft L hL x hx
  obtain ⟨⟨y', z, hy', hz, hzs, hzv⟩, _⟩ := intt_ntt_b_roundtrip L hL x hx
  have hyy : y' = y := by rw [hy] at hy'; exact (Option.some.inj hy').symm
  subst hyy
  obtain ⟨g, ok⟩ := TF.GenBridge.Ntt.run_transfer (gen_ntt_eq_model bOps primitiveRoot x) hy
  obtain ⟨g2, ok2⟩ := TF.GenBridge.Ntt.run_transfer (gen_intt_eq_model bOps primitiveRoot y') hz
  exact ⟨r, y', z, hr, g, ok, hs, hd, g2, ok2, hzs, hzv⟩
example : (#[7, 0, 3, 9] : Array Nat).size = 2^2 := by decide

end TF.C06
