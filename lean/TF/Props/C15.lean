import TF.Proofs.Sponge
import TF.Proofs.GenBridgeSponge
import TF.Proofs.GenBridgeSpongeOk
import TF.Proofs.SpongeEval
/-!
# C15 — sponge discipline: injective padding, domain separation, exact sampling

Property theorems only (helper lemmas: `TF/Proofs/Sponge.lean`; model: `TF/Model/Sponge.lean`, hand-written after
`util_types/sponge.rs` and `math/tip5.rs`, tied to them by the correspondence family `sponge`).

Everything is proved for an **arbitrary permutation** `perm : List Nat → List Nat` on states (lists of 16 values);
`Pres perm` only says that it keeps the state width. Notation: `padBlocks input` are the blocks handed to `absorb` by
`pad_and_absorb_all`; `padK n` the number of padding zeros; `stream perm K st` the `10·K` elements produced by `K`
successive squeezes from state `st`, `stateAfter perm K st` the state after them; `usable e` ⇔ `e ≠ p − 1`;
`sel bound xs` = usable elements of `xs`, each `(e mod 2^32) mod bound`; `usedCount xs n` = length of the shortest
prefix of `xs` containing `n` usable elements. `none` is a panic — or exhausted fuel for `sampleIndices`, whose Rust loop
is unbounded.
-/
namespace TF.C15
open TF.Sponge TF.Gen

/-- `pad_and_absorb_all` (for any sponge, any state): never panics and absorbs, in order, full blocks whose
    concatenation is the input, a single one, and the fewest zeros completing a multiple of the rate -/
theorem pad_spec {σ : Type} (ab : σ → List Nat → σ) (s : σ) (input : List Nat) :
    (padBlocks input).flatten = input ++ [1] ++ List.replicate (padK input.length) 0 ∧
    (∀ b ∈ padBlocks input, b.length = RATE) ∧
    padK input.length < RATE ∧ (input.length + 1 + padK input.length) % RATE = 0 ∧
    (∀ j, (input.length + 1 + j) % RATE = 0 → padK input.length ≤ j) ∧
    padAndAbsorbAll ab s input = some ((padBlocks input).foldl ab s) :=
  ⟨(padBlocks_spec input).1, (padBlocks_spec input).2.1, (padK_spec _).1, (padK_spec _).2.1, (padK_spec _).2.2,
    padAndAbsorbAll_eq ab s input⟩
example : padBlocks [7, 7, 7, 7, 7, 7, 7, 7, 7] = [[7, 7, 7, 7, 7, 7, 7, 7, 7, 1]]
    ∧ padBlocks [7, 7, 7, 7, 7, 7, 7, 7, 7, 7] = [[7, 7, 7, 7, 7, 7, 7, 7, 7, 7], [1, 0, 0, 0, 0, 0, 0, 0, 0, 0]]
    ∧ padBlocks [] = [[1, 0, 0, 0, 0, 0, 0, 0, 0, 0]] := by decide

/-- the padding is injective: different inputs are absorbed as different block sequences -/
theorem pad_injective {a b : List Nat} (h : padBlocks a = padBlocks b) : a = b := by
  have := congrArg List.flatten h
  rw [(padBlocks_spec a).1, (padBlocks_spec b).1] at this
  exact padSpec_injective this
example : padBlocks [5] ≠ padBlocks [5, 1] ∧ padBlocks [5, 1] ≠ padBlocks [5, 1, 0] := by decide

/-- domain separation: variable-length hashing starts from the all-zero state, fixed-length hashing from the
    all-ones capacity; whatever is written into the rate part, the two never share an initial state -/
theorem domains_differ :
    initState = List.replicate STATE_SIZE 0 ∧
    (newState true).drop RATE = List.replicate CAPACITY 1 ∧ (newState false).drop RATE = List.replicate CAPACITY 0 ∧
    ∀ x b : List Nat, x.length = RATE → b.length = RATE →
      x ++ (newState true).drop RATE ≠ b ++ (newState false).drop RATE := by
  refine ⟨rfl, by decide, by decide, fun x b hx hb h => ?_⟩
  have := (List.append_inj h (by rw [hx, hb])).2
  revert this; decide
example : newState true ≠ newState false := by decide

/-- `hash_varlen`: absorb exactly the padded input into the zero state, output the first five elements of one squeeze;
    `hash_10` / `hash_pair`: one permutation of input ++ all-ones capacity -/
theorem hash_varlen_spec (perm : List Nat → List Nat) (input : List Nat) :
    hashVarlen perm input =
      some ((((padBlocks input).foldl (absorb perm) (List.replicate STATE_SIZE 0)).take RATE).take DIGEST_LEN) ∧
    (∀ x, hash10 perm x = (perm (x ++ List.replicate CAPACITY 1)).take DIGEST_LEN) ∧
    (∀ st block, absorb perm st block = perm (block ++ st.drop RATE)) := by
  refine ⟨?_, fun x => rfl, fun _ _ => rfl⟩
  unfold hashVarlen
  rw [padAndAbsorbAll_eq]
  rfl
example : hashVarlen id [3, 4] = some [3, 4, 1, 0, 0] := by decide

/-- `sample_indices`, exactly: with `fuel` iterations available (`fuel ≤ 10·K`), the call inspects the first `fuel`
    elements of the squeezed stream; it returns iff these contain `num` usable elements, and then returns the indices
    of the shortest such prefix (length `u`), in order, leaving the sponge in the state after `⌈u/10⌉` squeezes -/
theorem sample_indices_spec {perm : List Nat → List Nat} (hp : Pres perm) {st : List Nat}
    (hst : st.length = STATE_SIZE) (bound num fuel K : Nat) (hf : fuel ≤ RATE * K) :
    sampleIndices perm fuel st bound num =
      (usedCount ((stream perm K st).take fuel) num).map fun u =>
        (sel bound ((stream perm K st).take u), stateAfter perm ((u + 9) / 10) st) :=
  sampleIndices_exact hp hst bound num fuel K hf
example : Pres id := fun _ h => h
example : sampleIndices id 30 [P - 1, 5, P - 1, 4294967296 + 7, 0, 0, 0, 0, 0, 0, 1, 1, 1, 1, 1, 1] 4 2
    = some ([1, 3], [P - 1, 5, P - 1, 4294967296 + 7, 0, 0, 0, 0, 0, 0, 1, 1, 1, 1, 1, 1]) := by decide

/-- meaning of `usedCount`: the shortest prefix with `n` usable elements (so sampling stops as soon as the stream has
    supplied the elements it uses, and skips exactly the elements equal to `p − 1`) -/
theorem used_count_spec (xs : List Nat) (n u : Nat) (h : usedCount xs n = some u) :
    u ≤ xs.length ∧ ((xs.take u).filter usable).length = n ∧
      (∀ v, v < u → ((xs.take v).filter usable).length < n) ∧ (sel 1 (xs.take u)).length = n := by
  obtain ⟨h1, h2, h3⟩ := usedCount_some xs n u h
  refine ⟨h1, h2, h3, ?_⟩
  unfold sel; rw [List.length_map]; exact h2
example : usedCount [P - 1, 5, P - 1, 7, 9] 2 = some 4 := by decide

/-- whenever it returns, the result is the one described (`K = fuel` squeezes cover every element it can inspect) -/
theorem sample_indices_sound {perm : List Nat → List Nat} (hp : Pres perm) {st : List Nat}
    (hst : st.length = STATE_SIZE) (bound num fuel : Nat) (idx st' : List Nat)
    (h : sampleIndices perm fuel st bound num = some (idx, st')) :
    ∃ u, usedCount (stream perm fuel st) num = some u ∧ u ≤ fuel ∧
      idx = sel bound ((stream perm fuel st).take u) ∧ idx.length = num ∧
      st' = stateAfter perm ((u + 9) / 10) st := by
  rw [sample_indices_spec hp hst bound num fuel fuel (by rw [RATE_eq]; omega)] at h
  cases hc : usedCount ((stream perm fuel st).take fuel) num with
  | none => rw [hc] at h; cases h
  | some u =>
    rw [hc] at h
    simp only [Option.map_some, Option.some.injEq, Prod.mk.injEq] at h
    obtain ⟨h1, h2, h3⟩ := usedCount_some _ _ _ hc
    have hu : u ≤ fuel := Nat.le_trans h1 (by rw [List.length_take]; exact Nat.min_le_left _ _)
    have htake : ((stream perm fuel st).take fuel).take u = (stream perm fuel st).take u := by
      rw [List.take_take, Nat.min_eq_left hu]
    have hfull := usedCount_of_take _ _ _ _ hc
    refine ⟨u, hfull, hu, h.1.symm, ?_, h.2.symm⟩
    rw [← h.1]
    unfold sel; rw [List.length_map]
    rw [htake] at h2; exact h2

/-- termination: if the first `K` squeezes supply `num` usable elements, `sample_indices` returns within `10·K`
    iterations (it does not depend on anything but the stream) -/
theorem sample_indices_terminates {perm : List Nat → List Nat} (hp : Pres perm) {st : List Nat}
    (hst : st.length = STATE_SIZE) (bound num K : Nat)
    (h : num ≤ ((stream perm K st).filter usable).length) :
    (sampleIndices perm (RATE * K) st bound num).isSome := by
  rw [sample_indices_spec hp hst bound num (RATE * K) K (Nat.le_refl _)]
  have hl := (stream_length hp K st hst).1
  rw [List.take_of_length_le (by rw [hl])]
  obtain ⟨u, hu⟩ := usedCount_isSome (stream perm K st) num h
  rw [hu]; rfl

/-- `sample_scalars(num)`: never panics; `⌈3·num/10⌉` squeezes, the stream grouped in threes, the first `num` groups;
    the sponge is left in the state after those squeezes -/
theorem sample_scalars_spec {perm : List Nat → List Nat} (hp : Pres perm) {st : List Nat}
    (hst : st.length = STATE_SIZE) (num : Nat) :
    ∃ groups : List (Nat × Nat × Nat),
      sampleScalars perm st num = some (groups, stateAfter perm ((num * 3 + 9) / 10) st) ∧
      groups.length = num ∧
      (groups.flatMap fun t => [t.1, t.2.1, t.2.2]) = (stream perm ((num * 3 + 9) / 10) st).take (3 * num) :=
  sampleScalars_eq hp hst num
example : sampleScalars id [1, 2, 3, 4, 5, 6, 7, 8, 9, 10, 0, 0, 0, 0, 0, 0] 4
    = some ([(1, 2, 3), (4, 5, 6), (7, 8, 9), (10, 1, 2)], [1, 2, 3, 4, 5, 6, 7, 8, 9, 10, 0, 0, 0, 0, 0, 0]) := by
  decide

/-! ## Regenerated-from-source bridge (tools/rs2lean_bt4.py, `TF/Gen/SpongeLoops.lean`)

The sponge functions are regenerated from the text of `tip5.rs` / `sponge.rs` on every run.  The regenerated code works on
raw Montgomery words and calls the regenerated `Loops.tip5_permutation`; the hand model works on canonical values over
an abstract permutation.  `enc = map bfe_new` encodes values as words and the model is instantiated with
`permV vs = map bfe_value (Loops.tip5_permutation (enc vs))` — the regenerated permutation read on values.  Each theorem
holds for every canonical input (all values `< P`); proofs in `TF/Proofs/GenBridgeSponge.lean`. -/
section GenBridge
open TF.GenBridge.Sponge TF.Tip5Eval TF.SpongeEval
open TF.Gen.Loops (tip5_init tip5_absorb tip5_squeeze tip5_pad_and_absorb_all tip5_hash_varlen tip5_hash_pair
  tip5_sample_indices tip5_sample_indices_ok tip5_hash_varlen_ok tip5_hash_pair_ok)

/-- `permV` keeps the state width, so every theorem above applies to it -/
theorem gen_permV_pres : Pres permV := permV_pres

/-- regenerated `Sponge::init` (for Tip5) = the hand model's initial state -/
theorem gen_init_eq_model : tip5_init = some (enc initState) := gen_init_eq.1

/-- regenerated `absorb` (`iter_mut().zip_eq(..).for_each(..)`, `permutation`) = hand model, every canonical state/block -/
theorem gen_absorb_eq_model {st block : List Nat} (hl : st.length = 16) (hc : ∀ x ∈ st, x < P) (hbl : block.length = 10)
    (hbc : ∀ x ∈ block, x < P) :
    tip5_absorb (enc st) (enc block) = enc (absorb permV st block) := (gen_absorb_eq hl hc hbl hbc).1

/-- regenerated `squeeze` = hand model -/
theorem gen_squeeze_eq_model {st : List Nat} (hl : st.length = 16) (hc : ∀ x ∈ st, x < P) :
    tip5_squeeze (enc st) = (enc (squeeze permV st).1, enc (squeeze permV st).2) := (gen_squeeze_eq hl hc).1
example : (tip5_squeeze (enc (List.replicate 16 7))).1 = enc (List.replicate 10 7) := by decide +kernel

/-- regenerated `Sponge::pad_and_absorb_all` (the trait's default method: `next_multiple_of`, `once`/`repeat`/`chain`/
    `take`, itertools `chunks`, `try_into().unwrap()`, `absorb`) = hand model, every canonical input that fits in memory -/
theorem gen_pad_and_absorb_all_eq_model {st input : List Nat} (hl : st.length = 16) (hc : ∀ x ∈ st, x < P)
    (hi : ∀ x ∈ input, x < P) (hlen : input.length + 10 < 2 ^ 64) :
    some (tip5_pad_and_absorb_all (enc st) (enc input)) = (padAndAbsorbAll (absorb permV) st input).map enc :=
  (gen_pad_and_absorb_all_eq hl hc hi hlen).1

/-- regenerated `hash_varlen` = hand model -/
theorem gen_hash_varlen_eq_model {input : List Nat} (hi : ∀ x ∈ input, x < P) (hlen : input.length + 10 < 2 ^ 64) :
    tip5_hash_varlen (enc input) = (hashVarlen permV input).map enc := gen_hash_varlen_eq hi hlen
example : (tip5_hash_varlen (enc [3, 4, 5, 6, 7, 8, 9, 10, 11, 12])).isSome = true ∧
    tip5_hash_varlen_ok (enc [3, 4, 5, 6, 7, 8, 9, 10, 11, 12]) = true ∧
    tip5_hash_varlen (enc [3, 4]) ≠ tip5_hash_varlen (enc [3, 4, 0]) := by
  simp only [Loops.tip5_hash_varlen, Loops.tip5_hash_varlen_ok, Loops.tip5_pad_and_absorb_all,
    Loops.tip5_pad_and_absorb_all_ok, pad_for_eq, pad_for_ok_eq, Loops.tip5_squeeze, Loops.tip5_squeeze_ok, perm_eq,
    perm_ok_eq]
  decide +kernel

/-- regenerated `hash_pair` (`Digest::values` / `Digest::new` as identities on 5-element arrays) = hand model -/
theorem gen_hash_pair_eq_model {l r : List Nat} (hl : l.length = 5) (hr : r.length = 5) (hlc : ∀ x ∈ l, x < P)
    (hrc : ∀ x ∈ r, x < P) :
    tip5_hash_pair (enc l) (enc r) = some (enc (hashPair permV l r)) := gen_hash_pair_eq hl hr hlc hrc
example : (tip5_hash_pair (enc [1, 2, 3, 4, 5]) (enc [6, 7, 8, 9, 10])).isSome = true ∧
    tip5_hash_pair_ok (enc [1, 2, 3, 4, 5]) (enc [6, 7, 8, 9, 10]) = true ∧
    tip5_hash_pair_ok (enc [1, 2, 3, 4]) (enc [6, 7, 8, 9, 10]) = false := by
  simp only [Loops.tip5_hash_pair, Loops.tip5_hash_pair_ok, perm_eq, perm_ok_eq]
  decide +kernel

/-- regenerated `sample_indices` (the rejection loop: refill by `squeeze().into_iter().rev().collect_vec()`, `pop()`,
    comparison with `BFieldElement::new(MAX)`, `value() as u32 % upper_bound`) = hand model **including `none`**: the
    regenerated loop with `fuel + 1` evaluations of its head is the model's loop with `fuel` iterations; with no fuel it
    does not return -/
theorem gen_sample_indices_eq_model {st : List Nat} (hl : st.length = 16) (hc : ∀ x ∈ st, x < P) (fuel bound num : Nat) :
    tip5_sample_indices (fuel + 1) (enc st) bound num
      = (sampleIndices permV fuel st bound num).map (fun r => (r.1, enc r.2)) ∧
    tip5_sample_indices 0 (enc st) bound num = none := gen_sample_indices_eq hl hc fuel bound num
/-- non-vacuity on the rejection path (probability 2^-64 per element under random states): lanes 0 and 2 hold `p - 1` and
    are skipped, the call needs four iterations (five evaluations of the loop head) and runs out of fuel with fewer -/
example : let st := [P - 1, 5, P - 1, 4294967296 + 7, 0, 0, 0, 0, 0, 0, 1, 1, 1, 1, 1, 1]
    (tip5_sample_indices 5 (enc st) 4 2).map Prod.fst = some [1, 3] ∧
    tip5_sample_indices 4 (enc st) 4 2 = none ∧
    tip5_sample_indices_ok 5 (enc st) 4 2 = true := by decide +kernel

/-- **transfer**: the C15 statements for the code as it is in the source now (on every canonical state / input):
    `sample_indices` inspects the first `fuel` elements of the stream squeezed with the regenerated permutation, returns
    iff these contain `num` usable elements and then returns the indices of the shortest such prefix and leaves the state
    after `⌈u/10⌉` squeezes (`sample_indices_spec`); `hash_varlen` absorbs exactly the padded input into the zero state
    and outputs the first five elements of one squeeze (`hash_varlen_spec`, `pad_spec`); different inputs are absorbed as
    different block sequences (`pad_injective`) -/
theorem gen_sponge_transfer {st : List Nat} (hl : st.length = 16) (hc : ∀ x ∈ st, x < P) :
    (∀ bound num fuel K : Nat, fuel ≤ RATE * K →
      tip5_sample_indices (fuel + 1) (enc st) bound num =
        (usedCount ((stream permV K st).take fuel) num).map fun u =>
          (sel bound ((stream permV K st).take u), enc (stateAfter permV ((u + 9) / 10) st))) ∧
    (∀ input : List Nat, (∀ x ∈ input, x < P) → input.length + 10 < 2 ^ 64 →
      tip5_hash_varlen (enc input) =
        some (enc ((((padBlocks input).foldl (absorb permV) (List.replicate STATE_SIZE 0)).take RATE).take DIGEST_LEN)) ∧
      tip5_pad_and_absorb_all (enc st) (enc input) = enc ((padBlocks input).foldl (absorb permV) st)) := by
  refine ⟨fun bound num fuel K hf => ?_, fun input hi hlen => ⟨?_, ?_⟩⟩
  · rw [(gen_sample_indices_eq_model hl hc fuel bound num).1,
      sample_indices_spec gen_permV_pres (by rw [hl]; rfl) bound num fuel K hf, Option.map_map]
    rfl
  · rw [gen_hash_varlen_eq_model hi hlen, (hash_varlen_spec permV input).1, Option.map_some]
  · have h := gen_pad_and_absorb_all_eq_model hl hc hi hlen
    rw [(pad_spec (absorb permV) st input).2.2.2.2.2, Option.map_some] at h
    exact Option.some.inj h
example : (∀ x ∈ List.replicate 16 (P - 1), x < P) := by decide

/-- regenerated `Tip5::sample_scalars` (`(0..num_squeezes).flat_map(|_| self.squeeze()).collect_vec().chunks(3)
    .take(num_elements).map(|elem| XFieldElement::new([elem[0], elem[1], elem[2]])).collect()`; the `flat_map` whose closure
    mutates `self` read as the loop it is driven through by `collect_vec`) = the hand model, on every canonical state and
    every `num` with `3·num < 2^64`: same scalars (as raw words, `encTriple`), same sponge state afterwards; and no check of
    the `_ok` twin fails (`num * EXTENSION_DEGREE` does not overflow, `chunks(3)` with a non-zero size, no chunk indexed out
    of bounds) under the hypothesis, discharged by `gen_sponge_ok`, that the regenerated permutation's flag holds on canonical
    states -/
theorem gen_sample_scalars_eq_model {st : List Nat} (hl : st.length = 16) (hc : ∀ x ∈ st, x < P) (num : Nat)
    (hnum : num * 3 < 2 ^ 64) :
    some (TF.Gen.Loops.tip5_sample_scalars (enc st) num)
      = (sampleScalars permV st num).map (fun r => (r.1.map encTriple, enc r.2)) ∧
    ((∀ s : List Nat, s.length = 16 → (∀ x ∈ s, x < P) → TF.Gen.Loops.tip5_permutation_ok (enc s) = true) →
      TF.Gen.Loops.tip5_sample_scalars_ok (enc st) num = true) := gen_sample_scalars_eq hl hc num hnum
example : (TF.Gen.Loops.tip5_sample_scalars (enc [1, 2, 3, 4, 5, 6, 7, 8, 9, 10, 0, 0, 0, 0, 0, 0]) 3).1
      = [enc [1, 2, 3], enc [4, 5, 6], enc [7, 8, 9]] ∧
    TF.Gen.Loops.tip5_sample_scalars_ok (enc [1, 2, 3, 4, 5, 6, 7, 8, 9, 10, 0, 0, 0, 0, 0, 0]) 4 = true ∧
    ((TF.Gen.Loops.tip5_sample_scalars (enc [1, 2, 3, 4, 5, 6, 7, 8, 9, 10, 0, 0, 0, 0, 0, 0]) 4).1.length = 4) := by
  simp only [Loops.tip5_sample_scalars, Loops.tip5_sample_scalars_ok, Nat.reduceMul, Nat.reduceMod, Nat.reduceAdd,
    Nat.reduceSub, Nat.reduceDiv, Loops.tip5_sample_scalars_for, Loops.tip5_sample_scalars_for_ok,
    Loops.tip5_squeeze, Loops.tip5_squeeze_ok, perm_eq, perm_ok_eq]
  decide +kernel

/-- **transfer** of `sample_scalars_spec` to the code as it is in the source now: `⌈3·num/10⌉` squeezes with the
    regenerated permutation, the squeezed stream grouped in threes, exactly `num` groups (the first `3·num` stream elements,
    in order), and the sponge is left in the state after those squeezes -/
theorem gen_sample_scalars_transfer {st : List Nat} (hl : st.length = 16) (hc : ∀ x ∈ st, x < P) (num : Nat)
    (hnum : num * 3 < 2 ^ 64) :
    ∃ groups : List (Nat × Nat × Nat),
      TF.Gen.Loops.tip5_sample_scalars (enc st) num
        = (groups.map encTriple, enc (stateAfter permV ((num * 3 + 9) / 10) st)) ∧
      groups.length = num ∧
      (groups.flatMap fun t => [t.1, t.2.1, t.2.2]) = (stream permV ((num * 3 + 9) / 10) st).take (3 * num) := by
  obtain ⟨groups, h1, h2, h3⟩ := sample_scalars_spec gen_permV_pres (st := st) (by rw [hl]; rfl) num
  refine ⟨groups, ?_, h2, h3⟩
  have h := (gen_sample_scalars_eq_model hl hc num hnum).1
  rw [h1, Option.map_some] at h
  exact Option.some.inj h
example : (4 : Nat) * 3 < 2 ^ 64 := by decide

/-- **no overflow, no index out of range, no failed `unwrap`/`assert!` in the regenerated sponge code** (the `_ok` twins):
    on every state of 16 canonical words the regenerated Tip5 permutation — every `for` loop of `split_and_lookup`,
    `sbox_layer`, `mds_generated` with its 128-bit recombination, `round`, `permutation` —
    has a true flag, hence so have `squeeze`, `absorb` (canonical 10-element block), `sample_scalars` (`3·num < 2^64`),
    `pad_and_absorb_all` and `hash_varlen` (canonical input that fits in memory):
    debug and release builds agree on them -/
theorem gen_sponge_ok {st : List Nat} (hl : st.length = 16) (hc : ∀ x ∈ st, x < P) :
    TF.Gen.Loops.tip5_permutation_ok (enc st) = true ∧
    TF.Gen.Loops.tip5_squeeze_ok (enc st) = true ∧
    (∀ block : List Nat, block.length = 10 → (∀ x ∈ block, x < P) →
      TF.Gen.Loops.tip5_absorb_ok (enc st) (enc block) = true) ∧
    (∀ num : Nat, num * 3 < 2 ^ 64 → TF.Gen.Loops.tip5_sample_scalars_ok (enc st) num = true) ∧
    (∀ input : List Nat, (∀ x ∈ input, x < P) → input.length + 10 < 2 ^ 64 →
      TF.Gen.Loops.tip5_pad_and_absorb_all_ok (enc st) (enc input) = true ∧
      TF.Gen.Loops.tip5_hash_varlen_ok (enc input) = true) :=
  ⟨permutation_ok_enc hl hc, squeeze_ok hl hc,
    fun _ hbl hbc => TF.GenBridge.SpongeOk.absorb_ok hl hc hbl hbc,
    fun num hnum => TF.GenBridge.SpongeOk.sample_scalars_ok hl hc num hnum,
    fun _ hi hlen => ⟨TF.GenBridge.SpongeOk.pad_and_absorb_all_ok hl hc hi hlen,
      TF.GenBridge.SpongeOk.hash_varlen_ok hi hlen⟩⟩
/-- non-vacuity on the all-`(P − 1)` state; the length hypothesis is needed: on a 15-word state the flag is false -/
example : TF.Gen.Loops.tip5_permutation_ok (enc (List.replicate 16 (P - 1))) = true ∧
    TF.Gen.Loops.tip5_permutation_ok (enc (List.replicate 15 0)) = false := by
  simp only [perm_ok_eq]
  decide +kernel

end GenBridge

end TF.C15
