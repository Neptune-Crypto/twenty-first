import TF.Proofs.PolyInterp
import TF.Proofs.PolyInterpBary
import TF.Proofs.PolyInterpEO
import TF.Proofs.PolyInterpMemo
import TF.Proofs.PolyInterpDup
import TF.Proofs.PolyApi
/-!
# C08 — interpolation, bulk evaluation, zerofiers and coset extrapolation are exact

Helper lemmas: `TF/Proofs/PolyInterp.lean` and its continuations `PolyInterpBary`, `PolyInterpEO`, `PolyInterpMemo`,
`PolyInterpDup`; `TF/Proofs/PolyApi.lean` for the last section; polynomial core: `TF/Proofs/Poly.lean`.

Notation.  The model (`TF/Model/PolyInterp.lean`) is generic in the field; here it is instantiated with
`FieldOps.ofField K root` for an **arbitrary field `K`**.  A coefficient list `p` stands for the polynomial
`denote p : K[X]`.  `zpoly rs = ∏ (X - rᵢ)`.  `Interpolates xs ys f` is the certificate `deg f < |xs| ∧ f(xᵢ) = yᵢ`.
`none` is a panic of the Rust code.  The routines of other properties enter through `E : Ext K` with the contract
`E.Lawful` (`multiply`/`*`/`par_batch_multiply` return the product — C07; `reduce`/`fast_reduce` return the
remainder and `reduce_by_ntt_friendly_modulus` something congruent — C09).  Every threshold is a universally
quantified parameter (`T`, `R`, …); the thread count of the `par_*` routines is the parameter `threads`.
-/
open Polynomial
namespace TF.C08
open TF TF.Model.Poly TF.Model.PolyI

variable {K : Type} [Field K] (root : Nat → Option K)
local notation "FK" => FieldOps.ofField K root

/-- **Uniqueness certificate.**  For pairwise distinct abscissae, `deg f < n ∧ ∀ i, f(xᵢ) = yᵢ` determines `f`:
    whatever strategy returned a polynomial passing this check returned *the* interpolant. -/
theorem interpolant_unique (xs ys : List K) (hn : xs.Nodup) (hl : xs.length = ys.length) (f g : K[X])
    (hf : Interpolates xs ys f) (hg : Interpolates xs ys g) : f = g :=
  Interpolates.unique hn hl hf hg
example : Interpolates [0, 1] [1, 3] (C 1 + C 2 * X : ℚ[X]) := by
  refine ⟨?_, ?_⟩
  · have : (C 1 + C 2 * X : ℚ[X]).degree ≤ 1 := by
      refine (degree_add_le _ _).trans (max_le ?_ ?_)
      · exact degree_C_le.trans (by norm_num)
      · exact (degree_C_mul_X_le _)
    exact lt_of_le_of_lt this (by norm_num)
  · intro p hp; simp at hp; rcases hp with rfl | rfl <;> norm_num

/-- `evaluate` (Horner from the top coefficient, any storage) is `Polynomial.eval`. -/
theorem evaluate_spec (p : List K) (x : K) : evaluate FK p x = (denote p).eval x :=
  eval_denote root p x
example : evaluate (FieldOps.ofField ℚ) [1, 2, 0] 3 = 7 := by
  show ((0 * 3 + 0) * 3 + 2) * 3 + 1 = (7 : ℚ); norm_num

section
variable {E : Ext K} (hE : E.Lawful)
include hE

omit hE in
/-- `smart_zerofier` (the in-place loop) returns `∏ (X - rᵢ)` for every root list, repetitions included. -/
theorem smart_zerofier_spec (roots : List K) : denote (smartZerofier FK roots) = zpoly roots :=
  denote_smartZerofier root roots
example : denote (smartZerofier (FieldOps.ofField ℚ) [2, 2]) = (X - C 2) * ((X - C 2) * 1) := by
  rw [smart_zerofier_spec]; simp [zpoly]

/-- `naive_zerofier` (fold of `*` over the linear factors) returns `∏ (X - rᵢ)`. -/
theorem naive_zerofier_spec (roots : List K) : denote (naiveZerofier FK E roots) = zpoly roots :=
  denote_naiveZerofier root hE roots

/-- `zerofier` and `fast_zerofier`, **for every cut-off `T ≥ 2`** (the source has 100): they return, and what they
    return is `∏ (X - rᵢ)`. -/
theorem zerofier_spec (T : Nat) (hT : 2 ≤ T) (roots : List K) :
    ∃ z, zerofierWith FK E T roots = some z ∧ denote z = zpoly roots :=
  zerofierWith_spec root hE T hT roots

theorem fast_zerofier_spec (T : Nat) (hT : 2 ≤ T) (roots : List K) :
    ∃ z, fastZerofierWith FK E T roots = some z ∧ denote z = zpoly roots := by
  obtain ⟨l, hl, _⟩ := zerofier_spec root hE T hT (roots.take (roots.length / 2))
  obtain ⟨r, hr, _⟩ := zerofier_spec root hE T hT (roots.drop (roots.length / 2))
  have h : fastZerofierWith FK E T roots = some (E.mul l r) := by simp [fastZerofierWith, hl, hr]
  exact ⟨_, h, fastZerofierWith_sound root hE T roots _ h⟩

omit hE in
/-- the excluded cut-offs: for `T ≤ 1` the mutual recursion `zerofier ↔ fast_zerofier` of the Rust code never
    terminates on any input of length `≥ T` (the model reports `none` for every fuel). -/
theorem zerofier_diverges_for_degenerate_cutoff (T : Nat) (hT : T ≤ 1) (fuel : Nat) (roots : List K)
    (h : T ≤ roots.length) : zerofierT FK E T fuel roots = none :=
  zerofierT_diverges root T hT fuel roots h

/-- `par_zerofier`, **for every thread count and every cut-off**: whatever it returns is `∏ (X - rᵢ)`;
    for `T ≥ 2` it returns. -/
theorem par_zerofier_spec (T threads : Nat) (roots z : List K)
    (h : parZerofierWith FK E T threads roots = some z) : denote z = zpoly roots :=
  parZerofierWith_sound root hE T threads roots z h

/-- **Tree order.** `ZerofierTree::new_from_domain` (leaf chunks, padding to a power of two, the deque loop popping
    from the back and pushing to the front), for every leaf size `RT ≥ 1` and cut-off `T ≥ 2`: returns a tree whose
    points read left to right are the domain in input order and whose every node stores `∏ (X - x)` over the
    points below it; in particular the root zerofier is `∏ (X - xᵢ)` over the whole domain. -/
theorem zerofier_tree_in_order (RT T : Nat) (hRT : 0 < RT) (hT : 2 ≤ T) (domain : List K) :
    ∃ t, newFromDomainWith FK E RT T domain = some t ∧ t.points = domain ∧ t.Good ∧
      denote (t.zerofier FK) = zpoly domain := by
  obtain ⟨t, ht, hg, hp⟩ := newFromDomainWith_total root hE RT T hRT hT domain
  exact ⟨t, ht, hp, hg, by rw [hg.zerofier root, hp]⟩

/-- … and for *every* parameter value, whatever tree is returned has these properties. -/
theorem zerofier_tree_sound (RT T : Nat) (domain : List K) (t : ZTree K)
    (h : newFromDomainWith FK E RT T domain = some t) : t.points = domain ∧ t.Good :=
  ⟨(newFromDomainWith_sound root hE RT T domain t h).2, (newFromDomainWith_sound root hE RT T domain t h).1⟩

/-- `divide_and_conquer_batch_evaluate` over a correct tree returns the evaluations in the order of the points
    (given `reduce` returns the remainder). -/
theorem divide_and_conquer_batch_evaluate_spec (p : List K) (t : ZTree K) (ht : t.Good) :
    dcEval FK E p t = some (t.points.map (fun x => (denote p).eval x)) :=
  dcEval_spec root hE p t ht

omit hE in
/-- `iterative_batch_evaluate` -/
theorem iterative_batch_evaluate_spec (p domain : List K) :
    iterativeBatchEvaluate FK p domain = domain.map (fun x => (denote p).eval x) := by
  unfold iterativeBatchEvaluate
  exact List.map_congr_left (fun x _ => eval_denote root p x)

/-- **Bulk evaluation.** `batch_evaluate` — zero polynomial, reduce-then-evaluate and tree strategy, selected by
    any ratio `R` — returns the Horner evaluations in input order, for every polynomial, every domain
    (repetitions, empty), every leaf size `RT ≥ 1` and cut-off `T ≥ 2`. -/
theorem batch_evaluate_spec (R RT T : Nat) (hRT : 0 < RT) (hT : 2 ≤ T) (p domain : List K) :
    batchEvaluateWith FK E R RT T p domain = some (domain.map (fun x => (denote p).eval x)) :=
  batchEvaluateWith_total root hE R RT T hRT hT p domain

/-- `par_batch_evaluate`, **every thread count**: whatever is returned are the evaluations in input order. -/
theorem par_batch_evaluate_spec (R RT T threads : Nat) (p domain out : List K)
    (h : parBatchEvaluateWith FK E R RT T threads p domain = some out) :
    out = domain.map (fun x => (denote p).eval x) :=
  parBatchEvaluateWith_sound root hE R RT T threads p domain out h

/-- **Lagrange interpolation** (synthetic division of the zerofier by `X - xᵢ`, Horner evaluation of the cofactor,
    weighted sum) through pairwise distinct abscissae: returns a polynomial passing the certificate — hence, by
    `interpolant_unique`, *the* interpolant — for every zerofier cut-off `T ≥ 2`. -/
theorem lagrange_interpolate_spec (T : Nat) (hT : 2 ≤ T) (domain values : List K) (hn : domain.Nodup)
    (hl : domain.length = values.length) :
    ∃ f, lagrangeInterpolateWith FK E T domain values = some f ∧ Interpolates domain values (denote f) :=
  lagrangeInterpolateWith_spec root hE T domain values hn hl (zerofierWith_total root (E := E) T hT domain)

/-- **Divide and conquer** `f = L·Z_R + R·Z_L` (`fast_interpolate`): for every sequential cut-off, ratio, leaf size
    `≥ 1` and zerofier cut-off `≥ 2`, through any `n ≥ 1` pairwise distinct abscissae. -/
theorem fast_interpolate_spec (t : Thr) (hT : 2 ≤ t.zf) (hRT : 0 < t.rt) (domain values : List K)
    (hne : domain ≠ []) (hn : domain.Nodup) (hl : domain.length = values.length) :
    ∃ f, fastInterpolateWith FK E t domain values = some f ∧ Interpolates domain values (denote f) :=
  fastInterpolateStep_spec root hE t.zf hT _ _ (bevSeq_ok root hE t hT hRT) domain values
    (interpolateFuel_ok root hE t hT t.seq _ (bevSeq_ok root hE t hT hRT) _) hne hn hl

/-- **`interpolate`** — Lagrange up to the cut-off, divide and conquer above — **for every value of every
    threshold** (`t.seq`, `t.ratio` arbitrary; `t.rt ≥ 1`, `t.zf ≥ 2`): the unique interpolant. -/
theorem interpolate_spec (t : Thr) (hT : 2 ≤ t.zf) (hRT : 0 < t.rt) (domain values : List K)
    (hne : domain ≠ []) (hn : domain.Nodup) (hl : domain.length = values.length) :
    ∃ f, interpolateWith FK E t domain values = some f ∧ Interpolates domain values (denote f) :=
  interpolateFuel_ok root hE t hT t.seq _ (bevSeq_ok root hE t hT hRT) (domain.length + 1) domain values hne
    (Nat.lt_succ_self _) hn hl

/-- **`par_interpolate` / `par_fast_interpolate`, every thread count `≥ 1`**, every threshold as above. -/
theorem par_interpolate_spec (t : Thr) (hT : 2 ≤ t.zf) (hRT : 0 < t.rt) (threads : Nat) (hth : 0 < threads)
    (domain values : List K) (hne : domain ≠ []) (hn : domain.Nodup) (hl : domain.length = values.length) :
    ∃ f, parInterpolateWith FK E t threads domain values = some f ∧ Interpolates domain values (denote f) :=
  interpolateFuel_ok root hE t hT t.par _ (bevPar_ok root hE t hT hRT threads hth) (domain.length + 1) domain values
    hne (Nat.lt_succ_self _) hn hl

theorem par_fast_interpolate_spec (t : Thr) (hT : 2 ≤ t.zf) (hRT : 0 < t.rt) (threads : Nat) (hth : 0 < threads)
    (domain values : List K) (hne : domain ≠ []) (hn : domain.Nodup) (hl : domain.length = values.length) :
    ∃ f, parFastInterpolateWith FK E t threads domain values = some f ∧ Interpolates domain values (denote f) :=
  fastInterpolateStep_spec root hE t.zf hT _ _ (bevPar_ok root hE t hT hRT threads hth) domain values
    (interpolateFuel_ok root hE t hT t.par _ (bevPar_ok root hE t hT hRT threads hth) _) hne hn hl

/-- **`batch_fast_interpolate`** (batched divide and conquer with the two `HashMap`s keyed by the first and last
    point of a half): for pairwise distinct abscissae no key is ever hit twice, and every row of the value matrix is
    interpolated — for every batch cut-off `≥ 2` (the source has 16; below 2 the code indexes `domain[half - 1]`
    with `half = 0`), ratio, leaf size `≥ 1`, zerofier cut-off `≥ 2`. -/
theorem batch_fast_interpolate_spec (t : Thr) (hT : 2 ≤ t.zf) (hRT : 0 < t.rt) (hB : 2 ≤ t.batch)
    (domain : List K) (matrix : List (List K)) (hne : domain ≠ []) (hn : domain.Nodup)
    (hrows : ∀ row ∈ matrix, row.length = domain.length) :
    ∃ res, batchFastInterpolateWith FK E t domain matrix = some res ∧
      List.Forall₂ (fun row r => Interpolates domain row (denote r)) matrix res :=
  batchFastInterpolateWith_spec root hE t hT hRT hB domain matrix hne hn hrows

/-- the excluded point sets: with a **repeated abscissa** every strategy panics — `lagrange_interpolate` divides by
    `summand_eval = 0`, the divide-and-conquer step batch-inverts a zero offset or recurses into a half with the
    repetition — for `interpolate` and `par_interpolate`, every cut-off, thread count `≥ 1`, leaf size `≥ 1`,
    zerofier cut-off `≥ 2`. -/
theorem interpolate_repeated_abscissae_panics (t : Thr) (hT : 2 ≤ t.zf) (hRT : 0 < t.rt) (threads : Nat)
    (hth : 0 < threads) (domain values : List K) (hdup : ¬ domain.Nodup) :
    interpolateWith FK E t domain values = none ∧ parInterpolateWith FK E t threads domain values = none ∧
      (domain.length = values.length → lagrangeInterpolateWith FK E t.zf domain values = none) :=
  ⟨interpolateFuel_dup root hE t t.seq _ (bevSeq_ok root hE t hT hRT) _ domain values hdup,
   interpolateFuel_dup root hE t t.par _ (bevPar_ok root hE t hT hRT threads hth) _ domain values hdup,
   fun hl => lagrangeInterpolateWith_dup root hE t.zf domain values hdup hl⟩
example : ¬ ([3, 5, 3] : List ℚ).Nodup := by decide

omit hE in
/-- the excluded inputs: `interpolate` / `par_interpolate` panic on an empty domain and on lists of different
    lengths (the two `assert!`s), for every threshold. -/
theorem interpolate_rejects (t : Thr) (threads : Nat) (domain values : List K)
    (h : domain = [] ∨ domain.length ≠ values.length) :
    interpolateWith FK E t domain values = none ∧ parInterpolateWith FK E t threads domain values = none := by
  unfold interpolateWith parInterpolateWith
  rcases h with rfl | h
  · simp [interpolateFuel]
  · constructor <;>
    · rw [interpolateFuel]
      split
      · rfl
      · rw [if_pos (by simpa using h)]

end

/-! ### cosets.  `hN : Ext.LawfulNtt root E` is the contract of C06: `ntt` evaluates at the powers of `ω = root n`,
`intt` returns the polynomial of degree `< n` with the given values there (for pairwise distinct powers, i.e. a
primitive `ω`).  `cosetDomain offset ω n = [offset·ω^i | i < n]`. -/
section
variable {E : Ext K} (hE : E.Lawful) (hN : Ext.LawfulNtt root E)
include hN

/-- `fast_coset_evaluate` = the Horner values on the coset, in order; it panics exactly when the order is not
    above the degree or not a power of two (`fast_coset_evaluate_panics`). -/
theorem fast_coset_evaluate_spec (p : List K) (offset : K) (order : Nat) (ω : K) (hω : root order = some ω)
    (out : List K) (h : fastCosetEvaluate FK E p offset order = some out) :
    out = (cosetDomain offset ω order).map (fun x => (denote p).eval x) :=
  fastCosetEvaluate_sound root hN p offset order ω hω out h

omit hN in
theorem fast_coset_evaluate_panics (p : List K) (offset : K) (order : Nat) :
    fastCosetEvaluate FK E p offset order = none ↔
      ¬ (degSucc FK p ≤ order ∧ (order = 0 ∨ TF.Model.PolyI.isPow2 order = true)) := by
  unfold fastCosetEvaluate nttChecked
  simp only [TF.Model.PolyI.length_resize]
  by_cases h1 : degSucc FK p ≤ order <;> by_cases h2 : order = 0 <;> by_cases h3 : TF.Model.PolyI.isPow2 order = true <;>
    simp [h1, h2, h3]

/-- `fast_coset_interpolate` returns the unique polynomial of degree `< n` through the values on the coset. -/
theorem fast_coset_interpolate_spec (offset : K) (values : List K) (ω : K) (hω : root values.length = some ω)
    (hprim : ((List.range values.length).map (fun i => ω ^ i)).Nodup) (f : List K)
    (h : fastCosetInterpolate FK E offset values = some f) :
    Interpolates (cosetDomain offset ω values.length) values (denote f) :=
  fastCosetInterpolate_sound root hN offset values ω hω hprim f h

include hE

/-- the naive strategy (INTT, scale by the inverse offset, bulk evaluation), any cut-off values -/
theorem naive_coset_extrapolate_spec (t : Thr) (offset : K) (codeword points : List K) (ω : K)
    (hω : root codeword.length = some ω) (hprim : ((List.range codeword.length).map (fun i => ω ^ i)).Nodup)
    (out : List K) (h : naiveCosetExtrapolate FK E t offset codeword points = some out) :
    ∃ g : K[X], Interpolates (cosetDomain offset ω codeword.length) codeword g ∧
      out = points.map (fun x => g.eval x) :=
  naiveCosetExtrapolate_sound root hN hE t offset codeword points ω hω hprim out h

variable (hR : RootsOK root)
include hR

/-- **`fast_modular_coset_interpolate`, all three arms** (Lagrange / INTT-then-reduce / even-odd recursion with the
    sparse zerofiers), **for every value of the two cut-offs** and every codeword length `2^k`: the result is the
    coset interpolant modulo the modulus.  `hR` is what C06 proves about the table of roots (`root (2n)² = root n`,
    `root (2n)^n = -1`, distinct powers); `hm2` says that the translated constant `MINUS_TWO_INVERSE` is `(-2)⁻¹`
    in the field. -/
theorem fast_modular_coset_interpolate_spec (t : Thr) (hT : 2 ≤ t.zf) (modulus : List K)
    (hm2 : ((TF.Gen.MINUS_TWO_INVERSE : ℕ) : K) * (-2) = 1) (k : Nat) (values : List K) (offset : K)
    (hlen : values.length = 2 ^ k) (hoff : offset ≠ 0) (ω : K) (hω : root (2 ^ k) = some ω) (r : List K)
    (h : fmci FK E t values offset modulus = some r) :
    ∃ g : K[X], Interpolates (cosetDomain offset ω (2 ^ k)) values g ∧ denote r = g % denote modulus :=
  fmci_sound root hE hN hR t hT modulus hm2 k values offset hlen hoff ω hω r h

/-- **Extrapolation = evaluate(interpolate on the coset)** for `coset_extrapolate`: both strategies, all three arms
    of the fast one, every value of the three cut-offs, every codeword length `2^k`, every number of points, every
    offset `≠ 0`: the output is `g` evaluated at the points in order, `g` *the* polynomial of degree `< 2^k` through
    the codeword on `offset·⟨ω⟩`. -/
theorem coset_extrapolate_spec (t : Thr) (hT : 2 ≤ t.zf)
    (hm2 : ((TF.Gen.MINUS_TWO_INVERSE : ℕ) : K) * (-2) = 1) (k : Nat) (offset : K) (codeword points : List K)
    (hlen : codeword.length = 2 ^ k) (hoff : offset ≠ 0) (ω : K) (hω : root (2 ^ k) = some ω)
    (out : List K) (h : cosetExtrapolateWith FK E t offset codeword points = some out) :
    ∃ g : K[X], Interpolates (cosetDomain offset ω (2 ^ k)) codeword g ∧ out = points.map (fun x => g.eval x) :=
  cosetExtrapolateWith_sound_full root hE hN hR t hT hm2 k offset codeword points hlen hoff ω hω out h

/-- **Batch / parallel batch extrapolation** (`batch_coset_extrapolate`, `par_batch_coset_extrapolate` — one model,
    the parallel iterator is order preserving): each of the `⌊|codewords| / 2^k⌋` codewords is extrapolated as by
    interpolate-then-evaluate and the results are concatenated in order; a trailing partial codeword is ignored.
    Both strategies, all arms, every cut-off value. -/
theorem batch_coset_extrapolate_spec (t : Thr) (hT : 2 ≤ t.zf)
    (hm2 : ((TF.Gen.MINUS_TWO_INVERSE : ℕ) : K) * (-2) = 1) (k : Nat) (offset : K) (codewords points : List K)
    (hoff : offset ≠ 0) (ω : K) (hω : root (2 ^ k) = some ω)
    (out : List K) (h : batchCosetExtrapolateWith FK E t offset (2 ^ k) codewords points = some out) :
    ∃ parts, List.Forall₂ (SliceOK offset ω (2 ^ k) points) (codewordSlices (2 ^ k) codewords) parts ∧
      out = parts.flatten :=
  batchCosetExtrapolateWith_sound_full root hE hN hR t hT hm2 k offset codewords points hoff ω hω out h

end

/-- the hypotheses on the table of roots are satisfiable: over `ℚ` with `root 1 = 1`, `root 2 = -1` (and no other
    roots) — and `MINUS_TWO_INVERSE` is `(-2)⁻¹` modulo `P` -/
example : RootsOK (fun n => if n = 1 then some (1 : ℚ) else if n = 2 then some (-1) else none) where
  sq k ω h := by
    have hk : k = 0 := by
      by_contra hk
      have h4 : 4 ≤ 2 ^ (k + 1) := by
        have : 2 ^ 2 ≤ 2 ^ (k + 1) := Nat.pow_le_pow_right (by norm_num) (by omega)
        simpa using this
      rw [if_neg (by omega), if_neg (by omega)] at h
      exact absurd h (by simp)
    subst hk
    simp at h; subst h; simp
  neg k ω h := by
    have hk : k = 0 := by
      by_contra hk
      have h4 : 4 ≤ 2 ^ (k + 1) := by
        have : 2 ^ 2 ≤ 2 ^ (k + 1) := Nat.pow_le_pow_right (by norm_num) (by omega)
        simpa using this
      rw [if_neg (by omega), if_neg (by omega)] at h
      exact absurd h (by simp)
    subst hk
    simp at h; subst h; simp
  prim k ω h := by
    have hk : k = 0 ∨ k = 1 := by
      by_contra hk
      have h4 : 4 ≤ 2 ^ k := by
        have : 2 ^ 2 ≤ 2 ^ k := Nat.pow_le_pow_right (by norm_num) (by omega)
        simpa using this
      rw [if_neg (by omega), if_neg (by omega)] at h
      exact absurd h (by simp)
    rcases hk with rfl | rfl
    · simp
    · simp at h; subst h; decide
example : (TF.Gen.MINUS_TWO_INVERSE * (TF.Gen.P - 2)) % TF.Gen.P = 1 := by decide

section
/-- **`barycentric_evaluate`** = evaluation of the subgroup interpolant: for every codeword of length `n ≥ 1` on the
    powers of a primitive `n`-th root `ω = root n` and every indeterminate outside the subgroup, the result is
    `f(x)` for *the* polynomial `f` with `deg f < n`, `f(ω^i) = codeword[i]`. -/
theorem barycentric_evaluate_spec (codeword : List K) (x : K) (ω : K) (hn : 0 < codeword.length)
    (hω : root codeword.length = some ω) (hω1 : ω ^ codeword.length = 1)
    (hprim : ((List.range codeword.length).map (fun i => ω ^ i)).Nodup)
    (hx : x ∉ (List.range codeword.length).map (fun i => ω ^ i))
    (f : K[X]) (hf : Interpolates ((List.range codeword.length).map (fun i => ω ^ i)) codeword f) :
    barycentricEvaluate FK codeword x = some (f.eval x) :=
  barycentricEvaluate_spec root codeword x ω hn hω hω1 hprim hx f hf
example : ((-1 : ℚ)) ^ 2 = 1 ∧ (5 : ℚ) ∉ (List.range 2).map (fun i => (-1 : ℚ) ^ i) := by
  constructor
  · norm_num
  · decide

/-- the excluded indeterminates: inside the subgroup the code divides by zero (batch inversion of `x - ω^i`) and
    panics. -/
theorem barycentric_evaluate_panics_in_domain (codeword : List K) (x : K) (ω : K)
    (hω : root codeword.length = some ω) (hx : x ∈ (List.range codeword.length).map (fun i => ω ^ i)) :
    barycentricEvaluate FK codeword x = none :=
  barycentricEvaluate_in_domain root codeword x ω hω hx
end

/-- the hypotheses on `ω` are satisfiable, e.g. `ω = -1`, `n = 2` -/
example : ((List.range 2).map (fun i => (-1 : ℚ) ^ i)).Nodup := by decide

/-- the contracts on the routines of C06/C07/C09 are satisfiable (so none of the theorems above is vacuous) … -/
example : (Ext.ideal : Ext ℚ).Lawful := Ext.ideal_lawful
example (root : Nat → Option ℚ) : (Ext.idealNtt root).Lawful ∧ Ext.LawfulNtt root (Ext.idealNtt root) :=
  ⟨Ext.idealNtt_lawful root, Ext.idealNtt_lawfulNtt root⟩
/-- … and so are the hypotheses on the points -/
example : ([0, 1, 2] : List ℚ).Nodup ∧ ([0, 1, 2] : List ℚ).length = ([5, 7, 11] : List ℚ).length
    ∧ ([0, 1, 2] : List ℚ) ≠ [] := by decide
example : 2 ≤ Thr.src.zf ∧ 0 < Thr.src.rt ∧ 2 ≤ Thr.src.batch := by decide

/-- the thresholds the theorems are instantiated with by the driver come from the source -/
example : TF.Gen.FAST_ZEROFIER_CUTOFF_THRESHOLD = 100 := rfl


/-! ### the remaining public functions of the API (docs/POLY_API_COVERAGE.md): mixed-field `evaluate`, colinearity,
`lagrange_interpolate_zipped`, hand-built zerofier trees -/
section api

/-- `evaluate::<Ind, Eval>` of a polynomial over `K` at a point of an extension field `L` (e.g. a base-field
    polynomial at an extension-field point) is evaluation along the embedding, `eval₂ (algebraMap K L)`. -/
theorem evaluate_mixed_spec {L : Type} [Field L] [Algebra K L] (rootL : Nat → Option L) (p : List K) (x : L) :
    evaluateLift (FieldOps.ofField L rootL) (algebraMap K L) p x = (denote p).eval₂ (algebraMap K L) x :=
  evaluateLift_spec rootL p x
example : evaluateLift (FieldOps.ofField ℚ) (algebraMap ℚ ℚ) [1, 2, 0] 3 = 7 := by
  show ((0 * 3 + algebraMap ℚ ℚ 0) * 3 + algebraMap ℚ ℚ 2) * 3 + algebraMap ℚ ℚ 1 = (7 : ℚ); norm_num

/-- **`are_colinear_3`**: true exactly when the three abscissae are pairwise distinct and one line `y = a·x + b`
    passes through the three points. -/
theorem are_colinear_3_spec (p0 p1 p2 : K × K) :
    areColinear3 FK p0 p1 p2 = true ↔
      (p0.1 ≠ p1.1 ∧ p1.1 ≠ p2.1 ∧ p2.1 ≠ p0.1) ∧ ∃ a b : K, OnLine a b p0 ∧ OnLine a b p1 ∧ OnLine a b p2 :=
  areColinear3_iff root p0 p1 p2
example : OnLine (3 : ℚ) 5 (1, 8) ∧ OnLine (3 : ℚ) 5 (2, 11) := by constructor <;> norm_num [OnLine]

/-- **`are_colinear`**, every list: true exactly when there are at least three points, the abscissae are pairwise
    distinct and one line passes through all of them (the division by `x₀ - x₁` cannot panic: it is only reached
    for distinct abscissae). -/
theorem are_colinear_spec (points : List (K × K)) :
    areColinear FK points = true ↔
      3 ≤ points.length ∧ (points.map (·.1)).Nodup ∧ ∃ a b : K, ∀ p ∈ points, OnLine a b p :=
  areColinear_iff root points
example : ([(1, 8), (2, 11), (4, 17)] : List (ℚ × ℚ)).map (·.1) = [1, 2, 4] := rfl

/-- the two colinearity tests agree on three points -/
theorem are_colinear_agrees_with_3 (p0 p1 p2 : K × K) :
    areColinear FK [p0, p1, p2] = areColinear3 FK p0 p1 p2 := by
  rw [Bool.eq_iff_iff, are_colinear_spec, are_colinear_3_spec]
  constructor
  · rintro ⟨_, hn, a, b, h⟩
    simp only [List.map_cons, List.map_nil, List.nodup_cons, List.mem_cons, List.not_mem_nil, or_false,
      not_or, List.nodup_nil, and_true] at hn
    exact ⟨⟨hn.1.1, hn.2.1, fun h' => hn.1.2 h'.symm⟩, a, b, h p0 (by simp), h p1 (by simp), h p2 (by simp)⟩
  · rintro ⟨⟨h01, h12, h20⟩, a, b, e0, e1, e2⟩
    refine ⟨by simp, ?_, a, b, ?_⟩
    · simp only [List.map_cons, List.map_nil, List.nodup_cons, List.mem_cons, List.not_mem_nil, or_false,
        not_or, List.nodup_nil, and_true]
      exact ⟨⟨h01, fun h' => h20 h'.symm⟩, h12, not_false⟩
    · intro p hp
      simp only [List.mem_cons, List.not_mem_nil, or_false] at hp
      rcases hp with rfl | rfl | rfl <;> assumption
example : (1 : ℚ) ≠ 2 ∧ (2 : ℚ) ≠ 4 ∧ (4 : ℚ) ≠ 1 := by norm_num

/-- **`get_colinear_y`** for distinct abscissae: it does not panic and returns the ordinate at `x` of *the* line
    through the two points (there is one, and every line through them gives this value) — i.e. the value of the
    degree-≤1 interpolant; for equal abscissae it panics (`assert_ne!`). -/
theorem get_colinear_y_spec (p0 p1 : K × K) (x : K) :
    (p0.1 ≠ p1.1 → ∃ y, getColinearY FK p0 p1 x = some y ∧
      (∃ a b : K, OnLine a b p0 ∧ OnLine a b p1 ∧ y = a * x + b) ∧
      (∀ a b : K, OnLine a b p0 → OnLine a b p1 → y = a * x + b)) ∧
    (getColinearY FK p0 p1 x = none ↔ p0.1 = p1.1) :=
  ⟨getColinearY_spec root p0 p1 x, getColinearY_none root p0 p1 x⟩
example : ((1 : ℚ), (8 : ℚ)).1 ≠ ((2 : ℚ), (11 : ℚ)).1 := by norm_num

/-- **`lagrange_interpolate_zipped`** (points given as pairs): for a non-empty list with pairwise distinct abscissae it
    returns the unique interpolant; for the empty list and for a repeated abscissa it panics (the two `assert!`s). -/
theorem lagrange_interpolate_zipped_spec {E : Ext K} (hE : E.Lawful) (points : List (K × K)) :
    (points ≠ [] → (points.map (·.1)).Nodup →
      ∃ f, lagrangeInterpolateZipped FK E points = some f ∧
        Interpolates (points.map (·.1)) (points.map (·.2)) (denote f)) ∧
    (points = [] ∨ ¬ (points.map (·.1)).Nodup → lagrangeInterpolateZipped FK E points = none) := by
  constructor
  · intro hne hn
    unfold lagrangeInterpolateZipped
    rw [if_neg (by simpa using hne), (allUnique_iff root _).2 hn]
    simp only [Bool.not_true, Bool.false_eq_true, if_false]
    exact lagrange_interpolate_spec root hE _ (by decide) _ _ hn (by simp)
  · rintro (rfl | hd)
    · rfl
    · unfold lagrangeInterpolateZipped
      split
      · rfl
      · have : allUnique FK (points.map (·.1)) = false := by
          rw [Bool.eq_false_iff]; exact fun h => hd ((allUnique_iff root _).1 h)
        rw [this]; rfl
example : ([((1 : ℚ), (5 : ℚ)), (2, 7)].map (·.1)).Nodup := by decide

/-- **hand-built zerofier trees.**  Every tree assembled from the public constructors `Leaf::new`, `Branch::new` and
    `Padding` — any shape: unbalanced, padding anywhere, empty or oversized leaves, for every zerofier cut-off `T ≥ 2` —
    is built without a panic, stores `∏ (X - x)` over the points below every node, and
    `divide_and_conquer_batch_evaluate` over it returns the evaluations in left-to-right order. -/
theorem hand_built_tree_spec {E : Ext K} (hE : E.Lawful) (T : Nat) (hT : 2 ≤ T) (s : TreeSpec K) (p : List K) :
    ∃ t, buildTree FK E T s = some t ∧ t.Good ∧ t.points = s.points ∧
      denote (t.zerofier FK) = zpoly s.points ∧
      dcEval FK E p t = some (s.points.map (fun x => (denote p).eval x)) := by
  obtain ⟨t, ht⟩ := Option.isSome_iff_exists.1 (buildTree_total root (E := E) T hT s)
  obtain ⟨hg, hp⟩ := buildTree_good root hE T s t ht
  exact ⟨t, ht, hg, hp, by rw [hg.zerofier root, hp], by rw [dcEval_spec root hE p t hg, hp]⟩
example : (TreeSpec.branch (.leaf [1, 2]) (.branch .padding (.leaf [(3 : ℚ)]))).points = [1, 2, 3] := rfl

end api

end TF.C08
