import TF.Proofs.Codec
import TF.Proofs.GenBridgeCodec
import TF.Proofs.GenBridgeCodecGeneric
/-!
# C13 — decoding is total, strict and resource-bounded on arbitrary sequences

Same model as C03 (`TF/Model/Codec.lean`), tied to the crate by the correspondence family `codec13`
(near-valid sequences, `catch_unwind`, allocation-counting global allocator).

Notation: `Good s` — the sequence consists of canonical field elements (`Canon s`) and has fewer than `2^32` elements
(longer sequences cannot be materialised; beyond that `sequence_index + item_length` could overflow `usize`, which the
model turns into `Outcome.panic`). `NoZeroWidthItems t` — decidable; excludes exactly the class of finding F10, for
which the negation is proved below (`zero_width_*`). `Val.size` counts the nodes of a decoded value, `Ty.size` the
nodes of the type expression (a constant per type).

Memory itself is not observable in Lean: what is proved is that the *decoded value* (everything `decode` ever
returns) is linear in the sequence length whatever the length fields say, that counts are bounded by the sequence
length, and that the work done on *any* outcome is linear too (`decode_work_bound`). That the Rust code does not
pre-allocate from untrusted counts is tested by the harness (peak bytes per decode ≤ 512·(len+1)+4096), not proved.
-/
namespace TF.C13
open TF.Codec

/-- **Never a panic or arithmetic overflow**: every type without zero-width list items, every canonical sequence. -/
theorem decode_never_panics (t : Ty) (s : List Nat) (hz : NoZeroWidthItems t) (hc : Canon s)
    (hl : s.length < 2^32) : decode t s ≠ .panic :=
  TF.Codec.decode_ne_panic t s hz ⟨hc, hl⟩
example : NoZeroWidthItems (.vec (.tuple [.phantom, .vec (.option .u128)])) ∧
    Canon [18446744069414584320, 4294967296, 0] ∧ [18446744069414584320, 4294967296, 0].length < 2^32 := by decide

/-- **Total and strict**: the outcome is either an error, or a well-typed value whose one and only encoding is the
    input sequence. -/
theorem decode_total_strict (t : Ty) (s : List Nat) (hz : NoZeroWidthItems t) (hc : Canon s) (hl : s.length < 2^32) :
    (∃ k, decode t s = .err k) ∨ (∃ v, decode t s = .ok v ∧ HasTy t v ∧ encode t v = s) :=
  TF.Codec.decode_strict t s hz hc hl
example : decode (.tuple [.u32, .vec .u8]) [2, 1, 7, 9] = .ok (.list [.num 9, .list [.num 7]]) := rfl

/-- **Everything that is not the encoding of a value is rejected** (strictness at full strength). -/
theorem rejects_everything_else (t : Ty) (s : List Nat) (hz : NoZeroWidthItems t) (hc : Canon s)
    (hl : s.length < 2^32) (hne : ∀ v, HasTy t v → encode t v ≠ s) : ∃ k, decode t s = .err k := by
  rcases decode_total_strict t s hz hc hl with h | ⟨v, _, hv, he⟩
  · exact h
  · exact absurd he (hne v hv)
example : decode (.tuple [.u32, .vec .u8]) [9, 1, 7, 9] = .err .tooShort := rfl

/-- **Resource bound**: whatever the length fields claim, a decoded value has at most `Ty.size t · max 1 |s|` nodes. -/
theorem decode_size_bound (t : Ty) (s : List Nat) (v : Val) (h : decode t s = .ok v) :
    v.size ≤ t.size * max 1 s.length :=
  TF.Codec.decode_size t s v h
example : decode (.vec (.vec .u8)) [2, 1, 0, 2, 1, 5] = .ok (.list [.list [], .list [.num 5]]) := rfl

/-- **Work bound, any outcome** (ok, err or panic): the number of decoder calls and loop iterations `decode t s`
    performs — `cost t s`, defined along the control flow of `decode` in `TF/Model/Codec.lean` — is at most
    `Ty.work t · max 1 |s|`, whatever counts and length prefixes the sequence contains. -/
theorem decode_work_bound (t : Ty) (s : List Nat) : cost t s ≤ t.work * max 1 s.length :=
  TF.Codec.cost_le t s
example : cost (.vec (.vec .u8)) [18446744069414584320, 2, 1, 5, 18446744069414584320] = 8 ∧
    decode (.vec (.vec .u8)) [18446744069414584320, 2, 1, 5, 18446744069414584320] = .err .tooShort ∧
    (Ty.vec (.vec .u8)).work = 7 := ⟨rfl, rfl, rfl⟩

/-- an accepted `Vec` never has more items than the sequence has elements (item types of static width 0 are no
    exception: with them nothing is accepted at all, see `zero_width_vec_never_accepts`) -/
theorem vec_count_bounded (t : Ty) (n : Nat) (rest : List Nat) (v : Val)
    (h : decode (.vec t) (n :: rest) = .ok v) : n ≤ rest.length := by
  obtain ⟨_, _, _, e, -, hvs⟩ := decode_vec_ok h
  cases e
  exact decodeList_count hvs
example : decode (.vec .u64) [9223372036854775808, 1, 2] = .err .invalidLen := rfl

/-- a type of static length `n` accepts no canonical sequence of another length -/
theorem rejects_wrong_length (t : Ty) (s : List Nat) (n : Nat) (hz : NoZeroWidthItems t) (hc : Canon s)
    (hl : s.length < 2^32) (hs : staticLength t = some n) (hne : s.length ≠ n) : ∃ k, decode t s = .err k := by
  rcases decode_total_strict t s hz hc hl with h | ⟨v, hv, -, -⟩
  · exact h
  · exact absurd (decode_length_static t s v n hc hv hs) hne
example : staticLength Ty.digest = some 5 ∧ decode Ty.digest [1, 2, 3, 4] = .err .tooShort ∧
    decode Ty.digest [1, 2, 3, 4, 5, 6] = .err .tooLong := ⟨rfl, rfl, rfl⟩

/-- 32-bit limbs: an element `≥ 2^32` is rejected in `u32`, `u64`, `u128`, `U32s<N>` -/
theorem rejects_limb_out_of_range_u32 (x : Nat) (h : 2^32 ≤ x) : decode .u32 [x] = .err .range :=
  decodeSmall_range h
example : decode .u32 [4294967296] = .err .range ∧ decode .u32 [4294967295] = .ok (.num 4294967295) := ⟨rfl, rfl⟩
theorem rejects_limb_out_of_range_u64 (a b : Nat) (h : 2^32 ≤ a ∨ 2^32 ≤ b) : decode .u64 [a, b] = .err .range :=
  decodeLimbs_range (k := 2) (by decide) rfl (by simpa using h)
example : decode .u64 [4294967295, 4294967296] = .err .range ∧
    decode .u64 [4294967295, 4294967295] = .ok (.num (2^64 - 1)) := ⟨rfl, rfl⟩
theorem rejects_limb_out_of_range_u128 (a b c d : Nat) (h : 2^32 ≤ a ∨ 2^32 ≤ b ∨ 2^32 ≤ c ∨ 2^32 ≤ d) :
    decode .u128 [a, b, c, d] = .err .range :=
  decodeLimbs_range (k := 4) (by decide) rfl (by simpa using h)
example : decode .u128 [0, 0, 0, 18446744069414584320] = .err .range := rfl
theorem rejects_small_out_of_range (x : Nat) :
    (2^8 ≤ x → decode .u8 [x] = .err .range) ∧ (2^16 ≤ x → decode .u16 [x] = .err .range) :=
  ⟨decodeSmall_range, decodeSmall_range⟩
example : decode .u8 [256] = .err .range ∧ decode .u16 [65536] = .err .range := ⟨rfl, rfl⟩
/-- booleans greater than 1 -/
theorem rejects_bool_out_of_range (x : Nat) (h : 1 < x) : decode .bool [x] = .err .range :=
  decodeSmall_range h
example : decode .bool [2] = .err .range ∧ decode .bool [1] = .ok (.num 1) := ⟨rfl, rfl⟩
/-- option tags greater than 1 -/
theorem rejects_option_tag (t : Ty) (tag : Nat) (rest : List Nat) (h : 1 < tag) :
    decode (.option t) (tag :: rest) = .err .range := by
  simp only [decode]; rw [if_neg (by omega), if_neg (by omega)]
example : decode (.option .u8) [2, 7] = .err .range ∧ decode (.option .u8) [1, 7] = .ok (.opt (some (.num 7))) := ⟨rfl, rfl⟩
/-- a `None` followed by anything -/
theorem rejects_none_with_payload (t : Ty) (x : Nat) (rest : List Nat) :
    decode (.option t) (0 :: x :: rest) = .err .tooLong := rfl
/-- unknown enum discriminant -/
theorem rejects_unknown_discriminant (vars : List (List Ty)) (d : Nat) (rest : List Nat) (h : vars.length ≤ d) :
    decode (.enum vars) (d :: rest) = .err .badDiscriminant :=
  decode_enum_of_length_le vars d rest h
example : decode (.enum [[], [.u8]]) [2, 7] = .err .badDiscriminant ∧
    decode (.enum [[], [.u8]]) [1, 7] = .ok (.variant 1 [.num 7]) := ⟨rfl, rfl⟩
/-- inconsistent count of a `Vec` with statically sized items -/
theorem rejects_inconsistent_count (t : Ty) (w n : Nat) (rest : List Nat) (hs : staticLength t = some w)
    (hne : rest.length ≠ n * w) : ∃ k, decode (.vec t) (n :: rest) = .err k := by
  obtain ⟨k, hk⟩ := decodeList_static_of_length_ne (dec := fun c => decode t c) hne
  exact ⟨k, by simp only [decode, decodeVec, hs, hk]; rfl⟩
example : staticLength .u64 = some 2 ∧ decode (.vec .u64) [2, 1, 0, 2] = .err .tooShort ∧
    decode (.vec .u64) [1, 1, 0, 2] = .err .tooLong := ⟨rfl, rfl, rfl⟩
/-- inconsistent length prefix of a dynamically sized tuple component / list item: the accepted sequence *is* the
    layout `prefix = length of the component's encoding` (instance of uniqueness) -/
theorem rejects_inconsistent_prefix (t : Ty) (ts : List Ty) (s : List Nat) (v : Val) (vs : List Val)
    (h : decode (.tuple (t :: ts)) s = .ok (.list (v :: vs))) :
    s = encodeFields ts vs ++ prefixed (isDyn t) (encode t v) := by
  have := TF.Codec.encode_decode _ s _ h
  simpa [encode, encodeFields] using this.symm
example : decode (.tuple [.vec .u8, .u32]) [9, 2, 1, 7] = .ok (.list [.list [.num 7], .num 9]) ∧
    decode (.tuple [.vec .u8, .u32]) [9, 3, 1, 7] = .err .tooShort ∧
    decode (.tuple [.vec .u8, .u32]) [9, 1, 0, 7] = .err .tooLong := ⟨rfl, rfl, rfl⟩
/-- a polynomial whose leading coefficient is zero is never accepted -/
theorem rejects_poly_trailing_zero (t : Ty) (s : List Nat) (v : Val) (h : decode (.poly t) s = .ok v) :
    ∃ cs, v = .list cs ∧ lastIsZero cs = false := by
  obtain ⟨_, _, cs, -, rfl, hz, -⟩ := decode_poly_ok h
  exact ⟨cs, rfl, hz⟩
/-- nor one whose length indicator is inconsistent -/
theorem rejects_poly_bad_indicator (t : Ty) (ind : Nat) (rest : List Nat) (h : rest.length ≠ ind) :
    ∃ k, decode (.poly t) (ind :: rest) = .err k := by
  simp only [decode, List.length_cons]
  by_cases h1 : rest.length + 1 < ind + 1
  · exact ⟨.tooShort, by simp [h1]⟩
  · exact ⟨.tooLong, by rw [if_neg h1, if_pos (by omega)]⟩
example : decode (.poly .bfe) [3, 2, 5, 0] = .err .trailingZeros := rfl

/-! ## finding F10 in general form: list items of static width 0 -/

/-- `Vec<T>` with `T` of static width 0: decoding `[n]` panics for every `n` (`chunks_exact(0)`), … -/
theorem zero_width_vec_panics (t : Ty) (n : Nat) (hs : staticLength t = some 0) : decode (.vec t) [n] = .panic := by
  simp [decode, decodeVec, decodeList, hs]
example : staticLength (.array 0 .u32) = some 0 ∧ decode (.vec (.array 0 .u32)) [0] = .panic := ⟨rfl, rfl⟩
/-- … and no sequence whatsoever is accepted, in particular not the encoding of any vector -/
theorem zero_width_vec_never_accepts (t : Ty) (s : List Nat) (v : Val) (hs : staticLength t = some 0) :
    decode (.vec t) s ≠ .ok v := by
  intro h
  obtain ⟨_, _, _, -, -, hvs⟩ := decode_vec_ok h
  exact decodeList_zero_width (hs ▸ hvs)
example : staticLength (.struct []) = some 0 := rfl
/-- `[T; N]` with `T` of static width 0 accepts nothing either: `N > 0` rejects the (empty) encoding of every array
    value, `N = 0` panics on it -/
theorem zero_width_array_never_accepts (t : Ty) (n : Nat) (s : List Nat) (v : Val) (hs : staticLength t = some 0) :
    decode (.array n t) s ≠ .ok v := by
  intro h
  obtain ⟨_, -, hvs⟩ := decode_array_ok h
  exact decodeList_zero_width (hs ▸ hvs)
example : decode (.array 3 .phantom) [] = .err .empty ∧ decode (.array 0 .phantom) [] = .panic := ⟨rfl, rfl⟩
theorem zero_width_array_own_encoding (t : Ty) (n : Nat) (vs : List Val) (hs : staticLength t = some 0)
    (hv : HasTy (.array n t) (.list vs)) :
    encode (.array n t) (.list vs) = [] ∧
    decode (.array n t) [] = if n > 0 then .err .empty else .panic := by
  constructor
  · simp only [HasTy, hasTy, Bool.and_eq_true, beq_iff_eq, List.all_eq_true] at hv
    have := encodeItems_length_static (fun x => encode t x) 0 vs
      (fun x hx => TF.Codec.encode_length_static t x 0 (hv.2 x hx) hs)
    simp only [encode, isDyn, hs, Option.isNone_some]
    exact List.eq_nil_of_length_eq_zero (by simpa using this)
  · by_cases h : n > 0
    · simp [decode, h]
    · have : n = 0 := by omega
      subst this
      simp [decode, decodeList, hs]
example : staticLength (.tuple [.phantom, .array 0 .u32, .u32s 0, .struct []]) = some 0 := by decide

end TF.C13

/-! ## regenerated-from-source bridge: strictness and totality of the leaf decoders

Same regenerated definitions as in `TF/Props/C03.lean` (`TF/Gen/CodecLeaves.lean`, `TF.Gen.Loops.codec_*_decode`, written by
`tools/rs2lean_conv.py` from the macro bodies and impls of `bfield_codec.rs`; raw Montgomery words, `vals r = r.map
bfe_value`, errors are variant names, `f_ok` true iff `f` cannot overflow / index out of range / fail an `unwrap`).  The
bridges `gen_*_decode` (all sequences, `TF/Proofs/GenBridgeCodec.lean`) carry the strictness lemmas above over to the code
as it is in the source now. -/
namespace TF.C13
open TF.Codec TF.Gen TF.GenBridge.Codec

/-- **regenerated leaf decoders = hand model, on every sequence of words**, and none of them can panic (no arithmetic
    overflow in the limb sums, no index out of range): totality of the leaves for the code as it is now -/
theorem gen_leaf_decoders_eq_model (r : List Nat) :
    Loops.codec_u64_decode r = exceptNat (decode .u64 (vals r)) ∧
    Loops.codec_u128_decode r = exceptNat (decode .u128 (vals r)) ∧
    Loops.codec_u8_decode r = exceptNat (decode .u8 (vals r)) ∧
    Loops.codec_u16_decode r = exceptNat (decode .u16 (vals r)) ∧
    Loops.codec_u32_decode r = exceptNat (decode .u32 (vals r)) ∧
    Loops.codec_bool_decode r = exceptBool (decode .bool (vals r)) ∧
    exceptVal (Loops.codec_bfe_decode r) = exceptNat (decode .bfe (vals r)) ∧
    Loops.codec_u64_decode_ok r = true ∧ Loops.codec_u128_decode_ok r = true ∧ Loops.codec_u8_decode_ok r = true ∧
    Loops.codec_u16_decode_ok r = true ∧ Loops.codec_u32_decode_ok r = true ∧ Loops.codec_bool_decode_ok r = true ∧
    Loops.codec_bfe_decode_ok r = true :=
  ⟨(gen_u64_decode r).1, (gen_u128_decode r).1, (gen_u8_decode r).1, (gen_u16_decode r).1, (gen_u32_decode r).1,
    (gen_bool_decode r).1, (gen_bfe_decode r).1, (gen_u64_decode r).2, (gen_u128_decode r).2, (gen_u8_decode r).2,
    (gen_u16_decode r).2, (gen_u32_decode r).2, (gen_bool_decode r).2, (gen_bfe_decode r).2⟩
example : Loops.codec_u64_decode [bfe_new 18446744069414584320, 0] = .error "ElementOutOfRange" ∧
    Loops.codec_u64_decode_ok [bfe_new 18446744069414584320, bfe_new 18446744069414584320] = true ∧
    Loops.codec_u128_decode_ok [bfe_new 4294967295, bfe_new 4294967295, bfe_new 4294967295, bfe_new 4294967295] = true := by
  decide +kernel

/-- **transfer** of `rejects_limb_out_of_range_u64` / `_u128`: a limb whose value is `≥ 2^32` is rejected with
    `ElementOutOfRange` by the regenerated decoders, wherever it stands -/
theorem gen_rejects_limb_out_of_range (a b c d : Nat) :
    ((2^32 ≤ bfe_value a ∨ 2^32 ≤ bfe_value b) → Loops.codec_u64_decode [a, b] = .error "ElementOutOfRange") ∧
    ((2^32 ≤ bfe_value a ∨ 2^32 ≤ bfe_value b ∨ 2^32 ≤ bfe_value c ∨ 2^32 ≤ bfe_value d) →
      Loops.codec_u128_decode [a, b, c, d] = .error "ElementOutOfRange") := by
  constructor
  · intro h
    rw [(gen_u64_decode [a, b]).1]
    show exceptNat (decode .u64 [bfe_value a, bfe_value b]) = _
    rw [rejects_limb_out_of_range_u64 _ _ h]; rfl
  · intro h
    rw [(gen_u128_decode [a, b, c, d]).1]
    show exceptNat (decode .u128 [bfe_value a, bfe_value b, bfe_value c, bfe_value d]) = _
    rw [rejects_limb_out_of_range_u128 _ _ _ _ h]; rfl
example : (2:Nat)^32 ≤ bfe_value (bfe_new 4294967296) ∧
    Loops.codec_u128_decode [0, bfe_new 4294967296, 0, 0] = .error "ElementOutOfRange" ∧
    Loops.codec_u128_decode [0, bfe_new 4294967295, 0, 0] = .ok 18446744069414584320 := by decide +kernel

/-- **transfer** of `rejects_small_out_of_range`, `rejects_limb_out_of_range_u32`, `rejects_bool_out_of_range`: values that
    do not fit are rejected with `ElementOutOfRange` by the regenerated `u8` / `u16` / `u32` / `bool` decoders -/
theorem gen_rejects_small_and_bool_out_of_range (a : Nat) :
    (2^8 ≤ bfe_value a → Loops.codec_u8_decode [a] = .error "ElementOutOfRange") ∧
    (2^16 ≤ bfe_value a → Loops.codec_u16_decode [a] = .error "ElementOutOfRange") ∧
    (2^32 ≤ bfe_value a → Loops.codec_u32_decode [a] = .error "ElementOutOfRange") ∧
    (1 < bfe_value a → Loops.codec_bool_decode [a] = .error "ElementOutOfRange") := by
  refine ⟨fun h => ?_, fun h => ?_, fun h => ?_, fun h => ?_⟩
  · rw [(gen_u8_decode [a]).1]
    show exceptNat (decode .u8 [bfe_value a]) = _
    rw [(rejects_small_out_of_range _).1 h]; rfl
  · rw [(gen_u16_decode [a]).1]
    show exceptNat (decode .u16 [bfe_value a]) = _
    rw [(rejects_small_out_of_range _).2 h]; rfl
  · rw [(gen_u32_decode [a]).1]
    show exceptNat (decode .u32 [bfe_value a]) = _
    rw [rejects_limb_out_of_range_u32 _ h]; rfl
  · rw [(gen_bool_decode [a]).1]
    show exceptBool (decode .bool [bfe_value a]) = _
    rw [rejects_bool_out_of_range _ h]; rfl
example : (2:Nat)^8 ≤ bfe_value (bfe_new 256) ∧ Loops.codec_u8_decode [bfe_new 256] = .error "ElementOutOfRange" ∧
    Loops.codec_u8_decode [bfe_new 255] = .ok 255 ∧ Loops.codec_bool_decode [bfe_new 2] = .error "ElementOutOfRange" ∧
    Loops.codec_bool_decode [bfe_new 1] = .ok true ∧ Loops.codec_bool_decode [bfe_new 0] = .ok false := by
  decide +kernel

/-- **transfer** of `rejects_wrong_length`: the regenerated leaf decoders accept only sequences of exactly their static
    length, and say which way the length is wrong -/
theorem gen_rejects_wrong_length (r : List Nat) (n : Nat) :
    (Loops.codec_u64_decode r = .ok n → some r.length = Loops.codec_u64_static_length) ∧
    (Loops.codec_u128_decode r = .ok n → some r.length = Loops.codec_u128_static_length) ∧
    (Loops.codec_u8_decode r = .ok n → some r.length = Loops.codec_u8_static_length) ∧
    (Loops.codec_u16_decode r = .ok n → some r.length = Loops.codec_u16_static_length) ∧
    (Loops.codec_u32_decode r = .ok n → some r.length = Loops.codec_u32_static_length) ∧
    (r = [] → Loops.codec_u64_decode r = .error "EmptySequence" ∧ Loops.codec_u8_decode r = .error "EmptySequence") ∧
    (0 < r.length → r.length < 2 → Loops.codec_u64_decode r = .error "SequenceTooShort") ∧
    (2 < r.length → Loops.codec_u64_decode r = .error "SequenceTooLong") ∧
    (0 < r.length → r.length < 4 → Loops.codec_u128_decode r = .error "SequenceTooShort") ∧
    (4 < r.length → Loops.codec_u128_decode r = .error "SequenceTooLong") ∧
    (1 < r.length → Loops.codec_u8_decode r = .error "SequenceTooLong" ∧ Loops.codec_u16_decode r = .error "SequenceTooLong" ∧
      Loops.codec_u32_decode r = .error "SequenceTooLong") := by
  have hl := TF.GenBridge.CodecG.vals_length r
  have limbs : ∀ k, exceptNat (decodeLimbs k (vals r)) = .ok n → some r.length = some k := fun k h => by
    obtain ⟨v, hv, -⟩ := exceptNat_ok_inv h
    rw [← hl, (decodeLimbs_ok hv).1]
  have small : ∀ b, exceptNat (decodeSmall b (vals r)) = .ok n → some r.length = some 1 := fun b h => by
    obtain ⟨v, hv, -⟩ := exceptNat_ok_inv h
    obtain ⟨x, hx, -⟩ := decodeSmall_ok hv
    rw [← hl, hx]; rfl
  have short : ∀ k, 0 < r.length → r.length < k → exceptNat (decodeLimbs k (vals r)) = .error "SequenceTooShort" :=
    fun k h0 h => by rw [decodeLimbs_of_length_lt (List.ne_nil_of_length_pos (hl ▸ h0)) (hl ▸ h)]; rfl
  have long : ∀ k, k < r.length → exceptNat (decodeLimbs k (vals r)) = .error "SequenceTooLong" :=
    fun k h => by rw [decodeLimbs_of_length_gt (hl ▸ h)]; rfl
  have long1 : ∀ b, 1 < r.length → exceptNat (decodeSmall b (vals r)) = .error "SequenceTooLong" :=
    fun b h => by rw [decodeSmall_of_length_gt (hl ▸ h)]; rfl
  rw [(gen_u64_decode r).1, (gen_u128_decode r).1, (gen_u8_decode r).1, (gen_u16_decode r).1, (gen_u32_decode r).1]
  exact ⟨limbs 2, limbs 4, small _, small _, small _, fun h => by subst h; exact ⟨rfl, rfl⟩, short 2, long 2, short 4, long 4,
    fun h => ⟨long1 _ h, long1 _ h, long1 _ h⟩⟩
example : Loops.codec_u64_decode [0] = .error "SequenceTooShort" ∧ Loops.codec_u128_decode [0, 0, 0, 0, 0] = .error "SequenceTooLong" ∧
    Loops.codec_u32_decode [0, 0] = .error "SequenceTooLong" := by decide +kernel

end TF.C13

/-! ## regenerated-from-source bridge: the generic combinators

The list decoders and the `Vec<T>` / `[T; N]` / `Option<T>` / `Box<T>` / `PhantomData<T>` decoders regenerated from the source
(`TF/Gen/CodecGeneric.lean`, `tools/rs2lean_codec.py`; bridges in `TF/Props/C03.lean`, proofs in
`TF/Proofs/GenBridgeCodecGeneric.lean`).  `Item G toVal (decode ty)`: the regenerated decoder `G` (on `u64` words, into
`Res = ok | err | panic`) is observed as the model's `decode ty` on the canonical values.  The strictness / totality
theorems of this file are restated for such decoders and, directly, for the regenerated combinators with an arbitrary
item codec. -/
namespace TF.C13
open TF.Codec TF.Gen TF.GenBridge.Codec TF.GenBridge.CodecG TF.RustStd

/-- **transfer of `decode_never_panics`**: a regenerated decoder observed as `decode ty` never panics on fewer than `2^32`
    words when `ty` has no zero-width list items … -/
theorem gen_decode_never_panics {ε α : Type} (ty : Ty) (G : List Nat → Res ε α) (toVal : α → Val)
    (h : Item G toVal (decode ty)) (hz : NoZeroWidthItems ty) (r : List Nat) (hw : Words r) (hl : r.length < 2^32) :
    (G r).noPanic = true :=
  item_noPanic h r hw (decode_never_panics ty (vals r) hz (canon_vals r hw) (by rw [vals_length]; exact hl))

/-- … and the excluded class is real in the regenerated code (F10): with a zero-width item type the regenerated `Vec`
    decoder panics on `[n]`, whatever the item decoder is -/
theorem gen_zero_width_vec_panics {ε α : Type} (T_decode : List Nat → Res ε α) (into : ε → DynErr) (x : Nat) :
    (Loops.codec_decode_list_static (some 0) T_decode into x []).noPanic = false := by
  simp [Loops.codec_decode_list_static, Res.unwrapO, TF.RustStd.checked_mul, Res.need, Res.noPanic]

/-- **transfer of `vec_count_bounded`**: the regenerated `Vec` decoder accepts a count only if at least that many words
    follow (no allocation from the untrusted count) -/
theorem gen_vec_count_bounded {ε α : Type} (t : Ty) (T_decode : List Nat → Res ε α) (into : ε → DynErr) (toVal : α → Val)
    (h : Item T_decode toVal (decode t)) (x : Nat) (rest : List Nat) (hw : Words (x :: rest)) (l : List α)
    (hg : Loops.codec_vec_decode (staticLength t) T_decode into (x :: rest) = .ok l) : bfe_value x ≤ rest.length := by
  have := item_ok (vec_item t T_decode into toVal h) (x :: rest) hw l hg
  rw [vals_cons] at this
  have := vec_count_bounded t _ _ _ this
  rwa [vals_length] at this

/-- **transfer of `rejects_inconsistent_count`**: statically sized items, remaining length ≠ count · width ⇒ rejected -/
theorem gen_rejects_inconsistent_count {ε α : Type} (t : Ty) (w : Nat) (hs : staticLength t = some w)
    (T_decode : List Nat → Res ε α) (into : ε → DynErr) (toVal : α → Val) (h : Item T_decode toVal (decode t))
    (x : Nat) (rest : List Nat) (hw : Words (x :: rest)) (hne : rest.length ≠ bfe_value x * w) :
    ∃ e, Loops.codec_vec_decode (staticLength t) T_decode into (x :: rest) = .err e := by
  obtain ⟨k, hk⟩ := rejects_inconsistent_count t w (bfe_value x) (vals rest) hs (by rw [vals_length]; exact hne)
  exact item_rejects (vec_item t T_decode into toVal h) (x :: rest) hw k (by rw [vals_cons]; exact hk)

/-- **transfer of `rejects_option_tag` / `rejects_none_with_payload`**: the regenerated `Option` decoder rejects a tag `> 1`
    and a `None` tag followed by anything -/
theorem gen_rejects_option_tag {ε α : Type} (t : Ty) (T_decode : List Nat → Res ε α) (into : ε → DynErr) (toVal : α → Val)
    (h : Item T_decode toVal (decode t)) (x : Nat) (rest : List Nat) (hw : Words (x :: rest)) :
    (1 < bfe_value x → ∃ e, Loops.codec_option_decode T_decode into (x :: rest) = .err e) ∧
    (bfe_value x = 0 → rest ≠ [] → ∃ e, Loops.codec_option_decode T_decode into (x :: rest) = .err e) := by
  refine ⟨fun h1 => ?_, fun h0 hne => ?_⟩
  · exact item_rejects (option_item t T_decode into toVal h) (x :: rest) hw .range
      (by rw [vals_cons]; exact rejects_option_tag t _ _ h1)
  · cases rest with
    | nil => exact absurd rfl hne
    | cons y ys =>
      exact item_rejects (option_item t T_decode into toVal h) (x :: y :: ys) hw .tooLong
        (by rw [vals_cons, vals_cons, h0]; exact rejects_none_with_payload t _ _)
/-- **transfer of `rejects_poly_trailing_zero`**: whatever the regenerated `Polynomial` decoder accepts has a non-zero last
    coefficient (also when there is exactly one coefficient) -/
theorem gen_rejects_poly_trailing_zero {ε α : Type} (t : Ty) (T_decode : List Nat → Res ε α) (into : ε → DynErr) (isz : α → Bool)
    (toVal : α → Val) (h : Item T_decode toVal (decode t)) (hz : ∀ a, isz a = valIsZero (toVal a)) (r : List Nat)
    (hw : Words r) (l : List α) (hg : Loops.codec_poly_decode (staticLength t) T_decode into isz r = .ok l) :
    lastIsZero (l.map toVal) = false := by
  have := item_ok (poly_item t T_decode into isz toVal h hz) r hw l hg
  obtain ⟨cs, hcs, hl⟩ := rejects_poly_trailing_zero t _ _ this
  cases hcs
  exact hl
example : (Loops.codec_decode_list_static (some 0) (fun _ => (Res.ok () : Res String Unit)) (fun _ => ⟨""⟩) 3 []).noPanic = false :=
  gen_zero_width_vec_panics _ _ 3

end TF.C13
