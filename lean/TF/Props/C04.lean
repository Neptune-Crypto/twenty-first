import TF.Proofs.MerklePaths
import TF.Proofs.GenBridgeMerkleIndex
/-!
# C04 — Merkle inclusion-proof verification is sound, exact and total

Property theorems only (helper lemmas live in `TF/Proofs/Merkle*.lean`).  Everything is proved for an **arbitrary hash
function** `H : D → D → D` (the driver instantiates it with Tip5's `hash_pair`), so "sound" means: a wrong claim yields
an explicit collision `Collision H` (`∃ a b c d, (a,b) ≠ (c,d) ∧ H a b = H c d`).

Notation.  `Proof D` = `MerkleTreeInclusionProof` (`height`, `leafs : List (index × digest)`, `auth`); `verify H p root :
Res Bool` is the model of `MerkleTreeInclusionProof::verify` (`Res` = `ok | err | panic`, where `panic` marks every
arithmetic overflow / out-of-bounds access / `zip_eq` mismatch of the Rust code; all numbers are unbounded naturals, so
"all of `usize`" is a special case).  `Spec.refVerify` is the reference verifier: trivial proofs are accepted; otherwise
`Spec.wellFormed p` (height ≤ `MAX_TREE_HEIGHT`, all indices `< 2^height`, repeated indices carry equal digests, and
`auth` has **exactly** the length of the minimal node set `Spec.needed`) and the naive recursive recomputation
`Spec.refRoot` (claimed leafs + supplied nodes placed at `Spec.needed`, see `Spec.refVal`) equals the expected root.
`Spec.IsMerkleTree H filler ds nodes`: `nodes` is the heap-ordered honest tree over the leafs `ds`.
-/
set_option linter.unusedSectionVars false
namespace TF.C04
open TF.Gen TF.Merkle

variable {D : Type} [DecidableEq D] (H : D → D → D)

/-- **totality**: for every proof — any height, any indices, any multiset/order of claims, any length and content of the
    authentication structure — and every root, `verify` returns a verdict; no panic, i.e. no arithmetic overflow, no
    out-of-bounds access -/
theorem verify_total (p : Proof D) (root : D) : ∃ b, verify H p root = .ok b :=
  ⟨_, verify_eq_refVerify H p root⟩
example : verify Hx ⟨2^64 - 1, [(2^64 - 1, 7), (0, 7)], [1, 2, 3]⟩ 5 = .ok false := by decide +kernel

/-- **exactness**: the verdict is that of the reference recomputation: accepted iff the proof is trivial, or it is
    well-formed — in particular supplies exactly the minimal node set — and hashing the claimed leafs together with the
    supplied nodes, placed at the positions determined by indices and height, reproduces the root -/
theorem verify_exact (p : Proof D) (root : D) : verify H p root = .ok (Spec.refVerify H p root) :=
  verify_eq_refVerify H p root

theorem verify_accepts_iff (p : Proof D) (root : D) :
    verify H p root = .ok true ↔ (p.isTrivial = true ∨ (Spec.wellFormed p = true ∧ Spec.refRoot H p = some root)) := by
  rw [verify_eq_refVerify]
  unfold Spec.refVerify
  constructor
  · intro h
    have h' : (p.isTrivial || (Spec.wellFormed p && decide (Spec.refRoot H p = some root))) = true := by
      injection h
    simpa using h'
  · intro h
    congr 1
    simpa using h
example : verify Hx ⟨2, [(0, 1), (2, 3), (0, 1)], [4, 2]⟩ 193 = .ok true := by decide +kernel
example : verify Hx ⟨2, [(0, 1), (2, 3)], [4, 2, 2]⟩ 193 = .ok false := by decide +kernel      -- surplus node
example : verify Hx ⟨2, [(0, 1), (2, 3), (0, 2)], [4, 2]⟩ 193 = .ok false := by decide +kernel -- conflicting repetition
example : verify Hx ⟨32, [], []⟩ 193 = .ok true := by decide +kernel                           -- trivial proof

/-- **malformed proofs are rejected** (corollary of exactness): a non-trivial proof with a height above
    `MAX_TREE_HEIGHT`, an index outside `[0, 2^height)`, a repeated index with conflicting digests, or an authentication
    structure with a surplus or a missing node is rejected against every root -/
theorem verify_rejects_malformed (p : Proof D) (root : D) (hnt : p.isTrivial = false)
    (hbad : MAX_TREE_HEIGHT < p.height ∨ (∃ x ∈ p.leafs, 2^p.height ≤ x.1) ∨
      (∃ x ∈ p.leafs, ∃ y ∈ p.leafs, x.1 = y.1 ∧ x.2 ≠ y.2) ∨
      p.auth.length ≠ (Spec.needed p.height (p.leafs.map (·.1))).length) :
    verify H p root = .ok false := by
  rw [verify_eq_refVerify]
  congr 1
  unfold Spec.refVerify
  rw [hnt]
  cases hw : Spec.wellFormed p
  · rfl
  · exfalso
    obtain ⟨h1, h2, h3, h4⟩ := (wellFormed_iff p).1 hw
    rcases hbad with hb | ⟨x, hx, hb⟩ | ⟨x, hx, y, hy, e, ne⟩ | hb
    · unfold MAX_TREE_HEIGHT at hb; omega
    · have := h2 x hx; omega
    · unfold Spec.consistent at h3
      simp only [List.all_eq_true, Bool.or_eq_true, bne_iff_ne, ne_eq, decide_eq_true_eq] at h3
      rcases h3 x hx y hy with h' | h'
      · exact h' e
      · exact ne h'
    · exact hb h4
example : (⟨32, [(0, 1)], []⟩ : Proof Nat).isTrivial = false ∧ MAX_TREE_HEIGHT < 32 := by decide

/-- **soundness** (collision-extracting): if a non-trivial proof is accepted against the root of an honest tree of the
    stated height, then every claimed `(index, digest)` is the tree's leaf at that index — or an explicit collision of
    the hash function is exhibited -/
theorem verify_sound (filler : D) {ds : List D} {t : Tree D} {p : Proof D} {root : D}
    (hn : ds.length = 2^p.height) (hm : Spec.IsMerkleTree H filler ds t.nodes) (hr : t.root = .ok root)
    (hv : verify H p root = .ok true) (hnt : p.isTrivial = false) :
    (∀ x ∈ p.leafs, t.leaf x.1 = some x.2) ∨ Collision H :=
  -- `hnt` is not needed: a trivial proof claims no leaf
  verify_accept_sound H filler hn hm hr hv
example : ∃ t root, fromDigests Hx 0 256 [1, 2, 3, 4] = .ok t ∧ t.root = .ok root ∧
    verify Hx ⟨2, [(0, 1), (2, 3)], [4, 2]⟩ root = .ok true := ⟨_, _, rfl, rfl, by decide +kernel⟩

/-- soundness against a tree built by `from_digests` (any cut-off) -/
theorem verify_sound_built (filler : D) (cutoff : Nat) {ds : List D} {t : Tree D} {p : Proof D} {root : D}
    (hn : ds.length = 2^p.height) (ht : fromDigests H filler cutoff ds = .ok t) (hr : t.root = .ok root)
    (hv : verify H p root = .ok true) (hnt : p.isTrivial = false) :
    (∀ x ∈ p.leafs, t.leaf x.1 = some x.2) ∨ Collision H :=
  verify_sound H filler hn (isMerkleTree_of_fromDigests H hn ht) hr hv hnt

/-- **accessors are total and never present an inner node as a leaf** (after fix F1): on a tree over `n` leafs whose
    node vector is addressable, `leaf i` is the `i`-th leaf for `i < n` and `None` for *every* `i ≥ n` in the naturals
    (so in `usize`); `node i` is `nodes[i]` or `None`; `indexed_leafs`, `authentication_structure` and
    `inclusion_proof_for_leaf_indices` return `Ok` for in-range index lists and `Err` otherwise — never a panic -/
theorem accessors_total (filler : D) {ds : List D} {h : Nat} {t : Tree D} (hn : ds.length = 2^h) (hh : h ≤ MAX_TREE_HEIGHT)
    (hm : Spec.IsMerkleTree H filler ds t.nodes) :
    (∀ i, t.leaf i = if i < ds.length then ds[i]? else none) ∧
    (∀ i, ds.length ≤ i → t.leaf i = none) ∧
    (∀ i, t.node i = t.nodes[i]?) ∧
    (∀ idxs, (∀ i ∈ idxs, i < ds.length) →
      (∃ l, t.indexedLeafs idxs = .ok l) ∧ (∃ a, t.authStructure idxs = .ok a) ∧ (∃ p, t.inclusionProof idxs = .ok p)) ∧
    (∀ idxs, (∃ i ∈ idxs, ds.length ≤ i) →
      t.indexedLeafs idxs = .err .leafIndexInvalid ∧ t.authStructure idxs = .err .leafIndexInvalid ∧
      t.inclusionProof idxs = .err .leafIndexInvalid) := by
  have hh' : h ≤ 31 := hh
  have hsz := nodes_length_le_usize H hn hh' hm
  refine ⟨tree_leaf H hm hsz, ?_, fun _ => rfl, ?_, ?_⟩
  · intro i hi
    rw [tree_leaf H hm hsz, if_neg (by omega)]
  · intro idxs hi
    have hi' : ∀ i ∈ idxs, i < 2^h := fun i hx => by rw [← hn]; exact hi i hx
    exact ⟨⟨_, tree_indexedLeafs H hn hm hsz hi'⟩, ⟨_, tree_authStructure H hn (by omega) hm hi'⟩,
      ⟨_, tree_inclusionProof H hn (by omega) hm hsz hi'⟩⟩
  · intro idxs hbad
    exact ⟨tree_indexedLeafs_err H hm hsz hbad, tree_authStructure_err H hn (by omega) hm hbad,
      tree_inclusionProof_err H hn hm hsz hbad⟩
example : (do let t ← fromDigests Hx 0 256 [1, 2, 3, 4]; pure (t.leaf (2^64 - 3), t.leaf (2^64 - 1), t.leaf 4, t.leaf 3))
    = Res.ok (none, none, none, some 4) := by decide +kernel

/-- **path expansion is total**: `into_authentication_paths` succeeds exactly on well-formed proofs and returns an
    error otherwise (any height, indices, lengths) — never a panic; on success there is one path per claim, of length
    `height`, made of the recomputed or supplied sibling on every level -/
theorem into_paths_total (p : Proof D) :
    (Spec.wellFormed p = true ∧ ∃ paths, intoAuthPaths H p = .ok paths ∧ paths.length = p.leafs.length ∧
      ∀ (t : Nat) (x : Nat × D) (path : List D), p.leafs[t]? = some x → paths[t]? = some path →
        path.length = p.height ∧ ∀ j, j < p.height →
          path[j]? = Spec.sibVal H (Spec.leafAt p.height p.leafs) (Spec.authAt p.height (p.leafs.map (·.1)) p.auth) j
            (sib (anc p.height x.1 j)))
    ∨ (Spec.wellFormed p = false ∧ ∃ e, intoAuthPaths H p = .err e) :=
  intoAuthPaths_spec H p
example : intoAuthPaths Hx ⟨2, [(0, 1), (2, 3)], [4, 2]⟩ = .ok [[2, 30], [4, 14]] := by decide +kernel
example : intoAuthPaths Hx (⟨64, [], []⟩ : Proof Nat) = .err .treeTooHigh := by decide +kernel

/-- every expanded path authenticates its claim: hashing the claimed digest up along the returned path gives the root
    recomputed by the reference verifier (hence the expected root whenever `verify` accepts) -/
theorem into_paths_authenticate {p : Proof D} {paths : List (List D)} (hp : intoAuthPaths H p = .ok paths) :
    ∀ (t : Nat) (x : Nat × D) (path : List D), p.leafs[t]? = some x → paths[t]? = some path →
      Spec.refRoot H p = some (foldPath H (x.1 + 2^p.height) x.2 path) :=
  paths_fold H hp
example : foldPath Hx (2 + 2^2) 3 [4, 14] = 193 := by decide +kernel

end TF.C04

/-! ## regenerated-from-source bridge: Merkle index arithmetic (P03)

`MerkleTree::{num_leafs, height, node, leaf}` (with the `checked_add` of fix F1) and `PartialMerkleTree::num_leafs` (the
height check against `MAX_TREE_HEIGHT` and the shift) are **regenerated from the source on every run**
(`TF/Gen/MerkleIndex.lean`, `TF.Gen.Loops.mt_*` / `pmt_num_leafs`, written by `tools/rs2lean_conv.py`; every function `f` has
a twin `f_ok`, true iff nothing overflows / panics).  A `MerkleTree` is its node vector, digests are opaque (five words,
never inspected): the model's `Tree D` at `D = List Nat`; `PartialMerkleTree` is seen through `tree_height` only.
`resExcept` prints a model outcome as the source's `Result<_, MerkleTreeError>` (error = variant name).
Proofs: `TF/Proofs/GenBridgeMerkleIndex.lean`. -/
namespace TF.C04
open TF.Gen TF.Merkle TF.GenBridge.MerkleIndex

/-- regenerated accessors = hand model, for every node vector and every index: `num_leafs`, `node`, `leaf` (incl. indices
    where `first_leaf + index` overflows `usize`) cannot panic; `height` is `ilog2(num_leafs)` and panics exactly on a tree
    without leafs -/
theorem gen_tree_accessors_eq_model (ns : List (List Nat)) (i : Nat) :
    Loops.mt_num_leafs ns = (Tree.mk ns).numLeafs ∧ Loops.mt_num_leafs_ok ns = true ∧
    Loops.mt_node ns i = (Tree.mk ns).node i ∧ Loops.mt_node_ok ns i = true ∧
    Loops.mt_leaf ns i = (Tree.mk ns).leaf i ∧ Loops.mt_leaf_ok ns i = true ∧
    (Tree.mk ns).height = (if Loops.mt_height_ok ns then .ok (Loops.mt_height ns) else .panic) ∧
    (Loops.mt_height_ok ns = true ↔ 2 ≤ ns.length) :=
  ⟨rfl, rfl, rfl, rfl, (gen_leaf ns i).1, (gen_leaf ns i).2, (gen_height ns).1, (gen_height ns).2⟩
example : Loops.mt_leaf [[0], [1], [2], [3]] 1 = some [3] ∧ Loops.mt_leaf [[0], [1], [2], [3]] 2 = none ∧
    Loops.mt_leaf [[0], [1], [2], [3]] (2^64 - 2) = none ∧ Loops.mt_height [[0], [1], [2], [3]] = 1 ∧
    Loops.mt_height_ok [[0]] = false ∧ Loops.mt_node [[0], [1], [2], [3]] 4 = none := by decide +kernel

/-- regenerated `PartialMerkleTree::num_leafs` = hand model, for every height in `usize` or beyond: `TreeTooHigh` exactly
    above `MAX_TREE_HEIGHT`, otherwise `2^height`; the shift cannot overflow -/
theorem gen_partial_num_leafs_eq_model (h : Nat) :
    Loops.pmt_num_leafs h = resExcept (numLeafs h) ∧ Loops.pmt_num_leafs_ok h = true ∧
    (h ≤ MAX_TREE_HEIGHT → Loops.pmt_num_leafs h = .ok (2^h)) ∧
    (MAX_TREE_HEIGHT < h → Loops.pmt_num_leafs h = .error "TreeTooHigh") := by
  refine ⟨(gen_pmt_num_leafs h).1, (gen_pmt_num_leafs h).2, fun hh => ?_, fun hh => ?_⟩
  · rw [(gen_pmt_num_leafs h).1]
    have h31 : h ≤ 31 := hh
    unfold numLeafs shl1
    rw [if_neg (by omega), if_pos (by omega)]; rfl
  · rw [(gen_pmt_num_leafs h).1]
    unfold numLeafs
    rw [if_pos hh]; rfl
example : Loops.pmt_num_leafs 31 = .ok 2147483648 ∧ Loops.pmt_num_leafs 32 = .error "TreeTooHigh" ∧
    Loops.pmt_num_leafs (2^64 - 1) = .error "TreeTooHigh" ∧ MAX_TREE_HEIGHT = 31 := by decide +kernel

/-- **transfer** of `accessors_total` to the code as it is in the source now: on the node vector of a Merkle tree over
    `2^h` leaf digests (`h ≤ MAX_TREE_HEIGHT`, any hash on word lists) the regenerated `leaf` returns exactly the leafs and
    `None` beyond them (never an inner node, also where the index addition would overflow), `num_leafs` is the number of
    leafs, `height` is `h` and cannot panic -/
theorem gen_accessors_transfer (Hw : List Nat → List Nat → List Nat) (filler : List Nat) {ds : List (List Nat)} {h : Nat}
    {ns : List (List Nat)} (hn : ds.length = 2^h) (hh : h ≤ MAX_TREE_HEIGHT) (hm : Spec.IsMerkleTree Hw filler ds ns) :
    (∀ i, Loops.mt_leaf ns i = if i < ds.length then ds[i]? else none) ∧
    (∀ i, ds.length ≤ i → Loops.mt_leaf ns i = none) ∧
    Loops.mt_num_leafs ns = ds.length ∧ Loops.mt_height_ok ns = true ∧ Loops.mt_height ns = h := by
  have acc := accessors_total Hw filler (t := Tree.mk ns) hn hh hm
  have hl : ns.length = 2 * ds.length := hm.1
  have hnl : Loops.mt_num_leafs ns = ds.length := by
    show ns.length / 2 = ds.length
    omega
  have hpos : 0 < 2^h := Nat.pos_of_ne_zero (by simp)
  refine ⟨fun i => ?_, fun i hi => ?_, hnl, ?_, ?_⟩
  · rw [(gen_leaf ns i).1]; exact acc.1 i
  · rw [(gen_leaf ns i).1]; exact acc.2.1 i hi
  · exact (gen_height ns).2.mpr (by omega)
  · show Nat.log2 (Loops.mt_num_leafs ns) = h
    rw [hnl, hn, Nat.log2_two_pow]
example : ([[1], [2]] : List (List Nat)).length = 2^1 ∧ 1 ≤ MAX_TREE_HEIGHT ∧
    Loops.mt_leaf [[0], [9], [1], [2]] 1 = some [2] ∧ Loops.mt_height [[0], [9], [1], [2]] = 1 := by decide +kernel

end TF.C04
