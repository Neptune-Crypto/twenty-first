import TF.Proofs.MmrAcc
import TF.Proofs.MmrAccFree
import TF.Proofs.MmrAccBatch
import TF.Proofs.MmrAccVerify
import TF.Proofs.GenBridgeMmrPeaks
import TF.Proofs.GenBridgeMmrAccu
/-!
# C11 — the MMR accumulator always commits to the current leaf list

Property theorems only.  Model: `TF/Model/MmrAcc.lean` (hand-written, generic over the digest type `D` and the
compression function `H`, tied to `mmr_accumulator.rs` / `shared_basic.rs` / `shared.rs` by the correspondence family
`mmra`; it calls the **translated** `right_lineage_length_from_leaf_index` and
`leaf_index_to_mt_index_and_peak_index`).  Specification: `TF/Spec/MmrAcc.lean`.

Notation.  Leaves are a function `f : Nat → D` of which only `f 0 … f (n-1)` matter.
`peaksDirect H n f`: for each set bit of `n` from the highest down, `root` of the perfect tree over the next `2^k`
leaves — the obviously-right definition.  `peaks H n f`: the same list by recursion on the low bit.
`authPath H n f i`: from-scratch authentication path of leaf `i` (a *valid proof*).  `update f i x`: replace leaf `i`.
`applyUpdates f ms`: apply the `(index, value)` updates `ms` in order (`TF/Proofs/MmrAccBatch.lean`).
`bagSpec H z`: `z` for no peak, the peak for one, `H p₀ (H p₁ (… (H pₖ₋₂ pₖ₋₁)))` otherwise.
All theorems hold for **every** `H` (no property of the hash is used), `none` = the Rust code panics.
-/
namespace TF.C11
open TF TF.Spec.MmrAcc TF.Model.MmrAcc TF.MmrAccP TF.MmrAccB TF.MmrAccBatch

variable {D : Type} (H : D → D → D)

/-- the two definitions of the from-scratch peaks agree -/
theorem peaks_eq_peaksDirect (n : Nat) (f : Nat → D) : peaks H n f = peaksDirect H n f :=
  peaks_eq_peaksDirectAux H _ n f (TF.MmrE.lt_two_pow_log2_succ n)
example : peaks (fun a b : Nat => a * 10 + b) 3 (fun i => i + 1) = [12, 3] := by decide +kernel

/-- **append refines the from-scratch peaks**: appending `f n` to the accumulator of `f 0 … f (n-1)` (any `n` with
    `n + 1 < 2^64`) never panics and yields leaf count `n+1` and the from-scratch peaks of `f 0 … f n`; the number of
    merges is the carry chain (`trailing_ones n`) computed by the translated `right_lineage_length_from_leaf_index` -/
theorem append_refines (n : Nat) (hn : n + 1 < 2^64) (f : Nat → D) :
    ∃ ap, append H { leaf_count := n, peaks := peaks H n f } (f n)
      = some ({ leaf_count := n + 1, peaks := peaks H (n+1) f }, ap) :=
  append_refines_model H n hn f
example : (9223372036854775807 : Nat) + 1 < 2^64 := by decide

/-- an accumulator with fewer peaks than merges needed panics on append (`pop().unwrap()`); e.g. `init(vec![], 3)` -/
theorem append_panics_on_short_peak_list (t : Nat) (st ap : List D) (h : st.length < t + 2) :
    mergeLoop H (t+1) st ap = none := mergeLoop_none H t st ap h
example : ([7] : List Nat).length < 0 + 2 := by decide

/-- **`new_from_leafs`** of the list `[f 0, …, f (n-1)]`: leaf count `n`, from-scratch peaks -/
theorem new_from_leafs_spec (n : Nat) (hn : n < 2^64) (f : Nat → D) :
    new_from_leafs H ((List.range n).map f) = some { leaf_count := n, peaks := peaks H n f } :=
  new_from_leafs_range H n hn f
example : (4096 : Nat) < 2^64 := by decide

/-- **single mutation with a valid proof**: for `i < n < 2^64` and the from-scratch authentication path of leaf `i`,
    `mutate_leaf` never panics, keeps the leaf count and yields the from-scratch peaks of the leaf list with leaf `i`
    replaced (Merkle-tree index / peak index come from the translated `leaf_index_to_mt_index_and_peak_index`) -/
theorem mutate_leaf_refines (f : Nat → D) (x : D) (n i : Nat) (hin : i < n) (hn : n < 2^64) (ap : List D)
    (hap : authPath H n f i = some ap) :
    mutate_leaf H { leaf_count := n, peaks := peaks H n f } { leaf_index := i, new_leaf := x, auth := ap }
      = some { leaf_count := n, peaks := peaks H n (update f i x) } :=
  mutate_leaf_refines_model H f x n i hin hn ap hap
example : authPath (fun a b : Nat => a * 10 + b) 3 (fun i => i + 1) 1 = some [1] := by decide +kernel

/-- a valid proof exists for every leaf in range -/
theorem valid_proof_exists (f : Nat → D) (n i : Nat) (hin : i < n) : ∃ ap, authPath H n f i = some ap :=
  authPath_isSome H f n i hin

/-- mutation of a leaf out of range panics (`assert!`) -/
theorem mutate_leaf_out_of_range_panics (a : Acc D) (m : LeafMutation D) (h : a.leaf_count ≤ m.leaf_index) :
    mutate_leaf H a m = none := by
  unfold mutate_leaf calculate_new_peaks_from_leaf_mutation
  rw [if_neg (by omega)]; rfl

/-- **history theorem**.  Starting from an accumulator that holds the from-scratch peaks of `n` leaves — in
    particular from the empty accumulator — after any finite sequence of appends, of leaf mutations and of batch leaf
    mutations (`OpB.batch ms tracked`: distinct in-range leafs `ms`, any order, handing over the proofs of any in-range
    leafs `tracked`), each carried out with the valid (from-scratch) proofs of the moment (`histOkB`: every index is
    in range when its turn comes, the count stays below `2^64`, below `2^63` at a batch step), the accumulator holds
    the leaf count and the from-scratch peaks of the current leaf list. -/
theorem history_refines [BEq D] [LawfulBEq D] (ops : List (OpB D)) (n : Nat) (f : Nat → D) (hok : histOkB n ops) :
    modelRunB H (n, f) { leaf_count := n, peaks := peaks H n f } ops
      = some { leaf_count := (specRunB (n, f) ops).1,
               peaks := peaks H (specRunB (n, f) ops).1 (specRunB (n, f) ops).2 } :=
  historyB_refines_model H ops n f hok
example : histOkB 0 [OpB.append (5 : Nat), OpB.append 6, OpB.mutate 1 7, OpB.append 8, OpB.batch [(2, 1), (0, 9)] [1, 2],
    OpB.append 3] := by
  simp [histOkB, opOkB, nextCountB]

/-- the same for histories of appends and single mutations only, for which no equality test on digests is needed -/
theorem history_refines_no_batch (ops : List (Op D)) (n : Nat) (f : Nat → D) (hok : histOk n ops) :
    modelRun H (n, f) { leaf_count := n, peaks := peaks H n f } ops
      = some { leaf_count := (specRun (n, f) ops).1,
               peaks := peaks H (specRun (n, f) ops).1 (specRun (n, f) ops).2 } :=
  history_refines_model H ops n f hok
example : histOk 0 [Op.append (5 : Nat), Op.append 6, Op.mutate 1 7, Op.append 8, Op.mutate 0 9] := by
  simp [histOk, opOk, nextCount]

/-- **bagging**: `bag_peaks` is the documented fold — `z` (the hash of the encoded 128-bit zero) for no peak, the
    peak itself for one peak, `H p₀ (H p₁ (… (H pₖ₋₂ pₖ₋₁)))` otherwise -/
theorem bag_peaks_spec (z : D) (ps : List D) : bag_peaks H z ps = bagSpec H z ps := bag_peaks_eq H z ps
example : bag_peaks (fun a b : Nat => a * 10 + b) 0 [1, 2, 3] = 1 * 10 + (2 * 10 + 3) := by decide

/-- **`verify_batch_update` rejects repeated and out-of-range indices** (returns `false`, does not panic), whatever
    the peaks, appended leaves, proofs and order -/
theorem verify_batch_update_rejects_dup_or_oob [BEq D] (a : Acc D) (np app : List D) (muts : List (LeafMutation D))
    (h : (∃ i j, ∃ (hi : i < muts.length) (hj : j < muts.length), i ≠ j ∧ muts[i].leaf_index = muts[j].leaf_index) ∨
         (∃ m ∈ muts, a.leaf_count ≤ m.leaf_index)) :
    verify_batch_update H a np app muts = some false := by
  rcases h with ⟨i, j, hi, hj, hne, heq⟩ | ⟨m, hm, hoob⟩
  · apply verify_false_of_not_unique
    apply allUnique_false_of_dup _ i j (by simpa using hi) (by simpa using hj) hne
    simpa using heq
  · exact verify_false_of_oob H a np app muts m hm hoob
example : ∃ m ∈ [({ leaf_index := 5, new_leaf := 0, auth := [] } : LeafMutation Nat)], (3 : Nat) ≤ m.leaf_index :=
  ⟨_, List.mem_singleton.mpr rfl, by decide⟩

/-! ## batch operations, and their instances over a free hash algebra -/

/-- batch mutation with distinct in-range indices and valid proofs (relative to the leaf list
    *before* the batch), in any order, with any tracked valid proofs: the accumulator holds the from-scratch peaks of
    the updated list, every tracked proof is the from-scratch proof afterwards and exactly the changed ones are
    reported -/
def batch_mutate_refines_statement : Prop :=
  ∀ (D : Type) [BEq D] [LawfulBEq D] (H : D → D → D) (n : Nat) (f : Nat → D) (ms : List (Nat × D)) (tracked : List Nat),
    n < 2^63 → (ms.map Prod.fst).Nodup → (∀ m ∈ ms, m.1 < n) → (∀ t ∈ tracked, t < n) →
    batch_mutate_leaf_and_update_mps H { leaf_count := n, peaks := peaks H n f }
        (tracked.map fun t => (authPath H n f t).getD []) tracked
        (ms.map fun m => { leaf_index := m.1, new_leaf := m.2, auth := (authPath H n f m.1).getD [] })
      = some ({ leaf_count := n, peaks := peaks H n (applyUpdates f ms) },
              tracked.map (fun t => (authPath H n (applyUpdates f ms) t).getD []),
              (List.range tracked.length).filter fun k =>
                (authPath H n f (tracked.getD k 0)).getD [] != (authPath H n (applyUpdates f ms) (tracked.getD k 0)).getD [])

/-- **batch mutation refines the from-scratch peaks** (`batch_mutate_refines_statement`).  Invariant
    of the loop over the batch: `new_ap_digests` maps the node index of every non-peak ancestor block of an already
    mutated leaf (and of the leaf itself) to that block's root in the current leaf list and has no other key; a sibling
    block without a key contains no mutated leaf, so the digest of the stored path is still right; node indices are
    tied to blocks by the post-order numbering theory (`TF/Proofs/MmrNodeIndex.lean`).
    A mutation that does not change the value is processed like any other (its ancestors are stored with unchanged
    digests; no proof is reported for it). -/
theorem batch_mutate_refines : batch_mutate_refines_statement := by
  intro D _ _ H n f ms tracked hn hnd hms htr
  exact batch_mutate_refines_model H n f ms tracked hn hnd hms htr
example : (([(3, 10), (0, 11)] : List (Nat × Nat)).map Prod.fst).Nodup := by decide

/-- the excluded branch: **a repeated leaf index in the batch panics** (`assert!(former_value.is_none())`), whatever
    accumulator, proofs and tracked proofs are passed -/
theorem batch_mutate_duplicate_panics [BEq D] (a : Acc D) (proofs : List (List D)) (idxs : List Nat)
    (muts : List (LeafMutation D)) (h : ¬ (muts.map (·.leaf_index)).Nodup) :
    batch_mutate_leaf_and_update_mps H a proofs idxs muts = none := batch_dup_panics H a proofs idxs muts h
example : ¬ (([⟨2, 5, []⟩, ⟨1, 6, []⟩, ⟨2, 7, []⟩] : List (LeafMutation Nat)).map (·.leaf_index)).Nodup := by decide

/-- the other excluded branch: **an out-of-range index panics** — a mutated leaf index `≥ leaf_count`, a tracked
    leaf index `≥ leaf_count`, or proof / index lists of different lengths (the `assert!`s of the routine) -/
theorem batch_mutate_out_of_range_panics [BEq D] (a : Acc D) (proofs : List (List D)) (idxs : List Nat)
    (muts : List (LeafMutation D))
    (h : (∃ mu ∈ muts, a.leaf_count ≤ mu.leaf_index) ∨ (∃ t ∈ idxs, a.leaf_count ≤ t) ∨ proofs.length ≠ idxs.length) :
    batch_mutate_leaf_and_update_mps H a proofs idxs muts = none := batch_oob_panics H a proofs idxs muts h
example : ∃ t ∈ [0, 4], (3 : Nat) ≤ t := ⟨4, by simp, by decide⟩

/-- the empty batch leaves any accumulator unchanged — in particular it does not panic -/
theorem batch_mutate_empty [BEq D] (a : Acc D) :
    batch_mutate_leaf_and_update_mps H a [] [] [] = some (a, [], []) := batch_empty H a

/-- for distinct in-range indices and valid proofs, batch-update verification returns true exactly
    when the stated peaks are the from-scratch peaks after the stated mutations and appends -/
def verify_batch_update_iff_statement : Prop :=
  ∀ (D : Type) [BEq D] [LawfulBEq D] (H : D → D → D) (n : Nat) (f : Nat → D) (ms : List (Nat × D)) (apps np : List D),
    n + apps.length < 2^63 → (ms.map Prod.fst).Nodup → (∀ m ∈ ms, m.1 < n) →
    verify_batch_update H { leaf_count := n, peaks := peaks H n f } np apps
        (ms.map fun m => { leaf_index := m.1, new_leaf := m.2, auth := (authPath H n f m.1).getD [] })
      = some (peaks H (n + apps.length)
          (applyUpdates (applyUpdates f ms) (apps.zipIdx.map fun (x, k) => (n + k, x))) == np)

/-- **`verify_batch_update` accepts exactly the from-scratch peaks** (`verify_batch_update_iff_statement`; the excluded
    inputs — repeated or out-of-range indices — are `verify_batch_update_rejects_dup_or_oob`).
    Invariant of the mutation loop: the running peaks are the from-scratch peaks of the current leaf list and the
    remaining mutations carry their from-scratch proofs in it; `batch_update_from_leaf_mutation` repairs them because
    a single mutation changes at most one digest of any other path, the one stored under a node index on the mutated
    leaf's direct path. -/
theorem verify_batch_update_iff : verify_batch_update_iff_statement := by
  intro D _ _ H n f ms apps np hn hnd hms
  exact TF.MmrAccVerify.verify_batch_update_iff_model H n f ms apps np hn hnd hms
example : (5 : Nat) + ([1, 2] : List Nat).length < 2^63 := by decide

/-- the same as an equivalence -/
theorem verify_batch_update_accepts_iff [BEq D] [LawfulBEq D] (n : Nat) (f : Nat → D) (ms : List (Nat × D))
    (apps np : List D) (hn : n + apps.length < 2^63) (hnd : (ms.map Prod.fst).Nodup) (hms : ∀ m ∈ ms, m.1 < n) :
    verify_batch_update H { leaf_count := n, peaks := peaks H n f } np apps
        (ms.map fun m => { leaf_index := m.1, new_leaf := m.2, auth := (authPath H n f m.1).getD [] }) = some true
      ↔ np = peaks H (n + apps.length)
          (applyUpdates (applyUpdates f ms) (apps.zipIdx.map fun (x, k) => (n + k, x))) := by
  rw [verify_batch_update_iff D H n f ms apps np hn hnd hms]
  constructor
  · intro h
    exact (eq_of_beq (Option.some.inj h)).symm
  · intro h
    subst h
    rw [beq_self_eq_true]
example : (([(1, 10), (0, 11)] : List (Nat × Nat)).map Prod.fst).Nodup := by decide

/-- no mutations, one appended leaf (the common "verify an append" use), for every count below `2^64 - 1` -/
theorem verify_one_append_iff [BEq D] (n : Nat) (hn : n + 1 < 2^64) (f : Nat → D) (np : List D) :
    verify_batch_update H { leaf_count := n, peaks := peaks H n f } np [f n] []
      = some (peaks H (n+1) f == np) := verify_one_append H n hn f np
example : (7 : Nat) + 1 < 2^64 := by decide

/-- free hash algebra: batch mutation of every ordered pair of distinct leaves in every MMR with at most 10
    leaves, tracking the proofs of all leaves: peaks, every updated proof and the list of modified proofs are the
    from-scratch ones.  Every case of the enumeration is an instance of `batch_mutate_refines`
    (`batchAll_eq_true`, `TF/Proofs/MmrAccFree.lean`). -/
theorem batch_mutate_pairs_bounded_check : batchAll 10 2 = true := batchAll_eq_true 10 2 (by decide)

/-- the same for every ordered triple of distinct leaves, at most 6 leaves; and for single mutations up to 24 -/
theorem batch_mutate_triples_bounded_check : (batchAll 6 3 && batchAll 24 1 && batchAll 24 0) = true := by
  rw [batchAll_eq_true 6 3 (by decide), batchAll_eq_true 24 1 (by decide), batchAll_eq_true 24 0 (by decide)]
  rfl

/-- free hash algebra: `verify_batch_update` with valid proofs for every ordered pair/triple of distinct
    leaves and 0–2 appended leaves accepts exactly the from-scratch peaks, rejects the old peaks and rejects a
    repeated index (`verifyAll_eq_true`: instances of `verify_batch_update_iff` and
    `verify_batch_update_rejects_dup_or_oob`; the old peaks are rejected because they contain no `fresh` leaf) -/
theorem verify_batch_update_bounded_check :
    (verifyAll 9 2 1 && verifyAll 6 3 2 && verifyAll 12 1 0 && verifyAll 12 0 2) = true := by
  rw [verifyAll_eq_true 9 2 1 (by decide), verifyAll_eq_true 6 3 2 (by decide), verifyAll_eq_true 12 1 0 (by decide),
    verifyAll_eq_true 12 0 2 (by decide)]
  rfl

/-! ## Regenerated-from-source bridge (tools/rs2lean_bt4.py, `TF/Gen/MmrPeaksLoops.lean`)

`calculate_new_peaks_from_append`, `calculate_new_peaks_from_leaf_mutation` (`shared_basic.rs`) and `bag_peaks` (`shared.rs`) are
regenerated from the source text on every run with the digest type opaque (`D`), `Tip5::hash_pair` the parameter `H` and `d0` the value
read after a panic (the `_ok` twin is false there).  `outcome ok v = if ok then v else none` turns the pair
(`_ok` flag, value) into the hand model's convention (`none` = panic).  Proofs: `TF/Proofs/GenBridgeMmrPeaks.lean`. -/
section GenBridge
open TF.GenBridge.MmrPeaks
open TF.Gen.Loops (mmr_calculate_new_peaks_from_append mmr_calculate_new_peaks_from_append_ok
  mmr_calculate_new_peaks_from_leaf_mutation mmr_calculate_new_peaks_from_leaf_mutation_ok)

/-- regenerated `calculate_new_peaks_from_append` (`push`, the `while right_lineage_count != 0` loop with two
    `pop().unwrap()`, `hash_pair`, `push`) = hand model, every `H`, every peak list (short ones panic), every leaf count
    that can be incremented -/
theorem gen_calculate_new_peaks_from_append_eq_model (d0 : D) (n : Nat) (ps : List D) (x : D) (h : n + 1 < 2 ^ 64) :
    outcome (mmr_calculate_new_peaks_from_append_ok H d0 n ps x) (mmr_calculate_new_peaks_from_append H d0 n ps x)
      = calculate_new_peaks_from_append H n ps x := gen_append_eq H d0 n ps x h
/-- non-vacuity, with the carry chain of 3 = 0b11 (two merges) and on a peak list that is too short (panic) -/
example : let H := fun a b : Nat => a * 10 + b
    mmr_calculate_new_peaks_from_append H 0 3 [12, 3] 4 = some ([154], [3, 12]) ∧
    mmr_calculate_new_peaks_from_append_ok H 0 3 [12, 3] 4 = true ∧
    mmr_calculate_new_peaks_from_append_ok H 0 3 [3] 4 = false ∧
    calculate_new_peaks_from_append H 3 [3] 4 = none := by decide +kernel

/-- regenerated `calculate_new_peaks_from_leaf_mutation` (the `while acc_mt_index != 1` loop indexing the authentication
    path, the final `calculated_peaks[peak_index] = acc_hash`) = hand model, every `H`, every input with `u64` counts -/
theorem gen_calculate_new_peaks_from_leaf_mutation_eq_model (d0 : D) (ps : List D) (n : Nat) (x : D) (i : Nat)
    (ap : List D) (hn : n < 2 ^ 64) (hap : ap.length < 2 ^ 64) :
    outcome (mmr_calculate_new_peaks_from_leaf_mutation_ok H d0 ps n x i ap)
        (mmr_calculate_new_peaks_from_leaf_mutation H d0 ps n x i ap)
      = calculate_new_peaks_from_leaf_mutation H ps n x i ap := gen_leaf_mutation_eq H d0 ps n x i ap hn hap
example : let H := fun a b : Nat => a * 10 + b
    mmr_calculate_new_peaks_from_leaf_mutation H 0 [12, 3] 3 7 1 [1] = some [17, 3] ∧
    mmr_calculate_new_peaks_from_leaf_mutation_ok H 0 [12, 3] 3 7 1 [1] = true ∧
    mmr_calculate_new_peaks_from_leaf_mutation_ok H 0 [12, 3] 3 7 1 [] = false ∧
    mmr_calculate_new_peaks_from_leaf_mutation_ok H 0 [12, 3] 3 7 3 [1] = false := by decide +kernel

/-- **transfer**: `append_refines` and `mutate_leaf_refines` for the code as it is in the source now: on the from-scratch
    peaks of `n` leaves the regenerated append does not panic, terminates within its fuel and returns the from-scratch
    peaks of `n + 1` leaves; the regenerated mutation with a valid proof returns the from-scratch peaks of the updated
    leaf list -/
theorem gen_peaks_transfer (d0 : D) (f : Nat → D) (n : Nat) (hn : n + 1 < 2 ^ 64) :
    (∃ ap, mmr_calculate_new_peaks_from_append_ok H d0 n (peaks H n f) (f n) = true ∧
      mmr_calculate_new_peaks_from_append H d0 n (peaks H n f) (f n) = some (peaks H (n + 1) f, ap)) ∧
    (∀ (x : D) (i : Nat) (ap : List D), i < n → authPath H n f i = some ap → ap.length < 2 ^ 64 →
      mmr_calculate_new_peaks_from_leaf_mutation_ok H d0 (peaks H n f) n x i ap = true ∧
      mmr_calculate_new_peaks_from_leaf_mutation H d0 (peaks H n f) n x i ap = some (peaks H n (update f i x))) := by
  constructor
  · obtain ⟨ap, hap⟩ := append_refines H n hn f
    have hg := gen_calculate_new_peaks_from_append_eq_model H d0 n (peaks H n f) (f n) hn
    unfold append at hap
    simp only at hap
    cases hc : calculate_new_peaks_from_append H n (peaks H n f) (f n) with
    | none => rw [hc] at hap; cases hap
    | some r =>
      rw [hc] at hap hg
      simp only [Option.map_some, Option.some.injEq, Prod.mk.injEq, Acc.mk.injEq] at hap
      obtain ⟨h1, h2⟩ := outcome_eq_some hg
      refine ⟨ap, h1, ?_⟩
      rw [h2, ← hap.1.2, ← hap.2]
  · intro x i ap hin hap hlen
    have hm := mutate_leaf_refines H f x n i hin (by omega) ap hap
    have hg := gen_calculate_new_peaks_from_leaf_mutation_eq_model H d0 (peaks H n f) n x i ap (by omega) hlen
    unfold mutate_leaf at hm
    simp only at hm
    cases hc : calculate_new_peaks_from_leaf_mutation H (peaks H n f) n x i ap with
    | none => rw [hc] at hm; cases hm
    | some r =>
      rw [hc] at hm hg
      simp only [Option.map_some, Option.some.injEq, Acc.mk.injEq, true_and] at hm
      obtain ⟨h1, h2⟩ := outcome_eq_some hg
      exact ⟨h1, by rw [h2, hm]⟩
example : (9223372036854775807 : Nat) + 1 < 2 ^ 64 := by decide

/-- regenerated `shared::bag_peaks` (two `next_back()` with early `return`, then `peaks.rev().fold(accumulator, |acc, &peak|
    Tip5::hash_pair(peak, acc))`; `hash0` = `Tip5::hash(&0u128)`) = the hand model — every hash function, every list of
    peaks, opaque digests; no check of the `_ok` twin can fail -/
theorem gen_bag_peaks_eq_model (d0 z : D) (ps : List D) :
    TF.Gen.Loops.mmr_bag_peaks H d0 z ps = bag_peaks H z ps ∧ TF.Gen.Loops.mmr_bag_peaks_ok H d0 z ps = true :=
  gen_bag_peaks_eq H d0 z ps
example : TF.Gen.Loops.mmr_bag_peaks (fun a b : Nat => a * 10 + b) 7 0 [1, 2, 3, 4] = 1 * 10 + (2 * 10 + (3 * 10 + 4)) := by
  decide

/-- **transfer** of `bag_peaks_spec`: the code as it is in the source now computes the documented bag — `z` for no peak,
    the peak itself for one peak, `H p₀ (H p₁ (… (H pₖ₋₂ pₖ₋₁)))` otherwise (a dropped `.rev()` or swapped arguments of
    `hash_pair` break this for non-commutative `H`) -/
theorem gen_bag_peaks_transfer (d0 z : D) (ps : List D) :
    TF.Gen.Loops.mmr_bag_peaks H d0 z ps = bagSpec H z ps := by
  rw [(gen_bag_peaks_eq_model H d0 z ps).1, bag_peaks_spec]
example : TF.Gen.Loops.mmr_bag_peaks (fun a b : Nat => a * 10 + b) 7 0 [] = 0 ∧
    TF.Gen.Loops.mmr_bag_peaks (fun a b : Nat => a * 10 + b) 7 0 [5] = 5 ∧
    bagSpec (fun a b : Nat => a * 10 + b) 0 [1, 2, 3, 4] = 64 := by decide

end GenBridge


/-! ## regenerated-from-source bridge, part 2: the accumulator's methods

`MmrAccumulator::{append, mutate_leaf, new_from_leafs, num_leafs, peaks, is_empty, bag_peaks}` (`mmr_accumulator.rs`) are
regenerated from the source text on every run into `TF/Gen/MmrProofLoops.lean` (`tools/rs2lean_mmr.py`): an accumulator is the
pair `(leaf_count, peaks)`, a `LeafMutation` the triple `(leaf_index, new_leaf, membership_proof)` (struct items checked by
the translator); a `&mut self` method returns `(value, new self)`; the callees are the regenerated peak calculations
bridged above.  Proofs: `TF/Proofs/GenBridgeMmrAccu.lean`. -/
section GenBridgeAcc
open TF.GenBridge.MmrPeaks TF.GenBridge.MmrAccu
open TF.Gen.Loops (mmra_append mmra_append_ok mmra_mutate_leaf mmra_mutate_leaf_ok mmra_new_from_leafs mmra_new_from_leafs_ok
  mmra_num_leafs mmra_peaks mmra_is_empty mmra_bag_peaks mmra_bag_peaks_ok)

/-- regenerated `append` (`calculate_new_peaks_from_append(self.leaf_count, self.peaks.clone(), new_leaf)`,
    `self.peaks = new_peaks; self.leaf_count += 1;`), `mutate_leaf` and `new_from_leafs` (the empty accumulator, then
    `for digest in digests { mmra.append(digest); }`) = hand model, a panic is `none`; every `H`, every input with `u64`
    counts that cannot overflow -/
theorem gen_accumulator_eq_model (d0 : D) :
    (∀ (n : Nat) (ps : List D) (x : D), n + 1 < 2 ^ 64 →
      outcome (mmra_append_ok H d0 (n, ps) x) (mmra_append H d0 (n, ps) x)
        = (append H { leaf_count := n, peaks := ps } x).map fun r => (r.2, ofAcc r.1)) ∧
    (∀ (n : Nat) (ps : List D) (i : Nat) (x : D) (ap : List D), n < 2 ^ 64 → ap.length < 2 ^ 64 →
      outcome (mmra_mutate_leaf_ok H d0 (n, ps) (i, x, ap)) (mmra_mutate_leaf H d0 (n, ps) (i, x, ap))
        = (mutate_leaf H { leaf_count := n, peaks := ps } { leaf_index := i, new_leaf := x, auth := ap }).map ofAcc) ∧
    (∀ ds : List D, ds.length < 2 ^ 64 →
      outcome (mmra_new_from_leafs_ok H d0 ds) (mmra_new_from_leafs H d0 ds) = (new_from_leafs H ds).map ofAcc) :=
  ⟨fun n ps x h => gen_acc_append_eq H d0 n ps x h, fun n ps i x ap h1 h2 => gen_acc_mutate_leaf_eq H d0 n ps i x ap h1 h2,
   fun ds h => gen_new_from_leafs_eq H d0 ds h⟩
/-- non-vacuity: the carry chain of 3 = 0b11 (two merges; a swapped `hash_pair` would give 541 instead of 154), a peak list
    that is too short (panic), a mutation, `new_from_leafs` of three leafs -/
example : let H := fun a b : Nat => a * 10 + b
    mmra_append H 0 (3, [12, 3]) 4 = some ([3, 12], (4, [154])) ∧ mmra_append_ok H 0 (3, [12, 3]) 4 = true ∧
    mmra_append_ok H 0 (3, [3]) 4 = false ∧
    mmra_mutate_leaf H 0 (3, [12, 3]) (1, 7, [1]) = some (3, [17, 3]) ∧
    mmra_new_from_leafs H 0 [1, 2, 3] = some (3, [12, 3]) ∧ mmra_new_from_leafs_ok H 0 [1, 2, 3] = true := by
  decide +kernel

/-- regenerated accessors = the hand model's -/
theorem gen_accessors_eq_model (d0 z : D) (n : Nat) (ps : List D) :
    mmra_num_leafs H d0 (n, ps) = Acc.num_leafs { leaf_count := n, peaks := ps } ∧
    mmra_peaks H d0 (n, ps) = ps ∧
    mmra_is_empty H d0 (n, ps) = Acc.is_empty { leaf_count := n, peaks := ps } ∧
    mmra_bag_peaks H d0 z (n, ps) = Acc.bag_peaks H z { leaf_count := n, peaks := ps } ∧
    mmra_bag_peaks_ok H d0 z (n, ps) = true := gen_accessors_eq H d0 z n ps
example : mmra_is_empty (fun a b : Nat => a + b) 0 (0, []) = true ∧ mmra_num_leafs (fun a b : Nat => a + b) 0 (5, [1, 2]) = 5 := by
  decide

/-- **transfer** of `append_refines`, `mutate_leaf_refines` and `new_from_leafs_spec` to the code as it is in the source
    now: on the from-scratch accumulator of `n` leaves the regenerated `append` does not panic, terminates and returns the
    from-scratch accumulator of `n + 1` leaves; the regenerated `mutate_leaf` with a valid proof returns the from-scratch
    accumulator of the updated leaf list; the regenerated `new_from_leafs` of `[f 0, …, f (n-1)]` returns leaf count `n`
    and the from-scratch peaks -/
theorem gen_accumulator_transfer (d0 : D) (f : Nat → D) (n : Nat) (hn : n + 1 < 2 ^ 64) :
    (∃ ap, mmra_append_ok H d0 (n, peaks H n f) (f n) = true ∧
      mmra_append H d0 (n, peaks H n f) (f n) = some (ap, (n + 1, peaks H (n + 1) f))) ∧
    (∀ (x : D) (i : Nat) (ap : List D), i < n → authPath H n f i = some ap → ap.length < 2 ^ 64 →
      mmra_mutate_leaf_ok H d0 (n, peaks H n f) (i, x, ap) = true ∧
      mmra_mutate_leaf H d0 (n, peaks H n f) (i, x, ap) = some (n, peaks H n (update f i x))) ∧
    (mmra_new_from_leafs_ok H d0 ((List.range n).map f) = true ∧
      mmra_new_from_leafs H d0 ((List.range n).map f) = some (n, peaks H n f)) := by
  refine ⟨?_, ?_, ?_⟩
  · obtain ⟨ap, hap⟩ := append_refines H n hn f
    have hg := (gen_accumulator_eq_model H d0).1 n (peaks H n f) (f n) hn
    rw [hap] at hg
    obtain ⟨h1, h2⟩ := outcome_eq_some hg
    exact ⟨ap, h1, h2⟩
  · intro x i ap hin hap hlen
    have hm := mutate_leaf_refines H f x n i hin (by omega) ap hap
    have hg := (gen_accumulator_eq_model H d0).2.1 n (peaks H n f) i x ap (by omega) hlen
    rw [hm] at hg
    exact outcome_eq_some hg
  · have hs := new_from_leafs_spec H n (by omega) f
    have hg := (gen_accumulator_eq_model H d0).2.2 ((List.range n).map f) (by
      rw [List.length_map, List.length_range]; omega)
    rw [hs] at hg
    exact outcome_eq_some hg
example : (9223372036854775807 : Nat) + 1 < 2 ^ 64 := by decide

end GenBridgeAcc

end TF.C11
