import TF.Proofs.MmrForestTable
import TF.Proofs.GenBridgeMmr
/-!
# C16 — MMR index arithmetic matches the explicit forest of perfect trees

Property theorems; helper lemmas are in `TF/Proofs/MmrIndex.lean` (closed forms of the translated functions),
`MmrNodeIndex.lean` / `MmrAuthPathIdx.lean` (node coordinates: every loop function on `nodeIdx l j`),
`MmrTree.lean` (the table of S1 in coordinates), `MmrForest.lean` (S0 = S1, the table of S0 in coordinates, S0 = prefix
of S1), `MmrForestTable.lean` (`get_authentication_path_node_indices` and the Merkle-tree / peak index against the table
of S0; `forestAgrees n` for all `n < 2^63`), `TF/Proofs/MmrBounded.lean` (the executable comparison `forestAgrees`, also
used by the `…_bounded_check` tests).

* The loop-free functions `left_child, right_child, leaf_index_to_mt_index_and_peak_index,
  right_lineage_length_from_leaf_index, leftmost_ancestor, leaf_index_to_node_index, left_sibling, right_sibling,
  num_leafs_to_num_nodes` are **regenerated from `shared_basic.rs` / `shared_advanced.rs`** on every run
  (`TF/Gen/MmrIndex.lean`); each comes with `f_ok`, true iff no arithmetic operation overflows and every `assert!`
  holds.  The theorems below are re-checked against what the source says now.
* The loop functions are modelled by hand in `TF/Model/MmrIndex.lean` (tied by the correspondence family `mmri`).
* Specification: `TF/Spec/MmrIndex.lean` — **S0** `forest n` (append leaves, merge equal heights, running node
  counter) and its table `Forest.rows`; **S1** `tree o l h`.

Notation: `popCount` = number of set bits, `trailingOnes` = number of trailing one bits, `Nat.log2` = index of the
highest set bit, `bitsBelow h n` = positions of the set bits of `n` below `h`, highest first.
Node coordinates: `nodeIdx l j = (j+1)·2^(l+1) − 1 − popCount j` is the post-order index of the root of the aligned
block `j` of `2^l` leaves ("the node `(l, j)`"); `anc l j t = nodeIdx (l+t) (j / 2^t)` its ancestor `t` levels up;
`sibBlk j` = `j` with the lowest bit flipped; `sibsUp l j d` = node indices of the siblings of `(l, j)`, of its
parent, … (`d` of them, bottom-up).
-/
namespace TF.C16
open TF TF.Gen TF.Mmr TF.Spec.Mmr TF.Model.Mmr
open TF.MmrE (nodeIdx anc sibsUp)
open TF.Spec.MmrE (sibBlk)

/-- `num_leafs_to_num_nodes n = 2n − popcount n` for every leaf count below `2^63`, without overflow. -/
theorem num_leafs_to_num_nodes_exact (n : Nat) (h : n < 2^63) :
    num_leafs_to_num_nodes n = 2 * n - popCount n ∧ num_leafs_to_num_nodes_ok n = true :=
  num_nodes_spec n h
example : (9223372036854775807 : Nat) < 2^63 := by decide

/-- `leaf_index_to_node_index i = 2i − popcount i + 1` (the node created right after the `2i − popcount i` nodes of the
    forest with `i` leaves) for every leaf index below `2^63`, without overflow. -/
theorem leaf_index_to_node_index_exact (i : Nat) (h : i < 2^63) :
    leaf_index_to_node_index i = 2 * i - popCount i + 1 ∧ leaf_index_to_node_index_ok i = true :=
  l2n_spec i h
example : (9223372036854775807 : Nat) < 2^63 := by decide

/-- the number of parents created together with leaf `i` is the number of trailing one bits of `i`
    (the carry chain of `i + 1`); valid for every `i < 2^64 − 1`, in particular below `2^63` -/
theorem right_lineage_length_from_leaf_index_exact (i : Nat) (h : i + 1 < 2^64) :
    right_lineage_length_from_leaf_index i = trailingOnes i ∧ right_lineage_length_from_leaf_index_ok i = true :=
  rll_leaf_spec i h
example : (9223372036854775807 : Nat) + 1 < 2^64 := by decide

/-- `leftmost_ancestor n = (2^(k+1) − 1, k)` where `k = log2 n`, i.e. `2^(k+1) − 1` is the least number of the form
    `2^(j+1) − 1` that is `≥ n` (the root of the smallest left-spine tree containing node `n`), for **every** node index
    `1 ≤ n < 2^64` — including the branch `leading_zeros = 0` -/
theorem leftmost_ancestor_exact (n : Nat) (h1 : 1 ≤ n) (h2 : n < 2^64) :
    leftmost_ancestor n = (2^(Nat.log2 n + 1) - 1, Nat.log2 n) ∧ leftmost_ancestor_ok n = true ∧
    2^(Nat.log2 n) - 1 < n ∧ n ≤ 2^(Nat.log2 n + 1) - 1 := by
  refine ⟨(leftmost_ancestor_spec n h1 h2).1, (leftmost_ancestor_spec n h1 h2).2, ?_, ?_⟩
  · have := Nat.log2_self_le (n := n) (by omega)
    have := Nat.two_pow_pos (Nat.log2 n)
    omega
  · have := lt_two_pow_log2_succ n
    omega
example : (1 : Nat) ≤ 18446744073709551615 ∧ (18446744073709551615 : Nat) < 2^64 := by decide

/-- children: `left_child n h = n − 2^h`, `right_child n = n − 1`, exactly when nothing underflows -/
theorem left_child_exact (n h : Nat) (hh : h < 64) (hn : n < 2^64) (hle : 2^h ≤ n) :
    left_child n h = n - 2^h ∧ left_child_ok n h = true := left_child_spec n h hh hn hle
example : (63:Nat) < 64 ∧ (18446744073709551615 : Nat) < 2^64 ∧ 2^63 ≤ (18446744073709551615 : Nat) := by decide

/-- a debug build of `left_child` panics exactly when the shift amount is out of range or the subtraction underflows -/
theorem left_child_ok_exactly (n h : Nat) : left_child_ok n h = true ↔ h < 64 ∧ 2^h ≤ n := left_child_ok_iff n h

theorem right_child_exact (n : Nat) (h1 : 1 ≤ n) (hn : n < 2^64) :
    right_child n = n - 1 ∧ right_child_ok n = true := right_child_spec n h1 hn
example : (1:Nat) ≤ 7 ∧ (7:Nat) < 2^64 := by decide

/-- siblings: for a node of height `h ≤ 62` (the only node of height 63 is the root `2^64 − 1`, which has no sibling) -/
theorem left_sibling_exact (n h : Nat) (hh : h < 63) (hn : n < 2^64) (hle : 2^(h+1) ≤ n) :
    left_sibling n h = n - 2^(h+1) + 1 ∧ left_sibling_ok n h = true := left_sibling_spec n h hh hn hle
example : (1:Nat) < 63 ∧ (6:Nat) < 2^64 ∧ 2^(1+1) ≤ (6:Nat) := by decide

theorem right_sibling_exact (n h : Nat) (hh : h < 63) (hs : n + 2^(h+1) < 2^64) :
    right_sibling n h = n + 2^(h+1) - 1 ∧ right_sibling_ok n h = true :=
  ⟨(right_sibling_spec n h hh (by omega)).1, (right_sibling_spec n h hh (by omega)).2 hs⟩
example : (1:Nat) < 63 ∧ (3:Nat) + 2^(1+1) < 2^64 := by decide

/-- Merkle-tree index and peak index of leaf `i` in an MMR with `n` leaves, for all `i < n < 2^64`:
    with `h` the highest bit in which `i` and `n` differ (`n` has it set, `i` does not, above it they agree — so the
    leaf lies in the tree that belongs to bit `h` of `n`), the Merkle-tree index is `2^h + (i mod 2^h)` and the peak
    index is the number of set bits of `n` above `h` (= number of higher trees); nothing overflows and the `assert!`
    holds. -/
theorem leaf_index_to_mt_index_and_peak_index_exact (i n : Nat) (hin : i < n) (hn : n < 2^64) :
    let h := (i ^^^ n).log2
    leaf_index_to_mt_index_and_peak_index i n = (2^h + i % 2^h, popCount (n / 2^(h+1))) ∧
    leaf_index_to_mt_index_and_peak_index_ok i n = true ∧
    i / 2^(h+1) = n / 2^(h+1) ∧ n / 2^h % 2 = 1 ∧ i / 2^h % 2 = 0 :=
  ⟨(mt_spec i n hin hn).1, (mt_spec i n hin hn).2, xor_log2_facts i n hin⟩
example : (9223372036854775806 : Nat) < 9223372036854775807 ∧ (9223372036854775807 : Nat) < 2^64 := by decide

/-- the `assert!` of `leaf_index_to_mt_index_and_peak_index` fails (panic) exactly for `leaf_index ≥ leaf_count` -/
theorem leaf_index_to_mt_index_and_peak_index_panics_iff (i n : Nat) (hn : n < 2^64) :
    leaf_index_to_mt_index_and_peak_index_ok i n = false ↔ n ≤ i := by
  constructor
  · intro h
    apply Nat.le_of_not_lt
    intro hin
    rw [(mt_spec i n hin hn).2] at h
    exact Bool.noConfusion h
  · intro h
    unfold leaf_index_to_mt_index_and_peak_index_ok
    have : decide (i < n) = false := by simp; omega
    rw [this]; rfl

/-! ## the loop functions against S1

`tree 0 0 63` is the perfect tree with node indices `1 … 2^64 − 1` numbered in post-order; every MMR with fewer
than `2^63` leaves is the prefix `1 … 2n − popcount n` of it.  `(tree 0 0 63).rootRows` is its table: one `Row` per
node with height, right-lineage length, parent, sibling, children, leaf index — computed by walking the tree.
`none` on the left-hand sides below would mean "the Rust loop does not terminate within 65 rounds". -/

/-- every node index `1 … 2^64 − 1` occurs in the table -/
theorem every_node_index_has_a_row (n : Nat) (h1 : 1 ≤ n) (h2 : n < 2^64) :
    ∃ r ∈ (tree 0 0 63).rootRows, r.idx = n := by
  obtain ⟨l, j, hl, hj, rfl⟩ := TF.MmrE.exists_coords 63 n h1 (by omega)
  exact ⟨_, (mem_rootRows 63 _).mpr ⟨l, j, hl, hj, rfl⟩, rfl⟩
example : (1 : Nat) ≤ 18446744073709551615 ∧ (18446744073709551615 : Nat) < 2^64 := by decide

/-- **`right_lineage_length_and_own_height`** terminates and returns (right-lineage length, height) of the node, for
    every node index `1 … 2^64 − 1` -/
theorem right_lineage_length_and_own_height_exact (r : Row) (hr : r ∈ (tree 0 0 63).rootRows) :
    right_lineage_length_and_own_height r.idx = some (r.rll, r.height) := rll_own_rows r hr

/-- **`parent`** returns the parent, for every node that has one (all but the root `2^64 − 1`) -/
theorem parent_exact (r : Row) (hr : r ∈ (tree 0 0 63).rootRows) (hp : r.parent ≠ 0) :
    parent r.idx = some r.parent := parent_rows r hr hp

/-- **`left_sibling` / `right_sibling`** applied to a right / left child with its height return the sibling, without
    overflow -/
theorem siblings_exact (r : Row) (hr : r ∈ (tree 0 0 63).rootRows) (hp : r.parent ≠ 0) :
    (r.rll ≠ 0 → left_sibling r.idx r.height = r.sibling ∧ left_sibling_ok r.idx r.height = true) ∧
    (r.rll = 0 → right_sibling r.idx r.height = r.sibling ∧ right_sibling_ok r.idx r.height = true) :=
  sibling_rows r hr hp

/-- **`left_child` / `right_child`** applied to an inner node with its height return the children, without overflow -/
theorem children_exact (r : Row) (hr : r ∈ (tree 0 0 63).rootRows) (hh : 0 < r.height) :
    left_child r.idx r.height = r.left ∧ left_child_ok r.idx r.height = true ∧
    right_child r.idx = r.right ∧ right_child_ok r.idx = true := children_rows r hr hh

/-- **`node_index_to_leaf_index`** returns `Some(leaf index)` exactly for the leaves, `None` for inner nodes -/
theorem node_index_to_leaf_index_exact (r : Row) (hr : r ∈ (tree 0 0 63).rootRows) :
    node_index_to_leaf_index r.idx = some r.leaf := n2l_rows r hr

/-- the table of S1 is consistent with the index arithmetic the statement of the property talks about:
    a right child has its parent at `+1` and its sibling `2^(h+1) − 1` below, a left child has its parent
    `2^(h+1)` above and its sibling just below the parent; children of an inner node of height `h` are at
    `−2^h` and `−1` -/
theorem table_arithmetic (h : Nat) (r : Row) (hr : r ∈ (tree 0 0 h).rootRows) : RowArith r := rootRows_arith h r hr
example : (6, 1, 1, 7, 3, 4, 5) ∈ (tree 0 0 2).rootRows.map
    (fun r => (r.idx, r.height, r.rll, r.parent, r.sibling, r.left, r.right)) := by decide

/-! ## S0 — the explicit forest (append leaves, merge equal heights, running node counter) -/

/-- the explicit forest with `n` leaves has `2n − popcount n` nodes (= `num_leafs_to_num_nodes n`), `n` leaves, and
    its trees have, from the oldest to the most recent, the heights of the set bits of `n` from the highest down
    (= `get_peak_heights n`) -/
theorem forest_shape_exact (n : Nat) (hn : n < 2^63) :
    (forest n).nodes = num_leafs_to_num_nodes n ∧ (forest n).leafs = n ∧
    (forest n).peaks.map TF.Spec.Mmr.Tree.height = get_peak_heights n := by
  have hs := forest_shape n (by omega)
  rw [(num_nodes_spec n hn).1, get_peak_heights_spec n (by omega)]
  exact hs
example : (forest 11).peaks.map TF.Spec.Mmr.Tree.height = [3, 1, 0] ∧ (forest 11).nodes = 19 := by decide

/-- **`get_peak_heights`** = positions of the set bits, highest first, for every `u64` -/
theorem get_peak_heights_exact (n : Nat) (hn : n < 2^64) : get_peak_heights n = bitsBelow 64 n :=
  get_peak_heights_spec n hn
example : bitsBelow 64 11 = [3, 1, 0] := by decide

/-- **S0 is a prefix of S1**: every row of the table of the explicit forest with `n < 2^63` leaves is a row of the
    table of `tree 0 0 63` — same node index, height, right-lineage length, children, leaf index, and same parent
    and sibling unless the node is a peak of the forest (recorded there with parent `0`) -/
theorem S0_is_prefix_of_S1 (n : Nat) (hn : n < 2^63) (k : Nat) (r : Row) (hr : (k, r) ∈ (forest n).rows) :
    ∃ r' ∈ (tree 0 0 63).rootRows,
      r.idx = r'.idx ∧ r.height = r'.height ∧ r.rll = r'.rll ∧ r.left = r'.left ∧ r.right = r'.right ∧
      r.leaf = r'.leaf ∧ (r.parent ≠ 0 → r.parent = r'.parent ∧ r.sibling = r'.sibling) :=
  forest_row_in_s1 n hn k r hr

/-- **node-level functions against the explicit forest**, for every leaf count below `2^63` and every node of the
    forest: `right_lineage_length_and_own_height`, `node_index_to_leaf_index`, `parent`, `left_sibling` /
    `right_sibling`, `left_child` / `right_child` return what the table of the forest says (and the translated ones
    do so without overflow) -/
theorem node_functions_agree_with_forest (n : Nat) (hn : n < 2^63) (k : Nat) (r : Row)
    (hr : (k, r) ∈ (forest n).rows) :
    right_lineage_length_and_own_height r.idx = some (r.rll, r.height) ∧
    node_index_to_leaf_index r.idx = some r.leaf ∧
    (r.parent ≠ 0 → parent r.idx = some r.parent ∧
      (r.rll ≠ 0 → left_sibling r.idx r.height = r.sibling ∧ left_sibling_ok r.idx r.height = true) ∧
      (r.rll = 0 → right_sibling r.idx r.height = r.sibling ∧ right_sibling_ok r.idx r.height = true)) ∧
    (0 < r.height → left_child r.idx r.height = r.left ∧ left_child_ok r.idx r.height = true ∧
      right_child r.idx = r.right ∧ right_child_ok r.idx = true) :=
  forest_node_functions n hn k r hr
example : (1, 8, 0, some 4) ∈ (forest 5).rows.map (fun kr => (kr.1, kr.2.idx, kr.2.height, kr.2.leaf)) := by decide

/-- **leaf-level functions against the explicit forest**: for every leaf of the forest, `leaf_index_to_node_index`
    returns its node index and `right_lineage_length_from_leaf_index` its right-lineage length -/
theorem leaf_functions_agree_with_forest (n : Nat) (hn : n < 2^63) (k : Nat) (r : Row)
    (hr : (k, r) ∈ (forest n).rows) (li : Nat) (hl : r.leaf = some li) :
    leaf_index_to_node_index li = r.idx ∧ right_lineage_length_from_leaf_index li = r.rll :=
  forest_leaf_functions n hn k r hr li hl

/-- **Merkle-tree index and peak index against the walk over the trees**: for `i < n < 2^64`,
    `leaf_index_to_mt_index_and_peak_index i n = (2^h + j, k)` where `(h, j, k) = leafPos 64 n i 0 0` is found by
    walking over the trees of the MMR (set bits of `n`, highest first): `h` the height of the tree that contains
    leaf `i`, `j` the position of the leaf inside that tree, `k` the number of trees before it -/
theorem mt_index_and_peak_index_agree_with_walk (i n : Nat) (hin : i < n) (hn : n < 2^64) :
    ∃ h j k, leafPos 64 n i 0 0 = some (h, j, k) ∧ leaf_index_to_mt_index_and_peak_index i n = (2^h + j, k) :=
  ⟨_, _, _, leafPos_closed 64 n i hin hn, (mt_spec i n hin hn).1⟩
example : leafPos 64 14 9 0 0 = some (2, 1, 1) := by decide

/-- **`right_lineage_length_from_node_index`** (the recursive variant) terminates and returns the right-lineage
    length of the node, for every node index `1 … 2^64 − 1` and on every node of every explicit forest -/
theorem right_lineage_length_from_node_index_exact :
    (∀ r ∈ (tree 0 0 63).rootRows, right_lineage_length_from_node_index r.idx = some r.rll) ∧
    (∀ n, n < 2^63 → ∀ k r, (k, r) ∈ (forest n).rows → right_lineage_length_from_node_index r.idx = some r.rll) :=
  ⟨fun r hr => rll_node_rows r hr, fun n hn k r hr => forest_rll_node n hn k r hr⟩

/-- **`node_indices_added_by_append`**: for every leaf count `c < 2^63`, the node indices that the explicit forest
    gains when one leaf is appended: the new leaf `2c − popcount c + 1` and its `trailing_ones c` new ancestors,
    consecutively numbered -/
theorem node_indices_added_by_append_exact (c : Nat) (hc : c < 2^63) :
    node_indices_added_by_append c
      = some ((List.range ((forest (c+1)).nodes - (forest c).nodes)).map fun k => (forest c).nodes + 1 + k) ∧
    node_indices_added_by_append c
      = some ((List.range (trailingOnes c + 1)).map fun k => 2 * c - popCount c + 1 + k) :=
  ⟨forest_added c hc, added_spec c hc⟩
example : node_indices_added_by_append 7 = some [12, 13, 14, 15] := by decide +kernel

/-- **`get_peak_heights_and_peak_node_indices`**: for every leaf count below `2^63` the two nested loops terminate
    and return the heights and the node indices of the trees of the explicit forest, oldest (highest) first.
    (For `2^63` the Rust loop spins forever — the model returns `none` there, see the `example`.) -/
theorem get_peak_heights_and_peak_node_indices_exact (n : Nat) (hn : n < 2^63) :
    get_peak_heights_and_peak_node_indices n
      = some ((forest n).peaks.map TF.Spec.Mmr.Tree.height, (forest n).peaks.map TF.Spec.Mmr.Tree.idx) :=
  forest_peaks n hn
example : get_peak_heights_and_peak_node_indices (2^63) = none := by decide +kernel
example : get_peak_heights_and_peak_node_indices 11 = some ([3, 1, 0], [15, 18, 19]) := by decide +kernel

/-! ## `get_authentication_path_node_indices(start_node_index, peak_node_index, node_count)`

What the Rust code does (`shared_advanced.rs`): starting at `start_node_index` it climbs to the parent — in the one
post-order numbered tree with node indices `1 … 2^64 − 1`; the MMR enters only through the bound `node_count` — while
the current node index is `≤ node_count` and `≠ peak_node_index`, pushing the sibling of the current node in each
round.  It answers `Some(path)` iff the node index at which the climb stops equals `peak_node_index`, else `None`.
On the left-hand sides below the outer `some` says "the loop terminates" (within the 66 rounds of the model). -/

/-- every node index `1 … 2^64 − 1` is `nodeIdx l j` for exactly one pair of coordinates `(l, j)` -/
theorem every_node_index_has_coordinates (x : Nat) (h1 : 1 ≤ x) (h2 : x < 2^64) :
    ∃ l j, x = nodeIdx l j ∧ ∀ l' j', x = nodeIdx l' j' → l' = l ∧ j' = j := by
  obtain ⟨l, j, _, _, h⟩ := TF.MmrE.exists_coords 63 x h1 (by omega)
  refine ⟨l, j, h, fun l' j' h' => ?_⟩
  have := TF.MmrE.nodeIdx_inj l j l' j' (by rw [← h]; exact h2) (by rw [← h, ← h'])
  exact ⟨this.1.symm, this.2.symm⟩
example : (11 : Nat) = nodeIdx 0 6 ∧ (14 : Nat) = nodeIdx 2 1 := by decide +kernel

/-- **complete description** for every start node `1 ≤ nodeIdx l j < 2^64`, every `peak_node_index` (node index or
    not) and every `node_count ≤ 2^64 − 2`: the loop terminates after at most `63 − l` rounds; with `d` the first
    level at which the ancestor `anc l j d` exceeds `node_count` or equals `peak`, the result is
    `Some(siblings of the first d nodes of the path, bottom-up)` if that ancestor is `peak`, and `None` otherwise.
    No `u64` operation wraps. -/
theorem get_authentication_path_node_indices_exact (l j peak nc : Nat) (hlt : nodeIdx l j < 2^64)
    (hnc : nc < 2^64 - 1) :
    ∃ d, l + d ≤ 63 ∧ (nc < anc l j d ∨ anc l j d = peak) ∧ (∀ t, t < d → anc l j t ≤ nc ∧ anc l j t ≠ peak) ∧
      get_authentication_path_node_indices (nodeIdx l j) peak nc
        = some (if anc l j d = peak then some (sibsUp l j d) else none) :=
  TF.MmrE.get_auth_path_spec l j peak nc hlt hnc
example : nodeIdx 0 8 = 16 ∧ (16 : Nat) < 2^64 ∧ (19 : Nat) < 2^64 - 1 ∧
    get_authentication_path_node_indices 16 31 19 = some none := by decide +kernel

/-- **start node and an ancestor**: for the node `(l, j)` and its ancestor-or-self `d` levels up, provided all nodes
    of the path strictly below that ancestor are `≤ node_count`, the result is exactly the list of the sibling node
    indices along the path from the start node up to, excluding, the ancestor, bottom-up.  The ancestor itself (and
    siblings on the path) may exceed `node_count` — the Rust code does not check that (second `example`: in the MMR
    with 11 leaves / 19 nodes, start 16, "peak" 22: `Some([17, 21])`). -/
theorem get_authentication_path_node_indices_of_ancestor (l j d nc : Nat) (hlt : anc l j d < 2^64)
    (hbelow : ∀ t, t < d → anc l j t ≤ nc) :
    get_authentication_path_node_indices (nodeIdx l j) (anc l j d) nc = some (some (sibsUp l j d)) :=
  TF.MmrE.get_auth_path_ancestor l j d nc hlt hbelow
example : nodeIdx 0 4 = 8 ∧ anc 0 4 3 = 15 ∧ sibsUp 0 4 3 = [9, 13, 7] ∧
    get_authentication_path_node_indices 8 15 19 = some (some [9, 13, 7]) := by decide +kernel
example : nodeIdx 0 8 = 16 ∧ anc 0 8 2 = 22 ∧ get_authentication_path_node_indices 16 22 19 = some (some [17, 21]) := by
  decide +kernel

/-- `Some(path)` **iff** `peak` is an ancestor-or-self of the start node and every node of the path strictly below it
    is `≤ node_count`; `path` is then the list of siblings -/
theorem get_authentication_path_node_indices_some_iff (l j peak nc : Nat) (hlt : nodeIdx l j < 2^64)
    (hnc : nc < 2^64 - 1) (path : List Nat) :
    get_authentication_path_node_indices (nodeIdx l j) peak nc = some (some path) ↔
      ∃ d, l + d ≤ 63 ∧ anc l j d = peak ∧ (∀ t, t < d → anc l j t ≤ nc) ∧ path = sibsUp l j d :=
  TF.MmrE.get_auth_path_some_iff l j peak nc hlt hnc path
example : get_authentication_path_node_indices 20 20 19 = some (some []) := by decide +kernel

/-- `None` **exactly** when the climb leaves `1 … node_count` without meeting `peak`: every level at which the
    ancestor equals `peak` (if any) lies above a node of the path that already exceeds `node_count`.  In particular
    `None` when `peak` is not an ancestor-or-self of the start node (e.g. the peak of another tree, or `0`), and for
    `start > node_count`, `start ≠ peak` -/
theorem get_authentication_path_node_indices_none_iff (l j peak nc : Nat) (hlt : nodeIdx l j < 2^64)
    (hnc : nc < 2^64 - 1) :
    get_authentication_path_node_indices (nodeIdx l j) peak nc = some none ↔
      ∀ d, l + d ≤ 63 → anc l j d = peak → ∃ t, t < d ∧ nc < anc l j t :=
  TF.MmrE.get_auth_path_none_iff l j peak nc hlt hnc
example : get_authentication_path_node_indices 8 18 19 = some none ∧
    get_authentication_path_node_indices 20 21 19 = some none := by decide +kernel

/-- the excluded start value `0` (not a node index), with the wrapping arithmetic of a release build:
    `Some []` for `peak = 0`, otherwise the result for start `1` with a `0` in front (`leftmost_ancestor(0)` wraps to
    `(0, 2^32 − 1)`, "sibling" `0`, "parent" `1`).  A debug build panics in `leftmost_ancestor`.
    (The other excluded input, `node_count = u64::MAX`, is the node count of no MMR; there the climb can pass the
    root `2^64 − 1` and wrap to `0` — third `example`: it never ends.) -/
theorem get_authentication_path_node_indices_start_zero (peak nc : Nat) (hnc : nc < 2^64 - 1) :
    get_authentication_path_node_indices 0 peak nc =
      if peak = 0 then some (some [])
      else (get_authentication_path_node_indices 1 peak nc).map (fun res => res.map (fun p => 0 :: p)) :=
  TF.MmrE.get_auth_path_start_zero peak nc hnc
example : get_authentication_path_node_indices 0 3 19 = some (some [0, 2]) := by decide +kernel
example : get_authentication_path_node_indices 0 0 19 = some (some []) := by decide +kernel
example : get_authentication_path_node_indices 1 2 18446744073709551615 = none := by decide +kernel

/-! ## the `mt` / `auth` / peak-index columns of the explicit forest, and the remaining functions against S0 -/

/-- **the table of the explicit forest in coordinates**: a row with peak index `k` of the forest with `n < 2^63` leaves
    belongs to a set bit `b` of `n` with `k` set bits above it; it is the node `(r.height, j)` below the aligned block
    `(b, 2·(n / 2^(b+1)))`; the `k`-th peak is its ancestor `b − r.height` levels up and lies inside the forest; the
    Merkle-tree index and the authentication path recorded in the table (computed by walking the tree) are
    `2^(b−height) + j mod 2^(b−height)` and `sibsUp`; a leaf row has `j` = its leaf index -/
theorem forest_table_in_coordinates (n : Nat) (hn : n < 2^63) (k : Nat) (r : Row) (hr : (k, r) ∈ (forest n).rows) :
    ∃ b j, n / 2^b % 2 = 1 ∧ k = popCount (n / 2^(b+1)) ∧ r.height ≤ b ∧
      j / 2^(b - r.height) = 2 * (n / 2^(b+1)) ∧ r.idx = nodeIdx r.height j ∧
      ((forest n).peaks.map TF.Spec.Mmr.Tree.idx)[k]? = some (anc r.height j (b - r.height)) ∧
      anc r.height j (b - r.height) ≤ (forest n).nodes ∧
      r.mt = 2^(b - r.height) + j % 2^(b - r.height) ∧
      r.auth = sibsUp r.height j (b - r.height) ∧
      (∀ li, r.leaf = some li → r.height = 0 ∧ li = j) :=
  forest_row_facts n hn k r hr
example : (2, 19, 0, some 10, 1, ([] : List Nat)) ∈ (forest 11).rows.map
    (fun kr => (kr.1, kr.2.idx, kr.2.height, kr.2.leaf, kr.2.mt, kr.2.auth)) := by decide

/-- **`get_authentication_path_node_indices` against the explicit forest**: for every leaf count below `2^63` and
    every node of the forest (in particular every leaf), called with the node index of the node, the node index of
    the peak of its tree and the node count of the forest, the function terminates and returns `Some` of the
    authentication path recorded in the table of S0: the sibling node indices from the node up to, excluding, the
    peak, lowest first -/
theorem get_authentication_path_node_indices_agrees_with_forest (n : Nat) (hn : n < 2^63) (k : Nat) (r : Row)
    (hr : (k, r) ∈ (forest n).rows) :
    ∃ pk, ((forest n).peaks.map TF.Spec.Mmr.Tree.idx)[k]? = some pk ∧
      get_authentication_path_node_indices r.idx pk (forest n).nodes = some (some r.auth) :=
  forest_auth_path n hn k r hr
example : (0, 8, [9, 13, 7]) ∈ (forest 11).rows.map (fun kr => (kr.1, kr.2.idx, kr.2.auth)) ∧
    (forest 11).peaks.map TF.Spec.Mmr.Tree.idx = [15, 18, 19] := by decide

/-- **… for a node and any ancestor in the explicit forest**: let `c 0, c 1, …, c d` be rows of the table of the
    forest with `n < 2^63` leaves such that the parent recorded for `c t` is `c (t+1)`.  Then from `c 0` to its
    ancestor `c d` the function returns `Some` of the siblings recorded for `c 0, …, c (d−1)`, in this order -/
theorem get_authentication_path_node_indices_agrees_with_forest_chain (n : Nat) (hn : n < 2^63) (d : Nat)
    (c : Nat → Row) (kk : Nat → Nat) (hrows : ∀ t, t ≤ d → (kk t, c t) ∈ (forest n).rows)
    (hpar : ∀ t, t < d → (c t).parent = (c (t+1)).idx) :
    get_authentication_path_node_indices (c 0).idx (c d).idx (forest n).nodes
      = some (some ((List.range d).map fun t => (c t).sibling)) :=
  forest_auth_path_chain n hn d c kk hrows hpar
example : [(8, 10, 9), (10, 14, 13)] ⊆ (forest 11).rows.map (fun kr => (kr.2.idx, kr.2.parent, kr.2.sibling)) ∧
    get_authentication_path_node_indices 8 14 19 = some (some [9, 13]) := by decide +kernel

/-- **… on the explicit forest, exactly, for an arbitrary second argument**: for a node `r` of the forest with
    `n < 2^63` leaves (coordinates `(r.height, j)`, its tree belonging to bit `b` of `n`), the node count of the forest
    and *any* `p`: the result is `Some(path)` iff `p` is the node itself, one of its ancestors inside its tree (up to
    the peak, `b − r.height` levels up), **or the would-be parent of the peak** (one level further: a node index
    that is not in the forest — the Rust code does not notice, first `example`); `None` in every other case, in
    particular for nodes of other trees and non-ancestors in the same tree (second `example`) -/
theorem get_authentication_path_node_indices_on_forest_exact (n : Nat) (hn : n < 2^63) (k : Nat) (r : Row)
    (hr : (k, r) ∈ (forest n).rows) :
    ∃ b j, r.idx = nodeIdx r.height j ∧ r.height ≤ b ∧
      ((forest n).peaks.map TF.Spec.Mmr.Tree.idx)[k]? = some (anc r.height j (b - r.height)) ∧
      (∀ p path, get_authentication_path_node_indices r.idx p (forest n).nodes = some (some path) ↔
         ∃ d, d ≤ b - r.height + 1 ∧ anc r.height j d = p ∧ path = sibsUp r.height j d) ∧
      (∀ p, get_authentication_path_node_indices r.idx p (forest n).nodes = some none ↔
         ∀ d, d ≤ b - r.height + 1 → anc r.height j d ≠ p) :=
  forest_auth_path_exact n hn k r hr
example : (1, 16) ∈ (forest 11).rows.map (fun kr => (kr.1, kr.2.idx)) ∧ (forest 11).nodes = 19 ∧
    get_authentication_path_node_indices 16 22 19 = some (some [17, 21]) := by decide +kernel
example : get_authentication_path_node_indices 16 17 19 = some none ∧
    get_authentication_path_node_indices 16 15 19 = some none := by decide +kernel

/-- **`leaf_index_to_mt_index_and_peak_index` against the table of the explicit forest**: for every leaf of the
    forest with `n < 2^63` leaves the function returns the Merkle-tree index recorded in the table (root `1`, children
    `2m`, `2m+1`, computed by walking the tree) and the position `k` of the leaf's tree in the peak list -/
theorem mt_index_and_peak_index_agree_with_forest (n : Nat) (hn : n < 2^63) (k : Nat) (r : Row)
    (hr : (k, r) ∈ (forest n).rows) (li : Nat) (hl : r.leaf = some li) :
    li < n ∧ leaf_index_to_mt_index_and_peak_index li n = (r.mt, k) ∧
    leaf_index_to_mt_index_and_peak_index_ok li n = true := by
  obtain ⟨h1, h2⟩ := forest_mt_peak n hn k r hr li hl
  have hn64 : n < 2^64 := by
    have : (2:Nat)^63 < 2^64 := by decide
    omega
  exact ⟨h1, h2, (mt_spec li n h1 hn64).2⟩
example : (1, some 9, 3) ∈ (forest 11).rows.map (fun kr => (kr.1, kr.2.leaf, kr.2.mt)) ∧
    leaf_index_to_mt_index_and_peak_index 9 11 = (3, 1) := by decide +kernel

/-! ## the whole property -/

/-- FULL STATEMENT of C16 in executable form: for every leaf count below `2^63`, *every* index function (translated
    and hand-modelled, see `TF.Mmr.forestAgrees` / `rowAgrees`) reproduces the table of the explicit forest on every
    node and every leaf — including `get_authentication_path_node_indices` and the Merkle-tree / peak index
    of every leaf as recorded in the table -/
def all_functions_agree_with_forest_statement : Prop := ∀ n, n < 2^63 → forestAgrees n = true

/-- **C16**: for every leaf count below `2^63`, every index function — `num_leafs_to_num_nodes`, `get_peak_heights`,
    `get_peak_heights_and_peak_node_indices`, `node_indices_added_by_append`, and on every node / leaf of the explicit
    forest S0 `right_lineage_length_and_own_height`, `right_lineage_length_from_node_index`, `parent`,
    `node_index_to_leaf_index`, `left_child` / `right_child`, `left_sibling` / `right_sibling`,
    `leaf_index_to_node_index`, `leaf_index_to_mt_index_and_peak_index`, `right_lineage_length_from_leaf_index`,
    `get_authentication_path_node_indices` — reproduces the table of S0 (append leaves, merge equal heights, number
    the nodes by a running counter) -/
theorem all_functions_agree_with_forest (n : Nat) (hn : n < 2^63) : forestAgrees n = true := forestAgrees_all n hn
example : (9223372036854775807 : Nat) < 2^63 := by decide

theorem all_functions_agree_with_forest_statement_holds : all_functions_agree_with_forest_statement :=
  fun n hn => all_functions_agree_with_forest n hn

/-- the same, spelled out as a proposition (no executable comparison involved) -/
theorem all_functions_agree_with_forest_explicit (n : Nat) (hn : n < 2^63) :
    ((forest n).nodes = num_leafs_to_num_nodes n ∧ (forest n).leafs = n ∧
      (forest n).peaks.map TF.Spec.Mmr.Tree.height = get_peak_heights n ∧
      get_peak_heights_and_peak_node_indices n
        = some ((forest n).peaks.map TF.Spec.Mmr.Tree.height, (forest n).peaks.map TF.Spec.Mmr.Tree.idx) ∧
      node_indices_added_by_append n
        = some ((List.range ((forest (n+1)).nodes - (forest n).nodes)).map fun k => (forest n).nodes + 1 + k)) ∧
    ∀ k r, (k, r) ∈ (forest n).rows →
      (right_lineage_length_and_own_height r.idx = some (r.rll, r.height) ∧
       right_lineage_length_from_node_index r.idx = some r.rll ∧
       node_index_to_leaf_index r.idx = some r.leaf ∧
       (r.parent ≠ 0 → parent r.idx = some r.parent ∧
         (r.rll ≠ 0 → left_sibling r.idx r.height = r.sibling ∧ left_sibling_ok r.idx r.height = true) ∧
         (r.rll = 0 → right_sibling r.idx r.height = r.sibling ∧ right_sibling_ok r.idx r.height = true)) ∧
       (0 < r.height → left_child r.idx r.height = r.left ∧ left_child_ok r.idx r.height = true ∧
         right_child r.idx = r.right ∧ right_child_ok r.idx = true) ∧
       (∃ pk, ((forest n).peaks.map TF.Spec.Mmr.Tree.idx)[k]? = some pk ∧
         get_authentication_path_node_indices r.idx pk (forest n).nodes = some (some r.auth))) ∧
      (∀ li, r.leaf = some li →
        leaf_index_to_node_index li = r.idx ∧ right_lineage_length_from_leaf_index li = r.rll ∧
        leaf_index_to_mt_index_and_peak_index li n = (r.mt, k) ∧
        leaf_index_to_mt_index_and_peak_index_ok li n = true) := by
  obtain ⟨s1, s2, s3⟩ := forest_shape_exact n hn
  refine ⟨⟨s1, s2, s3, forest_peaks n hn, forest_added n hn⟩, fun k r hr => ?_⟩
  obtain ⟨f1, f2, f3, f4⟩ := forest_node_functions n hn k r hr
  refine ⟨⟨f1, forest_rll_node n hn k r hr, f2, f3, f4, forest_auth_path n hn k r hr⟩, fun li hl => ?_⟩
  obtain ⟨g1, g2⟩ := forest_leaf_functions n hn k r hr li hl
  obtain ⟨_, g3, g4⟩ := mt_index_and_peak_index_agree_with_forest n hn k r hr li hl
  exact ⟨g1, g2, g3, g4⟩
example : (1000 : Nat) < 2^63 := by decide

/-! ## tests (bounded): every function against the table of the explicit forest S0 -/

/-- TEST (kernel-evaluated): for every leaf count `n ≤ 40`, every index function (translated and hand-modelled loops)
    reproduces the table of the explicit forest S0 on every node and every leaf -/
theorem all_functions_agree_with_forest_bounded_check : (List.range 41).all forestAgrees = true := by
  decide +kernel

/-- the same around powers of two up to `2^8`: instances of `all_functions_agree_with_forest` -/
theorem all_functions_agree_with_forest_pow2_bounded_check :
    [63, 64, 65, 127, 128, 129, 255, 256, 257].all forestAgrees = true :=
  List.all_eq_true.mpr fun n hn => all_functions_agree_with_forest n (by simp at hn; omega)

end TF.C16

/-! ## regenerated-from-source bridge

The loop functions of `shared_advanced.rs` are **also regenerated from the Rust text on every run**
(`TF/Gen/MmrLoops.lean`, namespace `TF.Gen.Loops`, written by `tools/rs2lean_loops.py`: every `while`/`loop` is a
fuel-indexed structural recursion, `none` = out of fuel; every `for` a recursion on the remaining iterations).
The theorems below (proofs in `TF/Proofs/GenBridgeMmr.lean`) say that the regenerated definitions are equal to the
hand-written models of `TF/Model/MmrIndex.lean` pointwise on the whole documented domain, so every theorem above (and
in C05/C11/C12) about a hand model is a theorem about the code as it is now; the `…_transfer` corollaries spell that
out and show in particular that the fuel picked by the translator (65 rounds, 66 for the authentication path) is
enough.  A change of the Rust text changes `TF.Gen.Loops.*`; these theorems are then re-checked or break. -/
namespace TF.C16
open TF TF.Gen TF.Mmr TF.Spec.Mmr TF.Model.Mmr
open TF.MmrE (nodeIdx anc sibsUp)

/-- regenerated `right_lineage_length_and_own_height` = hand model, every input (`none` included) -/
theorem gen_right_lineage_length_and_own_height_eq_model (n : Nat) :
    Loops.right_lineage_length_and_own_height n = right_lineage_length_and_own_height n :=
  TF.GenBridge.gen_rll_own_eq n
example : Loops.right_lineage_length_and_own_height 13 = some (2, 1) := by decide +kernel

/-- regenerated `right_lineage_length_from_node_index` (recursive in Rust) = hand model, every `u64` -/
theorem gen_right_lineage_length_from_node_index_eq_model (n : Nat) (h : n < 2^64) :
    Loops.right_lineage_length_from_node_index n = right_lineage_length_from_node_index n :=
  TF.GenBridge.gen_rll_node_eq n h
example : (12 : Nat) < 2^64 ∧ Loops.right_lineage_length_from_node_index 12 = some 3 := by decide +kernel

/-- regenerated `parent` = hand model, every input -/
theorem gen_parent_eq_model (n : Nat) : Loops.parent n = parent n := TF.GenBridge.gen_parent_eq n
example : Loops.parent 5 = some 6 ∧ Loops.parent 4 = some 6 := by decide +kernel

/-- regenerated `node_index_to_leaf_index` = hand model, every `u64` -/
theorem gen_node_index_to_leaf_index_eq_model (n : Nat) (h : n < 2^64) :
    Loops.node_index_to_leaf_index n = node_index_to_leaf_index n := TF.GenBridge.gen_n2l_eq n h
example : (8 : Nat) < 2^64 ∧ Loops.node_index_to_leaf_index 8 = some (some 4) ∧
    Loops.node_index_to_leaf_index 7 = some none := by decide +kernel

/-- regenerated `get_peak_heights` (a `for` loop) = hand model, every `u64` -/
theorem gen_get_peak_heights_eq_model (n : Nat) (h : n < 2^64) :
    Loops.get_peak_heights n = get_peak_heights n := TF.GenBridge.gen_peak_heights_eq n h
example : (11 : Nat) < 2^64 ∧ Loops.get_peak_heights 11 = [3, 1, 0] := by decide +kernel

/-- the regenerated `get_peak_heights_ok` (no shift amount out of range in the `for` loop: debug build = release build)
    holds for every `u64` -/
theorem gen_get_peak_heights_ok (n : Nat) (h : n < 2^64) : Loops.get_peak_heights_ok n = true :=
  TF.GenBridge.gen_peak_heights_ok n h
example : (18446744073709551615 : Nat) < 2^64 := by decide

/-- regenerated `get_peak_heights_and_peak_node_indices` (two nested `while` loops with `continue 'outer`) = hand
    model, every leaf count below `2^63` -/
theorem gen_get_peak_heights_and_peak_node_indices_eq_model (n : Nat) (h : n < 2^63) :
    Loops.get_peak_heights_and_peak_node_indices n = get_peak_heights_and_peak_node_indices n :=
  TF.GenBridge.gen_peaks_eq n h
example : (11 : Nat) < 2^63 ∧ Loops.get_peak_heights_and_peak_node_indices 11 = some ([3, 1, 0], [15, 18, 19]) := by
  decide +kernel

/-- regenerated `node_indices_added_by_append` = hand model, every input -/
theorem gen_node_indices_added_by_append_eq_model (c : Nat) :
    Loops.node_indices_added_by_append c = node_indices_added_by_append c := TF.GenBridge.gen_added_eq c
example : Loops.node_indices_added_by_append 7 = some [12, 13, 14, 15] := by decide +kernel

/-- regenerated `get_authentication_path_node_indices` = hand model, every input (`none` included) -/
theorem gen_get_authentication_path_node_indices_eq_model (s p c : Nat) :
    Loops.get_authentication_path_node_indices s p c = get_authentication_path_node_indices s p c :=
  TF.GenBridge.gen_auth_path_eq s p c
example : Loops.get_authentication_path_node_indices 1 7 7 = some (some [2, 6]) ∧
    Loops.get_authentication_path_node_indices 1 6 7 = some none := by decide +kernel

/-- **transfer**: the theorems about the node-level hand models hold verbatim for the regenerated code — for every
    node of `tree 0 0 63` (node indices `1 … 2^64 − 1`) the regenerated loops terminate within their fuel and return
    the right-lineage length, height, parent and leaf index recorded in the table -/
theorem gen_node_functions_transfer (r : Row) (hr : r ∈ (tree 0 0 63).rootRows) :
    Loops.right_lineage_length_and_own_height r.idx = some (r.rll, r.height) ∧
    Loops.right_lineage_length_from_node_index r.idx = some r.rll ∧
    Loops.node_index_to_leaf_index r.idx = some r.leaf ∧
    (r.parent ≠ 0 → Loops.parent r.idx = some r.parent) := by
  have h2 : r.idx < 2^64 := by
    obtain ⟨l, j, hl, hj, rfl⟩ := (mem_rootRows 63 r).mp hr
    exact TF.MmrE.nodeIdx_lt_of_coords l j hl hj
  rw [gen_right_lineage_length_and_own_height_eq_model, gen_right_lineage_length_from_node_index_eq_model _ h2,
    gen_node_index_to_leaf_index_eq_model _ h2, gen_parent_eq_model]
  exact ⟨right_lineage_length_and_own_height_exact r hr, right_lineage_length_from_node_index_exact.1 r hr,
    node_index_to_leaf_index_exact r hr, parent_exact r hr⟩
example : ∃ r ∈ (tree 0 0 63).rootRows, r.idx = 18446744073709551614 :=
  every_node_index_has_a_row _ (by decide) (by decide)

/-- **transfer**: for every leaf count below `2^63` the regenerated forest-level functions return the peaks of the
    explicit forest S0 and the node indices it gains by one append -/
theorem gen_forest_functions_transfer (n : Nat) (hn : n < 2^63) :
    Loops.get_peak_heights n = (forest n).peaks.map TF.Spec.Mmr.Tree.height ∧
    Loops.get_peak_heights_and_peak_node_indices n
      = some ((forest n).peaks.map TF.Spec.Mmr.Tree.height, (forest n).peaks.map TF.Spec.Mmr.Tree.idx) ∧
    Loops.node_indices_added_by_append n
      = some ((List.range (trailingOnes n + 1)).map fun k => 2 * n - popCount n + 1 + k) := by
  rw [gen_get_peak_heights_eq_model n (by omega), gen_get_peak_heights_and_peak_node_indices_eq_model n hn,
    gen_node_indices_added_by_append_eq_model]
  exact ⟨(forest_shape_exact n hn).2.2.symm, get_peak_heights_and_peak_node_indices_exact n hn,
    (node_indices_added_by_append_exact n hn).2⟩
example : (9223372036854775807 : Nat) < 2^63 := by decide

/-- **transfer** for the authentication-path walk: the regenerated `get_authentication_path_node_indices` terminates
    within its fuel and returns the sibling node indices bottom-up, for every start node `(l, j)` and ancestor `d` levels
    up whose path nodes below it are `≤ node_count` (`get_authentication_path_node_indices_of_ancestor`, which also
    establishes that the 66 rounds of fuel suffice: the result is never the out-of-fuel `none`) -/
theorem gen_auth_path_transfer (l j d nc : Nat) (hlt : anc l j d < 2^64) (hbelow : ∀ t, t < d → anc l j t ≤ nc) :
    Loops.get_authentication_path_node_indices (nodeIdx l j) (anc l j d) nc = some (some (sibsUp l j d)) := by
  rw [gen_get_authentication_path_node_indices_eq_model]
  exact get_authentication_path_node_indices_of_ancestor l j d nc hlt hbelow
example : Loops.get_authentication_path_node_indices 8 15 19 = some (some [9, 13, 7]) := by decide +kernel

end TF.C16
