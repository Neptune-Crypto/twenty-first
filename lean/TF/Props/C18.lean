import TF.Proofs.LatticeKem
import TF.Proofs.GenBridgeLattice
/-!
# C18 — lattice ring product is negacyclic convolution; KEM correct, rejects tampering

Property theorems only (helper lemmas in `TF/Proofs/Lattice*.lean`, `TF/Proofs/GenBridgeLattice.lean`).

* `PSI_POWERS_BITREVERSED`, `PSI_INV_POWERS_BITREVERSED`, `LATTICE_N`, `LATTICE_N_INV` are **regenerated from
  `lattice.rs`** on every run.
* `TF.Model.Lattice.*` is the hand-written model (ring elements = arrays of 64 canonical values), tied to the Rust code
  by the correspondence family `lat`.  SHAKE256 and SHA3-256 are parameters (`Oracles`) of the KEM model: every KEM
  theorem holds for every choice of these two functions.

Notation: `bitrev 6 k` reverses the 6 bits of `k`; `none` = `dec` rejects.
-/
namespace TF.C18
open TF.Gen TF.Model.Lattice TF.LatticeProofs TF.NttFn

/-- Both ψ tables are the bit-reversed powers of one element `ψ` with `ψ^64 ≡ -1` (a primitive 128th root of unity)
    and of its inverse, all entries canonical; `N_INV · 64 ≡ 1` (whole tables decided by the kernel). -/
theorem psi_tables_consistent :
    PSI_POWERS_BITREVERSED.length = 64 ∧ PSI_INV_POWERS_BITREVERSED.length = 64 ∧
    psiGen^64 % P = P - 1 ∧
    (∀ k, k < 64 →
      PSI_POWERS_BITREVERSED.getD k 0 < P ∧ PSI_INV_POWERS_BITREVERSED.getD k 0 < P ∧
      PSI_POWERS_BITREVERSED.getD k 0 = psiGen^(bitrev 6 k) % P ∧
      PSI_POWERS_BITREVERSED.getD k 0 * PSI_INV_POWERS_BITREVERSED.getD k 0 % P = 1) ∧
    LATTICE_N_INV < P ∧ LATTICE_N_INV * LATTICE_N % P = 1 ∧ LATTICE_N = 64 :=
  tables_spec
example : psiGen = 2198989700608 ∧ bitrev 6 1 = 32 := by decide

/-- `add`, `sub`, `hadamard` of ring elements are coefficient-wise field operations. -/
theorem ring_ops_coefficientwise (a b : Ring) (i : Nat) (hi : i < 64) :
    (ringAdd a b).getD i 0 = Spec.fadd (a.getD i 0) (b.getD i 0) ∧
    (ringSub a b).getD i 0 = Spec.fsub (a.getD i 0) (b.getD i 0) ∧
    (ringHadamard a b).getD i 0 = Spec.fmul (a.getD i 0) (b.getD i 0) ∧
    (ringAdd a b).size = 64 :=
  ⟨ringZip_get _ a b i hi, ringZip_get _ a b i hi, ringZip_get _ a b i hi, ringZip_size _ a b⟩
example : (63 : Nat) < 64 := by decide

/-- **Ring multiplication is negacyclic convolution**: for all pairs of ring elements (`F_p^64` each),
    `CyclotomicRingElement::mul` — coset-NTT of both operands with the tabulated powers of ψ, coefficient-wise product,
    inverse coset-NTT with the inverse table and `N_INV` — equals the schoolbook product modulo `X^64 + 1`.
    (Proof: the butterfly network with a table whose entries square to their block constants evaluates the input at
    64 roots of `X^64 + 1` [stage invariant, all `L`]; each inverse stage undoes a forward stage up to the factor 2;
    evaluation at a root of `X^n + 1` is multiplicative for negacyclic convolution; the table relations are decided in
    the kernel on the translated tables.) -/
theorem ring_mul_is_negacyclic (a b : Ring) (ha : a.size = 64) (hb : b.size = 64) : ringMul a b = negacyclic a b :=
  ringMul_eq_negacyclic a b ha hb
example : (Array.replicate 64 1 : Ring).size = 64 := by decide

/-- The inverse coset transform undoes the forward one: `intt64 (ntt64 x) = x` (for any 64 naturals: `x` reduced
    modulo `P`; on canonical values the identity). -/
theorem coset_intt_ntt (x : Ring) (hx : x.size = 64) : intt64 (ntt64 x) = x.map (· % P) :=
  intt64_ntt64 x hx
example : (Array.replicate 64 7 : Ring).size = 64 := by decide

/-- **The module-multiplication strategies agree** for every shape `H × INNER × W`:
    `multiply = fast_multiply`, where `fast_multiply` is by definition `intt (multiply_hadamard (ntt lhs) (ntt rhs))`. -/
theorem module_strategies_agree (H I W : Nat) (l r : Module) (hl : Shaped (H * I) l) (hr : Shaped (I * W) r) :
    modMultiply H I W l r = modFastMultiply H I W l r ∧
    modFastMultiply H I W l r = modIntt (modMultiplyHadamard H I W (modNtt l) (modNtt r)) :=
  ⟨modMultiply_eq_fast H I W l r hl hr, rfl⟩
example : Shaped (1 * 1) #[Array.replicate 64 3] := shaped_singleton _ (by decide)

/-- `multiply` is the matrix product over `F_p[X]/(X^64+1)` with the schoolbook negacyclic product of the entries. -/
theorem module_multiply_is_schoolbook (H I W : Nat) (l r : Module) (hl : Shaped (H * I) l) (hr : Shaped (I * W) r) :
    modMultiply H I W l r = modMulWith negacyclic H I W l r :=
  modMultiply_eq_negacyclic H I W l r hl hr
example : (2 : Nat) * 3 = 6 := rfl

/-- **Message embedding survives bounded noise**: for every 32-byte message and every noise vector whose 64
    coefficients are integers in `(-2^14, 2^14)`, added in the field (modulo `P`, wrap-around included),
    `extract_msg (embed_msg m + e) = m`. -/
theorem embed_extract (msg : List Nat) (hlen : msg.length = 32) (hb : ∀ b ∈ msg, b < 256)
    (noise : Nat → Int) (hnoise : ∀ k, k < 64 → -16384 < noise k ∧ noise k < 16384)
    (r : Ring) (hr : ∀ k, k < 64 → r.getD k 0 = addNoise ((embedMsg msg).getD k 0) (noise k)) :
    extractMsg r = msg :=
  extract_embed_noise msg hlen hb noise hnoise r hr
example : addNoise 0 (-1) = P - 1 ∧ addNoise 32768 16383 = 49151 := by decide

/-- `[BFieldElement; 320] ↔ Ciphertext` are mutually inverse (on well-shaped ciphertexts). -/
theorem ciphertext_array_roundtrip :
    (∀ v : Array Nat, v.size = 320 → ciphertextToArray (ciphertextOfArray v) = v) ∧
    (∀ c : Ciphertext, Shaped 4 c.bg → Shaped 1 c.bgaM → ciphertextOfArray (ciphertextToArray c) = c) :=
  ⟨toArray_ofArray, ofArray_toArray⟩
example : (Array.replicate 320 5 : Array Nat).size = 320 := by simp

/-- **`dec` accepts exactly re-encryptions**: for every pair of hash functions, every secret key and every
    ciphertext, `dec sk c = some k` iff `c` is the ciphertext generated from the public key re-derived from `sk` and the
    payload `dec` extracted from `c`, and `k` is the hash of that payload. -/
theorem dec_accepts_only_reencryptions (O : Oracles) (sk : SecretKey) (c : Ciphertext) (k : List Nat) :
    dec O sk c = some k ↔
      c = generateCiphertext O (derivePublicKey O sk.key sk.seed) (decPayload O sk c) ∧
      k = O.hash (decPayload O sk c) :=
  dec_eq_some_iff O sk c k
example : ∃ O : Oracles, O.hash [] = [1] := ⟨{ xof := fun _ n => List.replicate n 0, hash := fun _ => [1] }, rfl⟩

/-- Every ciphertext that is not that re-encryption — in particular every modification of an honest ciphertext that is
    not itself the honest encryption of the payload it decodes to — is rejected. -/
theorem dec_rejects_everything_else (O : Oracles) (sk : SecretKey) (c : Ciphertext) :
    dec O sk c = none ↔
      c ≠ generateCiphertext O (derivePublicKey O sk.key sk.seed) (decPayload O sk c) :=
  dec_eq_none_iff O sk c
example : (⟨#[], #[]⟩ : Ciphertext) ≠ ⟨#[#[1]], #[]⟩ := by decide

/-- **Honest round trip, deterministic core**: for keys from `keygen` and a ciphertext from `enc`, decapsulation
    returns the encapsulated key whenever message extraction recovers the payload (see `kem_correct_under_noise_bound`
    for the sufficient condition on the noise). -/
theorem kem_roundtrip_of_extraction (O : Oracles) (rk r : List Nat)
    (hext : decPayload O (keygen O rk).1 (enc O (keygen O rk).2 r).2 = O.xof r 32) :
    dec O (keygen O rk).1 (enc O (keygen O rk).2 r).2 = some (enc O (keygen O rk).2 r).1 :=
  dec_of_decPayload O rk r hext
example : ∃ O : Oracles, O.xof [] 32 = List.replicate 32 0 := ⟨{ xof := fun _ n => List.replicate n 0, hash := fun _ => [1] }, rfl⟩

/-- **KEM correctness under the noise bound** (every pair of hash functions, every key seed, every encapsulation
    seed): if every coefficient of the noise ring element `Σ_i b_i·c_i − Σ_i d_i·a_i` (negacyclic products of the short
    secret vectors of key generation `(a, c)` and of encapsulation `(b, d)`) is, as a signed field element, in
    `(-2^14, 2^14)`, then decapsulating the honest ciphertext with the matching secret key returns the encapsulated
    shared key.  (The element `dec` extracts from is exactly `embed_msg payload + noise`: the public-matrix terms
    cancel coefficient-wise in the NTT domain, `intt ∘ ntt = id`, and the transform is additive and multiplicative for
    the negacyclic product.)  The probability that the bound holds is not a statement about a deterministic model. -/
theorem kem_correct_under_noise_bound (O : Oracles) (rk r : List Nat)
    (hlen : (O.xof r 32).length = 32) (hb : ∀ x ∈ O.xof r 32, x < 256)
    (hE : ∀ k, k < 64 →
      ((modSub (modMulWith negacyclic 1 4 1 (deriveSecretVectors O (O.xof r 32)).1 (deriveSecretVectors O (keygen O rk).1.key).2)
        (modMulWith negacyclic 1 4 1 (deriveSecretVectors O (O.xof r 32)).2 (deriveSecretVectors O (keygen O rk).1.key).1)).getD 0 ringZero).getD k 0 < 16384 ∨
      P - 16384 < ((modSub (modMulWith negacyclic 1 4 1 (deriveSecretVectors O (O.xof r 32)).1 (deriveSecretVectors O (keygen O rk).1.key).2)
        (modMulWith negacyclic 1 4 1 (deriveSecretVectors O (O.xof r 32)).2 (deriveSecretVectors O (keygen O rk).1.key).1)).getD 0 ringZero).getD k 0) :
    dec O (keygen O rk).1 (enc O (keygen O rk).2 r).2 = some (enc O (keygen O rk).2 r).1 :=
  kem_correct_noise O rk r hlen hb hE
example : ∃ O : Oracles, (O.xof [] 32).length = 32 ∧ ∀ x ∈ O.xof [] 32, x < 256 :=
  ⟨{ xof := fun _ n => List.replicate n 0, hash := fun _ => [1] }, by simp, by intro x hx; simp at hx; omega⟩

/-! ## regenerated-from-source bridge

`TF/Gen/LatticeLoops.lean` is written by `tools/rs2lean_lattice.py` from the text of `lattice.rs` on every run (`lat_*`,
namespace `TF.Gen.Loops`).  `coset_ntt_noswap_64` / `coset_intt_noswap_64` are translated over a parameter record of field
operations `ops : Ops σ α` (array elements `α`; table entries and `N_INV` are `ops.sofNat <literal>`); the other functions
on canonical values.  Each `gen_*_eq_model` theorem says: the regenerated function returns what the hand model returns,
its `_ok` twin is true (no index out of range, no overflow of plain `+ - * <<`, no shift amount out of range) and — where
the Rust code has a `while` — it finishes within its fuel.  The transfer theorems restate the main theorems of this file
for the regenerated code. -/

/-- **`coset_ntt_noswap_64` as regenerated from source is the model's `cosetNtt`** — for every operation record `ops`
    and every array of 64 elements; the table is the regenerated `PSI_POWERS_BITREVERSED` through `BFieldElement::new`. -/
theorem gen_coset_ntt_eq_model {σ α : Type} (ops : Model.Ntt.Ops σ α) (x : Array α) (hx : x.size = 64) :
    Loops.lat_coset_ntt_noswap_64 ops x.toList
      = some (cosetNtt ops (PSI_POWERS_BITREVERSED.map ops.sofNat).toArray x).toList ∧
    Loops.lat_coset_ntt_noswap_64_ok ops x.toList = true :=
  GenBridge.Lattice.gen_coset_ntt_eq ops x hx
example : ((Array.range 64).map (· * 3 + 1)).size = 64 ∧
    Loops.lat_coset_ntt_noswap_64 Model.Ntt.bOps ((Array.range 64).map (· * 3 + 1)).toList
      = some (ntt64 ((Array.range 64).map (· * 3 + 1))).toList := by decide +kernel

/-- **`coset_intt_noswap_64` as regenerated from source is the model's `cosetIntt`** — for every `ops` and every array
    of 64 elements; table `PSI_INV_POWERS_BITREVERSED`, scalar `LATTICE_N_INV` through `BFieldElement::new`. -/
theorem gen_coset_intt_eq_model {σ α : Type} (ops : Model.Ntt.Ops σ α) (x : Array α) (hx : x.size = 64) :
    Loops.lat_coset_intt_noswap_64 ops x.toList
      = (cosetIntt ops (PSI_INV_POWERS_BITREVERSED.map ops.sofNat).toArray (ops.sofNat LATTICE_N_INV) x).toList ∧
    Loops.lat_coset_intt_noswap_64_ok ops x.toList = true :=
  GenBridge.Lattice.gen_coset_intt_eq ops x hx
example : Loops.lat_coset_intt_noswap_64 Model.Ntt.bOps ((Array.range 64).map (· * 5 + 2)).toList
      = (intt64 ((Array.range 64).map (· * 5 + 2))).toList := by decide +kernel

/-- On canonical values (`bOps`: `Spec.fadd/fsub/fmul`, `BFieldElement::new n = n % P`) the tables are the regenerated
    constants, so the regenerated transforms **are** `ntt64` / `intt64`. -/
theorem gen_coset_transforms_are_ntt64_intt64 (x : Ring) (hx : x.size = 64) :
    Loops.lat_coset_ntt_noswap_64 Model.Ntt.bOps x.toList = some (ntt64 x).toList ∧
    Loops.lat_coset_ntt_noswap_64_ok Model.Ntt.bOps x.toList = true ∧
    Loops.lat_coset_intt_noswap_64 Model.Ntt.bOps x.toList = (intt64 x).toList ∧
    Loops.lat_coset_intt_noswap_64_ok Model.Ntt.bOps x.toList = true :=
  ⟨(GenBridge.Lattice.gen_ntt64 x hx).1, (GenBridge.Lattice.gen_ntt64 x hx).2,
   (GenBridge.Lattice.gen_intt64 x hx).1, (GenBridge.Lattice.gen_intt64 x hx).2⟩
example : (Array.replicate 64 (P - 1) : Ring).size = 64 := by decide

/-- **`embed_msg` as regenerated from source is the model's `embedMsg`**, for every message of 32 bytes. -/
theorem gen_embed_msg_eq_model (msg : List Nat) (hlen : msg.length = 32) (hb : ∀ b ∈ msg, b < 256) :
    Loops.lat_embed_msg msg = (embedMsg msg).toList ∧ Loops.lat_embed_msg_ok msg = true :=
  GenBridge.Lattice.gen_embed_msg_eq msg hlen hb
example : ((List.range 32).map (· * 7 + 3)).length = 32 ∧ (∀ b ∈ (List.range 32).map (· * 7 + 3), b < 256) ∧
    (Loops.lat_embed_msg ((List.range 32).map (· * 7 + 3))).getD 8 0 = 2 ^ 15 + 2 ^ 31 + 2 ^ 47 + 2 ^ 63 := by decide +kernel

/-- **`extract_msg` as regenerated from source is the model's `extractMsg`**, for every ring element. -/
theorem gen_extract_msg_eq_model (x : Ring) (hx : x.size = 64) :
    Loops.lat_extract_msg x.toList = extractMsg x ∧ Loops.lat_extract_msg_ok x.toList = true :=
  GenBridge.Lattice.gen_extract_msg_eq x hx
example : Loops.lat_extract_msg ((List.range 64).map (· * 2000000000000000 + 40000)) =
    [49, 83, 117, 87, 51, 17, 119, 117, 23, 49, 19, 119, 85, 23, 49, 83, 117, 85, 51, 17, 83, 117, 87, 49, 17, 119, 85, 23, 49,
      19, 117, 85] := by decide +kernel

/-- **The ring operations as regenerated from source are the model's** (`Add`, `Sub`, `hadamard`, `Mul` of
    `CyclotomicRingElement`), for all pairs of ring elements; in `mul` both `while` loops finish and nothing panics. -/
theorem gen_ring_ops_eq_model (a b : Ring) (ha : a.size = 64) (hb : b.size = 64) :
    (Loops.lat_ring_add a.toList b.toList = (ringAdd a b).toList ∧ Loops.lat_ring_add_ok a.toList b.toList = true) ∧
    (Loops.lat_ring_sub a.toList b.toList = (ringSub a b).toList ∧ Loops.lat_ring_sub_ok a.toList b.toList = true) ∧
    (Loops.lat_ring_hadamard a.toList b.toList = (ringHadamard a b).toList ∧
      Loops.lat_ring_hadamard_ok a.toList b.toList = true) ∧
    (Loops.lat_ring_mul a.toList b.toList = some (ringMul a b).toList ∧ Loops.lat_ring_mul_ok a.toList b.toList = true) :=
  ⟨GenBridge.Lattice.gen_ring_add_eq a b ha hb, GenBridge.Lattice.gen_ring_sub_eq a b ha hb,
   GenBridge.Lattice.gen_ring_hadamard_eq a b ha hb, GenBridge.Lattice.gen_ring_mul_eq a b ha hb⟩
example : Loops.lat_ring_sub (List.replicate 64 1) (List.replicate 64 2) = List.replicate 64 (P - 1) := by decide +kernel

/-- **Transfer of `ring_mul_is_negacyclic`**: `Mul for CyclotomicRingElement` *as regenerated from source* computes the
    schoolbook product modulo `X^64 + 1`, for all pairs of ring elements, and never panics. -/
theorem gen_ring_mul_is_negacyclic (a b : Ring) (ha : a.size = 64) (hb : b.size = 64) :
    Loops.lat_ring_mul a.toList b.toList = some (negacyclic a b).toList ∧ Loops.lat_ring_mul_ok a.toList b.toList = true := by
  rw [← ring_mul_is_negacyclic a b ha hb]
  exact GenBridge.Lattice.gen_ring_mul_eq a b ha hb
example : (Loops.lat_ring_mul ((List.range 64).map (· + 1)) (0 :: 1 :: List.replicate 62 0)).map (·.take 3)
    = some [P - 64, 1, 2] := by
  rw [(gen_ring_mul_is_negacyclic ((List.range 64).map (· + 1)).toArray (0 :: 1 :: List.replicate 62 0).toArray
    (by decide) (by decide)).1]
  decide +kernel

/-- **Transfer of `coset_intt_ntt`**: the regenerated inverse transform undoes the regenerated forward transform. -/
theorem gen_coset_intt_ntt (x : Ring) (hx : x.size = 64) :
    (Loops.lat_coset_ntt_noswap_64 Model.Ntt.bOps x.toList).map (Loops.lat_coset_intt_noswap_64 Model.Ntt.bOps)
      = some (x.map (· % P)).toList := by
  rw [(GenBridge.Lattice.gen_ntt64 x hx).1, Option.map_some, (GenBridge.Lattice.gen_intt64 _ (ntt64_size x hx)).1,
    coset_intt_ntt x hx]
example : (Loops.lat_coset_ntt_noswap_64 Model.Ntt.bOps (List.range 64)).map (Loops.lat_coset_intt_noswap_64 Model.Ntt.bOps)
    = some (List.range 64) := by
  rw [gen_coset_intt_ntt (List.range 64).toArray (by decide)]
  decide +kernel

/-- **Transfer of `ring_mul_is_negacyclic`**: the regenerated forward transforms of both operands, the coefficient-wise
    product, then the regenerated inverse transform give the schoolbook product modulo `X^64 + 1`, for all pairs. -/
theorem gen_transforms_mul_is_negacyclic (a b : Ring) (ha : a.size = 64) (hb : b.size = 64) :
    ((Loops.lat_coset_ntt_noswap_64 Model.Ntt.bOps a.toList).bind fun A =>
      (Loops.lat_coset_ntt_noswap_64 Model.Ntt.bOps b.toList).map fun B =>
        Loops.lat_coset_intt_noswap_64 Model.Ntt.bOps (ringHadamard A.toArray B.toArray).toList)
      = some (negacyclic a b).toList := by
  have hs : (ringHadamard (ntt64 a) (ntt64 b)).size = 64 := ringZip_size _ _ _
  rw [(GenBridge.Lattice.gen_ntt64 a ha).1, (GenBridge.Lattice.gen_ntt64 b hb).1, Option.bind_some, Option.map_some,
    Array.toArray_toList, Array.toArray_toList, (GenBridge.Lattice.gen_intt64 _ hs).1, ← ring_mul_is_negacyclic a b ha hb]
  rfl
example : (Array.replicate 64 2 : Ring).size = 64 := by decide

/-- **Transfer of `embed_extract`**: for every 32-byte message and every noise vector with coefficients in
    `(-2^14, 2^14)`, the regenerated `extract_msg` applied to (regenerated `embed_msg` + noise) returns the message. -/
theorem gen_embed_extract (msg : List Nat) (hlen : msg.length = 32) (hb : ∀ b ∈ msg, b < 256)
    (noise : Nat → Int) (hnoise : ∀ k, k < 64 → -16384 < noise k ∧ noise k < 16384)
    (r : Ring) (hsz : r.size = 64)
    (hr : ∀ k, k < 64 → r.getD k 0 = addNoise ((Loops.lat_embed_msg msg).getD k 0) (noise k)) :
    Loops.lat_extract_msg r.toList = msg ∧ Loops.lat_extract_msg_ok r.toList = true ∧ Loops.lat_embed_msg_ok msg = true := by
  refine ⟨?_, (GenBridge.Lattice.gen_extract_msg_eq r hsz).2, (GenBridge.Lattice.gen_embed_msg_eq msg hlen hb).2⟩
  rw [(GenBridge.Lattice.gen_extract_msg_eq r hsz).1]
  exact embed_extract msg hlen hb noise hnoise r fun k hk => by
    rw [hr k hk, GenBridge.Lattice.gen_embed_msg_getD msg hlen hb]
example : addNoise 32768 16383 = 49151 := by decide

/-- **Transfer of `embed_extract`** (embedding side): noise within `(-2^14, 2^14)` on the coefficients *computed by the
    regenerated `embed_msg`* is removed by `extractMsg`. -/
theorem gen_embed_then_extract (msg : List Nat) (hlen : msg.length = 32) (hb : ∀ b ∈ msg, b < 256)
    (noise : Nat → Int) (hnoise : ∀ k, k < 64 → -16384 < noise k ∧ noise k < 16384)
    (r : Ring) (hr : ∀ k, k < 64 → r.getD k 0 = addNoise ((Loops.lat_embed_msg msg).getD k 0) (noise k)) :
    extractMsg r = msg :=
  embed_extract msg hlen hb noise hnoise r fun k hk => by
    rw [hr k hk, GenBridge.Lattice.gen_embed_msg_getD msg hlen hb]
example : addNoise 32768 (-16383) = 16385 := by decide

end TF.C18
