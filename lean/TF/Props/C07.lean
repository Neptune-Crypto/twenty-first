import TF.Proofs.PolyMul
import TF.Proofs.PolySpecNtt
import TF.Proofs.PolyNttBridge
import TF.Proofs.PolyNttBridgeX
import TF.Proofs.GenBridgePoly
import TF.Proofs.GenBridgePolyMul
import TF.Proofs.GenBridgePolyPow
/-!
# C07 — every polynomial multiplication strategy returns the exact ring product

Property theorems only (lemmas: `TF/Proofs/Poly.lean`, `TF/Proofs/PolyMul.lean`; models: `TF/Model/Poly.lean`,
`TF/Model/PolyMul.lean`).

Notation.  `K` is an arbitrary field, `FK = FieldOps.ofField K root` its operation record.  A polynomial is its raw
coefficient storage `List K` (lowest degree first, stored leading zeros allowed — *no* theorem below assumes normalised
operands); `denote : List K → K[X]` is the polynomial it stands for.  A result `none` is a panic.

* Dispatch thresholds (`FAST_MULTIPLY_CUTOFF_THRESHOLD`, the literal 64 in `square`) are universally quantified:
  every theorem about `multiply`, `square`, `fast_pow`, `batch_multiply`, `par_batch_multiply` holds for **every**
  threshold value, hence for whatever the source says (the driver reads the values from `TF/Gen/Consts.lean`).
* NTT-based strategies are stated relative to a transform pair `T` with `TransformSpec T pts`: `ntt` evaluates at the
  `n` points `pts n i`, its panic behaviour depends on the length only, and `intt ∘ ntt = id`.  These are the theorems
  `ntt_eq_dft` / `intt_ntt` of property C06 for the Rust NTT.  Under that hypothesis the statements are of the form
  "whenever the operation returns, it returns the product"; the NTT-free arms never panic (separate theorems).
* The hypothesis `TransformSpec` is discharged for the executable model of the Rust in-place NTT (`TF/Model/Ntt.lean`,
  property C06) in the sections `BField` / `XField`: `ntt_model_transform_spec` (any field),
  `primitive_roots_rootOK` (the translated table), and the unconditional corollaries `…_bfield_spec`, `…_xfield_spec`,
  `ntt_multiply_bx_spec`, `ntt_multiply_xb_spec` about the exact terms the driver evaluates on canonical values.
* `numThreads` (the value of `available_parallelism()`) is universally quantified, including 0; termination of the
  chunked loop for every value is part of the definition being accepted by Lean (well-founded recursion on the
  number of remaining products).
* Operands over different fields: `φ₁ : K₁ →+* K`, `φ₂ : K₂ →+* K` embed the coefficient fields of the operands into
  the field of the result and the mixed coefficient product is `φ₁ a * φ₂ b` (for `B × X`: `algebraMap` and `id`).
-/
open Polynomial

namespace TF.C07
open TF TF.Model.Poly
variable {K : Type} [Field K] (root : Nat → Option K)
local notation "FK" => FieldOps.ofField K root

/-- `naive_multiply` returns the ring product for operands of every degree and every storage
    (zero, constant, stored leading zeros) -/
theorem naive_multiply_spec (a b : List K) : denote (naiveMultiply FK a b) = denote a * denote b :=
  denote_naiveMultiply root a b
example : denote (naiveMultiply (FieldOps.ofField ℚ) [1, 2, 0] []) = denote [1, 2, 0] * denote ([] : List ℚ) :=
  naive_multiply_spec _ _ _

/-- the operator `*` between polynomials -/
theorem mul_spec (a b : List K) : denote (mul FK a b) = denote a * denote b := denote_mul root a b
example : denote (mul (FieldOps.ofField ℚ) [0, 0] [3]) = denote [0, 0] * denote ([3] : List ℚ) := mul_spec _ _ _

/-- `slow_square` on any storage (no out-of-bounds access: it is a total function of the model) -/
theorem slow_square_spec (p : List K) : denote (slowSquare FK p) = denote p ^ 2 := denote_slowSquare root p
example : denote (slowSquare (FieldOps.ofField ℚ) [1, 2, 0]) = denote ([1, 2, 0] : List ℚ) ^ 2 :=
  slow_square_spec _ _

/-- `scalar_mul` / `scalar_mul_mut` / `scalar * poly` / `poly * scalar` -/
theorem scalar_mul_spec (p : List K) (s : K) : denote (scalarMul FK p s) = denote p * C s :=
  denote_scalarMul root p s
example : denote (scalarMul (FieldOps.ofField ℚ) [1, 2, 0] 0) = denote ([1, 2, 0] : List ℚ) * C 0 :=
  scalar_mul_spec _ _ _

/-- `scale(α)` is the substitution `X ↦ αX` -/
theorem scale_spec (p : List K) (alpha : K) : denote (scale FK p alpha) = (denote p).comp (C alpha * X) :=
  denote_scale root p alpha
example : denote (scale (FieldOps.ofField ℚ) [1, 2, 3] 5) = (denote ([1, 2, 3] : List ℚ)).comp (C 5 * X) :=
  scale_spec _ _ _

/-- `shift_coefficients(n)` multiplies by `Xⁿ` -/
theorem shift_spec (p : List K) (n : Nat) : denote (shiftCoefficients FK p n) = X ^ n * denote p :=
  denote_shiftCoefficients root p n
example : denote (shiftCoefficients (FieldOps.ofField ℚ) [1, 0] 17) = X ^ 17 * denote ([1, 0] : List ℚ) :=
  shift_spec _ _ _

/-- `pow(e)` for every exponent, `0⁰ = 1` included -/
theorem pow_spec (p : List K) (e : Nat) : denote (pow FK p e) = denote p ^ e := denote_pow root p e
example : denote (pow (FieldOps.ofField ℚ) [0, 0] 0) = denote ([0, 0] : List ℚ) ^ 0 := pow_spec _ _ _

/-- `fast_multiply`: transform, pointwise product, inverse transform returns the product whenever it returns —
    also with one operand zero, where the code pads/truncates to a length below the other operand's -/
theorem fast_multiply_spec {T : Transform K} {pts : Nat → Nat → K} (hT : TransformSpec T pts)
    (a b r : List K) (h : fastMultiply FK T a b = some r) : denote r = denote a * denote b :=
  denote_fastMultiply root hT a b r h
example : TransformSpec exampleTransform examplePts := exampleTransform_spec
example : fastMultiply (FieldOps.ofField ℚ) exampleTransform [1, 1, 0] [2] = some [2, 2] := by
  have h1 : Model.Poly.degree (FieldOps.ofField ℚ) [1, 1, 0] = 1 := by simp [Model.Poly.degree, Model.Poly.normalize]
  have h2 : Model.Poly.degree (FieldOps.ofField ℚ) [2] = 0 := by simp [Model.Poly.degree, Model.Poly.normalize]
  simp only [fastMultiply, fastMultiplyG, h1, h2]
  decide +kernel

/-- `multiply`: the dispatcher returns the product for **every** threshold value -/
theorem multiply_spec {T : Transform K} {pts : Nat → Nat → K} (hT : TransformSpec T pts) (threshold : Int)
    (a b r : List K) (h : multiply FK threshold T a b = some r) : denote r = denote a * denote b :=
  denote_multiply root hT threshold a b r h
example : multiply (FieldOps.ofField ℚ) 256 exampleTransform [1, 1] [2] = some (naiveMultiply (FieldOps.ofField ℚ) [1, 1] [2]) := by
  have h1 : Model.Poly.degree (FieldOps.ofField ℚ) [1, 1] = 1 := by simp [Model.Poly.degree, Model.Poly.normalize]
  have h2 : Model.Poly.degree (FieldOps.ofField ℚ) [2] = 0 := by simp [Model.Poly.degree, Model.Poly.normalize]
  simp only [multiply, multiplyG, h1, h2]
  rfl

/-- below the threshold `multiply` never panics, whatever the transform does -/
theorem multiply_total_below_threshold (T : Transform K) (threshold : Int) (a b : List K)
    (h : Model.Poly.degree FK a + Model.Poly.degree FK b < threshold) : (multiply FK threshold T a b).isSome :=
  multiply_isSome_of_lt root T threshold a b h
example : Model.Poly.degree (FieldOps.ofField ℚ) [1, 1] + Model.Poly.degree (FieldOps.ofField ℚ) [2] < 256 := by
  have h1 : Model.Poly.degree (FieldOps.ofField ℚ) [1, 1] = 1 := by simp [Model.Poly.degree, Model.Poly.normalize]
  have h2 : Model.Poly.degree (FieldOps.ofField ℚ) [2] = 0 := by simp [Model.Poly.degree, Model.Poly.normalize]
  rw [h1, h2]; decide

/-- `fast_square` -/
theorem fast_square_spec {T : Transform K} {pts : Nat → Nat → K} (hT : TransformSpec T pts)
    (p r : List K) (h : fastSquare FK T p = some r) : denote r = denote p ^ 2 :=
  denote_fastSquare root hT p r h
example : fastSquare (FieldOps.ofField ℚ) exampleTransform [3, 0, 0] = some [9] := by
  simp [fastSquare, Model.Poly.normalize]; norm_num

/-- `square`: both arms return the square for **every** cut-off, on any storage -/
theorem square_spec {T : Transform K} {pts : Nat → Nat → K} (hT : TransformSpec T pts) (cutoff : Nat)
    (p r : List K) (h : square FK cutoff T p = some r) : denote r = denote p ^ 2 :=
  denote_square root hT cutoff p r h
example : square (FieldOps.ofField ℚ) 64 exampleTransform [1, 2, 0] = some (squareRows (FieldOps.ofField ℚ) [1, 2]) := by
  simp [square, Model.Poly.normalize]

/-- the NTT-free arm of `square` never panics (after fix F5: also with stored leading zeros) -/
theorem square_total_below_cutoff (T : Transform K) (cutoff : Nat) (p : List K)
    (h : 2 * (Model.Poly.normalize FK p).length ≤ cutoff + 1) : (square FK cutoff T p).isSome :=
  square_isSome_of_le root T cutoff p h
example : 2 * (Model.Poly.normalize (FieldOps.ofField ℚ) [1, 2, 0]).length ≤ 64 + 1 := by simp [Model.Poly.normalize]

/-- `fast_pow(e)` for every exponent, every squaring cut-off and every multiply threshold -/
theorem fast_pow_spec {T : Transform K} {pts : Nat → Nat → K} (hT : TransformSpec T pts)
    (sqCutoff : Nat) (threshold : Int) (p : List K) (e : Nat) (r : List K)
    (h : fastPow FK sqCutoff threshold T p e = some r) : denote r = denote p ^ e :=
  denote_fastPow root hT sqCutoff threshold p e r h
example : fastPow (FieldOps.ofField ℚ) 64 256 exampleTransform [0, 0] 0 = some [1] := by simp [fastPow, one]

/-- `batch_multiply`: the tree reduction returns the product of all factors in order — any list (the empty
    product is 1), any threshold -/
theorem batch_multiply_spec {T : Transform K} {pts : Nat → Nat → K} (hT : TransformSpec T pts) (threshold : Int)
    (factors : List (List K)) (r : List K) (h : batchMultiply FK threshold T factors = some r) :
    denote r = (factors.map denote).prod := by
  have := batchMultiplyWith_spec root (fun a b c hc => denote_multiply root hT threshold a b c hc) _ r h
  rw [prodO_map_some] at this
  exact (Option.some.inj this).symm
example : batchMultiply (FieldOps.ofField ℚ) 256 exampleTransform [] = some [1] := by
  simp [batchMultiply, batchMultiplyWith, one]

/-- `batch_multiply` never panics when the binary product never does (e.g. all degree sums below the threshold
    or a transform defined on the needed lengths) — for any binary product `mulf` -/
theorem batch_multiply_total (mulf : List K → List K → Option (List K)) (ht : ∀ a b, (mulf a b).isSome)
    (factors : List (List K)) : (batchMultiplyWith FK mulf (factors.map some)).isSome :=
  batchMultiplyWith_isSome root ht _ (allSome_map_some factors)
example : ∀ a b : List ℚ, (some (naiveMultiply (FieldOps.ofField ℚ) a b)).isSome := fun _ _ => rfl

/-- `par_batch_multiply`: for **every** thread count the chunked reduction terminates (total function) and returns
    the product of all factors -/
theorem par_batch_multiply_spec {T : Transform K} {pts : Nat → Nat → K} (hT : TransformSpec T pts) (threshold : Int)
    (numThreads : Nat) (factors : List (List K)) (r : List K)
    (h : parBatchMultiply FK threshold T numThreads factors = some r) :
    denote r = (factors.map denote).prod := by
  have := parBatchMultiplyWith_spec root (fun a b c hc => denote_multiply root hT threshold a b c hc)
    numThreads _ r h
  rw [prodO_map_some] at this
  exact (Option.some.inj this).symm
example : parBatchMultiply (FieldOps.ofField ℚ) 256 exampleTransform 3 [] = some [1] := by
  simp [parBatchMultiply, parBatchMultiplyWith, one]

/-- `par_batch_multiply` never panics when the binary product never does, for every thread count -/
theorem par_batch_multiply_total (mulf : List K → List K → Option (List K)) (ht : ∀ a b, (mulf a b).isSome)
    (numThreads : Nat) (factors : List (List K)) :
    (parBatchMultiplyWith FK mulf numThreads (factors.map some)).isSome :=
  parBatchMultiplyWith_isSome root ht numThreads _ (allSome_map_some factors)
example : ∀ a b : List ℚ, (some (mul (FieldOps.ofField ℚ) a b)).isSome := fun _ _ => rfl

/-- the result of `par_batch_multiply` does not depend on the number of threads, and equals `batch_multiply`'s -/
theorem par_batch_multiply_thread_independent {T : Transform K} {pts : Nat → Nat → K} (hT : TransformSpec T pts)
    (threshold : Int) (n m : Nat) (factors : List (List K)) (r s t : List K)
    (hn : parBatchMultiply FK threshold T n factors = some r)
    (hm : parBatchMultiply FK threshold T m factors = some s)
    (hb : batchMultiply FK threshold T factors = some t) :
    denote r = denote s ∧ denote r = denote t := by
  rw [par_batch_multiply_spec root hT threshold n factors r hn, par_batch_multiply_spec root hT threshold m factors s hm,
    batch_multiply_spec root hT threshold factors t hb]
  exact ⟨rfl, rfl⟩
example : parBatchMultiply (FieldOps.ofField ℚ) 256 exampleTransform 16 [] = some [1] := by
  simp [parBatchMultiply, parBatchMultiplyWith, one]

/-! ### the spec-level transform discharges `TransformSpec`

`specTransform FK` (recursive even/odd evaluation at the powers of `rootOfUnity n`, inverse with `ω⁻¹` and `1/n`) is an
executable transform over any operations record; the driver runs `bNtt` / `xNtt` (sections `BField`, `XField` below), not this
one.  `RootOK root`: the roots table gives for each length `2^(k+1)` an element with
`w^(2^k) = −1` (for the base field: property C06's theorem about the regenerated `PRIMITIVE_ROOTS`). -/

/-- the transform pair of the executable model is an evaluation / interpolation pair -/
theorem spec_transform_spec (hroot : RootOK root) (h2 : (2 : K) ≠ 0) :
    TransformSpec (specTransform FK) (rootPts root) := specTransform_spec root hroot h2
example : RootOK exampleRoot ∧ (2 : ℚ) ≠ 0 := ⟨exampleRoot_ok, by norm_num⟩

/-- every NTT-based strategy of the executable model returns the ring product whenever it returns — no hypothesis on
    the transform left; every threshold, cut-off, exponent, thread count -/
theorem ntt_strategies_exec_spec (hroot : RootOK root) (h2 : (2 : K) ≠ 0) (threshold : Int) (cutoff numThreads e : Nat)
    (a b : List K) (factors : List (List K)) (r : List K) :
    (fastMultiply FK (specTransform FK) a b = some r → denote r = denote a * denote b) ∧
    (multiply FK threshold (specTransform FK) a b = some r → denote r = denote a * denote b) ∧
    (fastSquare FK (specTransform FK) a = some r → denote r = denote a ^ 2) ∧
    (square FK cutoff (specTransform FK) a = some r → denote r = denote a ^ 2) ∧
    (fastPow FK cutoff threshold (specTransform FK) a e = some r → denote r = denote a ^ e) ∧
    (batchMultiply FK threshold (specTransform FK) factors = some r → denote r = (factors.map denote).prod) ∧
    (parBatchMultiply FK threshold (specTransform FK) numThreads factors = some r →
      denote r = (factors.map denote).prod) := by
  have hT := specTransform_spec root hroot h2
  exact ⟨fast_multiply_spec root hT a b r, multiply_spec root hT threshold a b r, fast_square_spec root hT a r,
    square_spec root hT cutoff a r, fast_pow_spec root hT cutoff threshold a e r,
    batch_multiply_spec root hT threshold factors r, par_batch_multiply_spec root hT threshold numThreads factors r⟩
example : fastMultiply (FieldOps.ofField ℚ exampleRoot) (specTransform (FieldOps.ofField ℚ exampleRoot)) [] [2] = some [] := by
  have h1 : Model.Poly.degree (FieldOps.ofField ℚ exampleRoot) [] = -1 := by simp [Model.Poly.degree, Model.Poly.normalize]
  have h2 : Model.Poly.degree (FieldOps.ofField ℚ exampleRoot) [2] = 0 := by simp [Model.Poly.degree, Model.Poly.normalize]
  simp only [fastMultiply, fastMultiplyG, h1, h2]
  rfl

/-- `fast_multiply` of the executable model does not panic when the roots table has an entry for the transform
    length `next_power_of_two(deg a + deg b + 1)` and that length fits `u32` -/
theorem fast_multiply_exec_total (hroot : RootOK root) (a b : List K)
    (hr : ∀ n, n = nextPowerOfTwo ((Model.Poly.degree FK a + Model.Poly.degree FK b).toNat + 1) →
      n ≤ 4294967295 ∧ (root n).isSome) :
    (fastMultiply FK (specTransform FK) a b).isSome :=
  fastMultiply_spec_isSome root hroot a b (hr _ rfl).1 (hr _ rfl).2
example : nextPowerOfTwo 2 ≤ 4294967295 ∧ (exampleRoot (nextPowerOfTwo 2)).isSome := by
  have : nextPowerOfTwo 2 = 2 := by decide +kernel
  rw [this]; exact ⟨by decide, rfl⟩

/-! ### operands over different fields -/
section Mixed
variable {K₁ K₂ : Type} [Field K₁] [Field K₂] (φ₁ : K₁ →+* K) (φ₂ : K₂ →+* K)
variable (root₁ : Nat → Option K₁) (root₂ : Nat → Option K₂)

/-- `naive_multiply<FF2>` / `*` with operands over different fields -/
theorem naive_multiply_mixed_spec (a : List K₁) (b : List K₂) :
    denote (naiveMultiplyG (FieldOps.ofField K₁ root₁) (FieldOps.ofField K₂ root₂) FK (fun x y => φ₁ x * φ₂ y) a b)
      = (denote a).map φ₁ * (denote b).map φ₂ :=
  denote_naiveMultiplyG root φ₁ φ₂ root₁ root₂ a b
example : denote (naiveMultiplyG (FieldOps.ofField ℚ) (FieldOps.ofField ℚ) (FieldOps.ofField ℚ)
    (fun x y => (RingHom.id ℚ) x * (RingHom.id ℚ) y) [1, 0] [2])
      = (denote ([1, 0] : List ℚ)).map (RingHom.id ℚ) * (denote ([2] : List ℚ)).map (RingHom.id ℚ) :=
  naive_multiply_mixed_spec _ _ _ _ _ _ _

/-- `scalar_mul<S, FF2>` with a scalar from another field -/
theorem scalar_mul_mixed_spec (p : List K₁) (s : K₂) :
    denote (scalarMulG (fun x y => φ₁ x * φ₂ y) p s) = (denote p).map φ₁ * C (φ₂ s) :=
  denote_scalarMulG φ₁ φ₂ p s
example : denote (scalarMulG (fun x y => (RingHom.id ℚ) x * (RingHom.id ℚ) y) [1, 0] 3)
    = (denote ([1, 0] : List ℚ)).map (RingHom.id ℚ) * C ((RingHom.id ℚ) 3) := scalar_mul_mixed_spec _ _ _ _

/-- `scale<S, XF>` with the offset from another field -/
theorem scale_mixed_spec (p : List K₁) (alpha : K₂) :
    denote (scaleG (1 : K₂) (· * ·) (fun x y => φ₁ x * φ₂ y) p alpha)
      = ((denote p).map φ₁).comp (C (φ₂ alpha) * X) :=
  denote_scaleG φ₁ φ₂ p alpha
example : denote (scaleG (1 : ℚ) (· * ·) (fun x y => (RingHom.id ℚ) x * (RingHom.id ℚ) y) [1, 2] 3)
    = ((denote ([1, 2] : List ℚ)).map (RingHom.id ℚ)).comp (C ((RingHom.id ℚ) 3) * X) := scale_mixed_spec _ _ _ _

/-- `fast_multiply<FF2>` and `multiply<FF2>` (every threshold) with operands over different fields, each operand
    transformed over its own field (executable model; the roots tables agree along the embeddings, as
    `XFieldElement::primitive_root_of_unity` lifts the base-field root) -/
theorem ntt_multiply_mixed_spec (hroot : RootOK root) (h2 : (2 : K) ≠ 0)
    (hc₁ : RootCompat φ₁ root₁ root) (hc₂ : RootCompat φ₂ root₂ root) (threshold : Int)
    (a : List K₁) (b : List K₂) (r : List K) :
    (fastMultiplyG (FieldOps.ofField K₁ root₁) (FieldOps.ofField K₂ root₂) (fun x y => φ₁ x * φ₂ y)
        (specTransform (FieldOps.ofField K₁ root₁)) (specTransform (FieldOps.ofField K₂ root₂)) (specTransform FK) a b
        = some r → denote r = (denote a).map φ₁ * (denote b).map φ₂) ∧
    (multiplyG (FieldOps.ofField K₁ root₁) (FieldOps.ofField K₂ root₂) FK (fun x y => φ₁ x * φ₂ y) threshold
        (specTransform (FieldOps.ofField K₁ root₁)) (specTransform (FieldOps.ofField K₂ root₂)) (specTransform FK) a b
        = some r → denote r = (denote a).map φ₁ * (denote b).map φ₂) := by
  have hT := specTransform_spec root hroot h2
  constructor
  · intro h
    rw [fastMultiplyG_eq root root₁ root₂ φ₁ φ₂ hc₁ hc₂] at h
    rw [fast_multiply_spec root hT _ _ r h, denote_map, denote_map]
  · intro h
    rw [multiplyG_eq root root₁ root₂ φ₁ φ₂ hc₁ hc₂] at h
    rw [multiply_spec root hT threshold _ _ r h, denote_map, denote_map]
example : RootCompat (RingHom.id ℚ) exampleRoot exampleRoot := by
  intro n; cases h : exampleRoot n <;> simp

end Mixed

/-! ### the base field, unconditionally: the products on top of the model of the Rust in-place NTT (property C06)

`bNtt = nttTransform bOps primitiveRoot` wraps `TF.Model.Ntt.ntt` / `intt` — the executable model of the loops of
`math/ntt.rs` (bit-reversal swap loop, one butterfly pass per stage, root from the translated table `PRIMITIVE_ROOTS`)
— as the transform parameter; this is the transform the driver runs for the family `poly` (`TB`).  `bfieldOps` is the
integer arithmetic modulo `P` on naturals (`TF/Spec/Field.lean`; its agreement with `BFieldElement` is C01's
`field_iso`).  `bdenote a` is the polynomial over `ZMod P` with coefficients `a` read modulo `P`; `CanonL a` says that
all entries are canonical (`< P`).  No `TransformSpec` / `RootOK` hypothesis is left: they are theorems
(`ntt_model_transform_spec`, `primitive_roots_rootOK`) obtained from C06's `ntt_eq_dft` / `intt_ntt` /
`primitive_roots_table`.  Every result is canonical, so it is determined as a list of naturals up to stored leading
zeros. -/
section BField
open TF.Gen TF.NttProofs TF.Model.Poly.Hom

/-- the polynomial over `ZMod P` a list of naturals stands for -/
noncomputable def bdenote (a : List Nat) : (ZMod P)[X] := denote (a.map zc)

/-- all entries canonical -/
def CanonL (a : List Nat) : Prop := ∀ x ∈ a, x < P

/-- `RootOK` for the real table: the root tabulated in `PRIMITIVE_ROOTS` for `2^(k+1)`, read in `ZMod P`, has
    `2^k`-th power `−1` — for the look-up of the NTT model (`primitiveRoot`) and for `bfieldOps.rootOfUnity`,
    which agree on every argument -/
theorem primitive_roots_rootOK :
    RootOK zRoot ∧ RootOK (fun n => (TF.bfieldOps.rootOfUnity n).map zc) ∧
    ∀ n, TF.bfieldOps.rootOfUnity n = TF.Model.Ntt.primitiveRoot n :=
  ⟨zRoot_ok, bfieldRoot_ok, bfieldRoot_eq⟩
example : zRoot (2 ^ (0 + 1)) = some ((18446744069414584320 : ℕ) : ZMod P) := by
  have : TF.Model.Ntt.primitiveRoot (2 ^ (0 + 1)) = some 18446744069414584320 := by decide +kernel
  rw [zRoot, this]; rfl

/-- **the model of the Rust in-place NTT is an evaluation / interpolation pair**: over every field `K`, run with the
    ring operations of `K`, any `inverse`/`inverse_or_zero` that invert, and any root table with `RootOK`:
    `ntt` evaluates at `pts n i = ω_n^i`, panics depending on the length only, and `intt ∘ ntt = id` -/
theorem ntt_model_transform_spec (inv : K → Option K) (inv0 : K → K) (hI : InvOK inv inv0) (hroot : RootOK root) :
    TransformSpec (nttTransform (ringOps K inv inv0) root) (rootPts root) :=
  nttTransform_spec inv inv0 root hI hroot
example : InvOK zinv zinv0 ∧ RootOK zRoot := ⟨zInvOK, zRoot_ok⟩

/-- … in particular over `ZMod P` with the translated table — no hypothesis left -/
theorem ntt_model_transform_spec_bfield : TransformSpec zNtt (rootPts zRoot) := zNtt_spec
example : zNtt.ntt [] = some [] := by
  have : TF.Model.Ntt.primitiveRoot 0 = some 1 := by decide +kernel
  simp [zNtt, nttTransform, ntt_empty, zRoot, this]

/-- the transform on canonical values (the one the driver runs) is the transform over `ZMod P` read through
    `Nat.cast`, and its inverse returns canonical values -/
theorem bNtt_is_zNtt (xs : List Nat) :
    (bNtt.ntt xs).map (List.map zc) = zNtt.ntt (xs.map zc) ∧ (bNtt.intt xs).map (List.map zc) = zNtt.intt (xs.map zc) ∧
    ∀ ys, bNtt.intt xs = some ys → CanonL ys :=
  ⟨(bNtt_cast xs).1, (bNtt_cast xs).2, bNtt_intt_canon xs⟩
example : bNtt.ntt [1, 4, 0, 0] = some [5, 1125899906842625, 18446744069414584318, 18445618169507741698] := by
  decide +kernel

theorem bdenote_eq (r : List Nat) : bdenote r = denote (r.map zc) := rfl

/-- **`fast_multiply` over `BFieldElement`**: on canonical operands of every degree and storage, whenever it returns
    it returns canonical coefficients of the product in `ZMod P[X]` -/
theorem fast_multiply_bfield_spec (a b r : List Nat) (ha : CanonL a) (hb : CanonL b)
    (h : fastMultiply TF.bfieldOps bNtt a b = some r) : bdenote r = bdenote a * bdenote b ∧ CanonL r := by
  exact ((fastMultiply_rel bfield_opsMap bNtt_transMap a b ha hb).of_some h).imp_left (fast_multiply_spec zRoot zNtt_spec _ _ _)
example : fastMultiply TF.bfieldOps bNtt [1, 1, 0] [2] = some [2, 2] := by decide +kernel

/-- `multiply` over `BFieldElement`, every threshold -/
theorem multiply_bfield_spec (threshold : Int) (a b r : List Nat) (ha : CanonL a) (hb : CanonL b)
    (h : multiply TF.bfieldOps threshold bNtt a b = some r) : bdenote r = bdenote a * bdenote b ∧ CanonL r := by
  exact ((multiply_rel bfield_opsMap bNtt_transMap threshold a b ha hb).of_some h).imp_left (multiply_spec zRoot zNtt_spec threshold _ _ _)
example : multiply TF.bfieldOps 1 bNtt [1, 1] [P - 1, 1] = some [P - 1, 0, 1] := by decide +kernel

/-- `fast_square` over `BFieldElement` -/
theorem fast_square_bfield_spec (p r : List Nat) (hp : CanonL p)
    (h : fastSquare TF.bfieldOps bNtt p = some r) : bdenote r = bdenote p ^ 2 ∧ CanonL r := by
  exact ((fastSquare_rel bfield_opsMap bNtt_transMap p hp).of_some h).imp_left (fast_square_spec zRoot zNtt_spec _ _)
example : fastSquare TF.bfieldOps bNtt [1, 1, 0] = some [1, 2, 1] := by decide +kernel

/-- `square` over `BFieldElement`, every cut-off -/
theorem square_bfield_spec (cutoff : Nat) (p r : List Nat) (hp : CanonL p)
    (h : square TF.bfieldOps cutoff bNtt p = some r) : bdenote r = bdenote p ^ 2 ∧ CanonL r := by
  exact ((square_rel bfield_opsMap bNtt_transMap cutoff p hp).of_some h).imp_left (square_spec zRoot zNtt_spec cutoff _ _)
example : square TF.bfieldOps 2 bNtt [1, 1] = some [1, 2, 1] ∧ square TF.bfieldOps 64 bNtt [1, 1] = some [1, 2, 1] := by
  decide +kernel

/-- `fast_pow` over `BFieldElement`, every exponent, cut-off and threshold -/
theorem fast_pow_bfield_spec (sqCutoff : Nat) (threshold : Int) (p : List Nat) (e : Nat) (r : List Nat)
    (hp : CanonL p) (h : fastPow TF.bfieldOps sqCutoff threshold bNtt p e = some r) :
    bdenote r = bdenote p ^ e ∧ CanonL r := by
  exact ((fastPow_rel bfield_opsMap bNtt_transMap sqCutoff threshold p hp e).of_some h).imp_left (fast_pow_spec zRoot zNtt_spec sqCutoff threshold _ e _)
example : fastPow TF.bfieldOps 0 0 bNtt [1, 1] 3 = some [1, 3, 3, 1] := by decide +kernel

theorem map_bdenote (factors : List (List Nat)) :
    (factors.map (List.map zc)).map denote = factors.map bdenote := by
  simp [List.map_map, Function.comp_def, bdenote]

/-- `batch_multiply` over `BFieldElement`: the product of all factors, any list, any threshold -/
theorem batch_multiply_bfield_spec (threshold : Int) (factors : List (List Nat)) (r : List Nat)
    (hf : ∀ p ∈ factors, CanonL p) (h : batchMultiply TF.bfieldOps threshold bNtt factors = some r) :
    bdenote r = (factors.map bdenote).prod ∧ CanonL r := by
  obtain ⟨hm, hok⟩ := (batchMultiply_rel bfield_opsMap bNtt_transMap threshold factors hf).of_some h
  exact ⟨by rw [bdenote_eq, batch_multiply_spec zRoot zNtt_spec threshold _ _ hm, map_bdenote], hok⟩
example : batchMultiply TF.bfieldOps 0 bNtt [[1, 1], [1, 1], [P - 1, 1]] = some [P - 1, P - 1, 1, 1] := by
  decide +kernel

/-- `par_batch_multiply` over `BFieldElement`: every thread count -/
theorem par_batch_multiply_bfield_spec (threshold : Int) (numThreads : Nat) (factors : List (List Nat)) (r : List Nat)
    (hf : ∀ p ∈ factors, CanonL p) (h : parBatchMultiply TF.bfieldOps threshold bNtt numThreads factors = some r) :
    bdenote r = (factors.map bdenote).prod ∧ CanonL r := by
  obtain ⟨hm, hok⟩ := (parBatchMultiply_rel bfield_opsMap bNtt_transMap threshold numThreads factors hf).of_some h
  exact ⟨by rw [bdenote_eq, par_batch_multiply_spec zRoot zNtt_spec threshold numThreads _ _ hm, map_bdenote], hok⟩
example : parBatchMultiply TF.bfieldOps 0 bNtt 2 [[1, 1], [1, 1], [P - 1, 1]] = some [P - 1, P - 1, 1, 1] := by
  decide +kernel

/-- **no panic**: `fast_multiply` over `BFieldElement` returns on all operands whose transform length
    `next_power_of_two(deg a + deg b + 1)` is at most `2^31` (the NTT of C06 is defined on every such length) -/
theorem fast_multiply_bfield_total (a b : List Nat)
    (h : nextPowerOfTwo ((Model.Poly.degree TF.bfieldOps a + Model.Poly.degree TF.bfieldOps b).toNat + 1) ≤ 2^31) :
    (fastMultiply TF.bfieldOps bNtt a b).isSome := by
  obtain ⟨k, hk, hn⟩ := nextPowerOfTwo_le_pow _ 31 h
  exact fastMultiply_isSome_of _ _ a b (by rw [hn]; exact bNtt_definedAt k hk)
example : nextPowerOfTwo ((Model.Poly.degree TF.bfieldOps [1, 1] + Model.Poly.degree TF.bfieldOps [0, 5]).toNat + 1) ≤ 2^31 := by
  decide +kernel

/-- no panic for `fast_square` over `BFieldElement` up to transform length `2^31` -/
theorem fast_square_bfield_total (p : List Nat)
    (h : nextPowerOfTwo (2 * ((Model.Poly.normalize TF.bfieldOps p).length - 1) + 1) ≤ 2^31) :
    (fastSquare TF.bfieldOps bNtt p).isSome := by
  obtain ⟨k, hk, hn⟩ := nextPowerOfTwo_le_pow _ 31 h
  exact fastSquare_isSome_of _ _ p (by rw [hn]; exact bNtt_definedAt k hk)
example : nextPowerOfTwo (2 * ((Model.Poly.normalize TF.bfieldOps [1, 1, 0]).length - 1) + 1) ≤ 2^31 := by
  decide +kernel

end BField

/-! ### the extension field, unconditionally

`ntt::<XFieldElement>` multiplies by base-field twiddles (`FF: MulAssign<BFieldElement>`); `algOps L` are these
operations for a field extension `L` of `ZMod P`.  `XK = (ZMod P)[X]/(X³ − X + 1)` is the field of `XFieldElement`
(irreducibility: C01's `shah_irreducible`); `xc (c0, c1, c2) = c0 + c1·θ + c2·θ²`; `xfieldOps` is the arithmetic on
triples of naturals of `TF/Spec/Field.lean`, `xNtt = nttTransform xOps primitiveRoot` the transform the driver runs
(`TX`).  `xdenote a` is the polynomial over `XK` a list of triples stands for; `CanonL3 a`: all coordinates `< P`. -/
section XField
open TF.Gen TF.NttProofs TF.Model.Poly.Hom TF.Spec

/-- the polynomial over `XK` a list of triples stands for -/
noncomputable def xdenote (a : List X3) : XK[X] := denote (a.map xc)

/-- all entries canonical triples -/
def CanonL3 (a : List X3) : Prop := ∀ x ∈ a, Canon3 x

theorem xdenote_eq (r : List X3) : xdenote r = denote (r.map xc) := rfl

/-- **the model of the Rust NTT with base-field twiddles is an evaluation / interpolation pair over every field
    extension `L` of the base field**, at the images of the powers of the tabulated roots -/
theorem ntt_model_transform_spec_extension (L : Type) [Field L] [Algebra (ZMod P) L] :
    TransformSpec (nttTransform (algOps L) zRoot) (rootPts (algRoot L)) := algNtt_spec L
example : TransformSpec xkNtt (rootPts (algRoot XK)) := ntt_model_transform_spec_extension XK

/-- the records the driver runs for `x` correspond to the field `XK` under `xc`: arithmetic on triples is the field
    arithmetic (zero test on canonical triples), the transform on triples is the model NTT over `XK` -/
theorem xfield_corresponds : OpsMap TF.xfieldOps FX xc Canon3 ∧ TransMap xNtt xkNtt xc Canon3 :=
  ⟨xfield_opsMap, xNtt_transMap⟩
example : xc (0, 1, 0) ^ 3 - xc (0, 1, 0) + 1 = 0 := by
  have : xc (0, 1, 0) = θ := by
    simp only [xc, Nat.cast_zero, Nat.cast_one, φ.map_zero, φ.map_one, zero_add, one_mul, zero_mul, add_zero]
  rw [this]; exact θ_rel

/-- `fast_multiply` over `XFieldElement` -/
theorem fast_multiply_xfield_spec (a b r : List X3) (ha : CanonL3 a) (hb : CanonL3 b)
    (h : fastMultiply TF.xfieldOps xNtt a b = some r) : xdenote r = xdenote a * xdenote b ∧ CanonL3 r := by
  exact ((fastMultiply_rel xfield_opsMap xNtt_transMap a b ha hb).of_some h).imp_left (fast_multiply_spec (algRoot XK) xkNtt_spec _ _ _)
example : fastMultiply TF.xfieldOps xNtt [(1,0,0),(0,1,0)] [(0,0,1),(1,0,0)] = some [(0,0,1),(0,1,0),(0,1,0)] := by
  decide +kernel

/-- `multiply` over `XFieldElement`, every threshold -/
theorem multiply_xfield_spec (threshold : Int) (a b r : List X3) (ha : CanonL3 a) (hb : CanonL3 b)
    (h : multiply TF.xfieldOps threshold xNtt a b = some r) : xdenote r = xdenote a * xdenote b ∧ CanonL3 r := by
  exact ((multiply_rel xfield_opsMap xNtt_transMap threshold a b ha hb).of_some h).imp_left (multiply_spec (algRoot XK) xkNtt_spec threshold _ _ _)
example : multiply TF.xfieldOps 1 xNtt [(1,0,0),(0,1,0)] [(0,0,1),(1,0,0)] = some [(0,0,1),(0,1,0),(0,1,0)] := by
  decide +kernel

/-- `fast_square` over `XFieldElement` -/
theorem fast_square_xfield_spec (p r : List X3) (hp : CanonL3 p)
    (h : fastSquare TF.xfieldOps xNtt p = some r) : xdenote r = xdenote p ^ 2 ∧ CanonL3 r := by
  exact ((fastSquare_rel xfield_opsMap xNtt_transMap p hp).of_some h).imp_left (fast_square_spec (algRoot XK) xkNtt_spec _ _)
example : fastSquare TF.xfieldOps xNtt [(0,1,0),(0,0,1)]
    = some [(0,0,1), (18446744069414584319,2,0), (0,18446744069414584320,1)] := by decide +kernel

/-- `square` over `XFieldElement`, every cut-off -/
theorem square_xfield_spec (cutoff : Nat) (p r : List X3) (hp : CanonL3 p)
    (h : square TF.xfieldOps cutoff xNtt p = some r) : xdenote r = xdenote p ^ 2 ∧ CanonL3 r := by
  exact ((square_rel xfield_opsMap xNtt_transMap cutoff p hp).of_some h).imp_left (square_spec (algRoot XK) xkNtt_spec cutoff _ _)
example : square TF.xfieldOps 2 xNtt [(0,1,0),(0,0,1)]
    = some [(0,0,1), (18446744069414584319,2,0), (0,18446744069414584320,1)] := by decide +kernel

/-- `fast_pow` over `XFieldElement` -/
theorem fast_pow_xfield_spec (sqCutoff : Nat) (threshold : Int) (p : List X3) (e : Nat) (r : List X3)
    (hp : CanonL3 p) (h : fastPow TF.xfieldOps sqCutoff threshold xNtt p e = some r) :
    xdenote r = xdenote p ^ e ∧ CanonL3 r := by
  exact ((fastPow_rel xfield_opsMap xNtt_transMap sqCutoff threshold p hp e).of_some h).imp_left (fast_pow_spec (algRoot XK) xkNtt_spec sqCutoff threshold _ e _)
example : fastPow TF.xfieldOps 0 0 xNtt [(0,1,0),(1,0,0)] 3
    = some [(18446744069414584320,1,0), (0,0,3), (0,3,0), (1,0,0)] := by decide +kernel

theorem map_xdenote (factors : List (List X3)) :
    (factors.map (List.map xc)).map denote = factors.map xdenote := by
  simp [List.map_map, Function.comp_def, xdenote]

/-- `batch_multiply` over `XFieldElement` -/
theorem batch_multiply_xfield_spec (threshold : Int) (factors : List (List X3)) (r : List X3)
    (hf : ∀ p ∈ factors, CanonL3 p) (h : batchMultiply TF.xfieldOps threshold xNtt factors = some r) :
    xdenote r = (factors.map xdenote).prod ∧ CanonL3 r := by
  obtain ⟨hm, hok⟩ := (batchMultiply_rel xfield_opsMap xNtt_transMap threshold factors hf).of_some h
  exact ⟨by rw [xdenote_eq, batch_multiply_spec (algRoot XK) xkNtt_spec threshold _ _ hm, map_xdenote], hok⟩
example : batchMultiply TF.xfieldOps 0 xNtt [[(0,1,0),(1,0,0)], [(0,1,0),(1,0,0)], [(0,0,1)]]
    = some [(0,18446744069414584320,1), (18446744069414584319,2,0), (0,0,1)] := by decide +kernel

/-- `par_batch_multiply` over `XFieldElement`, every thread count -/
theorem par_batch_multiply_xfield_spec (threshold : Int) (numThreads : Nat) (factors : List (List X3)) (r : List X3)
    (hf : ∀ p ∈ factors, CanonL3 p) (h : parBatchMultiply TF.xfieldOps threshold xNtt numThreads factors = some r) :
    xdenote r = (factors.map xdenote).prod ∧ CanonL3 r := by
  obtain ⟨hm, hok⟩ := (parBatchMultiply_rel xfield_opsMap xNtt_transMap threshold numThreads factors hf).of_some h
  exact ⟨by rw [xdenote_eq, par_batch_multiply_spec (algRoot XK) xkNtt_spec threshold numThreads _ _ hm, map_xdenote], hok⟩
example : parBatchMultiply TF.xfieldOps 0 xNtt 2 [[(0,1,0),(1,0,0)], [(0,1,0),(1,0,0)], [(0,0,1)]]
    = some [(0,18446744069414584320,1), (18446744069414584319,2,0), (0,0,1)] := by decide +kernel

/-- no panic for `fast_multiply` / `fast_square` over `XFieldElement` up to transform length `2^31` -/
theorem fast_multiply_xfield_total (a b : List X3)
    (h : nextPowerOfTwo ((Model.Poly.degree TF.xfieldOps a + Model.Poly.degree TF.xfieldOps b).toNat + 1) ≤ 2^31) :
    (fastMultiply TF.xfieldOps xNtt a b).isSome := by
  obtain ⟨k, hk, hn⟩ := nextPowerOfTwo_le_pow _ 31 h
  exact fastMultiply_isSome_of _ _ a b (by rw [hn]; exact xNtt_definedAt k hk)
example : nextPowerOfTwo ((Model.Poly.degree TF.xfieldOps [(1,0,0),(0,1,0)]
    + Model.Poly.degree TF.xfieldOps [(0,0,1),(1,0,0)]).toNat + 1) ≤ 2^31 := by decide +kernel

theorem fast_square_xfield_total (p : List X3)
    (h : nextPowerOfTwo (2 * ((Model.Poly.normalize TF.xfieldOps p).length - 1) + 1) ≤ 2^31) :
    (fastSquare TF.xfieldOps xNtt p).isSome := by
  obtain ⟨k, hk, hn⟩ := nextPowerOfTwo_le_pow _ 31 h
  exact fastSquare_isSome_of _ _ p (by rw [hn]; exact xNtt_definedAt k hk)
example : nextPowerOfTwo (2 * ((Model.Poly.normalize TF.xfieldOps [(0,1,0),(0,0,1)]).length - 1) + 1) ≤ 2^31 := by
  decide +kernel

/-! #### operands over different fields (`B × X`, `X × B`), each transformed over its own field

The driver's `mulBX a b = xscale a b` and `mulXB a b = xscale b a` are the mixed coefficient products; the left
operand is transformed with its own transform (`bNtt` resp. `xNtt`), the result with `xNtt`. -/

theorem bdenote_map_phi (a : List Nat) : denote ((a.map zc).map φ) = (bdenote a).map φ := by
  rw [denote_map]; rfl

/-- `fast_multiply` / `multiply` (every threshold) with a `BFieldElement` polynomial on the left and an
    `XFieldElement` polynomial on the right -/
theorem ntt_multiply_bx_spec (threshold : Int) (a : List Nat) (b r : List X3) (ha : CanonL a) (hb : CanonL3 b) :
    (fastMultiplyG TF.bfieldOps TF.xfieldOps (fun x y => xscale x y) bNtt xNtt xNtt a b = some r →
      xdenote r = (bdenote a).map φ * xdenote b ∧ CanonL3 r) ∧
    (multiplyG TF.bfieldOps TF.xfieldOps TF.xfieldOps (fun x y => xscale x y) threshold bNtt xNtt xNtt a b = some r →
      xdenote r = (bdenote a).map φ * xdenote b ∧ CanonL3 r) := by
  constructor
  · intro h
    obtain ⟨hm, hok⟩ := (fastMultiplyG_rel (mul' := fun x y => φ x * (RingHom.id XK) y) bfield_opsMap xfield_opsMap
      bNtt_transMap.ntt xNtt_transMap.ntt xNtt_transMap xc_mulBX a b ha hb).of_some h
    rw [fastMultiplyG_eq_of_hom (algRoot XK) φ (RingHom.id XK) zRoot (algRoot XK) zNtt xkNtt xkNtt
      zNtt_to_xk xkNtt_id] at hm
    refine ⟨?_, hok⟩
    rw [xdenote_eq, fast_multiply_spec (algRoot XK) xkNtt_spec _ _ _ hm, bdenote_map_phi]
    simp [xdenote]
  · intro h
    obtain ⟨hm, hok⟩ := (multiplyG_rel (mul' := fun x y => φ x * (RingHom.id XK) y) bfield_opsMap xfield_opsMap
      xfield_opsMap bNtt_transMap.ntt xNtt_transMap.ntt xNtt_transMap xc_mulBX (fun x y => canon3_mod _ _ _) threshold a b
      ha hb).of_some h
    rw [multiplyG_eq_of_hom (algRoot XK) φ (RingHom.id XK) zRoot (algRoot XK) zNtt xkNtt xkNtt
      zNtt_to_xk xkNtt_id] at hm
    refine ⟨?_, hok⟩
    rw [xdenote_eq, multiply_spec (algRoot XK) xkNtt_spec threshold _ _ _ hm, bdenote_map_phi]
    simp [xdenote]
example : fastMultiplyG TF.bfieldOps TF.xfieldOps (fun x y => xscale x y) bNtt xNtt xNtt [1, 2] [(0,0,1),(1,0,0)]
    = some [(0,0,1), (1,0,2), (2,0,0)] := by decide +kernel

/-- … and with the `XFieldElement` polynomial on the left -/
theorem ntt_multiply_xb_spec (threshold : Int) (a : List X3) (b : List Nat) (r : List X3) (ha : CanonL3 a) (hb : CanonL b) :
    (fastMultiplyG TF.xfieldOps TF.bfieldOps (fun x y => xscale y x) xNtt bNtt xNtt a b = some r →
      xdenote r = xdenote a * (bdenote b).map φ ∧ CanonL3 r) ∧
    (multiplyG TF.xfieldOps TF.bfieldOps TF.xfieldOps (fun x y => xscale y x) threshold xNtt bNtt xNtt a b = some r →
      xdenote r = xdenote a * (bdenote b).map φ ∧ CanonL3 r) := by
  constructor
  · intro h
    obtain ⟨hm, hok⟩ := (fastMultiplyG_rel (mul' := fun x y => (RingHom.id XK) x * φ y) xfield_opsMap bfield_opsMap
      xNtt_transMap.ntt bNtt_transMap.ntt xNtt_transMap xc_mulXB a b ha hb).of_some h
    rw [fastMultiplyG_eq_of_hom (algRoot XK) (RingHom.id XK) φ (algRoot XK) zRoot xkNtt zNtt xkNtt
      xkNtt_id zNtt_to_xk] at hm
    refine ⟨?_, hok⟩
    rw [xdenote_eq, fast_multiply_spec (algRoot XK) xkNtt_spec _ _ _ hm, bdenote_map_phi]
    simp [xdenote]
  · intro h
    obtain ⟨hm, hok⟩ := (multiplyG_rel (mul' := fun x y => (RingHom.id XK) x * φ y) xfield_opsMap bfield_opsMap
      xfield_opsMap xNtt_transMap.ntt bNtt_transMap.ntt xNtt_transMap xc_mulXB (fun x y => canon3_mod _ _ _) threshold a b
      ha hb).of_some h
    rw [multiplyG_eq_of_hom (algRoot XK) (RingHom.id XK) φ (algRoot XK) zRoot xkNtt zNtt xkNtt
      xkNtt_id zNtt_to_xk] at hm
    refine ⟨?_, hok⟩
    rw [xdenote_eq, multiply_spec (algRoot XK) xkNtt_spec threshold _ _ _ hm, bdenote_map_phi]
    simp [xdenote]
example : multiplyG TF.xfieldOps TF.bfieldOps TF.xfieldOps (fun x y => xscale y x) 1 xNtt bNtt xNtt [(0,0,1),(1,0,0)] [1, 2]
    = some [(0,0,1), (1,0,2), (2,0,0)] := by decide +kernel

end XField

/-! ## regenerated-from-source bridge (tools/rs2lean_poly.py, `TF/Gen/PolyLoops.lean`)

`scalar_mul`, `scalar_mul_mut`, `scale`, `shift_coefficients`, the `Mul` operator body, the dispatchers `multiply` and `square`
and the NTT-based `fast_multiply` are **also regenerated from the text of `polynomial.rs` on every run** (`TF.Gen.Poly.*`: field
operations as parameters, mixed products `FF × FF2 → Output` as an explicit parameter, callees that are not translated — the
`fast_*` arms of the dispatchers, `ntt`/`intt` — as parameters; `Option` = may panic).  Proved equal to the hand models of
`TF/Model/Poly.lean` / `PolyMul.lean` for **every** record of operations, every storage (proofs: `TF/Proofs/GenBridgePoly.lean`).
`naive_multiply` / `slow_square` (index double loops) re-associate the sums of the hand models `mulRows` / `squareRows`; their
bridge needs the additive monoid laws of the coefficient type of the result (`AddLaws`) and is proved in the section
"the index double loops" below, together with the transfer of `naive_multiply_spec`, `mul_spec`,
`slow_square_spec` and of the dispatchers to the regenerated code over every Mathlib field. -/

/-- regenerated `scalar_mul` (`iter().map(|&c| c * scalar).collect()`), `scalar_mul_mut` (`for c in &mut v { *c *= s }`) =
    hand model, any scalar / result type -/
theorem gen_scalar_mul_eq_model {α σ γ : Type} (F : FieldOps α) (mul : α → σ → γ) (mul' : α → σ → α) (p : List α) (s : σ) :
    TF.Gen.Poly.scalar_mul F mul p s = scalarMulG mul p s ∧ TF.Gen.Poly.scalar_mul_mut F mul' p s = scalarMulG mul' p s :=
  ⟨rfl, rfl⟩
example : TF.Gen.Poly.scalar_mul bfieldOps bfieldOps.mul [1, 2, 3] 2 = [2, 4, 6] := by decide +kernel

/-- regenerated `scale` (the `push` loop carrying `power_of_alpha`) = hand model, any scalar type with its own `one`/`mul` -/
theorem gen_scale_eq_model {α σ γ : Type} (F : FieldOps α) (oneS : σ) (mulS : σ → σ → σ) (mul : α → σ → γ)
    (p : List α) (alpha : σ) : TF.Gen.Poly.scale F oneS mulS mul p alpha = scaleG oneS mulS mul p alpha :=
  TF.GenBridge.Poly.scale_eq F oneS mulS mul p alpha
example : TF.Gen.Poly.scale bfieldOps 1 bfieldOps.mul bfieldOps.mul [1, 0, 3] 2 = [1, 0, 12] := by decide +kernel

/-- regenerated `shift_coefficients` (`splice(0..0, vec![ZERO; power])`) = hand model -/
theorem gen_shift_eq_model {α : Type} (F : FieldOps α) (p : List α) (n : Nat) :
    TF.Gen.Poly.shift_coefficients F p n = shiftCoefficients F p n := rfl
example : TF.Gen.Poly.shift_coefficients bfieldOps [1, 2] 2 = [0, 0, 1, 2] := by decide +kernel

/-- the regenerated `Mul` operator body is the regenerated `naive_multiply` -/
theorem gen_mul_is_naive_multiply {α β γ : Type} (F : FieldOps α) (F2 : FieldOps β) (F3 : FieldOps γ) (mul : α → β → γ)
    (a : List α) (b : List β) :
    TF.Gen.Poly.mul F F2 F3 mul a b = TF.Gen.Poly.naive_multiply F F2 F3 mul a b :=
  TF.GenBridge.Poly.mul_eq_naive F F2 F3 mul a b
example : TF.Gen.Poly.mul bfieldOps bfieldOps bfieldOps bfieldOps.mul [1, 2, 0] [3, 1] = some [3, 7, 2] := by decide +kernel

/-- regenerated dispatcher `multiply`: `naive_multiply` iff `deg a + deg b <` the regenerated threshold (an `isize`
    comparison; `-1` for zero operands), else the `fast_multiply` parameter — for every storage -/
theorem gen_multiply_dispatch {α β γ : Type} (F : FieldOps α) (F2 : FieldOps β) (F3 : FieldOps γ) (mul : α → β → γ)
    (fm : List α → List β → Option (List γ)) (a : List α) (b : List β) :
    TF.Gen.Poly.multiply F F2 F3 mul fm a b =
      if Model.Poly.degree F a + Model.Poly.degree F2 b < (TF.Gen.FAST_MULTIPLY_CUTOFF_THRESHOLD : Int)
      then TF.Gen.Poly.naive_multiply F F2 F3 mul a b else fm a b :=
  TF.GenBridge.Poly.multiply_dispatch F F2 F3 mul fm a b
example : TF.Gen.Poly.multiply bfieldOps bfieldOps bfieldOps bfieldOps.mul (fun _ _ => none) [1, 2, 0] [3, 1] = some [3, 7, 2] := by
  decide +kernel

/-- regenerated dispatcher `square`: zero first, the `fast_square` parameter iff `2·deg + 1 > 64`, else the same double
    loop as the regenerated `slow_square` -/
theorem gen_square_dispatch {α : Type} (F : FieldOps α) (fs : List α → Option (List α)) (p : List α) :
    TF.Gen.Poly.square F fs p =
      if Model.Poly.degree F p = -1 then some []
      else if 2 * (Model.Poly.degree F p).toNat + 1 > 64 then fs p else TF.Gen.Poly.slow_square F p :=
  TF.GenBridge.Poly.square_dispatch F fs p
example : TF.Gen.Poly.square bfieldOps (fun _ => none) [1, 1, 0] = some [1, 2, 1] ∧ 64 = TF.Gen.SQUARE_CUTOFF := by decide +kernel

/-- regenerated `fast_multiply` (degree sum, `next_power_of_two`, `resize`, `ntt`, Hadamard product, `intt`, `truncate`) on
    top of arbitrary transforms = hand model `fastMultiplyG`, including every panic of the transforms -/
theorem gen_fast_multiply_eq_model {α β γ : Type} (F : FieldOps α) (F2 : FieldOps β) (F3 : FieldOps γ) (mul : α → β → γ)
    (T1 : Transform α) (T2 : Transform β) (T3 : Transform γ) (a : List α) (b : List β) :
    TF.Gen.Poly.fast_multiply F F2 F3 mul T1.ntt T2.ntt T3.intt a b = fastMultiplyG F F2 mul T1 T2 T3 a b :=
  TF.GenBridge.Poly.fast_multiply_eq F F2 F3 mul T1 T2 T3 a b
example : TF.Gen.Poly.fast_multiply bfieldOps bfieldOps bfieldOps bfieldOps.mul (fun _ => none) (fun _ => none) (fun _ => none)
    [0, 0] [1] = some [] := by decide +kernel

/-- regenerated `fast_square` (zero / constant special cases, `resize` of the RAW storage to `next_power_of_two(2·deg + 1)`,
    `ntt`, pointwise squares, `intt`, `truncate`) on top of arbitrary transforms = hand model `fastSquare` -/
theorem gen_fast_square_eq_model {α : Type} (F : FieldOps α) (T : Transform α) (p : List α) :
    TF.Gen.Poly.fast_square F T.ntt T.intt p = fastSquare F T p := TF.GenBridge.Poly.fast_square_eq F T p
example : TF.Gen.Poly.fast_square bfieldOps (fun _ => none) (fun _ => none) [3, 0, 0] = some [9] := by decide +kernel

/-- **`fast_square_spec` for the regenerated code** -/
theorem gen_fast_square_transfer {K : Type} [Field K] (root : Nat → Option K) {T : Transform K} {pts : Nat → Nat → K}
    (hT : TransformSpec T pts) (p r : List K)
    (h : TF.Gen.Poly.fast_square (FieldOps.ofField K root) T.ntt T.intt p = some r) : denote r = denote p ^ 2 := by
  rw [gen_fast_square_eq_model] at h
  exact fast_square_spec root hT p r h
example : TransformSpec exampleTransform examplePts := exampleTransform_spec

/-- **`scalar_mul_spec`, `scale_spec`, `shift_spec`, `fast_multiply_spec` for the regenerated code** -/
theorem gen_products_transfer {T : Transform K} {pts : Nat → Nat → K} (hT : TransformSpec T pts)
    (p a b r : List K) (s : K) (n : Nat)
    (h : TF.Gen.Poly.fast_multiply FK FK FK (FK).mul T.ntt T.ntt T.intt a b = some r) :
    denote (TF.Gen.Poly.scalar_mul FK (FK).mul p s) = denote p * C s ∧
    denote (TF.Gen.Poly.scalar_mul_mut FK (FK).mul p s) = denote p * C s ∧
    denote (TF.Gen.Poly.scale FK (FK).one (FK).mul (FK).mul p s) = (denote p).comp (C s * X) ∧
    denote (TF.Gen.Poly.shift_coefficients FK p n) = X ^ n * denote p ∧
    denote r = denote a * denote b := by
  rw [gen_fast_multiply_eq_model] at h
  rw [gen_scale_eq_model]
  exact ⟨scalar_mul_spec root p s, scalar_mul_spec root p s, scale_spec root p s, shift_spec root p n,
    fast_multiply_spec root hT a b r h⟩
example : TransformSpec exampleTransform examplePts := exampleTransform_spec

/-! ## the index double loops `naive_multiply` / `slow_square` regenerated from source

The regenerated loops (`product[i + j] = product[i + j] + self[i] * other[j]` over `0..=degree_lhs × 0..=degree_rhs`;
`sq[2i] += cᵢ²`, `sq[i + j] += (two·cᵢ)·cⱼ` for `j > i` over `coefficients()`) start from a zero vector and add row after row;
the hand models `mulRows` / `squareRows` add row `i` to the already summed later rows.  The two agree **only under laws
of `add`**: `AddLaws F` = `add` is associative and `zero` is a left and a right unit — exactly what the proof uses (each of the
three is needed already for operands of length ≤ 3; commutativity is not needed, `AddLaws.of_comm` gives the right unit from the
left one for a commutative `add`; no law of `mul`, `two = one + one` is the same term on both sides).  Every Mathlib field
satisfies them (`add_laws_of_field`), so the product theorems hold for the regenerated code with no hypothesis left.
`gen = some model` also says: no index panic (`product[i + j]`, `self[i]`, `other[j]`, `coefficients[j]`) for any storage.
Proofs: `TF/Proofs/GenBridgePolyMul.lean`. -/
open TF.GenBridge.Poly

/-- a commutative associative `add` with left unit `zero` has the laws the bridges need -/
theorem add_laws_of_comm {α : Type} (F : FieldOps α) (hc : ∀ a b, F.add a b = F.add b a)
    (ha : ∀ a b c, F.add (F.add a b) c = F.add a (F.add b c)) (hz : ∀ a, F.add F.zero a = a) : AddLaws F :=
  AddLaws.of_comm hc ha hz
example : AddLaws (FieldOps.ofField ℚ) := add_laws_of_comm _ (fun a b => add_comm a b) (fun a b c => add_assoc a b c) zero_add

/-- the operation record of every Mathlib field satisfies `AddLaws` -/
theorem add_laws_of_field {K : Type} [Field K] (root : Nat → Option K) : AddLaws (FieldOps.ofField K root) :=
  ⟨add_assoc, zero_add, add_zero⟩
example : AddLaws (FieldOps.ofField ℚ) := add_laws_of_field _

/-- **regenerated `naive_multiply<FF2>` = hand model**, three coefficient types, any mixed product, every storage of the
    operands (stored leading zeros, zero operands); it never panics -/
theorem gen_naive_multiply_eq_model {α β γ : Type} (F : FieldOps α) (F2 : FieldOps β) (F3 : FieldOps γ) (h : AddLaws F3)
    (mul : α → β → γ) (a : List α) (b : List β) :
    TF.Gen.Poly.naive_multiply F F2 F3 mul a b = some (naiveMultiplyG F F2 F3 mul a b) :=
  naive_multiply_eq F F2 F3 h mul a b
example : TF.Gen.Poly.naive_multiply bfieldOps bfieldOps bfieldOps bfieldOps.mul [1, 2, 0] [3, 1, 5, 0] = some [3, 7, 7, 10] ∧
    naiveMultiplyG bfieldOps bfieldOps bfieldOps bfieldOps.mul [1, 2, 0] [3, 1, 5, 0] = [3, 7, 7, 10] := by decide +kernel

/-- **regenerated `slow_square` = hand model**, every storage; it never panics -/
theorem gen_slow_square_eq_model {α : Type} (F : FieldOps α) (h : AddLaws F) (p : List α) :
    TF.Gen.Poly.slow_square F p = some (slowSquare F p) := slow_square_eq F h p
example : TF.Gen.Poly.slow_square bfieldOps [1, 2, 3, 0] = some [1, 4, 10, 12, 9] ∧
    slowSquare bfieldOps [1, 2, 3, 0] = [1, 4, 10, 12, 9] := by decide +kernel

/-- the hypothesis `AddLaws` cannot be dropped: with an `add` that ignores its left argument the regenerated loop and the
    hand model differ (a concrete record, a concrete operand pair) -/
theorem gen_naive_multiply_needs_laws :
    ∃ (F : FieldOps Nat) (a b : List Nat),
      TF.Gen.Poly.naive_multiply F F F F.mul a b ≠ some (naiveMultiplyG F F F F.mul a b) :=
  ⟨{ bfieldOps with add := fun a _ => a }, [1, 1], [1, 1], by decide⟩

/-- **`naive_multiply_spec` and `mul_spec` for the regenerated code**: over every field the regenerated `naive_multiply` and
    the regenerated `Mul` operator return (never panic) and return the ring product, for every storage -/
theorem gen_naive_multiply_transfer (a b : List K) :
    (∃ r, TF.Gen.Poly.naive_multiply FK FK FK (FK).mul a b = some r ∧ denote r = denote a * denote b) ∧
    (∃ r, TF.Gen.Poly.mul FK FK FK (FK).mul a b = some r ∧ denote r = denote a * denote b) := by
  have h := gen_naive_multiply_eq_model FK FK FK (add_laws_of_field root) (FK).mul a b
  refine ⟨⟨_, h, naive_multiply_spec root a b⟩, ⟨_, ?_, naive_multiply_spec root a b⟩⟩
  rw [gen_mul_is_naive_multiply]; exact h
example : ∃ r, TF.Gen.Poly.naive_multiply (FieldOps.ofField ℚ) (FieldOps.ofField ℚ) (FieldOps.ofField ℚ)
    (FieldOps.ofField ℚ).mul [1, 2, 0] [0, 3] = some r ∧ denote r = denote ([1, 2, 0] : List ℚ) * denote ([0, 3] : List ℚ) :=
  (gen_naive_multiply_transfer _ _ _).1

/-- **`slow_square_spec` for the regenerated code** -/
theorem gen_slow_square_transfer (p : List K) :
    ∃ r, TF.Gen.Poly.slow_square FK p = some r ∧ denote r = denote p ^ 2 :=
  ⟨_, gen_slow_square_eq_model FK (add_laws_of_field root) p, slow_square_spec root p⟩
example : ∃ r, TF.Gen.Poly.slow_square (FieldOps.ofField ℚ) [1, 2, 0] = some r ∧ denote r = denote ([1, 2, 0] : List ℚ) ^ 2 :=
  gen_slow_square_transfer _ _

/-- **`naive_multiply_mixed_spec` for the regenerated code**: operands over different fields embedded into the field of the
    result -/
theorem gen_naive_multiply_mixed_transfer {K₁ K₂ : Type} [Field K₁] [Field K₂] (φ₁ : K₁ →+* K) (φ₂ : K₂ →+* K)
    (root₁ : Nat → Option K₁) (root₂ : Nat → Option K₂) (a : List K₁) (b : List K₂) :
    ∃ r, TF.Gen.Poly.naive_multiply (FieldOps.ofField K₁ root₁) (FieldOps.ofField K₂ root₂) FK (fun x y => φ₁ x * φ₂ y) a b
        = some r ∧ denote r = (denote a).map φ₁ * (denote b).map φ₂ :=
  ⟨_, gen_naive_multiply_eq_model _ _ FK (add_laws_of_field root) _ a b, naive_multiply_mixed_spec root φ₁ φ₂ root₁ root₂ a b⟩
example : ∃ r, TF.Gen.Poly.naive_multiply (FieldOps.ofField ℚ) (FieldOps.ofField ℚ) (FieldOps.ofField ℚ)
    (fun x y => (RingHom.id ℚ) x * (RingHom.id ℚ) y) [1, 0] [2] = some r ∧
      denote r = (denote ([1, 0] : List ℚ)).map (RingHom.id ℚ) * (denote ([2] : List ℚ)).map (RingHom.id ℚ) :=
  gen_naive_multiply_mixed_transfer _ _ _ _ _ _ _

/-- **`multiply_spec` / `square_spec` for the regenerated dispatchers on top of the regenerated `fast_multiply` /
    `fast_square`** (the transforms stay parameters with `TransformSpec`, property C06): whenever the regenerated `multiply` /
    `square` returns, it returns the product / the square — with the regenerated thresholds, every storage -/
theorem gen_dispatchers_transfer {T : Transform K} {pts : Nat → Nat → K} (hT : TransformSpec T pts) (a b p r : List K) :
    (TF.Gen.Poly.multiply FK FK FK (FK).mul (TF.Gen.Poly.fast_multiply FK FK FK (FK).mul T.ntt T.ntt T.intt) a b = some r →
      denote r = denote a * denote b) ∧
    (TF.Gen.Poly.square FK (TF.Gen.Poly.fast_square FK T.ntt T.intt) p = some r → denote r = denote p ^ 2) := by
  constructor
  · intro h
    rw [gen_multiply_dispatch] at h
    split at h
    · rw [gen_naive_multiply_eq_model FK FK FK (add_laws_of_field root)] at h
      injection h with h; subst h
      exact naive_multiply_spec root a b
    · rw [gen_fast_multiply_eq_model] at h
      exact fast_multiply_spec root hT a b r h
  · intro h
    rw [gen_square_dispatch] at h
    split at h
    · next hz =>
      injection h with h; subst h
      have : denote p = 0 := (degree_eq_neg_one_iff root p).1 hz
      simp [this]
    · split at h
      · rw [gen_fast_square_eq_model] at h
        exact fast_square_spec root hT p r h
      · rw [gen_slow_square_eq_model FK (add_laws_of_field root)] at h
        injection h with h; subst h
        exact slow_square_spec root p
example : TransformSpec exampleTransform examplePts := exampleTransform_spec

/-! ### `Polynomial::pow` and `Polynomial::fast_pow` regenerated from source

`pow` (the `let Some(bit_length) = pow.checked_ilog2() else { return one }` special case `0⁰ = 1`, the zero-base early return, the
square-and-multiply loop `for i in 0..=bit_length` with `pow >> (bit_length - i) & 1`, `slow_square` and `*`) is regenerated
from `polynomial.rs` on every run (`TF.Gen.Poly.pow` / `pow_for`) and proved equal to the hand model `pow` / `powLoop` for every
`u32` exponent.  `gen = some model` also says that nothing panics: `bit_length - i` never underflows, the shift amount stays
below 32 (`ushr?`), and the squarings/products have no index panic.  Proof: `TF/Proofs/GenBridgePolyPow.lean`. -/

/-- **regenerated `pow` = hand model**, every `u32` exponent, every storage of the base; it never panics -/
theorem gen_pow_eq_model {α : Type} (F : FieldOps α) (h : AddLaws F) (p : List α) (e : Nat) (he : e < 2 ^ 32) :
    TF.Gen.Poly.pow F p e = some (pow F p e) := pow_eq F h p e he
example : TF.Gen.Poly.pow bfieldOps [1, 1, 0] 5 = some [1, 5, 10, 10, 5, 1] ∧ pow bfieldOps [1, 1, 0] 5 = [1, 5, 10, 10, 5, 1] ∧
    TF.Gen.Poly.pow bfieldOps [0, 0] 0 = some [1] ∧ TF.Gen.Poly.pow bfieldOps [0, 0] 3 = some [] := by decide +kernel

/-- **regenerated `fast_pow` = hand model `fastPow`** (at the squaring cut-off 64 = `SQUARE_CUTOFF` and the regenerated
    multiplication threshold), on top of the regenerated `square` / `multiply` / `fast_square` / `fast_multiply` and arbitrary
    transforms: every `u32` exponent, every storage, including every panic of the transforms -/
theorem gen_fast_pow_eq_model {α : Type} (F : FieldOps α) (h : AddLaws F) (T : Transform α) (p : List α) (e : Nat)
    (he : e < 2 ^ 32) :
    TF.Gen.Poly.fast_pow F (TF.Gen.Poly.fast_square F T.ntt T.intt)
        (TF.Gen.Poly.fast_multiply F F F F.mul T.ntt T.ntt T.intt) p e
      = fastPow F 64 (TF.Gen.FAST_MULTIPLY_CUTOFF_THRESHOLD : Int) T p e := fast_pow_eq F h T p e he
example : TF.Gen.Poly.fast_pow bfieldOps (fun _ => none) (fun _ _ => none) [1, 1, 0] 5 = some [1, 5, 10, 10, 5, 1] ∧
    64 = TF.Gen.SQUARE_CUTOFF := by decide +kernel

/-- **`pow_spec` for the regenerated code**: over every field the regenerated `pow` returns (never panics) and returns the
    `e`-th power in `K[X]`, for every `u32` exponent (`0⁰ = 1` included) and every storage of the base -/
theorem gen_pow_transfer (p : List K) (e : Nat) (he : e < 2 ^ 32) :
    ∃ r, TF.Gen.Poly.pow FK p e = some r ∧ denote r = denote p ^ e :=
  ⟨_, gen_pow_eq_model FK (add_laws_of_field root) p e he, pow_spec root p e⟩
example : ∃ r, TF.Gen.Poly.pow (FieldOps.ofField ℚ) [1, 2, 0] 7 = some r ∧ denote r = denote ([1, 2, 0] : List ℚ) ^ 7 :=
  gen_pow_transfer _ _ _ (by norm_num)

/-- **`fast_pow_spec` for the regenerated code**: over every field and every transform meeting `TransformSpec`, whenever the
    regenerated `fast_pow` returns it returns the `e`-th power in `K[X]` -/
theorem gen_fast_pow_transfer {T : Transform K} {pts : Nat → Nat → K} (hT : TransformSpec T pts) (p r : List K) (e : Nat)
    (he : e < 2 ^ 32)
    (h : TF.Gen.Poly.fast_pow FK (TF.Gen.Poly.fast_square FK T.ntt T.intt)
        (TF.Gen.Poly.fast_multiply FK FK FK (FK).mul T.ntt T.ntt T.intt) p e = some r) : denote r = denote p ^ e := by
  rw [gen_fast_pow_eq_model FK (add_laws_of_field root) T p e he] at h
  exact fast_pow_spec root hT 64 _ p e r h
example : TransformSpec exampleTransform examplePts := exampleTransform_spec

end TF.C07
