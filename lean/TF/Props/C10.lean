import TF.Proofs.MerklePaths
import TF.Proofs.MerkleSched
import TF.Proofs.GenBridgeMerkle
/-!
# C10 — Merkle trees build correctly under any schedule; honest proofs are complete and minimal

Property theorems only (helper lemmas live in `TF/Proofs/Merkle*.lean`).  Everything is proved for an **arbitrary hash
function** `H : D → D → D` (the driver instantiates it with Tip5's `hash_pair`).

Notation.  `fromDigests H filler cutoff ds` is the model of `CpuParallel::from_digests` with the parallelisation
cut-off as a *parameter* (`fromDigestsFuel … fuel …` is the same with explicit loop fuel and result `none` when the
fuel runs out, i.e. non-termination).  `Spec.IsMerkleTree H filler ds nodes`: `nodes` has `2n` entries, `nodes[0]` is the
filler, the leafs are copied to `[n, 2n)` and `nodes[i] = H nodes[2i] nodes[2i+1]` for `1 ≤ i < n`.
`Spec.treeNodes` is the explicit tree (`nodeVal` over the leafs).  `Spec.needed h idxs` is the documented minimal
authentication structure: the non-root nodes that cannot be computed from the revealed leafs but whose sibling can
(`Spec.covered` = "computable"), in descending order of node index.  `authPath H f 0 h k` is the sibling path of leaf
node `k`.  Thread schedules: `fromDigestsSched H scheds …` (TF/Model/MerkleSched.lean) runs every parallel level as rayon does
at task granularity — one task per index, each reading the shared immutable `nodes` and writing slot `i` of the output
buffer — in the completion order `scheds cnt`; any number of threads, any chunking and any interleaving is such an
order, a permutation of `0..cnt`.  `from_digests_schedule_independent` proves the result equal to the pure-`map` model
for every such schedule and every cut-off.  (Trusted: rayon runs each task exactly once and `collect_into_vec` stores
result `i` in slot `i`; Rust's borrow rules keep `nodes` unwritten while the parallel iterator lives.)
-/
set_option linter.unusedSectionVars false
namespace TF.C10
open TF.Gen TF.Merkle

variable {D : Type} [DecidableEq D] (H : D → D → D)

/-- **termination for every cut-off** (0, 1, …, larger than the tree): the loop fuel `n + 1` of the model is never
    exhausted, for every list of digests -/
theorem from_digests_terminates (filler : D) (cutoff : Nat) (ds : List D) :
    ∃ r, fromDigestsFuel H filler cutoff (ds.length + 1) ds = some r :=
  fromDigestsFuel_terminates H filler cutoff ds
example : fromDigestsFuel Hx 0 0 5 [1, 2, 3, 4] = some (.ok ⟨[0, 193, 14, 30, 1, 2, 3, 4]⟩) := by decide +kernel

/-- the defect F2, for the record: with the loop guard as it was before the fix (`cnt >= cutoff` only) and cut-off 0
    the parallel loop never exits once the level size has reached 0 — whatever the fuel -/
theorem from_digests_diverged_before_F2 (acc : Nat) (nodes : List D) (fuel : Nat) :
    parLoopBeforeF2 H 0 fuel 0 acc nodes = none :=
  parLoopBeforeF2_diverges H acc nodes fuel
-- two leafs: the one level of the tree is computed, then the level size is 0
example : parLoopBeforeF2 Hx 0 1000 (2 / 2) 0 [0, 0, 1, 2] = none :=
  (parLoopBeforeF2_succ Hx (fuel := 999) (Nat.zero_le _)
    (by decide +kernel : parLevel Hx [0, 0, 1, 2] (2 / 2) = .ok [0, 14, 1, 2])).trans
    (from_digests_diverged_before_F2 Hx _ _ 999)

/-- **construction is correct for every cut-off**: for `2^h` leafs the result is a Merkle tree — every inner node is the
    hash of its two children, the leafs are copied — and it is the explicit tree `Spec.treeNodes` -/
theorem from_digests_spec (filler : D) (cutoff : Nat) {ds : List D} {h : Nat} (hn : ds.length = 2^h) :
    ∃ t, fromDigests H filler cutoff ds = .ok t ∧ Spec.IsMerkleTree H filler ds t.nodes ∧
      t.nodes = Spec.treeNodes H filler h ds := by
  obtain ⟨t, h1, h2⟩ := fromDigests_ok H filler cutoff hn
  exact ⟨t, h1, h2, merkle_eq_treeNodes H hn h2⟩
example : ([1, 2, 3, 4] : List Nat).length = 2^2 := by decide

/-- the result does not depend on the cut-off (hence not on the environment variable) -/
theorem from_digests_cutoff_independent (filler : D) (c c' : Nat) (ds : List D) :
    fromDigests H filler c ds = fromDigests H filler c' ds := by
  by_cases he : ds = []
  · subst he; rw [fromDigests_empty, fromDigests_empty]
  · by_cases hp : ∃ h, ds.length = 2^h
    · obtain ⟨h, hn⟩ := hp
      obtain ⟨t, h1, _, e1⟩ := from_digests_spec H filler c hn
      obtain ⟨t', h2, _, e2⟩ := from_digests_spec H filler c' hn
      rw [h1, h2]
      cases t; cases t'
      simp only at e1 e2
      rw [e1, e2]
    · rw [fromDigests_not_pow2 H filler c he hp, fromDigests_not_pow2 H filler c' he hp]
example : fromDigests Hx 0 0 [1, 2, 3, 4] = fromDigests Hx 0 (2^30) [1, 2, 3, 4] := from_digests_cutoff_independent Hx 0 _ _ _

/-- **one parallel level gives the same result under every schedule**: whatever the order in which the tasks of a level
    complete (any permutation of `0..cnt`: any thread count, chunking, interleaving), the level is the pure `map` -/
theorem par_level_schedule_independent (sched : List Nat) (nodes : List D) (cnt : Nat)
    (hp : sched.Perm (List.range cnt)) : parLevelSched H sched nodes cnt = parLevel H nodes cnt :=
  parLevelSched_eq H sched nodes cnt hp
example : (roundRobin 3 8).Perm (List.range 8) ∧ roundRobin 3 8 = [0, 3, 6, 1, 4, 7, 2, 5] := by decide

/-- **construction gives the same result under every schedule and every cut-off**: with every parallel level running
    under an arbitrary schedule (a permutation of its tasks), `from_digests` returns what the sequential model returns —
    hence (by `from_digests_spec`) the tree whose every inner node is the hash of its children -/
theorem from_digests_schedule_independent (scheds : Nat → List Nat)
    (hs : ∀ cnt, (scheds cnt).Perm (List.range cnt)) (filler : D) (cutoff cutoff' : Nat) (ds : List D) :
    fromDigestsSched H scheds filler cutoff ds = fromDigests H filler cutoff' ds := by
  rw [fromDigestsSched_eq H scheds hs, from_digests_cutoff_independent H filler cutoff cutoff']
example : fromDigestsSched Hx (roundRobin 3) 0 0 [1, 2, 3, 4, 5, 6, 7, 8] = fromDigests Hx 0 (2^30) [1, 2, 3, 4, 5, 6, 7, 8] ∧
    fromDigestsSched Hx (roundRobin 3) 0 0 [1, 2, 3, 4, 5, 6, 7, 8]
      = .ok ⟨[0, 2825, 193, 449, 14, 30, 46, 62, 1, 2, 3, 4, 5, 6, 7, 8]⟩ := by decide +kernel

/-- a schedule that skips a task is *not* harmless (the hypothesis of the theorem is needed): `collect_into_vec` would
    hand back an unwritten slot -/
theorem schedule_must_cover_all_tasks :
    parLevelSched Hx [0] [0, 0, 0, 0, 1, 2, 3, 4] 2 = .panic ∧
    parLevel Hx [0, 0, 0, 0, 1, 2, 3, 4] 2 = .ok [0, 0, 14, 30, 1, 2, 3, 4] := by
  decide +kernel

/-- **rejection**: no leafs, or a number of leafs that is not a power of two, is an error for every cut-off; and
    conversely a tree is only ever returned for a power of two -/
theorem from_digests_rejects (filler : D) (cutoff : Nat) (ds : List D) :
    (ds = [] → fromDigests H filler cutoff ds = .err .tooFewLeafs) ∧
    (ds ≠ [] → (¬ ∃ h, ds.length = 2^h) → fromDigests H filler cutoff ds = .err .incorrectNumberOfLeafs) ∧
    (∀ t, fromDigests H filler cutoff ds = .ok t → ∃ h, ds.length = 2^h) := by
  refine ⟨fun he => by subst he; exact fromDigests_empty H filler cutoff,
    fun he hp => fromDigests_not_pow2 H filler cutoff he hp, ?_⟩
  intro t ht
  by_cases he : ds = []
  · subst he; rw [fromDigests_empty] at ht; cases ht
  · apply Classical.byContradiction
    intro hp
    rw [fromDigests_not_pow2 H filler cutoff he hp] at ht; cases ht
example : fromDigests Hx 0 0 [1, 2, 3] = .err .incorrectNumberOfLeafs := by decide +kernel

/-- **the authentication structure is exactly the documented minimal node set**: for in-range indices (any order,
    repetitions) `authentication_structure` returns the tree's nodes at `Spec.needed h idxs`, and that list is strictly
    descending (so de-duplicated) and consists exactly of the non-root nodes that are needed (their sibling is
    computable) but not computable themselves -/
theorem auth_structure_minimal (filler : D) {ds : List D} {h : Nat} {t : Tree D} (hn : ds.length = 2^h) (hh : h ≤ 31)
    (hm : Spec.IsMerkleTree H filler ds t.nodes) {idxs : List Nat} (hi : ∀ i ∈ idxs, i < 2^h) :
    authIdx (2^h) idxs = .ok (Spec.needed h idxs) ∧
    t.authStructure idxs = .ok ((Spec.needed h idxs).map (fun k => (t.nodes[k]?).getD filler)) ∧
    (∀ k ∈ Spec.needed h idxs, (t.nodes[k]?).isSome) ∧
    (Spec.needed h idxs).Pairwise (· > ·) ∧
    (∀ k, k ∈ Spec.needed h idxs ↔
      (k < 2^(h+1) ∧ 2 ≤ k ∧ Spec.covered h idxs k = false ∧ Spec.covered h idxs (sib k) = true)) := by
  refine ⟨authIdx_eq_needed (by omega) hi, tree_authStructure H hn (by omega) hm hi, ?_, needed_desc h idxs,
    fun k => mem_needed⟩
  intro k hk
  have hlt : k < t.nodes.length := by rw [hm.1, hn, ← Nat.pow_succ']; exact (mem_needed.1 hk).1
  rw [List.getElem?_eq_getElem hlt]; rfl
example : Spec.needed 3 [0, 2, 0] = [11, 9, 3] := by decide +kernel

/-- **honest proofs verify**: for every list of in-range leaf indices — any order, with repetitions — the inclusion proof
    produced from a tree built with any cut-off is accepted against the tree's root (no panic anywhere) -/
theorem honest_proof_verifies (filler : D) (cutoff : Nat) {ds : List D} {h : Nat} {t : Tree D} (hn : ds.length = 2^h)
    (hh : h ≤ MAX_TREE_HEIGHT) (ht : fromDigests H filler cutoff ds = .ok t) {idxs : List Nat}
    (hi : ∀ i ∈ idxs, i < ds.length) :
    ∃ p root, t.inclusionProof idxs = .ok p ∧ t.root = .ok root ∧ verify H p root = .ok true := by
  have hh' : h ≤ 31 := hh
  have hm := isMerkleTree_of_fromDigests H hn ht
  have hi' : ∀ i ∈ idxs, i < 2^h := fun i hx => by rw [← hn]; exact hi i hx
  have hsz := nodes_length_le_usize H hn hh' hm
  exact ⟨_, _, tree_inclusionProof H hn (by omega) hm hsz hi', tree_root H hn hm, honest_verify H hn hh' hm hi'⟩
example : ∃ t, fromDigests Hx 0 1 [1, 2, 3, 4, 5, 6, 7, 8] = .ok t ∧
    (do let p ← t.inclusionProof [5, 0, 5]; let r ← t.root; verify Hx p r) = .ok true := ⟨_, rfl, by decide +kernel⟩

/-- **paths expand**: the honest proof for `idxs` expands (`into_authentication_paths`) to the individual sibling paths of
    the tree, in the order of `idxs`, and each path hashes its leaf up to the root -/
theorem paths_expand (filler : D) (cutoff : Nat) {ds : List D} {h : Nat} {t : Tree D} (hn : ds.length = 2^h)
    (hh : h ≤ MAX_TREE_HEIGHT) (ht : fromDigests H filler cutoff ds = .ok t) {idxs : List Nat}
    (hi : ∀ i ∈ idxs, i < ds.length) :
    ∃ p, t.inclusionProof idxs = .ok p ∧
      intoAuthPaths H p = .ok (idxs.map (fun i => authPath H (leafFn filler ds h) 0 h (i + 2^h))) ∧
      ∀ i ∈ idxs, t.root = .ok (foldPath H (i + 2^h) (leafFn filler ds h (i + 2^h))
        (authPath H (leafFn filler ds h) 0 h (i + 2^h))) := by
  have hh' : h ≤ 31 := hh
  have hm := isMerkleTree_of_fromDigests H hn ht
  have hi' : ∀ i ∈ idxs, i < 2^h := fun i hx => by rw [← hn]; exact hi i hx
  have hsz := nodes_length_le_usize H hn hh' hm
  refine ⟨_, tree_inclusionProof H hn (by omega) hm hsz hi', honest_paths H hn hh' hm hi', ?_⟩
  intro i hx
  rw [tree_root H hn hm]
  congr 1
  have := foldPath_authPath H (leafFn filler ds h) h 0 (i + 2^h)
  rw [nodeVal, Nat.zero_add, show (i + 2^h) / 2^h = 1 from anc_top (hi' i hx)] at this
  rw [this]
example : (do let t ← fromDigests Hx 0 256 [1, 2, 3, 4]; let p ← t.inclusionProof [2, 1]; intoAuthPaths Hx p)
    = .ok [[4, 14], [1, 30]] := by decide +kernel

/-- an out-of-range index (anywhere in the list) is an error, not a panic, for every accessor that takes indices -/
theorem out_of_range_is_error (filler : D) (cutoff : Nat) {ds : List D} {h : Nat} {t : Tree D} (hn : ds.length = 2^h)
    (hh : h ≤ MAX_TREE_HEIGHT) (ht : fromDigests H filler cutoff ds = .ok t) {idxs : List Nat}
    (hbad : ∃ i ∈ idxs, ds.length ≤ i) :
    t.inclusionProof idxs = .err .leafIndexInvalid ∧ t.authStructure idxs = .err .leafIndexInvalid ∧
    t.indexedLeafs idxs = .err .leafIndexInvalid := by
  have hh' : h ≤ 31 := hh
  have hm := isMerkleTree_of_fromDigests H hn ht
  have hsz := nodes_length_le_usize H hn hh' hm
  exact ⟨tree_inclusionProof_err H hn hm hsz hbad, tree_authStructure_err H hn (by omega) hm hbad,
    tree_indexedLeafs_err H hm hsz hbad⟩
example : (do let t ← fromDigests Hx 0 256 [1, 2, 3, 4]; t.inclusionProof [2, 4]) = .err .leafIndexInvalid := by
  decide +kernel

/-! ## Regenerated-from-source bridge (tools/rs2lean_bt4.py, `TF/Gen/MerkleLoops.lean`)

`CpuParallel::from_digests` is regenerated from the text of `merkle_tree.rs` on every run: digests opaque (`D`),
`Tip5::hash_pair` = `H`, `Digest::default()` = `filler`, the lazily initialised `PARALLELIZATION_CUTOFF` = `cutoff`, the
rayon `into_par_iter().map(..).collect_into_vec(..)` a pure `List.map`; `d0` is the value read after an out-of-range index
(the `_ok` twin is false there).  Proofs: `TF/Proofs/GenBridgeMerkle.lean`. -/
section GenBridge
open TF.GenBridge.Merkle
open TF.Gen.Loops (merkle_from_digests merkle_from_digests_ok)
variable (d0 : D)

/-- **the regenerated `from_digests` is the hand model** — every hash function, every cut-off, every digest list that fits
    a 64-bit address space (`len < 2^63`; a `Vec<Digest>` holds at most `isize::MAX / 40` elements), digests opaque: no
    check of the `_ok` twin fails (no overflow, no index out of bounds, no `clone_from_slice` length mismatch) and the
    regenerated function, read through `toRes` (`Ok(nodes)` ↦ tree, the two error kinds), *is* `fromDigestsFuel` with the
    same fuel `len + 1` (`none` = out of fuel on both sides), hence `some (fromDigests …)`.  Contains: the lock-step of the
    `while` level loop with `parLoop` including `count_acc`, the bit trick of `is_power_of_two` = `2^log2 n == n`, the
    sequential loop = `seqLoop`, the initial vector and `digests.len() - count_acc` -/
theorem gen_from_digests_eq_model (filler : D) (cutoff : Nat) (ds : List D) (hlen : ds.length < 2^63) :
    merkle_from_digests_ok H d0 filler cutoff ds = true ∧
    (merkle_from_digests H d0 filler cutoff ds).map toRes = fromDigestsFuel H filler cutoff (ds.length + 1) ds ∧
    (merkle_from_digests H d0 filler cutoff ds).map toRes = some (fromDigests H filler cutoff ds) := by
  have key : merkle_from_digests_ok H d0 filler cutoff ds = true ∧
      (merkle_from_digests H d0 filler cutoff ds).map toRes = fromDigestsFuel H filler cutoff (ds.length + 1) ds := by
    by_cases he : ds = []
    · subst he; exact ⟨rfl, rfl⟩
    · have he' : ds.isEmpty = false := by cases ds <;> simp_all
      cases hp : TF.isPow2 ds.length
      · obtain ⟨h1, h2⟩ := gen_not_pow2 H d0 filler cutoff he hp
        refine ⟨h2, ?_⟩
        rw [h1, fromDigestsFuel]
        have hp' : TF.Merkle.isPow2 ds.length = false := by rw [← isPow2_trick_eq_model]; exact hp
        simp only [he', hp', Bool.false_eq_true, if_false, Bool.not_false, if_true]
        rfl
      · exact gen_pow2 H d0 filler cutoff he hp hlen
  refine ⟨key.1, key.2, ?_⟩
  obtain ⟨r, hr⟩ := from_digests_terminates H filler cutoff ds
  rw [key.2, fromDigests, hr]
example : (merkle_from_digests Hx 7 0 1 [1, 2, 3, 4]).map toRes = some (fromDigests Hx 0 1 [1, 2, 3, 4]) ∧
    fromDigests Hx 0 1 [1, 2, 3, 4] = .ok ⟨[0, 193, 14, 30, 1, 2, 3, 4]⟩ ∧
    (merkle_from_digests Hx 7 0 1 [1, 2, 3]).map toRes = some (.err .incorrectNumberOfLeafs) ∧
    (merkle_from_digests Hx 7 0 1 []).map toRes = some (.err .tooFewLeafs) := by decide +kernel

/-- the excluded inputs: for a power-of-two number of digests from `2^63` on, `vec![default; 2 * n]` overflows `usize`
    (the `_ok` twin is false); such a vector cannot exist in a 64-bit address space -/
theorem gen_from_digests_beyond_address_space (filler : D) (cutoff : Nat) (ds : List D) (hlen : 2^63 ≤ ds.length)
    (hp : TF.isPow2 ds.length = true) : merkle_from_digests_ok H d0 filler cutoff ds = false := by
  have he : ds.isEmpty = false := by
    cases ds with
    | nil => simp at hlen
    | cons _ _ => rfl
  have c1 : decide (2 * ds.length < 18446744073709551616) = false := decide_eq_false (by omega)
  unfold merkle_from_digests_ok
  simp only [he, Bool.false_eq_true, if_false, isPow2_decide, hp, Bool.not_true, c1, Bool.false_and]
example (ds : List Nat) (h : ds.length = 2^63) : 2^63 ≤ ds.length ∧ TF.isPow2 ds.length = true :=
  ⟨Nat.le_of_eq h.symm, (TF.isPow2_iff _).2 ⟨63, h⟩⟩

/-- **TRANSFER**: `from_digests_terminates`, `from_digests_spec`, `from_digests_cutoff_independent` and
    `from_digests_schedule_independent` hold of the function *as regenerated from the current source*: (i) it finishes
    within its fuel for every cut-off (0, 1, …, larger than the tree) with no failing check; (ii) for `2^h` leafs it returns
    the Merkle tree — every inner node the hash of its children, leafs copied — which is the explicit tree
    `Spec.treeNodes`; (iii) its result does not depend on the cut-off; (iv) under every thread schedule of every parallel
    level (any permutation of the tasks) and any cut-off, the task-level model of the rayon run returns what the
    regenerated sequential reading returns -/
theorem gen_from_digests_transfer (filler : D) (ds : List D) (hlen : ds.length < 2^63) :
    (∀ cutoff, merkle_from_digests_ok H d0 filler cutoff ds = true ∧
      ∃ r, merkle_from_digests H d0 filler cutoff ds = some r) ∧
    (∀ cutoff h, ds.length = 2^h → ∃ nodes, merkle_from_digests H d0 filler cutoff ds = some (.ok nodes) ∧
      Spec.IsMerkleTree H filler ds nodes ∧ nodes = Spec.treeNodes H filler h ds) ∧
    (∀ c c', merkle_from_digests H d0 filler c ds = merkle_from_digests H d0 filler c' ds) ∧
    (∀ (scheds : Nat → List Nat), (∀ cnt, (scheds cnt).Perm (List.range cnt)) → ∀ cutoff cutoff',
      some (fromDigestsSched H scheds filler cutoff ds) = (merkle_from_digests H d0 filler cutoff' ds).map toRes) := by
  have hspec : ∀ cutoff h, ds.length = 2^h → ∃ nodes, merkle_from_digests H d0 filler cutoff ds = some (.ok nodes) ∧
      Spec.IsMerkleTree H filler ds nodes ∧ nodes = Spec.treeNodes H filler h ds := by
    intro cutoff h hn
    obtain ⟨t, h1, h2, h3⟩ := from_digests_spec H filler cutoff hn
    have hg := (gen_from_digests_eq_model H d0 filler cutoff ds hlen).2.2
    rw [h1] at hg
    cases hr : merkle_from_digests H d0 filler cutoff ds with
    | none => rw [hr] at hg; cases hg
    | some r =>
      rw [hr] at hg
      cases r with
      | error e =>
        exfalso
        simp only [Option.map_some, toRes, Option.some.injEq] at hg
        split at hg <;> cases hg
      | ok nodes =>
        simp only [Option.map_some, toRes, Option.some.injEq, Res.ok.injEq] at hg
        subst hg
        exact ⟨nodes, rfl, h2, h3⟩
  refine ⟨fun cutoff => ?_, hspec, fun c c' => ?_, fun scheds hs cutoff cutoff' => ?_⟩
  · obtain ⟨h1, _, h3⟩ := gen_from_digests_eq_model H d0 filler cutoff ds hlen
    refine ⟨h1, ?_⟩
    cases hr : merkle_from_digests H d0 filler cutoff ds with
    | none => rw [hr] at h3; cases h3
    | some r => exact ⟨r, rfl⟩
  · by_cases he : ds = []
    · subst he; rfl
    · cases hp : TF.isPow2 ds.length
      · rw [(gen_not_pow2 H d0 filler c he hp).1, (gen_not_pow2 H d0 filler c' he hp).1]
      · obtain ⟨h, hn⟩ := (TF.isPow2_iff _).1 hp
        obtain ⟨n1, e1, _, t1⟩ := hspec c h hn
        obtain ⟨n2, e2, _, t2⟩ := hspec c' h hn
        rw [e1, e2, t1, t2]
  · rw [(gen_from_digests_eq_model H d0 filler cutoff' ds hlen).2.2,
      from_digests_schedule_independent H scheds hs filler cutoff cutoff' ds]

/-- non-vacuity: eight leafs, two parallel levels then the sequential loop (cut-off 2), all sequential (cut-off 2^30),
    all parallel (cut-off 0), and a round-robin schedule on three threads -/
example : (merkle_from_digests Hx 7 0 2 [1, 2, 3, 4, 5, 6, 7, 8]).map toRes
      = some (.ok ⟨[0, 2825, 193, 449, 14, 30, 46, 62, 1, 2, 3, 4, 5, 6, 7, 8]⟩) ∧
    (merkle_from_digests Hx 7 0 (2^30) [1, 2, 3, 4, 5, 6, 7, 8]).map toRes
      = (merkle_from_digests Hx 7 0 0 [1, 2, 3, 4, 5, 6, 7, 8]).map toRes ∧
    merkle_from_digests_ok Hx 7 0 0 [1, 2, 3, 4, 5, 6, 7, 8] = true ∧
    some (fromDigestsSched Hx (roundRobin 3) 0 0 [1, 2, 3, 4, 5, 6, 7, 8])
      = (merkle_from_digests Hx 7 0 2 [1, 2, 3, 4, 5, 6, 7, 8]).map toRes := by decide +kernel

end GenBridge

end TF.C10
