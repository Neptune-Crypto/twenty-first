import TF.Proofs.BField
import TF.Proofs.BFieldModel
import TF.Proofs.BFieldZMod
import TF.Proofs.XField
import TF.Proofs.Shah
import TF.Proofs.XFieldInv
import TF.Proofs.BFieldMore
import TF.Proofs.XFieldMore
import TF.Proofs.XFieldK
import TF.Proofs.XFieldCyc
import TF.Proofs.GenBridgeBField
import TF.Proofs.GenBridgePacc
import TF.Proofs.GenBridgeField
import TF.Proofs.GenBridgeBFieldOk
/-!
# C01 — base and extension field arithmetic is exact and canonical

Property theorems with a non-vacuity `example` after each (helper lemmas live in `TF/Proofs`).  The word-level definitions `montyred`, `bfe_new`,
`bfe_value`, `bfe_add`, `bfe_sub`, `bfe_mul`, `mod_reduce` are **regenerated from `b_field_element.rs`** on every run
(`TF/Gen/BField.lean`), so these theorems are re-checked against what the source says now.

Notation: a field element is represented by its raw Montgomery word `r`; `canon r := r < P`;
its value is `bfe_value r` (the translated `canonical_representation`).
-/
namespace TF.C01
open TF.Gen TF.BF TF.Model TF.Spec

/-- Montgomery reduction is exact on its whole domain `x < P·2^64` (all products of canonical words):
    canonical result, `montyred x · 2^64 ≡ x (mod P)`, and no arithmetic overflow anywhere. -/
theorem montyred_exact (x : Nat) (hx : x < P * 2^64) :
    montyred x < P ∧ (montyred x * 2^64) % P = x % P ∧ montyred_ok x = true :=
  ⟨(montyred_spec x hx).1, (montyred_spec x hx).2, montyred_ok_true x⟩
example : (18446744069414584320 * 18446744069414584320 : Nat) < P * 2^64 := by decide

/-- `BFieldElement::new` on every `u64`: canonical word, value `v mod P`, no overflow. -/
theorem new_exact (v : Nat) (hv : v < 2^64) :
    bfe_new v < P ∧ bfe_value (bfe_new v) = v % P ∧ bfe_new_ok v = true :=
  ⟨(new_spec v hv).1, (new_spec v hv).2, new_ok v hv⟩
example : (18446744073709551615 : Nat) < 2^64 := by decide

/-- the reported value of every canonical word is canonical -/
theorem value_canonical (r : Nat) (hr : r < P) : bfe_value r < P ∧ bfe_value_ok r = true :=
  ⟨value_lt r (Nat.lt_trans hr Pn_lt_W), value_ok r⟩

/-- `value ∘ new = id` on canonical values and `new ∘ value = id` on canonical words:
    the value-level API is a bijection between `[0,P)` and canonical words -/
theorem value_new_roundtrip (v : Nat) (hv : v < P) : bfe_value (bfe_new v) = v := value_new v hv
theorem new_value_roundtrip (r : Nat) (hr : r < P) : bfe_new (bfe_value r) = r := new_value r hr

/-- exactly one internal representation per field element: derived `Eq`/`Hash` on the raw word coincide with
    equality of values -/
theorem representation_unique (a b : Nat) (ha : a < P) (hb : b < P) : bfe_value a = bfe_value b ↔ a = b :=
  ⟨repr_unique a b ha hb, fun h => by rw [h]⟩

/-- addition of canonical elements: canonical, value is the sum mod `P`, no overflow -/
theorem add_exact (a b : Nat) (ha : a < P) (hb : b < P) :
    bfe_add a b < P ∧ bfe_value (bfe_add a b) = (bfe_value a + bfe_value b) % P ∧ bfe_add_ok a b = true :=
  ⟨(add_spec a b ha hb).1, (add_spec a b ha hb).2, add_ok a b (Nat.le_of_lt hb)⟩

/-- subtraction of canonical elements: canonical, `value (a-b) + value b ≡ value a`, no overflow -/
theorem sub_exact (a b : Nat) (ha : a < P) (hb : b < P) :
    bfe_sub a b < P ∧ (bfe_value (bfe_sub a b) + bfe_value b) % P = bfe_value a ∧ bfe_sub_ok a b = true :=
  ⟨(sub_spec a b ha hb).1, (sub_spec a b ha hb).2, sub_ok a b⟩

/-- multiplication of canonical elements: canonical, value is the product mod `P`, no overflow -/
theorem mul_exact (a b : Nat) (ha : a < P) (hb : b < P) :
    bfe_mul a b < P ∧ bfe_value (bfe_mul a b) = (bfe_value a * bfe_value b) % P ∧ bfe_mul_ok a b = true :=
  ⟨(mul_spec a b ha hb).1, (mul_spec a b ha hb).2, mul_ok a b ha hb⟩
example : (18446744069414584320 : Nat) < P := by decide

/-- `From<u128>`: every 128-bit input is reduced exactly (`mod_reduce` then `new`), without overflow -/
theorem from_u128_exact (x : Nat) (hx : x < 2^128) :
    BF.fromU128 x < P ∧ bfe_value (BF.fromU128 x) = x % P ∧ mod_reduce_ok x = true :=
  have h := fromU128_spec x (show x < W * W from hx)
  ⟨h.1, h.2, mod_reduce_ok_true x⟩
example : (340282366920938463463374607431768211455 : Nat) < 2^128 := by decide

/-- `From<i64>` (and through it `From<i8/i16/i32/isize>`): every signed input is mapped to its residue mod `P` -/
theorem from_i64_exact (v : Int) (h1 : -(2:Int)^63 ≤ v) (h2 : v < (2:Int)^63) :
    BF.fromI64 v < P ∧ ((bfe_value (BF.fromI64 v) : Nat) : Int) = v % (18446744069414584321 : Int) :=
  fromI64_spec v h1 h2
example : -(2:Int)^63 ≤ -9223372036854775808 ∧ (-9223372036854775808 : Int) < (2:Int)^63 := by decide

/-- `From<BFieldElement> for i64`: the representative in `[-2^63, 2^63)`... of the value: it is congruent to the value and
    in the `i64` range (values above `i64::MAX` are mapped to `value - P`) -/
theorem to_i64_exact (a : Nat) (ha : a < P) :
    -(2:Int)^63 ≤ BF.toI64 a ∧ BF.toI64 a < (2:Int)^63 ∧ (BF.toI64 a) % (18446744069414584321 : Int) = (bfe_value a : Int) :=
  toI64_spec a ha

/-- `TryFrom<BFieldElement>` for `u8/u16/u32/usize` (`bits` = 8/16/32/64) and `i8/i16/i32/isize`: succeeds exactly when
    the canonical value fits, and then returns it -/
theorem try_into_exact (bits : Nat) (a : Nat) :
    (BF.tryIntoU bits a = some (bfe_value a) ↔ bfe_value a < 2^bits) ∧
    (BF.tryIntoU bits a = none ↔ ¬ bfe_value a < 2^bits) ∧
    (BF.tryIntoI bits a = some (bfe_value a) ↔ bfe_value a < 2^(bits-1)) ∧
    (BF.tryIntoI bits a = none ↔ ¬ bfe_value a < 2^(bits-1)) :=
  ⟨(ite_some_iff _ _).1, (ite_some_iff _ _).2, (ite_some_iff _ _).1, (ite_some_iff _ _).2⟩

/-- the raw-word operations are the field operations of `ZMod P` under the bijection `toF` between canonical words
    and `ZMod P` (so every generic algorithm of the library that reaches the base field only through its operators
    computes in the field `ZMod P`) -/
theorem field_iso (a b : Nat) (ha : a < P) (hb : b < P) :
    toF (bfe_add a b) = toF a + toF b ∧ toF (bfe_sub a b) = toF a - toF b ∧
    toF (bfe_mul a b) = toF a * toF b ∧ toF (BF.neg a) = - toF a ∧
    (toF a = toF b ↔ a = b) :=
  ⟨toF_add a b ha hb, toF_sub a b ha hb, toF_mul a b ha hb, toF_neg a ha,
   ⟨toF_inj a b ha hb, fun h => by rw [h]⟩⟩

/-- `mod_pow` (every `u64` exponent — in fact every exponent) is the repeated product -/
theorem mod_pow_exact (a : Nat) (ha : a < P) (e : Nat) :
    BF.modPow a e < P ∧ bfe_value (BF.modPow a e) = (bfe_value a) ^ e % P := modPow_value a ha e

/-- `inverse`: for every non-zero element, the unique multiplicative inverse (canonical); panics exactly on zero -/
theorem inverse_exact (x : Nat) (hx : x < P) :
    (x = BF.zero → BF.inverse x = none) ∧
    (x ≠ BF.zero → ∃ r, BF.inverse x = some r ∧ r < P ∧ (bfe_value r * bfe_value x) % P = 1 ∧
        ∀ y, y < P → (y * bfe_value x) % P = 1 → y = bfe_value r) := by
  refine ⟨fun h => h ▸ inverse_zero, fun hnz => ?_⟩
  obtain ⟨r, hr, hc, hm⟩ := inverse_spec x hx hnz
  refine ⟨r, hr, hc, hm, fun y hy h => ?_⟩
  exact inverse_unique (bfe_value x) y (bfe_value r) hy (value_lt r (Nat.lt_trans hc Pn_lt_W)) h hm
example : (1 : Nat) < P ∧ (1 : Nat) ≠ BF.zero := by decide

/-- `inverse_or_zero` -/
theorem inverse_or_zero_exact (x : Nat) (hx : x < P) :
    (x = BF.zero → BF.inverseOrZero x = BF.zero) ∧
    (x ≠ BF.zero → (bfe_value (BF.inverseOrZero x) * bfe_value x) % P = 1) := by
  constructor
  · intro h; unfold BF.inverseOrZero; simp [h]
  · intro h
    obtain ⟨r, hr, _, hm⟩ := inverse_spec x hx h
    have h0 : (x == BF.zero) = false := by simpa using h
    unfold BF.inverseOrZero
    simp only [h0, hr, Option.getD_some, Bool.false_eq_true, if_false]
    exact hm

/-- `Div`: `a / b = a · b⁻¹`, panics exactly for `b = 0` -/
theorem div_exact (a b : Nat) (ha : a < P) (hb : b < P) :
    (b = BF.zero → BF.div a b = none) ∧
    (b ≠ BF.zero → ∃ r, BF.div a b = some r ∧ r < P ∧ toF r * toF b = toF a) := by
  constructor
  · intro h; unfold BF.div; rw [h, inverse_zero]; rfl
  · intro h
    obtain ⟨bi, hbi, hc, hv⟩ := toF_inverse b hb h
    refine ⟨bfe_mul bi a, by unfold BF.div; rw [hbi]; rfl, canon_mul _ _ hc ha, ?_⟩
    rw [toF_mul _ _ hc ha, hv]
    have : toF b ≠ 0 := fun h0 => h ((toF_eq_zero b hb).1 h0)
    field_simp

/-- **batch inversion**: any vector of non-zero elements is mapped to the vector of inverses (canonical words);
    a vector containing zero panics; the empty vector is returned unchanged -/
theorem batch_inversion_exact (xs : List Nat) :
    ((∀ x ∈ xs, x < P ∧ x ≠ BF.zero) →
      ∃ rs, BF.batchInversion xs = some rs ∧ (∀ r ∈ rs, r < P) ∧ rs.map toF = xs.map (fun x => (toF x)⁻¹)) ∧
    (BF.zero ∈ xs → BF.batchInversion xs = none) :=
  ⟨batchInversion_spec xs, batchInversion_zero xs⟩
example : ∀ x ∈ [BF.one, bfe_new 5], x < P ∧ x ≠ BF.zero := by decide

/-- extension field: the product of two elements with canonical coefficients has canonical coefficients and is the
    polynomial product modulo `X³ − X + 1` (ring identity in an arbitrary point `t`, explicit quotient) -/
theorem xfe_mul_exact (x y : XF.X3) (hx : TF.XFp.canon3 x) (hy : TF.XFp.canon3 y) (t : Fp) :
    TF.XFp.canon3 (XF.mul x y) ∧
    TF.XFp.ev t x * TF.XFp.ev t y = TF.XFp.ev t (XF.mul x y)
      + (t^3 - t + 1) * ((toF x.2.2 * toF y.2.1 + toF x.2.1 * toF y.2.2) + toF x.2.2 * toF y.2.2 * t) :=
  ⟨(TF.XFp.mul_coeffs x y hx hy).1, TF.XFp.mul_is_product_mod_shah x y hx hy t⟩

/-- extension field addition and subtraction are coefficient-wise -/
theorem xfe_add_sub_exact (x y : XF.X3) (hx : TF.XFp.canon3 x) (hy : TF.XFp.canon3 y) (t : Fp) :
    (TF.XFp.canon3 (XF.add x y) ∧ TF.XFp.ev t (XF.add x y) = TF.XFp.ev t x + TF.XFp.ev t y) ∧
    (TF.XFp.canon3 (XF.sub x y) ∧ TF.XFp.ev t (XF.sub x y) = TF.XFp.ev t x - TF.XFp.ev t y) :=
  ⟨TF.XFp.ev_add x y hx hy t, TF.XFp.ev_sub x y hx hy t⟩

/-- `X³ − X + 1` has no root in `F_p`, hence is irreducible: the extension is a **field** -/
theorem shah_polynomial_irreducible :
    Irreducible (Polynomial.X^3 - Polynomial.X + 1 : Polynomial (ZMod 18446744069414584321)) :=
  TF.Shah.shah_irreducible

/-- extension field: every non-zero element (canonical triple) has exactly one multiplicative inverse with respect to
    the product of the specification `TF.Spec.xmul` (the product formula of `XFieldElement::mul` on values) -/
theorem xfe_inverse_exists_unique (x : TF.Spec.X3) (hx : TF.Shah.canon3 x) (hnz : x ≠ TF.Spec.xzero) :
    (∃ y, TF.Shah.canon3 y ∧ TF.Spec.xmul x y = TF.Spec.xone) ∧
    (∀ y₁ y₂, TF.Shah.canon3 y₁ → TF.Shah.canon3 y₂ → TF.Spec.xmul x y₁ = TF.Spec.xone →
      TF.Spec.xmul x y₂ = TF.Spec.xone → y₁ = y₂) :=
  ⟨TF.Shah.spec_inverse_exists x hx hnz, fun y₁ y₂ h₁ h₂ e₁ e₂ => TF.Shah.spec_inverse_unique x y₁ y₂ hx hnz h₁ h₂ e₁ e₂⟩
example : TF.Shah.canon3 (1, 2, 3) ∧ ((1, 2, 3) : TF.Spec.X3) ≠ TF.Spec.xzero := by
  refine ⟨⟨by decide, by decide, by decide⟩, by decide⟩

/-- **`XFieldElement::inverse` returns the unique inverse** — on triples of canonical values.  The model
    `TF.Model.XFInv.xfeInverse` follows the Rust code: `[c0,c1,c2]` as a polynomial, `Polynomial::xgcd` with the shah
    polynomial `X³ − X + 1` (the C09 model), the Bézout coefficient reduced by `naive_divide` modulo the shah polynomial,
    the remainder zero-padded to three coefficients.  For every non-zero input it does not panic, the result is
    canonical, it is a two-sided inverse for the specification product, and it is the only one; for zero it panics. -/
theorem xfe_inverse_exact (x : TF.Spec.X3) (hx : TF.Shah.canon3 x) :
    (x = TF.Spec.xzero → TF.Model.XFInv.xfeInverse x = none) ∧
    (x ≠ TF.Spec.xzero → ∃ r, TF.Model.XFInv.xfeInverse x = some r ∧ TF.Shah.canon3 r ∧
        TF.Spec.xmul r x = TF.Spec.xone ∧ TF.Spec.xmul x r = TF.Spec.xone ∧
        ∀ y, TF.Shah.canon3 y → TF.Spec.xmul x y = TF.Spec.xone → y = r) := by
  refine ⟨fun h => (TF.XFInvProofs.xfeInverse_none_iff x hx).2 h, fun hnz => ?_⟩
  obtain ⟨r, h1, h2, h3, h4⟩ := TF.XFInvProofs.xfeInverse_spec x hx hnz
  exact ⟨r, h1, h2, h3, h4, fun y hy e => TF.Shah.spec_inverse_unique x y r hx hnz hy h2 e h4⟩
example : TF.Shah.canon3 (1, 2, 3) ∧ ((1, 2, 3) : TF.Spec.X3) ≠ TF.Spec.xzero ∧
    (TF.Model.XFInv.xfeInverse (1, 2, 3)).map (fun r => TF.Spec.xmul r (1, 2, 3)) = some TF.Spec.xone := by
  refine ⟨⟨by decide, by decide, by decide⟩, by decide, by decide +kernel⟩

/-- the same on **raw Montgomery words** (`TF.Model.XF.inverse` = `bfe_value` ∘ model ∘ `bfe_new`, what the driver
    runs against the crate), for the word-level product `XF.mul` (the three result expressions of the Rust `Mul`):
    panics exactly on zero; otherwise canonical words `r` with `r·x = x·r = 1`, unique -/
theorem xfe_inverse_words_exact (x : XF.X3) (hx : TF.XFp.canon3 x) :
    (XF.inverse x = none ↔ x = XF.zero) ∧
    (x ≠ XF.zero → ∃ r, XF.inverse x = some r ∧ TF.XFp.canon3 r ∧ XF.mul r x = XF.one ∧ XF.mul x r = XF.one ∧
        ∀ y, TF.XFp.canon3 y → XF.mul y x = XF.one → y = r) :=
  ⟨TF.XFInvProofs.inverse_none_iff x hx, TF.XFInvProofs.inverse_spec x hx⟩
example : TF.XFp.canon3 XF.one ∧ XF.one ≠ XF.zero := ⟨TF.XFInvProofs.canon3_one, by decide⟩

/-- `inverse_or_zero` on the extension field: zero for zero, `inverse()` otherwise; never panics -/
theorem xfe_inverse_or_zero_exact (x : XF.X3) (hx : TF.XFp.canon3 x) :
    (x = XF.zero → XF.inverseOrZero x = some XF.zero) ∧
    (x ≠ XF.zero → ∃ r, XF.inverseOrZero x = some r ∧ XF.inverse x = some r ∧ TF.XFp.canon3 r ∧
        XF.mul r x = XF.one) := by
  refine ⟨(TF.XFInvProofs.inverseOrZero_spec x).1, fun hnz => ?_⟩
  obtain ⟨r, h1, h2, h3, _⟩ := TF.XFInvProofs.inverse_spec x hx hnz
  exact ⟨r, ((TF.XFInvProofs.inverseOrZero_spec x).2 hnz).trans h1, h1, h2, h3⟩
example : TF.XFp.canon3 XF.zero ∧ XF.inverseOrZero XF.zero = some XF.zero := ⟨TF.XFInvProofs.canon3_zero, rfl⟩

/-- `Div` on the extension field: `a / b = a · b⁻¹` (canonical) and `(a / b) · b = a`; panics exactly for `b = 0` -/
theorem xfe_div_exact (a b : XF.X3) (ha : TF.XFp.canon3 a) (hb : TF.XFp.canon3 b) :
    (b = XF.zero → XF.div a b = none) ∧
    (b ≠ XF.zero → ∃ bi r, XF.inverse b = some bi ∧ XF.div a b = some r ∧ r = XF.mul a bi ∧ TF.XFp.canon3 r ∧
        XF.mul r b = a) :=
  TF.XFInvProofs.div_spec a b ha hb
example : TF.XFp.canon3 XF.one ∧ XF.one ≠ XF.zero := ⟨TF.XFInvProofs.canon3_one, by decide⟩

/-! ## The rest of the public surface of `b_field_element.rs`, `x_field_element.rs`, `traits.rs`

The one-liners `bfe_increment`, `bfe_decrement`, `bfe_add_assign`, `bfe_sub_assign`, `bfe_mul_assign`, `bfe_neg`, `bfe_square`,
`bfe_generator`, `bfe_zero/one`, `bfe_is_zero/is_one`, `bfe_is_canonical`, `bfe_raw_u64/u128`, `bfe_from_raw_u64`,
`bfe_raw_u16s`, `bfe_from_raw_u16s`, `bfe_raw_bytes`, `bfe_from_raw_bytes` are **regenerated from the source** on every
run (`TF/Gen/BField.lean`); the loops are modelled in `TF/Model/BFieldMore.lean`. -/

/-- `increment` / `decrement`: `+1` / `-1` modulo `P`, canonical, no overflow -/
theorem increment_decrement_exact (a : Nat) (ha : a < P) :
    (bfe_increment a < P ∧ bfe_value (bfe_increment a) = (bfe_value a + 1) % P ∧ bfe_increment_ok a = true) ∧
    (bfe_decrement a < P ∧ (bfe_value (bfe_decrement a) + 1) % P = bfe_value a ∧ bfe_decrement_ok a = true) := by
  have h1 := add_spec a BF.one ha canon_one
  have h2 := sub_spec a BF.one ha canon_one
  rw [val_one] at h1 h2
  exact ⟨⟨h1.1, h1.2, add_ok a BF.one (Nat.le_of_lt canon_one)⟩, ⟨h2.1, h2.2, sub_ok a BF.one⟩⟩
example : bfe_value (bfe_increment (bfe_new 18446744069414584320)) = 0 ∧
    bfe_value (bfe_decrement (bfe_new 0)) = 18446744069414584320 := by decide

/-- the assign operators `+=`, `-=`, `*=` are the binary operators (so `add_exact`, `sub_exact`, `mul_exact` apply);
    `Neg` is `0 - a`; `FiniteField::square` is `a * a` -/
theorem assign_ops_exact (a b : Nat) :
    bfe_add_assign a b = bfe_add a b ∧ bfe_sub_assign a b = bfe_sub a b ∧ bfe_mul_assign a b = bfe_mul a b ∧
    bfe_add_assign_ok a b = bfe_add_ok a b ∧ bfe_sub_assign_ok a b = bfe_sub_ok a b ∧ bfe_mul_assign_ok a b = bfe_mul_ok a b ∧
    bfe_neg a = BF.neg a ∧ bfe_square a = bfe_mul a a :=
  ⟨rfl, rfl, rfl, rfl, rfl, rfl, rfl, rfl⟩

/-- `Neg` and `square` on canonical elements: canonical, `(-a) + a = 0`, `square a = a²` -/
theorem neg_square_exact (a : Nat) (ha : a < P) :
    (bfe_neg a < P ∧ toF (bfe_neg a) = - toF a ∧ bfe_neg_ok a = true) ∧
    (bfe_square a < P ∧ toF (bfe_square a) = toF a ^ 2 ∧ bfe_square_ok a = true) :=
  ⟨⟨canon_neg a ha, toF_neg a ha, sub_ok _ a⟩,
   ⟨canon_mul a a ha ha, by rw [show bfe_square a = bfe_mul a a from rfl, toF_mul a a ha ha, pow_two], mul_ok a a ha ha⟩⟩
example : bfe_value (bfe_neg (bfe_new 1)) = 18446744069414584320 := by decide

/-- `raw_u16s` / `from_raw_u16s`: the four little-endian 16-bit chunks of the raw word; mutually inverse on all
    64-bit words and all chunk arrays -/
theorem raw_u16s_roundtrip :
    (∀ a, a < 2^64 → bfe_raw_u16s a = [a % 65536, a / 65536 % 65536, a / 4294967296 % 65536, a / 281474976710656 % 65536] ∧
      BF.fromRawU16s (bfe_raw_u16s a) = some a) ∧
    (∀ c0 c1 c2 c3, c0 < 65536 → c1 < 65536 → c2 < 65536 → c3 < 65536 →
      bfe_from_raw_u16s c0 c1 c2 c3 = c0 + 65536 * c1 + 4294967296 * c2 + 281474976710656 * c3 ∧
      bfe_raw_u16s (bfe_from_raw_u16s c0 c1 c2 c3) = [c0, c1, c2, c3]) := by
  constructor
  · intro a ha
    have hm (x : Nat) : x % 65536 < 65536 := Nat.mod_lt _ (by decide)
    refine ⟨(raw_u16s_eq a).trans (digits_four 65536 a), ?_⟩
    rw [raw_u16s_eq, digits_four, fromRawU16s_eq, from_raw_u16s_eq _ _ _ _ (hm _) (hm _) (hm _) (hm _), ← digits_four,
      ofDigits_digits, Nat.mod_eq_of_lt (show a < 65536 ^ 4 from ha)]
  · intro c0 c1 c2 c3 h0 h1 h2 h3
    have hd := digits_ofDigits (B := 65536) [c0, c1, c2, c3] (by
      simp only [List.forall_mem_cons, List.not_mem_nil, false_imp_iff, implies_true, and_true]
      exact ⟨h0, h1, h2, h3⟩)
    rw [from_raw_u16s_eq c0 c1 c2 c3 h0 h1 h2 h3, raw_u16s_eq]
    exact ⟨by simp only [ofDigits]; omega, hd.1⟩
example : bfe_raw_u16s 18446744069414584320 = [0, 0, 65535, 65535] := by decide

/-- `raw_bytes` / `from_raw_bytes`: the eight little-endian bytes of the raw word; mutually inverse on all 64-bit words
    and all byte arrays -/
theorem raw_bytes_roundtrip :
    (∀ a, a < 2^64 → BF.fromRawBytes (bfe_raw_bytes a) = some a ∧ ∀ b ∈ bfe_raw_bytes a, b < 256) ∧
    (∀ b0 b1 b2 b3 b4 b5 b6 b7, b0 < 256 → b1 < 256 → b2 < 256 → b3 < 256 → b4 < 256 → b5 < 256 → b6 < 256 → b7 < 256 →
      bfe_from_raw_bytes b0 b1 b2 b3 b4 b5 b6 b7 < 2^64 ∧
      bfe_raw_bytes (bfe_from_raw_bytes b0 b1 b2 b3 b4 b5 b6 b7) = [b0, b1, b2, b3, b4, b5, b6, b7]) := by
  constructor
  · intro a ha
    refine ⟨?_, raw_bytes_eq a ▸ digits_lt (by decide) 8 a⟩
    rw [raw_bytes_eq, digits_eight, fromRawBytes_eq, from_raw_bytes_eq, ← digits_eight, ofDigits_digits,
      Nat.mod_eq_of_lt (show a < 256 ^ 8 from ha)]
  · intro b0 b1 b2 b3 b4 b5 b6 b7 h0 h1 h2 h3 h4 h5 h6 h7
    have hd := digits_ofDigits (B := 256) [b0, b1, b2, b3, b4, b5, b6, b7] (by
      simp only [List.forall_mem_cons, List.not_mem_nil, false_imp_iff, implies_true, and_true]
      exact ⟨h0, h1, h2, h3, h4, h5, h6, h7⟩)
    rw [from_raw_bytes_eq, raw_bytes_eq]
    exact ⟨show _ < 256 ^ 8 from hd.2, hd.1⟩
example : bfe_raw_bytes 18446744069414584320 = [0, 0, 0, 0, 255, 255, 255, 255] := by decide

/-- **raw constructors and canonicity, stated honestly.**  `from_raw_u64` (and with it `from_raw_u16s`, `from_raw_bytes`)
    stores any 64-bit word.  `is_canonical w ↔ w < P`.  A canonical word is the word `new` would have produced for its
    value, so it is an element "obtained through the value-level API"; a non-canonical word `P ≤ w < 2^64` still has a
    canonical *value* (`w · 2^-64 mod P`) but is **not** the representation `new` chooses for it. -/
theorem raw_constructors_canonicity (w : Nat) (hw : w < 2^64) :
    bfe_from_raw_u64 w = w ∧ bfe_raw_u64 w = w ∧ bfe_raw_u128 w = w ∧
    (bfe_is_canonical w = true ↔ w < P) ∧
    bfe_value w < P ∧ (bfe_value w * 2^64) % P = w % P ∧
    (w < P → bfe_new (bfe_value w) = w) ∧
    (P ≤ w → bfe_new (bfe_value w) ≠ w) := by
  have hv := value_lt w hw
  refine ⟨rfl, rfl, rfl, by unfold bfe_is_canonical; simp [P], hv, ?_, new_value w, ?_⟩
  · unfold bfe_value; exact (montyred_spec w (by unfold Pn W at *; omega)).2
  · intro hge heq
    have := (new_spec (bfe_value w) (Nat.lt_trans hv Pn_lt_W)).1
    rw [heq] at this
    unfold canon Pn at this; unfold P at hge; omega
example : (18446744069414584321 : Nat) < 2^64 ∧ P ≤ 18446744069414584321 := by decide

/-- the concrete witness for what a non-canonical raw word does: the words `P` and `0` both have value `0` but are
    different words, so derived `Eq`/`Hash` separate two representations of the same field element; and adding a word
    above `P` on the right overflows (`Self::P - rhs.0` underflows: a panic in debug builds) -/
theorem noncanonical_raw_word_witness :
    bfe_value (bfe_from_raw_u64 18446744069414584321) = bfe_value (bfe_from_raw_u64 0) ∧
    bfe_from_raw_u64 18446744069414584321 ≠ bfe_from_raw_u64 0 ∧
    BF.fromRawU16s [1, 0, 65535, 65535] = some 18446744069414584321 ∧
    BF.fromRawBytes [1, 0, 0, 0, 255, 255, 255, 255] = some 18446744069414584321 ∧
    bfe_is_canonical 18446744069414584321 = false ∧
    bfe_add_ok 0 18446744069414584322 = false := by decide

/-- constants: `ZERO`/`zero()`/`Default` are the word 0 with value 0, `ONE`/`one()` has value 1, `generator()` is 7,
    `MINUS_TWO_INVERSE · 2 = -1`, `MAX = P - 1`, `P = 2^64 - 2^32 + 1`; all canonical -/
theorem constants_exact :
    bfe_ZERO = 0 ∧ bfe_zero = bfe_ZERO ∧ BF.default = bfe_ZERO ∧ bfe_value bfe_ZERO = 0 ∧
    bfe_ONE < P ∧ bfe_one = bfe_ONE ∧ bfe_value bfe_ONE = 1 ∧
    bfe_generator < P ∧ bfe_value bfe_generator = 7 ∧ bfe_generator_ok = true ∧
    bfe_new MINUS_TWO_INVERSE < P ∧ (2 * bfe_value (bfe_new MINUS_TWO_INVERSE) + 1) % P = 0 ∧
    P = 2^64 - 2^32 + 1 ∧ BFE_BYTES = 8 := by decide

/-- `generator()` generates the whole multiplicative group: its order is `P - 1` -/
theorem generator_exact : orderOf (toF bfe_generator) = P - 1 := by
  rw [toF_generator]; exact orderOf_seven

/-- `is_zero` / `is_one` on canonical elements decide `value = 0` / `value = 1` -/
theorem is_zero_is_one_exact (a : Nat) (ha : a < P) :
    (bfe_is_zero a = true ↔ bfe_value a = 0) ∧ (bfe_is_one a = true ↔ bfe_value a = 1) := by
  constructor
  · rw [show bfe_is_zero a = (a == BF.zero) from rfl, beq_iff_eq]
    exact ⟨fun h => h ▸ val_zero, fun h => repr_unique a _ ha canon_zero (h.trans val_zero.symm)⟩
  · rw [show bfe_is_one a = (a == BF.one) from rfl, beq_iff_eq]
    exact ⟨fun h => h ▸ val_one, fun h => repr_unique a _ ha canon_one (h.trans val_one.symm)⟩
example : bfe_is_one (bfe_new 1) = true ∧ bfe_is_zero (bfe_new 1) = false := by decide

/-- `mod_pow_u32` / `mod_pow_u64` are `mod_pow`, i.e. the repeated product, for every exponent -/
theorem mod_pow_u32_u64_exact (a : Nat) (ha : a < P) (e : Nat) :
    BF.modPowU32 a e = BF.modPow a e ∧ BF.modPowU64 a e = BF.modPow a e ∧
    BF.modPowU32 a e < P ∧ bfe_value (BF.modPowU32 a e) = (bfe_value a) ^ e % P :=
  ⟨rfl, rfl, (modPow_value a ha e).1, (modPow_value a ha e).2⟩

/-- `From<u8/u16/u32/u64/usize>` is `new` (canonical, value `v mod P`); `From<BFieldElement> for u64/u128/i128` is the
    canonical value -/
theorem from_to_uint_exact (v : Nat) (hv : v < 2^64) (a : Nat) (ha : a < P) :
    BF.fromU64 v < P ∧ bfe_value (BF.fromU64 v) = v % P ∧ BF.toU64 a = bfe_value a ∧ BF.toU64 a < P ∧
    BF.fromU64 (BF.toU64 a) = a :=
  ⟨(new_spec v hv).1, (new_spec v hv).2, rfl, value_lt a (Nat.lt_trans ha Pn_lt_W), new_value a ha⟩

/-- `Sum`: the sum of the values (zero for the empty iterator), canonical -/
theorem sum_exact (xs : List Nat) (h : ∀ x ∈ xs, x < P) :
    BF.sum xs < P ∧ toF (BF.sum xs) = (xs.map toF).sum := sum_spec xs h
example : ∀ x ∈ [bfe_new 5, bfe_new 18446744069414584320], x < P := by decide

/-- `power_accumulator::<N, M>` lane-wise: `base^(2^M) · tail`, canonical -/
theorem power_accumulator_exact (m base tail : Nat) (hb : base < P) (ht : tail < P) :
    BF.powerAccumulator m base tail < P ∧ toF (BF.powerAccumulator m base tail) = toF base ^ (2 ^ m) * toF tail :=
  powerAccumulator_spec m base tail hb ht

/-- `primitive_root_of_unity(n) = Some(w)`: `w` is the canonical word of the table entry for `n` and has multiplicative
    order exactly `n` (for `n ≥ 1`); the extension-field version is the lift of the base-field one -/
theorem primitive_root_exact (n : Nat) :
    (∀ w, BF.primitiveRoot n = some w →
      ∃ r, (n, r) ∈ PRIMITIVE_ROOTS ∧ w = bfe_new r ∧ w < P ∧ (0 < n → orderOf (toF w) = n)) ∧
    XF.primitiveRoot n = (BF.primitiveRoot n).map XF.lift ∧
    (∀ x, XF.primitiveRoot n = some x → ∃ w, BF.primitiveRoot n = some w ∧ XF.unlift x = some w) := by
  refine ⟨fun w h => primitiveRoot_spec n w h, rfl, fun x h => ?_⟩
  unfold XF.primitiveRoot at h
  cases hb : BF.primitiveRoot n with
  | none => rw [hb] at h; cases h
  | some w =>
    rw [hb] at h; cases h
    exact ⟨w, rfl, by simp [XF.unlift, XF.newConst, XF.new, show bfe_ZERO = BF.zero from rfl]⟩
example : BF.primitiveRoot 4294967296 = some (bfe_new 1753635133440165772) ∧ BF.primitiveRoot 3 = none := by decide

/-- **`get_cyclic_group_elements` on the base field** (content and termination).
    * no bound, `g ≠ 0` of multiplicative order `k`: the loop ends (because `g^k = 1` — `k` exists by Fermat) after
      `max k 2 - 1` iterations and returns the canonical words of `[1, g, g², …, g^(max k 2 - 1)]`: the whole cyclic
      group generated by `g` when `k ≥ 2`; for `g = 1` the list is `[1, 1]` (the element is pushed before the test);
    * bound `m`: the first `min (max k 2) (max m 2)` powers (for `g = 0`: `max m 2` elements `1, 0, 0, …`), so a bound
      of 0 or 1 acts like 2;
    * `g = 0` without a bound: the loop never ends (no fuel suffices). -/
theorem get_cyclic_group_elements_exact (g : Nat) (hg : g < P) :
    (g ≠ BF.zero → ∀ fuel, max (orderOf (toF g)) 2 ≤ fuel + 1 →
      ∃ l, BF.cyclicGroup fuel g none = some l ∧ (∀ x ∈ l, x < P) ∧
        l.map toF = (List.range (max (orderOf (toF g)) 2)).map (fun i => toF g ^ i)) ∧
    (∀ m fuel L, L = (if g = BF.zero then max m 2 else min (max (orderOf (toF g)) 2) (max m 2)) → L ≤ fuel + 1 →
      ∃ l, BF.cyclicGroup fuel g (some m) = some l ∧ (∀ x ∈ l, x < P) ∧
        l.map toF = (List.range L).map (fun i => toF g ^ i)) ∧
    (∀ fuel, BF.cyclicGroup fuel BF.zero none = none) :=
  ⟨fun hnz fuel hf => cyclicGroup_order g hg hnz none _ fuel rfl hf,
   fun m fuel L hL hf => by
    by_cases hz : g = BF.zero
    · rw [if_pos hz] at hL; subst hz hL; exact cyclicGroup_zero.1 m fuel hf
    · rw [if_neg hz] at hL; exact cyclicGroup_order g hg hz (some m) L fuel hL hf,
   cyclicGroup_zero.2⟩
example : BF.cyclicGroup 10 (bfe_new 281474976710656) none =
      some [bfe_new 1, bfe_new 281474976710656, bfe_new 18446744069414584320, bfe_new 18446462594437873665] ∧
    BF.cyclicGroup 10 (bfe_new 1) none = some [bfe_new 1, bfe_new 1] ∧
    BF.cyclicGroup 10 0 (some 0) = some [bfe_new 1, 0] := by decide

/-! ### extension field -/

/-- the assign operators, the operators with the `BFieldElement` on the left, and `Sub` (implemented as `self + (-other)`)
    agree with the coefficient-wise operators of `xfe_add_sub_exact` / `xfe_mul_exact` on canonical elements; the mixed
    operators are the operators on the lifted base-field element -/
theorem xfe_operator_variants_exact (a b : XF.X3) (k : Nat) (ha : TF.XFp.canon3 a) (hb : TF.XFp.canon3 b) (hk : k < P) :
    XF.addAssign a b = XF.add a b ∧ XF.subAssign a b = XF.sub a b ∧ XF.mulAssign a b = XF.mul a b ∧
    XF.sub' a b = XF.sub a b ∧ XF.neg' a = XF.neg a ∧
    XF.addB' a k = XF.addB a k ∧ XF.bAdd k a = XF.addB a k ∧ XF.bMul k a = XF.mulB a k ∧
    XF.subAssignB a k = XF.subB a k ∧ XF.subB' a k = XF.subB a k ∧ XF.bSub' k a = XF.bSub k a ∧
    XF.mulAssignB a k = XF.mulB a k ∧
    XF.addB a k = XF.add a (XF.lift k) ∧ XF.subB a k = XF.sub a (XF.lift k) ∧ XF.mulB a k = XF.mul a (XF.lift k) :=
  ⟨rfl, rfl, rfl, TF.XFp.sub'_eq a b ha hb, rfl, rfl, rfl, rfl, rfl, TF.XFp.subB'_eq a k ha hk, TF.XFp.bSub'_eq k a ha hk,
   rfl, TF.XFp.addB_eq_lift a k ha, TF.XFp.subB_eq_lift a k ha, TF.XFp.mulB_eq_lift a k ha hk⟩
example : TF.XFp.canon3 XF.one ∧ BF.one < P := ⟨TF.XFInvProofs.canon3_one, canon_one⟩

/-- `new_const` = `lift`, `unlift ∘ lift = Some`, `unlift x = Some a` only for `x = lift a`; `is_zero`/`is_one` decide
    equality with the constants; `TryFrom<&[BFieldElement]>` accepts exactly slices of length 3 -/
theorem xfe_constructors_exact (a : Nat) (x : XF.X3) (l : List Nat) :
    XF.newConst a = XF.lift a ∧ XF.unlift (XF.lift a) = some a ∧ (XF.unlift x = some a → x = XF.lift a) ∧
    XF.unlift' x = XF.unlift x ∧
    (XF.isZero x = true ↔ x = XF.zero) ∧ (XF.isOne x = true ↔ x = XF.one) ∧
    (XF.tryFromSlice l = some x ↔ l = [x.1, x.2.1, x.2.2]) ∧ (XF.tryFromSlice l = none ↔ l.length ≠ 3) := by
  refine ⟨rfl, by simp [XF.unlift, XF.lift], ?_, rfl, TF.XFp.x_is_zero_iff x, TF.XFp.x_is_one_iff x, ?_, ?_⟩
  · obtain ⟨c0, c1, c2⟩ := x
    simp only [XF.unlift, XF.lift, Bool.and_eq_true, beq_iff_eq]
    intro h
    split at h
    · rename_i h'; cases h; rw [h'.1, h'.2]
    · cases h
  · obtain ⟨c0, c1, c2⟩ := x
    match l with
    | [] | [_] | [_, _] | _ :: _ :: _ :: _ :: _ => simp [XF.tryFromSlice]
    | [d0, d1, d2] => simp [XF.tryFromSlice, XF.new]
  · match l with
    | [] | [_] | [_, _] | _ :: _ :: _ :: _ :: _ => simp [XF.tryFromSlice]
    | [d0, d1, d2] => simp [XF.tryFromSlice]

/-- `XFieldElement::increment(i)` / `decrement(i)`: coefficient `i` is incremented / decremented modulo `P`, the others
    are untouched, the result is canonical; an index `≥ 3` panics -/
theorem xfe_increment_decrement_exact (x : XF.X3) (hx : TF.XFp.canon3 x) (i : Nat) (t : Fp) :
    (3 ≤ i → XF.increment x i = none ∧ XF.decrement x i = none) ∧
    (i < 3 → ∃ y z, XF.increment x i = some y ∧ XF.decrement x i = some z ∧ TF.XFp.canon3 y ∧ TF.XFp.canon3 z ∧
      TF.XFp.ev t y = TF.XFp.ev t x + t ^ i ∧ TF.XFp.ev t z = TF.XFp.ev t x - t ^ i) := by
  constructor
  · intro hi
    obtain ⟨n, rfl⟩ : ∃ n, i = n + 3 := ⟨i - 3, by omega⟩
    exact TF.XFp.increment_oob x n
  · intro hi
    exact TF.XFp.incdec_spec x hx i hi t
example : XF.increment (bfe_new 18446744069414584320, 0, 0) 0 = some (0, 0, 0) ∧ XF.increment (0, 0, 0) 3 = none := by decide

/-- `Sum` on the extension field: coefficient-wise sum (zero for the empty iterator), canonical -/
theorem xfe_sum_exact (xs : List XF.X3) (h : ∀ x ∈ xs, TF.XFp.canon3 x) (t : Fp) :
    TF.XFp.canon3 (XF.sum xs) ∧ TF.XFp.ev t (XF.sum xs) = (xs.map (TF.XFp.ev t)).sum := TF.XFp.sum_spec t xs h

/-- **`mod_pow_u64` / `mod_pow_u32` on the extension field are the repeated product**: for every `u64` exponent `e` the
    result has canonical coefficients and its value is `x · x · … · x` (`e` factors of the specification product
    `TF.Spec.xmul`, `1` for `e = 0`) -/
theorem xfe_mod_pow_exact (x : XF.X3) (hx : TF.XFp.canon3 x) (e : Nat) (he : e < 2^64) :
    TF.XFp.canon3 (XF.modPow x e) ∧ XF.toVal (XF.modPow x e) = TF.XFp.xnpow (XF.toVal x) e ∧
    XF.modPowU32 x e = XF.modPow x e :=
  ⟨(TF.XFp.modPow_spec x hx e he).1, (TF.XFp.modPow_spec x hx e he).2, rfl⟩
example : TF.XFp.xnpow (0, 1, 0) 3 = (18446744069414584320, 1, 0) := by decide

/-- **`get_cyclic_group_elements` on the extension field** (content): if iteration `N` is the first at which the loop's
    exit test holds — the next power `g^(N+2)` is one, or the bound `m ≤ N + 2` is reached — then with enough fuel the
    call returns the canonical triples of `[1, g, …, g^(N+1)]` (powers = repeated specification product).  With a bound
    the loop always ends; zero without a bound never does. -/
theorem xfe_get_cyclic_group_elements_exact (g : XF.X3) (hg : TF.XFp.canon3 g) (max : Option Nat) :
    (∀ N fuel, N < fuel →
      (TF.XFp.xnpow (XF.toVal g) (N + 2) = TF.Spec.xone ∨ ∃ m, max = some m ∧ m ≤ N + 2) →
      (∀ j, j < N → ¬ (TF.XFp.xnpow (XF.toVal g) (j + 2) = TF.Spec.xone ∨ ∃ m, max = some m ∧ m ≤ j + 2)) →
      ∃ l, XF.cyclicGroup fuel g max = some l ∧ (∀ x ∈ l, TF.XFp.canon3 x) ∧
        l.map XF.toVal = (List.range (N + 2)).map (TF.XFp.xnpow (XF.toVal g))) ∧
    (∀ fuel, XF.cyclicGroup fuel XF.zero none = none) := by
  constructor
  · intro N fuel hf hs hb
    apply TF.XFp.x_cyclicGroup_core g hg max N fuel hf
    · exact (TF.XFp.xstop_iff g hg max N).2 hs
    · intro j hj
      rw [Bool.eq_false_iff, Ne, TF.XFp.xstop_iff g hg max j]
      exact hb j hj
  · exact TF.XFp.x_cyclicGroup_zero_none
example : XF.cyclicGroup 5 (0, 0, 0) (some 3) = some [XF.one, (0, 0, 0), (0, 0, 0)] := by decide

/-- with a bound `m` the extension-field loop always ends (for every `g`, also zero) and returns between 2 and
    `max m 2` elements `[1, g, g², …]` -/
theorem xfe_get_cyclic_group_elements_bounded (g : XF.X3) (hg : TF.XFp.canon3 g) (m fuel : Nat) (hf : max m 2 ≤ fuel + 1) :
    ∃ l, XF.cyclicGroup fuel g (some m) = some l ∧ (∀ x ∈ l, TF.XFp.canon3 x) ∧ 2 ≤ l.length ∧ l.length ≤ max m 2 ∧
      l.map XF.toVal = (List.range l.length).map (TF.XFp.xnpow (XF.toVal g)) :=
  TF.XFp.x_cyclicGroup_some g hg m fuel hf
example : TF.XFp.canon3 XF.one ∧ max 0 2 ≤ 1 + 1 := ⟨TF.XFInvProofs.canon3_one, by decide⟩

/-- **`XFieldElement::get_cyclic_group_elements(None)` terminates for every non-zero element** and returns exactly the
    powers up to the order.  The extension field `K = F_p[X]/(X³ − X + 1)` is a finite field with `P³` elements
    (`TF/Proofs/XFieldK.lean`), so every non-zero `g` has a multiplicative order `k` — the least positive exponent with
    `g^k = 1` (powers = repeated specification product `TF.Spec.xmul`), and `k ∣ P³ − 1`.  Without a bound the loop ends
    after `max k 2 − 1` iterations (for every fuel `≥ max k 2 − 1`; `none` = still running) and returns the canonical
    triples of `[1, g, g², …, g^(max k 2 − 1)]`: the whole cyclic group generated by `g` when `k ≥ 2`, `[1, 1]` for
    `g = 1`.  Zero without a bound never returns (`xfe_get_cyclic_group_elements_exact`). -/
theorem xfe_get_cyclic_group_elements_unbounded_exact (g : XF.X3) (hg : TF.XFp.canon3 g) (hnz : g ≠ XF.zero) :
    ∃ k, 0 < k ∧ k ∣ P ^ 3 - 1 ∧ TF.XFp.xnpow (XF.toVal g) k = TF.Spec.xone ∧
      (∀ j, 0 < j → j < k → TF.XFp.xnpow (XF.toVal g) j ≠ TF.Spec.xone) ∧
      ∀ fuel, max k 2 ≤ fuel + 1 →
        ∃ l, XF.cyclicGroup fuel g none = some l ∧ (∀ x ∈ l, TF.XFp.canon3 x) ∧ l.length = max k 2 ∧
          l.map XF.toVal = (List.range (max k 2)).map (TF.XFp.xnpow (XF.toVal g)) :=
  TF.XK.x_cyclicGroup_none g hg hnz
example : TF.XFp.canon3 (XF.lift (bfe_new 281474976710656)) ∧ XF.lift (bfe_new 281474976710656) ≠ XF.zero ∧
    XF.cyclicGroup 10 (XF.lift (bfe_new 281474976710656)) none =
      some [XF.one, XF.lift (bfe_new 281474976710656), XF.lift (bfe_new 18446744069414584320),
        XF.lift (bfe_new 18446462594437873665)] := by
  refine ⟨⟨by unfold canon; decide, by unfold canon; decide, by unfold canon; decide⟩, by decide, by decide +kernel⟩

/-- the termination statement on its own: for every non-zero element some fuel suffices -/
theorem xfe_get_cyclic_group_elements_unbounded_terminates (g : XF.X3) (hg : TF.XFp.canon3 g) (hnz : g ≠ XF.zero) :
    ∃ fuel l, XF.cyclicGroup fuel g none = some l := by
  obtain ⟨k, _, _, _, _, h⟩ := xfe_get_cyclic_group_elements_unbounded_exact g hg hnz
  obtain ⟨l, hl, _⟩ := h (max k 2) (by omega)
  exact ⟨max k 2, l, hl⟩
example : TF.XFp.canon3 (0, BF.one, 0) ∧ ((0, BF.one, 0) : XF.X3) ≠ XF.zero :=
  ⟨⟨by unfold canon; decide, by unfold canon; decide, by unfold canon; decide⟩, by decide⟩

/-- **`FiniteField::batch_inversion` for `XFieldElement`**: any vector of non-zero elements (canonical coefficient
    words) is mapped to the vector of their inverses — same length, entry `i` is canonical, a two-sided inverse of
    `xs[i]` for the word-level product `XF.mul`, and equal to what `XFieldElement::inverse` returns on `xs[i]`;
    a vector containing zero panics; the empty vector is returned unchanged.  (The two loops are analysed for an
    arbitrary multiplicative map into a field and instantiated with the embedding of canonical triples into
    `F_p[X]/(X³ − X + 1)`, `TF/Proofs/Shah.lean`, `TF/Proofs/XFieldMore.lean`.) -/
theorem xfe_batch_inversion_exact (xs : List XF.X3) :
    ((∀ x ∈ xs, TF.XFp.canon3 x ∧ x ≠ XF.zero) →
      ∃ rs, XF.batchInversion xs = some rs ∧ rs.length = xs.length ∧
        ∀ i (h1 : i < rs.length) (h2 : i < xs.length), TF.XFp.canon3 rs[i] ∧ XF.mul rs[i] xs[i] = XF.one ∧
          XF.mul xs[i] rs[i] = XF.one ∧ XF.inverse xs[i] = some rs[i]) ∧
    (XF.zero ∈ xs → XF.batchInversion xs = none) ∧
    XF.batchInversion [] = some [] :=
  ⟨TF.XFp.x_batchInversion_spec xs, TF.XFp.x_batchInversion_zero xs, rfl⟩
example : (∀ x ∈ [XF.one, (0, BF.one, 0)], TF.XFp.canon3 x ∧ x ≠ XF.zero) ∧ XF.zero ∈ [XF.one, XF.zero] := by
  refine ⟨fun x hx => ?_, by decide⟩
  simp only [List.mem_cons, List.not_mem_nil, or_false] at hx
  rcases hx with rfl | rfl
  · exact ⟨TF.XFInvProofs.canon3_one, by decide⟩
  · exact ⟨⟨by unfold canon; decide, by unfold canon; decide, by unfold canon; decide⟩, by decide⟩

end TF.C01

/-! ## regenerated-from-source bridge

`BFieldElement::{mod_pow, mod_pow_u32, mod_pow_u64, inverse}` (with the nested `exp` of `inverse`) are **also regenerated
from `b_field_element.rs` on every run** (`TF/Gen/BFieldLoops.lean`, `TF.Gen.Loops.bfe_*`, written by
`tools/rs2lean_bfe.py`): `while` loops are fuel-indexed recursions (`none` = out of fuel), the `_ok` companion is true
iff no `assert!` fails and no plain operation overflows.  The theorems below (proofs in `TF/Proofs/GenBridgeBField.lean`)
say that the regenerated functions terminate within their fuel and return the hand model's value, for every base word
and every `u64` exponent; the `…_transfer` corollaries restate `mod_pow_exact` / `inverse_exact` for the regenerated
code.  A one-token change of one of these Rust functions changes `TF.Gen.Loops.bfe_*`; these theorems are then re-checked
or break. -/
namespace TF.C01
open TF.Gen TF.BF TF.Model

/-- regenerated `mod_pow` (the bit loop) = hand model, every base word, every `u64` exponent -/
theorem gen_mod_pow_eq_model (a e : Nat) (he : e < 2 ^ 64) : Loops.bfe_mod_pow a e = some (BF.modPow a e) :=
  TF.GenBridge.BField.gen_mod_pow_eq a e he
example : Loops.bfe_mod_pow (bfe_new 7) 18446744069414584320 = some (bfe_new 1) ∧
    Loops.bfe_mod_pow_ok (bfe_new 7) 18446744073709551615 = true ∧ Loops.bfe_mod_pow (bfe_new 7) 0 = some BF.one := by
  decide +kernel

/-- regenerated `mod_pow_u32` / `mod_pow_u64` = hand model -/
theorem gen_mod_pow_u32_u64_eq_model (a e : Nat) :
    (e < 2 ^ 32 → Loops.bfe_mod_pow_u32 a e = some (BF.modPow a e)) ∧
    (e < 2 ^ 64 → Loops.bfe_mod_pow_u64 a e = some (BF.modPow a e)) :=
  ⟨TF.GenBridge.BField.gen_mod_pow_u32_eq a e, TF.GenBridge.BField.gen_mod_pow_u64_eq a e⟩
example : Loops.bfe_mod_pow_u32 (bfe_new 2) 32 = some (bfe_new 4294967296) := by decide +kernel

/-- regenerated local `exp(base, k)` of `inverse` = `k` squarings -/
theorem gen_inverse_exp_eq_model (base k : Nat) (hk : k < 2 ^ 64) :
    Loops.bfe_inverse_exp base k = some (BF.sqN base k) :=
  TF.GenBridge.BField.gen_exp_eq base k hk
example : Loops.bfe_inverse_exp (bfe_new 2) 5 = some (bfe_new 4294967296) := by decide +kernel

/-- regenerated `inverse` (addition chain) = hand model: the same chain value for every non-zero word; on zero the hand
    model panics and the regenerated `_ok` flag is false (the `assert_ne!` fails) -/
theorem gen_inverse_eq_model (x : Nat) :
    BF.inverse x = (if x == BF.zero then none else Loops.bfe_inverse x) ∧ Loops.bfe_inverse_ok BF.zero = false :=
  ⟨TF.GenBridge.BField.gen_inverse_eq x, TF.GenBridge.BField.gen_inverse_ok_zero⟩
example : Loops.bfe_inverse (bfe_new 2) = some (bfe_new 9223372034707292161) ∧
    Loops.bfe_inverse_ok (bfe_new 2) = true := by decide +kernel

/-- **transfer**: `mod_pow_exact` and `inverse_exact` for the code as it is in the source now -/
theorem gen_mod_pow_inverse_transfer (a : Nat) (ha : a < P) :
    (∀ e, e < 2 ^ 64 → ∃ r, Loops.bfe_mod_pow a e = some r ∧ r < P ∧ bfe_value r = (bfe_value a) ^ e % P) ∧
    (a ≠ BF.zero → ∃ r, Loops.bfe_inverse a = some r ∧ r < P ∧ (bfe_value r * bfe_value a) % P = 1) := by
  refine ⟨fun e he => ⟨_, gen_mod_pow_eq_model a e he, (mod_pow_exact a ha e).1, (mod_pow_exact a ha e).2⟩, fun hnz => ?_⟩
  obtain ⟨r, hr, hc, hm, _⟩ := (inverse_exact a ha).2 hnz
  refine ⟨r, ?_, hc, hm⟩
  have h := (gen_inverse_eq_model a).1
  have hz : (a == BF.zero) = false := by simpa using hnz
  rw [hz] at h
  simpa [h] using hr
example : (bfe_new 2) < P ∧ bfe_new 2 ≠ BF.zero := by decide +kernel

end TF.C01

/-! ## regenerated `power_accumulator` and the `_ok` flags of the regenerated loops

`BFieldElement::power_accumulator::<N, M>` is regenerated too (`TF.Gen.Loops.bfe_power_accumulator`, `N` and `M` are
ordinary arguments, arrays are lists, `result[j] = …` is `List.set`).  Proofs: `TF/Proofs/GenBridgePacc.lean`,
`TF/Proofs/GenBridgeBFieldOk.lean`. -/
namespace TF.C01
open TF.Gen TF.BF TF.Model

/-- regenerated `power_accumulator::<N, M>` = hand model in every lane, for all arrays of length `N` and all
    `N, M < 2^64` (`usize` const generics): it terminates within its fuel and lane `k` is
    `BF.powerAccumulator M base[k] tail[k]` -/
theorem gen_power_accumulator_eq_model (N M : Nat) (base tail : List Nat) (hN : N < 2 ^ 64) (hM : M < 2 ^ 64)
    (hb : base.length = N) (ht : tail.length = N) :
    Loops.bfe_power_accumulator N M base tail = some (List.zipWith (BF.powerAccumulator M) base tail) :=
  TF.GenBridge.BField.gen_power_accumulator_eq N M base tail hN hM hb ht
example : Loops.bfe_power_accumulator 4 2 [bfe_new 10, bfe_new 100, bfe_new 1000, bfe_new 1]
      [bfe_new 5, bfe_new 6, bfe_new 7, bfe_new 8] =
    some [bfe_new 50000, bfe_new 600000000, bfe_new 7000000000000, bfe_new 8] := by decide +kernel

/-- **transfer**: `power_accumulator_exact` for the code as it is in the source now — on arrays of `N` canonical words
    the regenerated function returns `N` canonical words, lane `k` has the value `base[k]^(2^M) · tail[k]`, and no index
    is out of bounds and nothing overflows on the way (`_ok`) -/
theorem gen_power_accumulator_transfer (N M : Nat) (base tail : List Nat) (hN : N < 2 ^ 64) (hM : M < 2 ^ 64)
    (hb : base.length = N) (ht : tail.length = N) (hbc : ∀ x ∈ base, x < P) (htc : ∀ x ∈ tail, x < P) :
    ∃ r, Loops.bfe_power_accumulator N M base tail = some r ∧ r.length = N ∧
      (∀ k (h : k < r.length) (h1 : k < base.length) (h2 : k < tail.length),
        r[k] < P ∧ toF r[k] = toF base[k] ^ (2 ^ M) * toF tail[k]) ∧
      Loops.bfe_power_accumulator_ok N M base tail = true := by
  refine ⟨_, gen_power_accumulator_eq_model N M base tail hN hM hb ht, ?_, ?_,
    TF.GenBridge.BField.gen_power_accumulator_ok_true N M base tail hN hM hb ht hbc htc⟩
  · rw [List.length_zipWith, hb, ht, Nat.min_self]
  · intro k h h1 h2
    rw [List.getElem_zipWith]
    exact power_accumulator_exact M _ _ (hbc _ (List.getElem_mem _)) (htc _ (List.getElem_mem _))
example : Loops.bfe_power_accumulator_ok 2 3 [bfe_new 18446744069414584320, bfe_new 7] [bfe_new 2, bfe_new 0] = true ∧
    (∀ x ∈ [bfe_new 18446744069414584320, bfe_new 7], x < P) := by decide +kernel

/-- **the `_ok` flags of the regenerated loops hold on the documented domain** (canonical words, `u64` exponents): no
    `u128` product overflows, Montgomery reduction does not overflow, no shift amount is out of range, the loop counters
    stay in range (debug build = release build); the only assertion that can fail is `assert_ne!(self, zero)` of
    `inverse`, and it fails exactly on zero -/
theorem gen_loops_ok (a : Nat) (ha : a < P) :
    (∀ e, e < 2 ^ 64 → Loops.bfe_mod_pow_ok a e = true ∧ Loops.bfe_mod_pow_u32_ok a e = true ∧
      Loops.bfe_mod_pow_u64_ok a e = true) ∧
    (∀ k, k < 2 ^ 64 → Loops.bfe_inverse_exp_ok a k = true) ∧
    (Loops.bfe_inverse_ok a = true ↔ a ≠ BF.zero) ∧
    Loops.bfe_square_ok a = true := by
  refine ⟨fun e he => ?_, fun k hk => TF.GenBridge.BField.gen_exp_ok_true a k ha hk, ⟨fun h hz => ?_, fun h => ?_⟩,
    TF.GenBridge.BField.square_ok_true a ha⟩
  · have h := TF.GenBridge.BField.gen_mod_pow_ok_true a e ha he
    exact ⟨h, h, h⟩
  · rw [hz, TF.GenBridge.BField.gen_inverse_ok_zero] at h; cases h
  · exact TF.GenBridge.BField.gen_inverse_ok_true a ha h
example : bfe_new 18446744069414584320 < P ∧ bfe_new 18446744069414584320 ≠ BF.zero ∧
    Loops.bfe_inverse_ok (bfe_new 18446744069414584320) = true := by decide +kernel

end TF.C01

/-! ## `get_cyclic_group_elements` on the extension field in terms of the multiplicative order -/
namespace TF.C01
open TF.Gen TF.BF TF.Model

/-- **`XFieldElement::get_cyclic_group_elements(max)` for a non-zero element, with and without a bound** — the analogue
    of `get_cyclic_group_elements_exact` for the extension field.  `k` is the multiplicative order of `g` (least positive
    exponent with `g^k = 1`, `k ∣ P³ − 1`); the call returns exactly `L = TF.XK.cycLen k max` elements `[1, g, …, g^(L−1)]`,
    `L = max k 2` without a bound, `L = min (max k 2) (max m 2)` with the bound `m` (a bound of 0 or 1 acts like 2), for
    every fuel `≥ L − 1` -/
theorem xfe_get_cyclic_group_elements_order_exact (g : XF.X3) (hg : TF.XFp.canon3 g) (hnz : g ≠ XF.zero) :
    ∃ k, 0 < k ∧ k ∣ P ^ 3 - 1 ∧ TF.XFp.xnpow (XF.toVal g) k = TF.Spec.xone ∧
      (∀ j, 0 < j → j < k → TF.XFp.xnpow (XF.toVal g) j ≠ TF.Spec.xone) ∧
      ∀ (mx : Option Nat) (fuel : Nat), TF.XK.cycLen k mx ≤ fuel + 1 →
        ∃ l, XF.cyclicGroup fuel g mx = some l ∧ (∀ x ∈ l, TF.XFp.canon3 x) ∧ l.length = TF.XK.cycLen k mx ∧
          l.map XF.toVal = (List.range (TF.XK.cycLen k mx)).map (TF.XFp.xnpow (XF.toVal g)) :=
  TF.XK.x_cyclicGroup_order g hg hnz
example : TF.XK.cycLen 4 none = 4 ∧ TF.XK.cycLen 4 (some 3) = 3 ∧ TF.XK.cycLen 4 (some 0) = 2 ∧ TF.XK.cycLen 1 none = 2 ∧
    XF.cyclicGroup 10 (XF.lift (bfe_new 281474976710656)) (some 3) =
      some [XF.one, XF.lift (bfe_new 281474976710656), XF.lift (bfe_new 18446744069414584320)] := by
  refine ⟨by decide, by decide, by decide, by decide, by decide +kernel⟩

end TF.C01

/-! ## `FiniteField::batch_inversion` regenerated from source over an abstract field

The provided trait method `FiniteField::batch_inversion` is regenerated from the text of `traits.rs` on every run
(`TF/Gen/FieldLoops.lean`, written by `tools/rs2lean_bt4.py`) with `Self` an **opaque type** and the field operations it
uses — `Self::zero()`, `Self::one()`, `*` / `*=`, `is_zero()`, `inverse()` with its panic flag — as parameters.
`outcome ok v = if ok then some v else none` reads the pair (`_ok` flag, value) in the hand model's convention (`none` =
the `assert!` on a zero element fails, `inverse()` panics, or an index is out of range).  Proofs:
`TF/Proofs/GenBridgeField.lean`. -/
namespace TF.C01
open TF.Gen TF.BF TF.Model TF.GenBridge.Field
open TF.Gen.Loops (ff_batch_inversion ff_batch_inversion_ok)

/-- **regenerated `batch_inversion` = the generic hand model**, for every element type, every record of field operations
    (not even assumed to be a field), every input vector: same vector of results, panic exactly when the model's `none`.
    `inverse : D → Option D` is the partial inverse (`none` = `inverse()` panics); `d0` is never read when the flag holds -/
theorem gen_batch_inversion_eq_model {D : Type} (zero one : D) (mul : D → D → D) (isZero : D → Bool)
    (inverse : D → Option D) (d0 : D) (input : List D) :
    outcome (ff_batch_inversion_ok zero one mul isZero (fun x => (inverse x).getD d0) (fun x => (inverse x).isSome) d0 input)
        (ff_batch_inversion zero one mul isZero (fun x => (inverse x).getD d0) (fun x => (inverse x).isSome) d0 input)
      = batchInversionG mul isZero inverse one input :=
  gen_batch_inversion_eq zero one mul isZero d0 inverse input
/-- non-vacuity on the toy record `(Nat, *, · == 0, x ↦ some x)`: scratch products `[1, 2, 6]`, then back -/
example : ff_batch_inversion 0 1 (· * ·) (· == 0) (fun x => x) (fun _ => true) 7 [2, 3, 4] = [288, 192, 144] ∧
    ff_batch_inversion_ok 0 1 (· * ·) (· == 0) (fun x => x) (fun _ => true) 7 [2, 3, 4] = true ∧
    ff_batch_inversion_ok 0 1 (· * ·) (· == 0) (fun x => x) (fun _ => true) 7 [2, 0, 4] = false ∧
    ff_batch_inversion 0 1 (· * ·) (· == 0) (fun x => x) (fun _ => true) 7 ([] : List Nat) = [] := by decide

/-- **transfer** of `batch_inversion_exact` (base field) and `xfe_batch_inversion_exact` (extension field) to the code as
    it is in the source now, instantiated with the word-level operations of the two fields: any vector of non-zero
    elements is mapped without panic to the vector of inverses; a vector containing zero panics -/
theorem gen_batch_inversion_transfer :
    (∀ xs : List Nat,
      let ok := ff_batch_inversion_ok BF.zero BF.one bfe_mul (fun x => x == BF.zero) (fun x => (BF.inverse x).getD 0)
        (fun x => (BF.inverse x).isSome) 0 xs
      let rs := ff_batch_inversion BF.zero BF.one bfe_mul (fun x => x == BF.zero) (fun x => (BF.inverse x).getD 0)
        (fun x => (BF.inverse x).isSome) 0 xs
      ((∀ x ∈ xs, x < P ∧ x ≠ BF.zero) →
        ok = true ∧ (∀ r ∈ rs, r < P) ∧ rs.map toF = xs.map (fun x => (toF x)⁻¹)) ∧
      (BF.zero ∈ xs → ok = false)) ∧
    (∀ xs : List XF.X3,
      let ok := ff_batch_inversion_ok XF.zero XF.one XF.mul XF.isZero (fun x => (XF.inverse x).getD XF.zero)
        (fun x => (XF.inverse x).isSome) XF.zero xs
      let rs := ff_batch_inversion XF.zero XF.one XF.mul XF.isZero (fun x => (XF.inverse x).getD XF.zero)
        (fun x => (XF.inverse x).isSome) XF.zero xs
      ((∀ x ∈ xs, TF.XFp.canon3 x ∧ x ≠ XF.zero) →
        ok = true ∧ rs.length = xs.length ∧
          ∀ i (h1 : i < rs.length) (h2 : i < xs.length), TF.XFp.canon3 rs[i] ∧ XF.mul rs[i] xs[i] = XF.one ∧
            XF.inverse xs[i] = some rs[i]) ∧
      (XF.zero ∈ xs → ok = false)) := by
  constructor
  · intro xs
    have hg := gen_batch_inversion_eq_model BF.zero BF.one bfe_mul (fun x => x == BF.zero) BF.inverse 0 xs
    rw [← batchInversion_eq_G] at hg
    refine ⟨fun hx => ?_, fun hz => ?_⟩
    · obtain ⟨rs, h1, h2, h3⟩ := (batch_inversion_exact xs).1 hx
      rw [h1] at hg
      obtain ⟨hok, rfl⟩ := outcome_eq_some hg
      exact ⟨hok, h2, h3⟩
    · rw [(batch_inversion_exact xs).2 hz] at hg
      exact outcome_eq_none hg
  · intro xs
    have hg : _ = XF.batchInversion xs :=
      gen_batch_inversion_eq_model XF.zero XF.one XF.mul XF.isZero XF.inverse XF.zero xs
    refine ⟨fun hx => ?_, fun hz => ?_⟩
    · obtain ⟨rs, h1, h2, h3⟩ := (xfe_batch_inversion_exact xs).1 hx
      rw [h1] at hg
      obtain ⟨hok, rfl⟩ := outcome_eq_some hg
      exact ⟨hok, h2, fun i a b => ⟨(h3 i a b).1, (h3 i a b).2.1, (h3 i a b).2.2.2⟩⟩
    · rw [(xfe_batch_inversion_exact xs).2.1 hz] at hg
      exact outcome_eq_none hg
example : (∀ x ∈ [BF.one, bfe_new 5], x < P ∧ x ≠ BF.zero) ∧
    ff_batch_inversion_ok BF.zero BF.one bfe_mul (fun x => x == BF.zero) (fun x => (BF.inverse x).getD 0)
      (fun x => (BF.inverse x).isSome) 0 [BF.one, bfe_new 5] = true := by decide +kernel

end TF.C01
