import TF.Proofs.Merkle
/-! Index sets of the verifier: sorted sets (`toSortedSet`), the ancestors `anc h i j` of a leaf and the levels they lie on,
`Spec.covered` (computable) and `Spec.needed` (the minimal node set), and `authIdx = Spec.needed`. -/
namespace TF.Merkle
open TF.Gen

theorem mem_insertSet {a x : Nat} {l : List Nat} : a ∈ insertSet x l ↔ a = x ∨ a ∈ l := by
  induction l with
  | nil => simp [insertSet]
  | cons y ys ih =>
    unfold insertSet
    split
    · simp
    · split
      · subst_vars; simp
      · simp only [List.mem_cons, ih]
        constructor <;> rintro (h|h|h) <;> simp [h]

theorem sorted_insertSet {x : Nat} {l : List Nat} (h : l.Pairwise (· < ·)) : (insertSet x l).Pairwise (· < ·) := by
  induction l with
  | nil => simp [insertSet]
  | cons y ys ih =>
    unfold insertSet
    have ⟨h1, h2⟩ := List.pairwise_cons.1 h
    split
    · refine List.pairwise_cons.2 ⟨?_, h⟩
      intro a ha
      rcases List.mem_cons.1 ha with rfl | ha
      · assumption
      · have := h1 a ha; omega
    · split
      · exact h
      · refine List.pairwise_cons.2 ⟨?_, ih h2⟩
        intro a ha
        rcases mem_insertSet.1 ha with rfl | ha
        · omega
        · exact h1 a ha

theorem mem_toSortedSet {a : Nat} {l : List Nat} : a ∈ toSortedSet l ↔ a ∈ l := by
  induction l with
  | nil => simp [toSortedSet]
  | cons x xs ih =>
    rw [toSortedSet, List.foldr_cons, mem_insertSet, ← toSortedSet, ih, List.mem_cons]

theorem sorted_toSortedSet (l : List Nat) : (toSortedSet l).Pairwise (· < ·) := by
  induction l with
  | nil => exact List.Pairwise.nil
  | cons x xs ih => exact sorted_insertSet ih

theorem sorted_ext {l₁ l₂ : List Nat} (h₁ : l₁.Pairwise (· < ·)) (h₂ : l₂.Pairwise (· < ·))
    (h : ∀ a, a ∈ l₁ ↔ a ∈ l₂) : l₁ = l₂ :=
  List.Perm.eq_of_pairwise (fun _ _ _ _ hab hba => absurd hab (Nat.lt_asymm hba)) h₁ h₂
    ((List.perm_ext_iff_of_nodup (h₁.imp Nat.ne_of_lt) (h₂.imp Nat.ne_of_lt)).2 h)

/-- the ancestor `j` levels above leaf `i` in a tree of height `h` -/
def anc (h i j : Nat) : Nat := (i + 2^h) / 2^j

theorem anc_zero (h i : Nat) : anc h i 0 = i + 2^h := by simp [anc]
theorem anc_succ (h i j : Nat) : anc h i (j+1) = anc h i j / 2 := by
  simp [anc, Nat.pow_succ, Nat.div_div_eq_div_mul]

theorem anc_range {h i j : Nat} (hi : i < 2^h) (hj : j ≤ h) : 2^(h-j) ≤ anc h i j ∧ anc h i j < 2^(h-j+1) := by
  unfold anc
  have e : 2^h = 2^(h-j) * 2^j := by rw [← Nat.pow_add]; congr 1; omega
  have hp : 0 < 2^j := Nat.two_pow_pos j
  constructor
  · rw [Nat.le_div_iff_mul_le hp]; omega
  · rw [Nat.div_lt_iff_lt_mul hp, Nat.pow_succ', Nat.mul_assoc, ← e]; omega

theorem anc_top {h i : Nat} (hi : i < 2^h) : anc h i h = 1 := by
  have := anc_range hi (Nat.le_refl h); simp at this; omega

theorem level_unique {a b k : Nat} (ha : 2^a ≤ k) (ha' : k < 2^(a+1)) (hb : 2^b ≤ k) (hb' : k < 2^(b+1)) : a = b := by
  rcases Nat.lt_trichotomy a b with h | h | h
  · have := two_pow_le_of_le (show a+1 ≤ b from h); omega
  · exact h
  · have := two_pow_le_of_le (show b+1 ≤ a from h); omega

theorem anc_level_inj {h i i' j j' : Nat} (hi : i < 2^h) (hi' : i' < 2^h) (hj : j ≤ h) (hj' : j' ≤ h)
    (e : anc h i j = anc h i' j') : j = j' := by
  have r := anc_range hi hj
  have r' := anc_range hi' hj'
  rw [e] at r
  have := level_unique r.1 r.2 r'.1 r'.2
  omega

theorem child_range {h j c p : Nat} (hj : j < h) (hp : 2^(h-(j+1)) ≤ p ∧ p < 2^(h-(j+1)+1)) (hc : c / 2 = p) :
    2^(h-j) ≤ c ∧ c < 2^(h-j+1) := by
  obtain ⟨d1, d2⟩ := children_level hp.1 hp.2
  rw [show h-(j+1)+1 = h-j by omega] at d1 d2
  obtain ⟨q, rfl | rfl⟩ := left_or_right c
  · rw [left_div] at hc; subst hc
    exact ⟨d1, Nat.lt_of_succ_lt d2⟩
  · rw [right_div] at hc; subst hc
    exact ⟨Nat.le_succ_of_le d1, d2⟩

theorem onPath_iff {h i k : Nat} : Spec.onPath h i k = true ↔ ∃ j, j ≤ h ∧ anc h i j = k := by
  simp [Spec.onPath, anc, Nat.lt_succ_iff]

theorem covered_iff {h : Nat} {idxs : List Nat} {k : Nat} :
    Spec.covered h idxs k = true ↔ ∃ i ∈ idxs, ∃ j, j ≤ h ∧ anc h i j = k := by
  simp [Spec.covered, onPath_iff]

theorem covered_anc {h : Nat} {idxs : List Nat} {i j : Nat} (hi : i ∈ idxs) (hj : j ≤ h) :
    Spec.covered h idxs (anc h i j) = true :=
  covered_iff.2 ⟨i, hi, j, hj, rfl⟩

theorem covered_level {h : Nat} {idxs : List Nat} (hi : ∀ i ∈ idxs, i < 2^h) {j k : Nat}
    (hc : Spec.covered h idxs k = true) (hj : j ≤ h) (hk : 2^(h-j) ≤ k ∧ k < 2^(h-j+1)) : ∃ i ∈ idxs, anc h i j = k := by
  obtain ⟨i, hi', j', hj', rfl⟩ := covered_iff.1 hc
  have r := anc_range (hi i hi') hj'
  have := level_unique r.1 r.2 hk.1 hk.2
  exact ⟨i, hi', by rw [show j = j' by omega]⟩

theorem covered_lt {h : Nat} {idxs : List Nat} (hi : ∀ i ∈ idxs, i < 2^h) {k : Nat}
    (hc : Spec.covered h idxs k = true) : k < 2^(h+1) := by
  obtain ⟨i, hi', j, hj, rfl⟩ := covered_iff.1 hc
  have := (anc_range (hi i hi') hj).2
  have : 2^(h-j+1) ≤ 2^(h+1) := two_pow_le_of_le (by omega)
  omega

/- The heights in this development: `h ≤ 62` is what keeps a leaf's node index `i + 2^h` (`i < 2^h`) below `USIZE = 2^64`;
   on the error path only `n + i < 2^64` for `i < n` is needed, so `n ≤ 2^63` (`h ≤ 63`) is enough; `31` is
   `MAX_TREE_HEIGHT`, the verifier's own limit, which `numLeafs` enforces. -/
theorem leaf_add_lt_usize {h i : Nat} (hh : h ≤ 62) (hi : i < 2^h) : i + 2^h < USIZE := by
  have h1 : 2^(h+1) ≤ 2^63 := two_pow_le_of_le (by omega)
  have h2 : 2^(h+1) = 2 * 2^h := Nat.pow_succ'
  have h3 : (2:Nat)^63 < 2^64 := by decide
  unfold USIZE; omega

theorem numLeafs_ok {h : Nat} (hh : h ≤ 31) : numLeafs h = .ok (2^h) := by
  have : ¬ h > MAX_TREE_HEIGHT := by unfold MAX_TREE_HEIGHT; omega
  have h2 : h < 64 := by omega
  simp [numLeafs, this, shl1, h2]

theorem numLeafs_err {h : Nat} (hh : 31 < h) : numLeafs h = .err .treeTooHigh := by
  have : h > MAX_TREE_HEIGHT := by unfold MAX_TREE_HEIGHT; omega
  simp [numLeafs, this]

theorem sib_lt_two_pow {h k : Nat} (hk : sib k < 2^(h+1)) (h2 : 2 ≤ k) : k < 2^(h+1) := by
  have : 2^(h+1) = 2 * 2^h := Nat.pow_succ'
  unfold sib at hk
  split at hk <;> omega

theorem mem_needed {h : Nat} {idxs : List Nat} {k : Nat} :
    k ∈ Spec.needed h idxs ↔
      (k < 2^(h+1) ∧ 2 ≤ k ∧ Spec.covered h idxs k = false ∧ Spec.covered h idxs (sib k) = true) := by
  unfold Spec.needed
  simp only [List.mem_filter, List.mem_reverse, List.mem_range, Bool.and_eq_true, decide_eq_true_eq, Bool.not_eq_true',
    and_assoc]

theorem mem_needed_of_sib {h : Nat} {idxs : List Nat} (hi : ∀ i ∈ idxs, i < 2^h) {k : Nat} (h2 : 2 ≤ k)
    (hn : Spec.covered h idxs k = false) (hs : Spec.covered h idxs (sib k) = true) : k ∈ Spec.needed h idxs :=
  mem_needed.2 ⟨sib_lt_two_pow (covered_lt hi hs) h2, h2, hn, hs⟩

theorem needed_desc (h : Nat) (idxs : List Nat) : (Spec.needed h idxs).Pairwise (· > ·) := by
  unfold Spec.needed
  apply List.Pairwise.filter
  rw [List.pairwise_reverse]
  exact List.pairwise_lt_range

theorem needed_nodup (h : Nat) (idxs : List Nat) : (Spec.needed h idxs).Pairwise (· ≠ ·) :=
  (needed_desc h idxs).imp (fun hab => by omega)

theorem needed_nil (h : Nat) : Spec.needed h [] = [] := by
  unfold Spec.needed
  rw [List.filter_eq_nil_iff]
  intro k _
  simp [Spec.covered]

/-- the model's set of computable nodes, the proper-path nodes (levels `0 … h-1`) of the claimed leafs, holds the
    computable nodes other than the root -/
theorem mem_comp_iff_covered {h : Nat} {idxs : List Nat} (hi : ∀ i ∈ idxs, i < 2^h) {k : Nat} :
    k ∈ (idxs.map (· + 2^h)).flatMap nodePath ↔ (Spec.covered h idxs k = true ∧ 2 ≤ k) := by
  have hp : ∀ i ∈ idxs, nodePath (i + 2^h) = (List.range h).map (fun j => (i + 2^h) / 2^j) := fun i hi' =>
    nodePath_eq h (i + 2^h) (by omega) (by have := hi i hi'; have : 2^(h+1) = 2 * 2^h := Nat.pow_succ'; omega)
  simp only [List.mem_flatMap, List.mem_map, covered_iff]
  constructor
  · rintro ⟨x, ⟨i, hi', rfl⟩, hk⟩
    rw [hp i hi', List.mem_map] at hk
    obtain ⟨j, hj, rfl⟩ := hk
    rw [List.mem_range] at hj
    refine ⟨⟨i, hi', j, Nat.le_of_lt hj, rfl⟩, ?_⟩
    exact Nat.le_trans (two_pow_le_of_le (show 1 ≤ h - j by omega)) (anc_range (hi i hi') (Nat.le_of_lt hj)).1
  · rintro ⟨⟨i, hi', j, hj, rfl⟩, h2⟩
    refine ⟨i + 2^h, ⟨i, hi', rfl⟩, ?_⟩
    rw [hp i hi', List.mem_map]
    refine ⟨j, List.mem_range.2 ?_, rfl⟩
    rcases Nat.lt_or_eq_of_le hj with h' | rfl
    · exact h'
    · rw [anc_top (hi i hi')] at h2; omega

/-- the model's `needed ∖ computable` has the members of the minimal node set -/
theorem mem_authSet {h : Nat} {idxs : List Nat} (hi : ∀ i ∈ idxs, i < 2^h) {k : Nat} :
    k ∈ (((idxs.map (· + 2^h)).flatMap nodePath).map (· ^^^ 1)).filter
          (fun k => !((idxs.map (· + 2^h)).flatMap nodePath).contains k) ↔ k ∈ Spec.needed h idxs := by
  rw [mem_needed]
  generalize hcomp : (idxs.map (· + 2^h)).flatMap nodePath = comp
  simp only [List.mem_filter, List.mem_map, Bool.not_eq_true', List.contains_eq_mem, decide_eq_false_iff_not,
    xor_one_eq_sib]
  have hc : ∀ x, x ∈ comp ↔ (Spec.covered h idxs x = true ∧ 2 ≤ x) := fun x => by
    rw [← hcomp]; exact mem_comp_iff_covered hi
  constructor
  · rintro ⟨⟨c, hc1, rfl⟩, hk⟩
    have ⟨hcov, hc2⟩ := (hc c).1 hc1
    have h2 : 2 ≤ sib c := two_le_sib.2 hc2
    refine ⟨?_, h2, ?_, by rw [sib_sib]; exact hcov⟩
    · exact sib_lt_two_pow (by rw [sib_sib]; exact covered_lt hi hcov) h2
    · cases hcv : Spec.covered h idxs (sib c)
      · rfl
      · exact absurd ((hc _).2 ⟨hcv, h2⟩) hk
  · rintro ⟨_, h2, hn, hs⟩
    refine ⟨⟨sib k, (hc _).2 ⟨hs, two_le_sib.2 h2⟩, sib_sib k⟩, ?_⟩
    intro hm
    have := ((hc k).1 hm).1
    rw [hn] at this; cases this

/-- **the authentication structure is the documented minimal node set**: `needed ∖ computable`, descending,
    without repetition -/
theorem authIdx_eq_needed {h : Nat} {idxs : List Nat} (hh : h ≤ 62) (hi : ∀ i ∈ idxs, i < 2^h) :
    authIdx (2^h) idxs = .ok (Spec.needed h idxs) := by
  unfold authIdx
  have hm : Res.mapM (fun i => if i ≥ 2^h then Res.err Err.leafIndexInvalid else cadd i (2^h)) idxs
      = .ok (idxs.map (· + 2^h)) := by
    apply Res.mapM_ok
    intro i hi'
    have h1 := hi i hi'
    have h2 := leaf_add_lt_usize hh h1
    simp [cadd, h2, Nat.not_le.2 h1]
  rw [hm]
  simp only [Res.ok_bind]
  congr 1
  -- both lists are strictly descending; `sorted_ext` compares their reversals
  rw [← List.reverse_reverse (Spec.needed h idxs)]
  congr 1
  apply sorted_ext (sorted_toSortedSet _) (List.pairwise_reverse.2 (needed_desc h idxs))
  intro k
  rw [mem_toSortedSet, mem_authSet hi, List.mem_reverse]

theorem authIdx_err {n : Nat} {idxs : List Nat} (hn : n ≤ 2^63) (hbad : ∃ i ∈ idxs, n ≤ i) :
    authIdx n idxs = .err .leafIndexInvalid := by
  unfold authIdx
  have : Res.mapM (fun i => if i ≥ n then Res.err Err.leafIndexInvalid else cadd i n) idxs = .err .leafIndexInvalid := by
    apply Res.mapM_err
    · intro i _
      by_cases h : i ≥ n
      · left; simp [h]
      · right
        have : i + n < USIZE := by
          have : (2:Nat)^63 + 2^63 = 2^64 := by decide
          unfold USIZE; omega
        exact ⟨i + n, by simp [h, cadd, this]⟩
    · obtain ⟨i, hi, hle⟩ := hbad
      exact ⟨i, hi, by simp [hle]⟩
  rw [this]; rfl

end TF.Merkle
