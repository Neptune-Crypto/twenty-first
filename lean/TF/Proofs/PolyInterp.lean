import TF.Model.PolyInterp
import TF.Proofs.PolyStore
import Mathlib.LinearAlgebra.Lagrange
/-!
Helper lemmas for property C08 (`TF/Props/C08.lean`): the model of `TF/Model/PolyInterp.lean` instantiated with
`FieldOps.ofField K` for an arbitrary field `K`, denoted into `K[X]` by `TF.Model.Poly.denote`.
-/
open Polynomial

namespace TF.Model.PolyI
open TF TF.Model.Poly

variable {K : Type} [Field K]
variable (root : Nat → Option K)
local notation "FK" => FieldOps.ofField K root

/-- `∏ (X - rᵢ)` over a list of roots (repetitions allowed) -/
noncomputable def zpoly (roots : List K) : K[X] := (roots.map (fun r => X - C r)).prod

@[simp] theorem zpoly_nil : zpoly ([] : List K) = 1 := by simp [zpoly]
@[simp] theorem zpoly_cons (r : K) (rs : List K) : zpoly (r :: rs) = (X - C r) * zpoly rs := by simp [zpoly]
theorem zpoly_append (a b : List K) : zpoly (a ++ b) = zpoly a * zpoly b := by simp [zpoly]
theorem zpoly_monic (roots : List K) : (zpoly roots).Monic := by
  induction roots with
  | nil => simp
  | cons r rs ih => rw [zpoly_cons]; exact (monic_X_sub_C r).mul ih
theorem zpoly_ne_zero (roots : List K) : zpoly roots ≠ 0 := (zpoly_monic roots).ne_zero
theorem natDegree_zpoly (roots : List K) : (zpoly roots).natDegree = roots.length := by
  induction roots with
  | nil => simp
  | cons r rs ih =>
    rw [zpoly_cons, (monic_X_sub_C r).natDegree_mul (zpoly_monic rs), ih, natDegree_X_sub_C]
    simp [Nat.add_comm]
theorem degree_zpoly (roots : List K) : (zpoly roots).degree = roots.length := by
  rw [degree_eq_natDegree (zpoly_ne_zero roots), natDegree_zpoly]
theorem eval_zpoly (roots : List K) (x : K) : (zpoly roots).eval x = (roots.map (fun r => x - r)).prod := by
  induction roots with
  | nil => simp
  | cons r rs ih => simp [ih]
theorem eval_zpoly_eq_zero_iff (roots : List K) (x : K) : (zpoly roots).eval x = 0 ↔ x ∈ roots := by
  induction roots with
  | nil => simp
  | cons r rs ih => simp [ih, sub_eq_zero]

/-- the certificate: `deg f < n` and `f(xᵢ) = yᵢ` for every point -/
def Interpolates (xs ys : List K) (f : K[X]) : Prop :=
  f.degree < xs.length ∧ ∀ p ∈ xs.zip ys, f.eval p.1 = p.2

theorem mem_zip_of_mem_left {α β : Type} : ∀ (xs : List α) (ys : List β), xs.length = ys.length →
    ∀ x ∈ xs, ∃ y, (x, y) ∈ xs.zip ys := by
  intro xs
  induction xs with
  | nil => intro ys _ x hx; simp at hx
  | cons a as ih =>
    intro ys hl x hx
    cases ys with
    | nil => simp at hl
    | cons b bs =>
      rcases List.mem_cons.1 hx with rfl | hx
      · exact ⟨b, by simp⟩
      · obtain ⟨y, hy⟩ := ih bs (by simpa using hl) x hx
        exact ⟨y, by simp [hy]⟩

/-- for pairwise distinct abscissae the certificate determines the polynomial -/
theorem Interpolates.unique {xs ys : List K} (hn : xs.Nodup) (hl : xs.length = ys.length) {f g : K[X]}
    (hf : Interpolates xs ys f) (hg : Interpolates xs ys g) : f = g := by
  classical
  have hcard : xs.toFinset.card = xs.length := List.toFinset_card_of_nodup hn
  apply eq_of_degrees_lt_of_eval_finset_eq xs.toFinset
  · rw [hcard]; exact hf.1
  · rw [hcard]; exact hg.1
  · intro x hx
    obtain ⟨y, hy⟩ := mem_zip_of_mem_left xs ys hl x (List.mem_toFinset.1 hx)
    rw [hf.2 _ hy, hg.2 _ hy]

/-- what C07 / C09 prove about `multiply`, `par_batch_multiply`, `reduce`, `reduce_by_ntt_friendly_modulus` -/
structure Ext.Lawful (E : Ext K) : Prop where
  mul : ∀ a b, denote (E.mul a b) = denote a * denote b
  parBatchMul : ∀ t fs, denote (E.parBatchMul t fs) = (fs.map denote).prod
  rem : ∀ p m, denote m ≠ 0 → denote (E.rem p m) = denote p % denote m
  redNtt : ∀ p m, denote m ≠ 0 → denote m ∣ denote (E.redNtt p m) - denote p

noncomputable def ofPoly (q : K[X]) : List K := (List.range (q.natDegree + 1)).map q.coeff

theorem denote_ofPoly (q : K[X]) : denote (ofPoly q) = q := by
  ext i
  rw [coeff_denote, ofPoly]
  by_cases hi : i < q.natDegree + 1
  · rw [getD_of_lt _ _ _ (by simpa using hi)]; simp
  · rw [getD_of_ge _ _ _ (by simp; omega), coeff_eq_zero_of_natDegree_lt (by omega)]

/-- the contracts are satisfiable: the routines defined by their specification -/
noncomputable def Ext.ideal : Ext K where
  mul a b := ofPoly (denote a * denote b)
  parBatchMul _ fs := ofPoly (fs.map denote).prod
  rem p m := ofPoly (denote p % denote m)
  redNtt p m := ofPoly (denote p % denote m)
  ntt xs := xs
  intt xs := xs

theorem Ext.ideal_lawful : (Ext.ideal : Ext K).Lawful where
  mul a b := denote_ofPoly _
  parBatchMul t fs := denote_ofPoly _
  rem p m _ := denote_ofPoly _
  redNtt p m _ := by
    show denote m ∣ denote (ofPoly (denote p % denote m)) - denote p
    rw [denote_ofPoly]
    exact dvd_mod_sub _ _

/-- `[prev - r a₀, a₀ - r a₁, …, a_{k-1}]` -/
def lin (r : K) : K → List K → List K
  | prev, [] => [prev]
  | prev, c :: cs => (prev - r * c) :: lin r c cs

theorem length_lin (r prev : K) (a : List K) : (lin r prev a).length = a.length + 1 := by
  induction a generalizing prev with
  | nil => rfl
  | cons c cs ih => simp [lin, ih]

theorem denote_lin (r prev : K) (a : List K) : denote (lin r prev a) = C prev + (X - C r) * denote a := by
  induction a generalizing prev with
  | nil => simp [lin]
  | cons c cs ih => simp only [lin, denote_cons, ih, C_sub, C_mul]; ring

theorem smartGo_eq (r prev : K) (a zs : List K) :
    smartGo FK r (a.length + 1) prev (a ++ 0 :: zs) = lin r prev a ++ zs := by
  induction a generalizing prev with
  | nil => simp [smartGo, lin]
  | cons c cs ih =>
    simp only [List.length_cons, List.cons_append, smartGo, lin, FieldOps.ofField_sub, FieldOps.ofField_mul]
    rw [ih]

/-- one root: the live prefix `c :: a` (of length `num_coeffs`) is multiplied by `X - r`, one zero is consumed -/
theorem smartStep_eq (r c : K) (a zs : List K) :
    smartStep FK r (a.length + 1) (c :: a ++ 0 :: zs) = ((-r) * c :: lin r c a) ++ zs := by
  simp only [smartStep, List.cons_append, FieldOps.ofField_mul, FieldOps.ofField_neg]
  rw [smartGo_eq]

theorem smartLoop_spec (roots : List K) (c : K) (a : List K) (j : Nat) (hj : roots.length ≤ j) :
    ∃ c' a', (smartLoop FK roots (c :: a ++ List.replicate j 0, a.length + 1)).1
        = c' :: a' ++ List.replicate (j - roots.length) 0
      ∧ denote (c' :: a') = zpoly roots * denote (c :: a) ∧ a'.length = a.length + roots.length := by
  induction roots generalizing c a j with
  | nil => exact ⟨c, a, by simp [smartLoop], by simp, by simp⟩
  | cons r rs ih =>
    obtain ⟨j', rfl⟩ : ∃ j', j = j' + 1 := ⟨j - 1, by simp at hj; omega⟩
    simp only [smartLoop, List.replicate_succ]
    rw [smartStep_eq]
    have h := ih ((-r) * c) (lin r c a) j' (by simpa using hj)
    simp only [length_lin] at h
    obtain ⟨c', a', h1, h2, h3⟩ := h
    refine ⟨c', a', ?_, ?_, ?_⟩
    · simpa using h1
    · rw [h2, zpoly_cons]
      simp only [denote_cons, denote_lin, C_mul, C_neg]
      ring
    · simp [h3]; omega

theorem exists_smartZerofier_eq_cons (roots : List K) :
    ∃ c a, smartZerofier FK roots = c :: a ∧ denote (c :: a) = zpoly roots ∧ a.length = roots.length := by
  obtain ⟨c, a, h1, h2, h3⟩ := smartLoop_spec root roots 1 [] roots.length (Nat.le_refl _)
  rw [Nat.sub_self, List.replicate_zero, List.append_nil] at h1
  exact ⟨c, a, h1, by rw [h2, denote_cons, denote_nil, mul_zero, add_zero, C_1, mul_one],
    by rw [h3]; exact Nat.zero_add _⟩

/-- `smart_zerofier` = `∏ (X - rᵢ)`, any root list -/
theorem denote_smartZerofier (roots : List K) : denote (smartZerofier FK roots) = zpoly roots := by
  obtain ⟨c, a, h1, h2, _⟩ := exists_smartZerofier_eq_cons root roots
  rw [h1, h2]

theorem length_smartZerofier (roots : List K) : (smartZerofier FK roots).length = roots.length + 1 := by
  obtain ⟨c, a, h1, _, h3⟩ := exists_smartZerofier_eq_cons root roots
  rw [h1, List.length_cons, h3]

theorem mapM_option_forall₂_mem {α β : Type} {f : α → Option β} {P : α → β → Prop} :
    ∀ (l : List α) (bs : List β), (∀ a ∈ l, ∀ b, f a = some b → P a b) → l.mapM f = some bs →
      List.Forall₂ P l bs := by
  intro l
  induction l with
  | nil =>
    intro bs _ hbs
    simp at hbs
    subst hbs
    exact List.Forall₂.nil
  | cons a l ih =>
    intro bs h hbs
    rw [List.mapM_cons] at hbs
    obtain ⟨b, hb, hbs⟩ := Option.bind_eq_some_iff.1 hbs
    obtain ⟨bs', hbs', hbs⟩ := Option.bind_eq_some_iff.1 hbs
    simp only [Option.pure_def, Option.some.injEq] at hbs
    subst hbs
    exact List.Forall₂.cons (h a (by simp) b hb) (ih bs' (fun x hx => h x (by simp [hx])) hbs')

theorem mapM_option_forall₂ {α β : Type} {f : α → Option β} {P : α → β → Prop}
    (h : ∀ a b, f a = some b → P a b) (l : List α) (bs : List β) (hbs : l.mapM f = some bs) :
    List.Forall₂ P l bs :=
  mapM_option_forall₂_mem l bs (fun a _ b => h a b) hbs

theorem mapM_option_exists {α β : Type} {f : α → Option β} {P : α → β → Prop} :
    ∀ (l : List α), (∀ a ∈ l, ∃ b, f a = some b ∧ P a b) → ∃ bs, l.mapM f = some bs ∧ List.Forall₂ P l bs := by
  intro l
  induction l with
  | nil => intro _; exact ⟨[], by simp, List.Forall₂.nil⟩
  | cons a l ih =>
    intro h
    obtain ⟨b, hb, hp⟩ := h a (by simp)
    obtain ⟨bs, hbs, hf⟩ := ih (fun x hx => h x (by simp [hx]))
    exact ⟨b :: bs, by rw [List.mapM_cons, hb, hbs]; rfl, List.Forall₂.cons hp hf⟩

theorem mapM_option_isSome {α β : Type} {f : α → Option β} (l : List α) (h : ∀ a ∈ l, (f a).isSome) :
    (l.mapM f).isSome := by
  obtain ⟨bs, hbs, _⟩ := mapM_option_exists (P := fun _ _ => True) l
    (fun a ha => (Option.isSome_iff_exists.1 (h a ha)).imp fun _ hb => ⟨hb, trivial⟩)
  rw [hbs]; rfl

theorem flatten_chunksAux {α : Type} (k : Nat) (hk : 0 < k) :
    ∀ (fuel : Nat) (l : List α), l.length ≤ fuel → (chunksAux k fuel l).flatten = l := by
  intro fuel
  induction fuel with
  | zero =>
    intro l hl
    have : l = [] := List.length_eq_zero_iff.1 (by omega)
    subst this
    simp [chunksAux]
  | succ fuel ih =>
    intro l hl
    cases l with
    | nil => simp [chunksAux]
    | cons x xs =>
      rw [chunksAux, List.flatten_cons, ih]
      · exact List.take_append_drop k (x :: xs)
      · simp only [List.length_drop, List.length_cons] at hl ⊢; omega

theorem flatten_chunks {α : Type} (k : Nat) (hk : 0 < k) (l : List α) : (chunks k l).flatten = l :=
  flatten_chunksAux k hk l.length l (Nat.le_refl _)

theorem zip_zipWith_map {α β : Type} (g : α → β) (m : β → β → β) : ∀ (xs : List α) (ys : List β),
    xs.zip (List.zipWith m ys (xs.map g)) = (xs.zip ys).map (fun p => (p.1, m p.2 (g p.1))) := by
  intro xs
  induction xs with
  | nil => intro ys; simp
  | cons x xs ih =>
    intro ys
    cases ys with
    | nil => simp
    | cons y ys => simp [ih]

theorem batchInversion_map (xs : List K) (h : ∀ x ∈ xs, x ≠ 0) :
    batchInversion FK xs = some (xs.map (fun x => x⁻¹)) := by
  unfold batchInversion
  have : xs.any (FK).isZero = false := by
    rw [List.any_eq_false]
    intro x hx
    simpa using h x hx
  rw [this]; rfl

theorem forall₂_flatten_map {α β : Type} (f : α → β) {chs : List (List α)} {parts : List (List β)}
    (hf : List.Forall₂ (fun ch o => o = ch.map f) chs parts) : parts.flatten = chs.flatten.map f := by
  induction hf with
  | nil => rfl
  | cons h1 _ ih => simp [h1, ih]

section zerofiers
variable {E : Ext K} (hE : E.Lawful)
include hE

theorem denote_naiveZerofier (roots : List K) : denote (naiveZerofier FK E roots) = zpoly roots := by
  have key : ∀ (rs : List K) (acc : List K),
      denote (rs.foldl (fun acc r' => E.mul acc [(FK).neg r', (FK).one]) acc) = denote acc * zpoly rs := by
    intro rs
    induction rs with
    | nil => intro acc; simp
    | cons r rs ih =>
      intro acc
      rw [List.foldl_cons, ih, hE.mul, zpoly_cons]
      simp only [FieldOps.ofField_neg, FieldOps.ofField_one, denote_cons, denote_nil, C_neg, C_1]
      ring
  cases roots with
  | nil => simp [naiveZerofier]
  | cons r rs =>
    simp only [naiveZerofier]
    rw [key, zpoly_cons]
    simp only [FieldOps.ofField_neg, FieldOps.ofField_one, denote_cons, denote_nil, C_neg, C_1]
    ring

theorem denote_mul_zpoly {l r a b : List K} (hl : denote l = zpoly a) (hr : denote r = zpoly b) :
    denote (E.mul l r) = zpoly (a ++ b) := by
  rw [hE.mul, hl, hr, zpoly_append]

/-- partial correctness of the `zerofier`/`fast_zerofier` recursion, for every cut-off and every fuel -/
theorem zerofierT_sound (T : Nat) : ∀ (fuel : Nat) (roots z : List K),
    zerofierT FK E T fuel roots = some z → denote z = zpoly roots := by
  intro fuel
  induction fuel with
  | zero => intro roots z h; simp [zerofierT] at h
  | succ fuel ih =>
    intro roots z h
    rw [zerofierT] at h
    split at h
    · simp only [Option.some.injEq] at h
      subst h
      exact denote_smartZerofier root roots
    · obtain ⟨l, hl, h⟩ := Option.bind_eq_some_iff.1 h
      obtain ⟨r, hr, h⟩ := Option.bind_eq_some_iff.1 h
      obtain rfl := Option.some.inj h
      rw [denote_mul_zpoly hE (ih _ _ hl) (ih _ _ hr), List.take_append_drop]

omit hE in
/-- the recursion terminates for every cut-off `T ≥ 2` -/
theorem zerofierT_total (T : Nat) (hT : 2 ≤ T) : ∀ (fuel : Nat) (roots : List K),
    roots.length < fuel → (zerofierT FK E T fuel roots).isSome := by
  intro fuel
  induction fuel with
  | zero => intro roots h; omega
  | succ fuel ih =>
    intro roots h
    rw [zerofierT]
    split
    · simp
    · next hlen =>
      have h2 : 2 ≤ roots.length := by omega
      have h1 := ih (roots.take (roots.length / 2)) (by simp; omega)
      have h3 := ih (roots.drop (roots.length / 2)) (by simp; omega)
      obtain ⟨l, hl⟩ := Option.isSome_iff_exists.1 h1
      obtain ⟨r, hr⟩ := Option.isSome_iff_exists.1 h3
      simp [hl, hr]

omit hE in
/-- for a cut-off `T ≤ 1` the Rust recursion never ends on inputs of length `≥ T` (modelled as `none`) -/
theorem zerofierT_diverges (T : Nat) (hT : T ≤ 1) : ∀ (fuel : Nat) (roots : List K),
    T ≤ roots.length → zerofierT FK E T fuel roots = none := by
  intro fuel
  induction fuel with
  | zero => intro roots _; rfl
  | succ fuel ih =>
    intro roots h
    rw [zerofierT]
    split
    · omega
    · have : zerofierT FK E T fuel (roots.drop (roots.length / 2)) = none := by
        apply ih
        simp
        omega
      cases hl : zerofierT FK E T fuel (roots.take (roots.length / 2)) <;> simp [this]

theorem zerofierWith_sound (T : Nat) (roots z : List K) (h : zerofierWith FK E T roots = some z) :
    denote z = zpoly roots := zerofierT_sound root hE T _ roots z h

omit hE in
theorem zerofierWith_total (T : Nat) (hT : 2 ≤ T) (roots : List K) : (zerofierWith FK E T roots).isSome :=
  zerofierT_total root T hT _ roots (Nat.lt_succ_self _)

/-- `zerofier` for a cut-off `≥ 2`: it returns, and what it returns is `∏ (X - rᵢ)` -/
theorem zerofierWith_spec (T : Nat) (hT : 2 ≤ T) (roots : List K) :
    ∃ z, zerofierWith FK E T roots = some z ∧ denote z = zpoly roots := by
  obtain ⟨z, hz⟩ := Option.isSome_iff_exists.1 (zerofierWith_total root (E := E) T hT roots)
  exact ⟨z, hz, zerofierWith_sound root hE T roots z hz⟩

theorem fastZerofierWith_sound (T : Nat) (roots z : List K) (h : fastZerofierWith FK E T roots = some z) :
    denote z = zpoly roots := by
  unfold fastZerofierWith at h
  obtain ⟨l, hl, h⟩ := Option.bind_eq_some_iff.1 h
  obtain ⟨r, hr, h⟩ := Option.bind_eq_some_iff.1 h
  obtain rfl := Option.some.inj h
  rw [denote_mul_zpoly hE (zerofierWith_sound root hE T _ _ hl) (zerofierWith_sound root hE T _ _ hr),
    List.take_append_drop]

theorem parZerofierWith_sound (T threads : Nat) (roots z : List K)
    (h : parZerofierWith FK E T threads roots = some z) : denote z = zpoly roots := by
  unfold parZerofierWith at h
  split at h
  · next hemp =>
    obtain rfl := Option.some.inj h
    rw [List.isEmpty_iff.1 hemp]; simp
  · obtain ⟨hchunk, h⟩ := Option.ite_none_left_eq_some.1 h
    obtain ⟨fs, hm, h⟩ := Option.bind_eq_some_iff.1 h
    obtain rfl := Option.some.inj h
    have hf := mapM_option_forall₂ (P := fun (ch z : List K) => denote z = zpoly ch)
      (zerofierWith_sound root hE T) _ _ hm
    have hk : 0 < max (ceilDiv roots.length threads) T :=
      Nat.pos_of_ne_zero fun h0 => hchunk (by rw [h0]; rfl)
    have key : ∀ {chs fs : List (List K)}, List.Forall₂ (fun ch z => denote z = zpoly ch) chs fs →
        (fs.map denote).prod = zpoly chs.flatten := by
      intro chs fs hf
      induction hf with
      | nil => simp
      | cons h1 _ ih => simp [h1, ih, zpoly_append]
    rw [hE.parBatchMul, ← flatten_chunks _ hk roots]
    exact key hf

end zerofiers

theorem nextPow2Aux_spec : ∀ (fuel p n : Nat), (∃ j, p = 2 ^ j) → n ≤ p * 2 ^ fuel →
    (∃ k, nextPow2Aux fuel p n = 2 ^ k) ∧ n ≤ nextPow2Aux fuel p n := by
  intro fuel
  induction fuel with
  | zero =>
    intro p n hp hn
    simp [nextPow2Aux] at *
    exact ⟨hp, hn⟩
  | succ fuel ih =>
    intro p n hp hn
    rw [nextPow2Aux]
    split
    · next h => exact ⟨hp, h⟩
    · obtain ⟨j, rfl⟩ := hp
      apply ih
      · exact ⟨j + 1, by ring⟩
      · exact le_of_le_of_eq hn (by rw [pow_succ]; ring)

theorem nextPow2_spec (n : Nat) : (∃ k, nextPow2 n = 2 ^ k) ∧ n ≤ nextPow2 n := by
  apply nextPow2Aux_spec n 1 n ⟨0, rfl⟩
  simp; exact Nat.le_of_lt Nat.lt_two_pow_self

/-- every stored zerofier is `∏ (X - x)` over the points below the node -/
def ZTree.Good : ZTree K → Prop
  | .leaf pts z => denote z = zpoly pts
  | .branch z l r => denote z = zpoly (l.points ++ r.points) ∧ l.Good ∧ r.Good
  | .padding => True

theorem ZTree.Good.zerofier {t : ZTree K} (h : t.Good) : denote (t.zerofier FK) = zpoly t.points := by
  cases t with
  | leaf pts z => exact h
  | branch z l r => exact h.1
  | padding => simp [ZTree.zerofier, ZTree.points]

/-- the parent the loop builds from two adjacent nodes -/
noncomputable def pair (E : Ext K) (l r : ZTree K) : ZTree K :=
  if l.isPadding then ZTree.padding else mkBranch FK E l r

/-- one level: adjacent nodes paired up, in order -/
noncomputable def pairUp (E : Ext K) : List (ZTree K) → List (ZTree K)
  | l :: r :: rest => pair root E l r :: pairUp E rest
  | _ => []

theorem pairUp_append_two (E : Ext K) : ∀ (m : Nat) (a : List (ZTree K)) (l r : ZTree K), a.length = 2 * m →
    pairUp root E (a ++ [l, r]) = pairUp root E a ++ [pair root E l r] := by
  intro m
  induction m with
  | zero =>
    intro a l r h
    have : a = [] := List.length_eq_zero_iff.1 (by omega)
    subst this
    simp [pairUp]
  | succ m ih =>
    intro a l r h
    match a, h with
    | x :: y :: a', h =>
      simp only [List.cons_append, pairUp]
      rw [ih a' l r (by simp at h; omega)]

theorem length_pairUp (E : Ext K) : ∀ (m : Nat) (a : List (ZTree K)), a.length = 2 * m →
    (pairUp root E a).length = m := by
  intro m
  induction m with
  | zero =>
    intro a h
    have : a = [] := List.length_eq_zero_iff.1 (by omega)
    subst this
    simp [pairUp]
  | succ m ih =>
    intro a h
    match a, h with
    | x :: y :: a', h => simp only [pairUp, List.length_cons]; rw [ih a' (by simp at h; omega)]

theorem treeLoop_step (E : Ext K) (fuel : Nat) (a : List (ZTree K)) (l r : ZTree K) :
    treeLoop FK E (fuel + 1) (a ++ [l, r]) = treeLoop FK E fuel (pair root E l r :: a) := by
  rw [treeLoop]
  have hlen : (a ++ [l, r]).length > 1 := by simp
  rw [if_pos hlen]
  simp only [List.reverse_append, List.reverse_cons, List.reverse_nil, List.nil_append, List.cons_append,
    List.reverse_reverse, pair]
  split <;> rfl

/-- a whole level: the new nodes accumulate at the front, in order -/
theorem treeLoop_level (E : Ext K) : ∀ (m : Nat) (back front : List (ZTree K)) (fuel : Nat),
    back.length = 2 * m →
    treeLoop FK E (fuel + m) (front ++ back) = treeLoop FK E fuel (pairUp root E back ++ front) := by
  intro m
  induction m with
  | zero =>
    intro back front fuel h
    have : back = [] := List.length_eq_zero_iff.1 (by omega)
    subst this; simp [pairUp]
  | succ m ih =>
    intro back front fuel h
    obtain ⟨b1, r, rfl⟩ : ∃ b1 r, back = b1 ++ [r] := by
      rcases List.eq_nil_or_concat' back with h0 | ⟨b1, r, hb⟩
      · subst h0; simp at h
      · exact ⟨b1, r, hb⟩
    obtain ⟨b2, l, rfl⟩ : ∃ b2 l, b1 = b2 ++ [l] := by
      rcases List.eq_nil_or_concat' b1 with h0 | ⟨b2, l, hb⟩
      · subst h0
        simp at h
        omega
      · exact ⟨b2, l, hb⟩
    have hb2 : b2.length = 2 * m := by simp at h; omega
    have e1 : front ++ ((b2 ++ [l]) ++ [r]) = (front ++ b2) ++ [l, r] := by simp
    have e2 : (b2 ++ [l]) ++ [r] = b2 ++ [l, r] := by simp
    rw [e1, show fuel + (m + 1) = (fuel + m) + 1 by omega, treeLoop_step, e2, pairUp_append_two root E m b2 l r hb2]
    have := ih b2 (pair root E l r :: front) fuel hb2
    simp only [List.cons_append] at this
    rw [this]
    simp

/-- `k` times `pairUp`: what remains of the nodes after `k` levels of the loop -/
noncomputable def levels (E : Ext K) : Nat → List (ZTree K) → List (ZTree K)
  | 0, nodes => nodes
  | k+1, nodes => levels E k (pairUp root E nodes)

/-- `2^k` nodes need `2^k - 1` pairings, hence that much fuel -/
theorem treeLoop_eq_levels (E : Ext K) : ∀ (k : Nat) (nodes : List (ZTree K)) (fuel : Nat),
    nodes.length = 2 ^ k → 2 ^ k - 1 ≤ fuel →
    treeLoop FK E fuel nodes = (levels root E k nodes).head? ∧ (levels root E k nodes).length = 1 := by
  intro k
  induction k with
  | zero =>
    intro nodes fuel h _
    simp only [pow_zero] at h
    refine ⟨?_, by simpa [levels] using h⟩
    cases fuel with
    | zero => simp [treeLoop, levels]
    | succ f => rw [treeLoop]; simp [h, levels]
  | succ k ih =>
    intro nodes fuel h hf
    have h2 : nodes.length = 2 * 2 ^ k := by rw [h, pow_succ]; ring
    have hpos : 0 < 2 ^ k := Nat.pos_of_ne_zero (by positivity)
    obtain ⟨f', rfl⟩ : ∃ f', fuel = f' + 2 ^ k := ⟨fuel - 2 ^ k, by rw [pow_succ] at hf; omega⟩
    have := treeLoop_level root E (2 ^ k) nodes [] f' h2
    simp only [List.nil_append, List.append_nil] at this
    rw [this]
    simp only [levels]
    apply ih
    · exact length_pairUp root E _ _ h2
    · rw [pow_succ] at hf; omega

/-- the paddings come last: `new_from_domain` appends them to the leaves, and pairing keeps it so -/
def PadSuffix (nodes : List (ZTree K)) : Prop :=
  nodes.Pairwise (fun a b => a.isPadding = true → b.isPadding = true)

/-- the points below a row of nodes, left to right -/
def allPoints (nodes : List (ZTree K)) : List K := (nodes.map ZTree.points).flatten

omit [Field K] in
theorem points_of_isPadding {t : ZTree K} (h : t.isPadding = true) : t.points = [] := by
  cases t <;> simp_all [ZTree.isPadding, ZTree.points]

theorem isPadding_pair (E : Ext K) (l r : ZTree K) : (pair root E l r).isPadding = l.isPadding := by
  unfold pair
  split
  · next h => rw [h]; rfl
  · next h => rw [Bool.eq_false_iff.2 h]; rfl

theorem points_pair (E : Ext K) (l r : ZTree K) (h : l.isPadding = true → r.isPadding = true) :
    (pair root E l r).points = l.points ++ r.points := by
  unfold pair
  split
  · next hl => simp [ZTree.points, points_of_isPadding hl, points_of_isPadding (h hl)]
  · simp [mkBranch, ZTree.points]

/-- one level keeps the invariants.  The last conjunct (every new node is padding exactly when some old node is)
    only serves to carry `PadSuffix` through the induction. -/
theorem pairUp_invariants {E : Ext K} (hE : E.Lawful) : ∀ (m : Nat) (nodes : List (ZTree K)),
    nodes.length = 2 * m → PadSuffix nodes → (∀ t ∈ nodes, t.Good) →
    PadSuffix (pairUp root E nodes) ∧ (∀ t ∈ pairUp root E nodes, t.Good) ∧
      allPoints (pairUp root E nodes) = allPoints nodes ∧
      (∀ t ∈ pairUp root E nodes, ∃ l ∈ nodes, t.isPadding = l.isPadding) := by
  intro m
  induction m with
  | zero =>
    intro nodes h _ _
    have : nodes = [] := List.length_eq_zero_iff.1 (by omega)
    subst this; simp [pairUp, PadSuffix, allPoints]
  | succ m ih =>
    intro nodes h hp hg
    match nodes, h with
    | l :: r :: rest, h =>
      have hrest : rest.length = 2 * m := by simp at h; omega
      have hp' : PadSuffix rest := by
        unfold PadSuffix at hp ⊢
        exact (List.pairwise_cons.1 (List.pairwise_cons.1 hp).2).2
      obtain ⟨i1, i2, i3, i4⟩ := ih rest hrest hp' (fun t ht => hg t (by simp [ht]))
      have hlr : l.isPadding = true → r.isPadding = true := (List.pairwise_cons.1 hp).1 r (by simp)
      have hlall : ∀ t ∈ rest, l.isPadding = true → t.isPadding = true :=
        fun t ht => (List.pairwise_cons.1 hp).1 t (by simp [ht])
      refine ⟨?_, ?_, ?_, ?_⟩
      · unfold PadSuffix
        simp only [pairUp]
        refine List.pairwise_cons.2 ⟨?_, i1⟩
        intro t ht hpad
        rw [isPadding_pair] at hpad
        obtain ⟨l', hl', e⟩ := i4 t ht
        rw [e]; exact hlall l' hl' hpad
      · intro t ht
        simp only [pairUp, List.mem_cons] at ht
        rcases ht with rfl | ht
        · unfold pair
          split
          · trivial
          · have gl := hg l (by simp)
            have gr := hg r (by simp)
            exact ⟨denote_mul_zpoly hE (gl.zerofier root) (gr.zerofier root), gl, gr⟩
        · exact i2 t ht
      · simp only [pairUp, allPoints, List.map_cons, List.flatten_cons] at i3 ⊢
        rw [points_pair root E l r hlr, i3]; simp
      · intro t ht
        simp only [pairUp, List.mem_cons] at ht
        rcases ht with rfl | ht
        · exact ⟨l, by simp, isPadding_pair root E l r⟩
        · obtain ⟨l', hl', e⟩ := i4 t ht
          exact ⟨l', by simp [hl'], e⟩

theorem levels_invariants {E : Ext K} (hE : E.Lawful) : ∀ (k : Nat) (nodes : List (ZTree K)),
    nodes.length = 2 ^ k → PadSuffix nodes → (∀ t ∈ nodes, t.Good) →
    (∀ t ∈ levels root E k nodes, t.Good) ∧ allPoints (levels root E k nodes) = allPoints nodes := by
  intro k
  induction k with
  | zero => intro nodes _ _ hg; exact ⟨hg, rfl⟩
  | succ k ih =>
    intro nodes h hp hg
    have h2 : nodes.length = 2 * 2 ^ k := by rw [h, pow_succ]; ring
    obtain ⟨i1, i2, i3, _⟩ := pairUp_invariants root hE (2 ^ k) nodes h2 hp hg
    obtain ⟨j1, j2⟩ := ih (pairUp root E nodes) (length_pairUp root E _ _ h2) i1 i2
    exact ⟨j1, by rw [← i3, ← j2]; rfl⟩

/-- what the deque loop returns on nodes whose count is a power of two: one tree, every stored zerofier right,
    the points in the order of the nodes -/
theorem treeLoop_spec {E : Ext K} (hE : E.Lawful) (k : Nat) (nodes : List (ZTree K)) (fuel : Nat)
    (hlen : nodes.length = 2 ^ k) (hf : 2 ^ k - 1 ≤ fuel) (hp : PadSuffix nodes) (hg : ∀ t ∈ nodes, t.Good) :
    ∃ t, treeLoop FK E fuel nodes = some t ∧ t.Good ∧ t.points = allPoints nodes := by
  obtain ⟨h1, h2⟩ := treeLoop_eq_levels root E k nodes fuel hlen hf
  obtain ⟨g1, g2⟩ := levels_invariants root hE k nodes hlen hp hg
  obtain ⟨t, ht⟩ : ∃ t, levels root E k nodes = [t] := List.length_eq_one_iff.1 h2
  refine ⟨t, by rw [h1, ht]; rfl, g1 t (by rw [ht]; simp), ?_⟩
  rw [← g2, ht]; simp [allPoints]

/-- a correct tree over the domain: what `ZerofierTree::new_from_domain` must deliver -/
def ZTree.Over (t : ZTree K) (domain : List K) : Prop := t.Good ∧ t.points = domain

theorem leaves_spec {chs : List (List K)} {leaves : List (ZTree K)}
    (hf : List.Forall₂ (fun (ch : List K) (lf : ZTree K) => lf.Good ∧ lf.points = ch ∧ lf.isPadding = false)
      chs leaves) :
    (∀ lf ∈ leaves, lf.Good ∧ lf.isPadding = false) ∧ allPoints leaves = chs.flatten := by
  induction hf with
  | nil => exact ⟨by simp, rfl⟩
  | cons h1 _ ih =>
    refine ⟨?_, ?_⟩
    · intro lf hlf
      rcases List.mem_cons.1 hlf with rfl | hlf
      · exact ⟨h1.1, h1.2.2⟩
      · exact ih.1 lf hlf
    · have := ih.2
      simp only [allPoints, List.map_cons, List.flatten_cons] at this ⊢
      rw [h1.2.1, this]

section tree
variable {E : Ext K} (hE : E.Lawful)
include hE

theorem tree_of_leaves {chs : List (List K)} {leaves : List (ZTree K)}
    (hf : List.Forall₂ (fun (ch : List K) (lf : ZTree K) => lf.Good ∧ lf.points = ch ∧ lf.isPadding = false)
      chs leaves) :
    ∃ t, treeLoop FK E (leaves ++ List.replicate (nextPow2 leaves.length - leaves.length) ZTree.padding).length
        (leaves ++ List.replicate (nextPow2 leaves.length - leaves.length) ZTree.padding) = some t
      ∧ t.Over chs.flatten := by
  obtain ⟨hgoodL, hptsL⟩ := leaves_spec hf
  obtain ⟨⟨k, hk2⟩, hle⟩ := nextPow2_spec leaves.length
  generalize hnodes : leaves ++ List.replicate (nextPow2 leaves.length - leaves.length) ZTree.padding = nodes
  have hlen : nodes.length = 2 ^ k := by
    rw [← hnodes]
    simp
    omega
  have hpts : allPoints nodes = chs.flatten := by
    rw [← hptsL, ← hnodes]
    simp [allPoints, ZTree.points]
  have hpad : PadSuffix nodes := by
    unfold PadSuffix
    rw [← hnodes, List.pairwise_append]
    refine ⟨?_, ?_, ?_⟩
    · exact List.Pairwise.imp_of_mem (R := fun _ _ => True)
        (fun ha _ _ hpa => by rw [(hgoodL _ ha).2] at hpa; cases hpa) (List.pairwise_of_forall (fun _ _ => trivial))
    · exact List.pairwise_replicate.2 (Or.inr (fun _ => rfl))
    · intro a _ b hb _
      rw [(List.mem_replicate.1 hb).2]; rfl
  have hgood : ∀ t ∈ nodes, t.Good := by
    intro t ht
    rw [← hnodes, List.mem_append] at ht
    rcases ht with ht | ht
    · exact (hgoodL t ht).1
    · rw [(List.mem_replicate.1 ht).2]; trivial
  obtain ⟨t', ht', g, pts⟩ := treeLoop_spec root hE k nodes nodes.length hlen (by omega) hpad hgood
  exact ⟨t', ht', g, by rw [pts, hpts]⟩

theorem leaf_ok (T : Nat) (ch : List K) (lf : ZTree K)
    (hlf : (do let z ← zerofierWith FK E T ch; pure (ZTree.leaf ch z)) = some lf) :
    lf.Good ∧ lf.points = ch ∧ lf.isPadding = false := by
  obtain ⟨z, hz, hlf⟩ := Option.bind_eq_some_iff.1 hlf
  simp only [Option.pure_def, Option.some.injEq] at hlf
  subst hlf
  exact ⟨zerofierWith_sound root hE T ch z hz, rfl, rfl⟩

/-- `new_from_domain`, any leaf size and cut-off: whatever is returned is a correct tree with the points in
    domain order -/
theorem newFromDomainWith_sound (RT T : Nat) (domain : List K) (t : ZTree K)
    (h : newFromDomainWith FK E RT T domain = some t) : t.Over domain := by
  unfold newFromDomainWith at h
  split at h
  · simp at h
  · next hrt =>
    have hk : 0 < RT := by
      rcases Nat.eq_zero_or_pos RT with h0 | h0
      · simp [h0] at hrt
      · exact h0
    obtain ⟨leaves, hm, h⟩ := Option.bind_eq_some_iff.1 h
    have hf := mapM_option_forall₂ (leaf_ok root hE T) _ _ hm
    obtain ⟨t', ht', hov⟩ := tree_of_leaves root hE hf
    rw [ht'] at h
    simp only [Option.some.injEq] at h
    subst h
    rw [flatten_chunks RT hk domain] at hov
    exact hov

/-- `new_from_domain` returns for every leaf size `≥ 1` and cut-off `≥ 2` -/
theorem newFromDomainWith_total (RT T : Nat) (hRT : 0 < RT) (hT : 2 ≤ T) (domain : List K) :
    ∃ t, newFromDomainWith FK E RT T domain = some t ∧ t.Over domain := by
  have hsome : ((chunks RT domain).mapM (fun ch => do
      let z ← zerofierWith FK E T ch
      pure (ZTree.leaf ch z))).isSome := by
    apply mapM_option_isSome
    intro ch _
    obtain ⟨z, hz⟩ := Option.isSome_iff_exists.1 (zerofierWith_total root (E := E) T hT ch)
    simp [hz]
  obtain ⟨leaves, hm⟩ := Option.isSome_iff_exists.1 hsome
  have hf := mapM_option_forall₂ (leaf_ok root hE T) _ _ hm
  obtain ⟨t', ht', _⟩ := tree_of_leaves root hE hf
  have : newFromDomainWith FK E RT T domain = some t' := by
    unfold newFromDomainWith
    have : ¬ (RT == 0) = true := by simp; omega
    rw [if_neg this]
    simp only [Option.bind_eq_bind] at hm ⊢
    rw [hm]
    exact ht'
  exact ⟨t', this, newFromDomainWith_sound root hE RT T domain t' this⟩

omit hE in
theorem reduce_eq_some (p m : List K) (r : List K) (h : reduce FK E p m = some r) :
    denote m ≠ 0 ∧ r = E.rem p m := by
  unfold reduce at h
  split at h
  · simp at h
  · next hz =>
    simp only [Option.some.injEq] at h
    exact ⟨fun h0 => hz ((isZero_iff root m).2 h0), h.symm⟩

/-- `divide_and_conquer_batch_evaluate` on a correct tree: the evaluations in the order of the points -/
theorem dcEval_spec (p : List K) : ∀ (t : ZTree K), t.Good →
    dcEval FK E p t = some (t.points.map (fun x => (denote p).eval x)) := by
  intro t
  induction t with
  | leaf pts z =>
    intro hg
    have hz : denote z = zpoly pts := hg
    have hne : Poly.isZero FK z = false := by
      rw [Bool.eq_false_iff]; intro h0
      exact zpoly_ne_zero pts (hz ▸ (isZero_iff root z).1 h0)
    simp only [dcEval, reduce, hne, Bool.false_eq_true, if_false, Option.bind_eq_bind, Option.bind_some,
      Option.pure_def, iterativeBatchEvaluate, ZTree.points, Option.some.injEq]
    apply List.map_congr_left
    intro x hx
    rw [eval_denote, hE.rem _ _ (hz ▸ zpoly_ne_zero pts)]
    exact eval_eq_of_dvd_sub (dvd_mod_sub _ _) (by rw [hz]; exact (eval_zpoly_eq_zero_iff pts x).2 hx)
  | branch z l r ihl ihr =>
    intro hg
    simp [dcEval, ihl hg.2.1, ihr hg.2.2, ZTree.points]
  | padding => intro _; simp [dcEval, ZTree.points]

/-- evaluating, over a correct tree, anything congruent to `g` modulo the root zerofier gives the values of `g` -/
theorem dcEval_of_dvd {tree : ZTree K} {points : List K} (hov : tree.Over points) (mi : List K) (g : K[X])
    (hgm : denote (tree.zerofier FK) ∣ denote mi - g) :
    dcEval FK E mi tree = some (points.map (fun x => g.eval x)) := by
  obtain ⟨hg, hpts⟩ := hov
  rw [dcEval_spec root hE mi tree hg, hpts]
  congr 1
  apply List.map_congr_left
  intro x hx
  exact eval_eq_of_dvd_sub hgm (by rw [hg.zerofier root, hpts]; exact (eval_zpoly_eq_zero_iff points x).2 hx)

/-- `batch_evaluate`, every ratio / leaf size / cut-off: whatever is returned are the evaluations in input order -/
theorem batchEvaluateWith_sound (R RT T : Nat) (p domain out : List K)
    (h : batchEvaluateWith FK E R RT T p domain = some out) :
    out = domain.map (fun x => (denote p).eval x) := by
  unfold batchEvaluateWith at h
  split at h
  · next hz =>
    simp only [Option.some.injEq] at h; subst h
    rw [(isZero_iff root p).1 hz]
    simp [List.map_const']
  · split at h
    · obtain ⟨t, ht, h⟩ := Option.bind_eq_some_iff.1 h
      obtain ⟨r, hr, h⟩ := Option.bind_eq_some_iff.1 h
      obtain ⟨hzne, rfl⟩ := reduce_eq_some root p _ r hr
      rw [dcEval_of_dvd root hE (newFromDomainWith_sound root hE RT T domain t ht) _ (denote p)
        (by rw [hE.rem _ _ hzne]; exact dvd_mod_sub _ _)] at h
      exact (Option.some.inj h).symm
    · obtain ⟨t, ht, h⟩ := Option.bind_eq_some_iff.1 h
      rw [dcEval_of_dvd root hE (newFromDomainWith_sound root hE RT T domain t ht) p (denote p)
        (by rw [sub_self]; exact dvd_zero _)] at h
      exact (Option.some.inj h).symm

theorem batchEvaluateWith_total (R RT T : Nat) (hRT : 0 < RT) (hT : 2 ≤ T) (p domain : List K) :
    batchEvaluateWith FK E R RT T p domain = some (domain.map (fun x => (denote p).eval x)) := by
  have hsome : (batchEvaluateWith FK E R RT T p domain).isSome := by
    obtain ⟨t, ht, hg, hpts⟩ := newFromDomainWith_total root hE RT T hRT hT domain
    unfold batchEvaluateWith
    split
    · simp
    · split
      · have hne : Poly.isZero FK (t.zerofier FK) = false := by
          rw [Bool.eq_false_iff]; intro h0
          exact zpoly_ne_zero t.points ((hg.zerofier root) ▸ (isZero_iff root _).1 h0)
        simp [ht, reduce, hne, dcEval_spec root hE _ t hg]
      · simp [ht, dcEval_spec root hE _ t hg]
  obtain ⟨out, hout⟩ := Option.isSome_iff_exists.1 hsome
  rw [hout, batchEvaluateWith_sound root hE R RT T p domain out hout]

/-- `par_batch_evaluate`, every thread count: whatever is returned are the evaluations in input order -/
theorem parBatchEvaluateWith_sound (R RT T threads : Nat) (p domain out : List K)
    (h : parBatchEvaluateWith FK E R RT T threads p domain = some out) :
    out = domain.map (fun x => (denote p).eval x) := by
  unfold parBatchEvaluateWith at h
  split at h
  · next hz =>
    simp only [Option.some.injEq] at h; subst h
    rcases Bool.or_eq_true_iff.1 hz with hd | hp
    · have : domain = [] := by simpa using hd
      subst this; rfl
    · rw [(isZero_iff root p).1 hp]; simp [List.map_const']
  · simp only at h
    split at h
    · simp at h
    · next hchunk =>
      obtain ⟨parts, hm, h⟩ := Option.bind_eq_some_iff.1 h
      simp only [Option.pure_def, Option.some.injEq] at h; subst h
      have hk : 0 < ceilDiv domain.length threads := by
        rcases Nat.eq_zero_or_pos (ceilDiv domain.length threads) with h0 | h0
        · simp [h0] at hchunk
        · exact h0
      have hf := mapM_option_forall₂
        (P := fun (ch o : List K) => o = ch.map (fun x => (denote p).eval x))
        (fun a b hab => batchEvaluateWith_sound root hE R RT T p a b hab) _ _ hm
      have hfl := flatten_chunks (ceilDiv domain.length threads) hk domain
      generalize chunks (ceilDiv domain.length threads) domain = chs at hf hfl
      rw [← hfl]
      exact forall₂_flatten_map _ hf

/-- `par_batch_evaluate` returns for every thread count `≥ 1` -/
theorem parBatchEvaluateWith_total (R RT T threads : Nat) (hRT : 0 < RT) (hT : 2 ≤ T) (hth : 0 < threads)
    (p domain : List K) :
    parBatchEvaluateWith FK E R RT T threads p domain = some (domain.map (fun x => (denote p).eval x)) := by
  have hsome : (parBatchEvaluateWith FK E R RT T threads p domain).isSome := by
    unfold parBatchEvaluateWith
    split
    · simp
    · next hne =>
      simp only
      have hdom : domain ≠ [] := by
        intro h
        subst h
        simp at hne
      have hlen : 0 < domain.length := List.length_pos_iff.2 hdom
      have hk : 0 < ceilDiv domain.length threads := by
        unfold ceilDiv
        apply Nat.div_pos <;> omega
      rw [if_neg (by simp; omega)]
      have : ((chunks (ceilDiv domain.length threads) domain).mapM (batchEvaluateWith FK E R RT T p)).isSome := by
        apply mapM_option_isSome
        intro ch _
        rw [batchEvaluateWith_total root hE R RT T hRT hT p ch]; rfl
      obtain ⟨parts, hp⟩ := Option.isSome_iff_exists.1 this
      simp [hp]
  obtain ⟨out, hout⟩ := Option.isSome_iff_exists.1 hsome
  rw [hout, parBatchEvaluateWith_sound root hE R RT T threads p domain out hout]

end tree

section lagrange
open Classical

/-- the synthetic-division loop: `rest` are the remaining zerofier coefficients in descending order -/
theorem synthGo_spec (x : K) : ∀ (rest : List K), rest ≠ [] → ∀ (lc ev : K) (acc : List K),
    ev = (denote acc).eval x →
    ∃ r : K, denote rest.reverse + X ^ rest.length * (C lc + (X - C x) * denote acc)
        = (X - C x) * denote (synthGo FK x lc ev acc rest).1 + C r
      ∧ (synthGo FK x lc ev acc rest).2 = (denote (synthGo FK x lc ev acc rest).1).eval x
      ∧ (synthGo FK x lc ev acc rest).1.length = acc.length + rest.length := by
  intro rest
  induction rest with
  | nil => intro h; exact absurd rfl h
  | cons s rest ih =>
    intro _ lc ev acc hev
    cases rest with
    | nil =>
      refine ⟨s + x * lc, ?_, ?_, ?_⟩
      · simp only [synthGo, List.reverse_cons, List.reverse_nil, List.nil_append, denote_cons, denote_nil,
          List.length_singleton, C_add, C_mul]
        ring
      · simp [synthGo, hev]; ring
      · simp [synthGo]
    | cons s' rest =>
      have h := ih (by simp) (s + lc * x) (ev * x + lc) (lc :: acc) (by simp [hev]; ring)
      obtain ⟨r, h1, h2, h3⟩ := h
      refine ⟨r, ?_, ?_, ?_⟩
      · simp only [synthGo, FieldOps.ofField_add, FieldOps.ofField_mul]
        rw [← h1]
        simp only [List.reverse_cons, denote_append, denote_cons, denote_nil, List.length_cons, List.length_append,
          List.length_reverse, List.length_nil, C_add, C_mul]
        ring
      · simpa only [synthGo, FieldOps.ofField_add, FieldOps.ofField_mul] using h2
      · simp only [synthGo, FieldOps.ofField_add, FieldOps.ofField_mul]
        rw [h3]
        simp
        omega

theorem zpoly_eq_mul_erase (domain : List K) (x : K) (hx : x ∈ domain) :
    zpoly domain = (X - C x) * zpoly (domain.erase x) := by
  induction domain with
  | nil => simp at hx
  | cons d ds ih =>
    by_cases hd : d = x
    · subst hd; simp
    · have hx' : x ∈ ds := by
        rcases List.mem_cons.1 hx with h | h
        · exact absurd h.symm hd
        · exact h
      rw [List.erase_cons_tail (by simpa using hd), zpoly_cons, zpoly_cons, ih hx']
      ring

/-- for pairwise distinct nodes the cofactor `Z / (X - x)` does not vanish at its own node `x` -/
theorem eval_zpoly_erase_ne_zero {domain : List K} (hn : domain.Nodup) (x : K) :
    (zpoly (domain.erase x)).eval x ≠ 0 := by
  rw [Ne, eval_zpoly_eq_zero_iff]
  intro h
  exact ((List.Nodup.mem_erase_iff hn).1 h).1 rfl

/-- what one pass of the inner loop computes for the abscissa `x ∈ domain`: the cofactor `Z / (X - x)` and its
    value at `x` -/
theorem synth_zerofier (domain : List K) (x : K) (hx : x ∈ domain) (zn : K) (zs : List K)
    (hz : denote (zn :: zs).reverse = zpoly domain) (hlen : zs.length = domain.length) :
    denote (synthGo FK x zn 0 [] zs).1 = zpoly (domain.erase x)
    ∧ (synthGo FK x zn 0 [] zs).2 = (zpoly (domain.erase x)).eval x
    ∧ (synthGo FK x zn 0 [] zs).1.length = domain.length := by
  have hne : zs ≠ [] := by
    intro h; subst h
    cases domain with
    | nil => simp at hx
    | cons _ _ => simp at hlen
  obtain ⟨r, h1, h2, h3⟩ := synthGo_spec root x zs hne zn 0 [] (by simp)
  have hz' : denote zs.reverse + X ^ zs.length * C zn = zpoly domain := by
    rw [← hz, List.reverse_cons, denote_append]; simp
  simp only [denote_nil, mul_zero, add_zero] at h1
  rw [hz'] at h1
  have hr : r = 0 := by
    have := congrArg (eval x) h1
    simp only [eval_add, eval_mul, eval_sub, eval_X, eval_C, sub_self, zero_mul, zero_add] at this
    rw [← this, (eval_zpoly_eq_zero_iff domain x).2 hx]
  rw [hr, zpoly_eq_mul_erase domain x hx] at h1
  simp only [map_zero, add_zero] at h1
  have hq : denote (synthGo FK x zn 0 [] zs).1 = zpoly (domain.erase x) :=
    (mul_left_cancel₀ (X_sub_C_ne_zero x) h1).symm
  exact ⟨hq, by rw [h2, hq], by rw [h3, hlen]; simp⟩

theorem denote_zipWith_axpy (c : K) : ∀ (u v : List K), u.length = v.length →
    denote (List.zipWith (fun a s => (FK).add a ((FK).mul c s)) u v) = denote u + C c * denote v
  | [], [], _ => by simp
  | a :: u, b :: v, h => by
    rw [List.zipWith_cons_cons, denote_cons, denote_cons, denote_cons, denote_zipWith_axpy c u v (Nat.succ.inj h),
      FieldOps.ofField_add, FieldOps.ofField_mul, C_add, C_mul]
    ring

/-- the weighted sum of cofactors the outer loop accumulates -/
noncomputable def lsum (domain : List K) (pairs : List (K × K)) : K[X] :=
  (pairs.map (fun p => C (p.2 / (zpoly (domain.erase p.1)).eval p.1) * zpoly (domain.erase p.1))).sum

theorem lagrangeLoop_spec (domain : List K) (hn : domain.Nodup) (zn : K) (zs : List K)
    (hz : denote (zn :: zs).reverse = zpoly domain) (hlen : zs.length = domain.length) :
    ∀ (pairs : List (K × K)) (sum : List K), (∀ p ∈ pairs, p.1 ∈ domain) → sum.length = domain.length →
    ∃ f, lagrangeLoop FK (zn :: zs) pairs sum = some f ∧ f.length = domain.length
      ∧ denote f = denote sum + lsum domain pairs := by
  intro pairs
  induction pairs with
  | nil => intro sum _ hs; exact ⟨sum, rfl, hs, by simp [lsum]⟩
  | cons p pairs ih =>
    intro sum hmem hs
    obtain ⟨x, y⟩ := p
    have hx : x ∈ domain := hmem (x, y) (by simp)
    obtain ⟨q1, q2, q3⟩ := synth_zerofier root domain x hx zn zs hz hlen
    have hev := eval_zpoly_erase_ne_zero hn x
    rw [lagrangeLoop]
    simp only
    have hnz : (FK).isZero (synthGo FK x zn (FK).zero [] zs).2 = false := by
      rw [FieldOps.ofField_zero, q2]; simpa using hev
    rw [hnz]
    simp only [Bool.false_eq_true, if_false]
    obtain ⟨f, hf1, hf2, hf3⟩ := ih
      (List.zipWith (fun a s => (FK).add a ((FK).mul ((FK).div y (synthGo FK x zn (FK).zero [] zs).2) s)) sum
        (synthGo FK x zn (FK).zero [] zs).1)
      (fun p hp => hmem p (by simp [hp]))
      (by simp only [FieldOps.ofField_zero, List.length_zipWith, q3, hs]; simp)
    refine ⟨f, hf1, hf2, ?_⟩
    rw [hf3, denote_zipWith_axpy root _ _ _ (by rw [FieldOps.ofField_zero, q3, hs])]
    simp only [FieldOps.ofField_zero] at q1 q2 ⊢
    rw [q1, q2]
    simp only [lsum, List.map_cons, List.sum_cons, FieldOps.div, FieldOps.ofField_mul, FieldOps.ofField_inv,
      div_eq_mul_inv]
    ring

theorem eval_lsum (domain : List K) (hn : domain.Nodup) : ∀ (pairs : List (K × K)),
    (pairs.map (·.1)).Nodup → (∀ p ∈ pairs, p.1 ∈ domain) → ∀ p ∈ pairs, (lsum domain pairs).eval p.1 = p.2 := by
  intro pairs
  induction pairs with
  | nil => intro _ _ p hp; simp at hp
  | cons p0 pairs ih =>
    intro hnd hmem p hp
    have hnd2 : (p0.1 :: pairs.map (·.1)).Nodup := hnd
    have hnd' := (List.nodup_cons.1 hnd2).2
    have hnot : p0.1 ∉ pairs.map (·.1) := (List.nodup_cons.1 hnd2).1
    have hcof : ∀ a b : K, a ∈ domain → b ∈ domain → a ≠ b → (zpoly (domain.erase b)).eval a = 0 := by
      intro a b ha _ hab
      rw [eval_zpoly_eq_zero_iff]
      exact (List.Nodup.mem_erase_iff hn).2 ⟨hab, ha⟩
    simp only [lsum, List.map_cons, List.sum_cons, eval_add, eval_mul, eval_C]
    rcases List.mem_cons.1 hp with rfl | hp'
    · -- the head term gives y, every other term vanishes
      have hrest : ((pairs.map (fun q => C (q.2 / (zpoly (domain.erase q.1)).eval q.1) *
          zpoly (domain.erase q.1))).sum).eval p.1 = 0 := by
        rw [eval_listSum]
        apply List.sum_eq_zero
        intro v hv
        simp only [List.map_map, List.mem_map, Function.comp] at hv
        obtain ⟨q, hq, rfl⟩ := hv
        have hne : p.1 ≠ q.1 := fun e => hnot (e ▸ List.mem_map_of_mem hq)
        simp [hcof p.1 q.1 (hmem p (by simp)) (hmem q (by simp [hq])) hne]
      rw [hrest, add_zero, div_mul_cancel₀ _ (eval_zpoly_erase_ne_zero hn p.1)]
    · have hne : p.1 ≠ p0.1 := fun e => hnot (e ▸ List.mem_map_of_mem hp')
      rw [hcof p.1 p0.1 (hmem p (by simp [hp'])) (hmem p0 (by simp)) hne, mul_zero, zero_add]
      exact ih hnd' (fun q hq => hmem q (by simp [hq])) p hp'

/-- what `lagrange_interpolate` reads off a storage of the zerofier: its `n + 1` low coefficients, highest first -/
theorem zerofier_descending (domain z : List K) (hzd : denote z = zpoly domain) :
    domain.length + 1 ≤ z.length ∧ ∃ zn zs, (z.take (domain.length + 1)).reverse = zn :: zs ∧
      zs.length = domain.length ∧ denote (zn :: zs).reverse = zpoly domain := by
  have hnat : (denote z).natDegree = domain.length := by rw [hzd, natDegree_zpoly]
  have hzne : z ≠ [] := by
    intro h; subst h
    exact zpoly_ne_zero domain (by rw [← hzd]; rfl)
  have hzlen : domain.length + 1 ≤ z.length := by
    have := natDegree_denote_lt z hzne
    omega
  refine ⟨hzlen, ?_⟩
  cases hzz : (z.take (domain.length + 1)).reverse with
  | nil =>
    have := congrArg List.length hzz
    rw [List.length_reverse, List.length_take, List.length_nil] at this
    omega
  | cons zn zs =>
    have hl := congrArg List.length hzz
    rw [List.length_reverse, List.length_take, List.length_cons] at hl
    refine ⟨zn, zs, rfl, by omega, ?_⟩
    rw [← hzz, List.reverse_reverse,
      denote_take_of_coeff z _ (fun _ hi => coeff_eq_zero_of_natDegree_lt (by omega)), hzd]

variable {E : Ext K} (hE : E.Lawful)
include hE

/-- `lagrange_interpolate` on pairwise distinct abscissae: returns (whenever `zerofier` returns), and the result
    passes the certificate -/
theorem lagrangeInterpolateWith_spec (T : Nat) (domain values : List K) (hn : domain.Nodup)
    (hl : domain.length = values.length) (hz : (zerofierWith FK E T domain).isSome) :
    ∃ f, lagrangeInterpolateWith FK E T domain values = some f ∧ Interpolates domain values (denote f) := by
  obtain ⟨z, hz⟩ := Option.isSome_iff_exists.1 hz
  obtain ⟨hzlen, zn, zs, hzz, hzslen, hzrev⟩ :=
    zerofier_descending domain z (zerofierWith_sound root hE T domain z hz)
  have hmem : ∀ p ∈ domain.zip values, p.1 ∈ domain := fun p hp => (List.of_mem_zip hp).1
  obtain ⟨f, hf1, hf2, hf3⟩ := lagrangeLoop_spec root domain hn zn zs hzrev hzslen (domain.zip values)
    (List.replicate domain.length (FK).zero) hmem (by simp)
  refine ⟨f, ?_, ?_, ?_⟩
  · unfold lagrangeInterpolateWith
    simp only [hz, Option.bind_eq_bind, Option.bind_some]
    rw [if_neg (by omega), if_neg (by omega), hzz]
    exact hf1
  · rw [← hf2]; exact degree_denote_lt f
  · intro p hp
    rw [hf3]
    simp only [FieldOps.ofField_zero, denote_replicate_zero, zero_add]
    apply eval_lsum domain hn (domain.zip values) _ hmem p hp
    rw [List.map_fst_zip (by omega)]
    exact hn

end lagrange

section dc
variable {E : Ext K} (hE : E.Lawful)
include hE

/-- evaluator contract used by the interpolation routines -/
def BevOK (bev : List K → List K → Option (List K)) : Prop :=
  ∀ p d, bev p d = some (d.map (fun x => (denote p).eval x))

/-- interpolator contract on a class of domains -/
def InterpOK (interp : List K → List K → Option (List K)) (bound : Nat) : Prop :=
  ∀ d v, d ≠ [] → d.length < bound → d.Nodup → d.length = v.length →
    ∃ f, interp d v = some f ∧ Interpolates d v (denote f)

omit hE in
/-- one half of the divide-and-conquer identity: the half interpolant through the rescaled targets, times the
    zerofier of the other half, takes the original values on its own half -/
theorem half_eval (own other : List K) (vals : List K) (hdisj : ∀ x ∈ own, x ∉ other)
    (hi : K[X]) (hhi : Interpolates own
      (List.zipWith (· * ·) vals ((own.map (fun x => (zpoly other).eval x)).map (fun x => x⁻¹))) hi) :
    ∀ p ∈ own.zip vals, hi.eval p.1 * (zpoly other).eval p.1 = p.2 := by
  intro p hp
  have hmem : (p.1, p.2 * ((zpoly other).eval p.1)⁻¹) ∈
      own.zip (List.zipWith (· * ·) vals ((own.map (fun x => (zpoly other).eval x)).map (fun x => x⁻¹))) := by
    rw [List.map_map, zip_zipWith_map]
    exact List.mem_map.2 ⟨p, hp, rfl⟩
  have := hhi.2 _ hmem
  simp only at this
  rw [this]
  have hne : (zpoly other).eval p.1 ≠ 0 := by
    rw [Ne, eval_zpoly_eq_zero_iff]
    exact hdisj p.1 (List.of_mem_zip hp).1
  field_simp

omit hE in
theorem degree_mul_zpoly_lt (p : K[X]) (rs : List K) (n : Nat) (h : p.degree < n) :
    (p * zpoly rs).degree < ((n + rs.length : Nat) : WithBot ℕ) := by
  rw [degree_mul, degree_zpoly, Nat.cast_add]
  exact WithBot.add_lt_add_right (by simp) h

omit hE in
/-- the divide-and-conquer identity `f = L·Z_R + R·Z_L`: the half interpolants through the rescaled targets recombine
    to the interpolant on `L ++ R` -/
theorem Interpolates.append {L R vL vR : List K} {li ri : K[X]} (hnd : (L ++ R).Nodup) (hl : L.length = vL.length)
    (hli : Interpolates L (List.zipWith (· * ·) vL ((L.map (fun x => (zpoly R).eval x)).map (fun x => x⁻¹))) li)
    (hri : Interpolates R (List.zipWith (· * ·) vR ((R.map (fun x => (zpoly L).eval x)).map (fun x => x⁻¹))) ri) :
    Interpolates (L ++ R) (vL ++ vR) (li * zpoly R + ri * zpoly L) := by
  obtain ⟨_, _, hdisj⟩ := List.nodup_append.1 hnd
  refine ⟨?_, ?_⟩
  · rw [List.length_append]
    refine lt_of_le_of_lt (degree_add_le _ _) (max_lt (degree_mul_zpoly_lt _ _ _ hli.1) ?_)
    rw [Nat.add_comm]
    exact degree_mul_zpoly_lt _ _ _ hri.1
  · intro p hp
    rw [List.zip_append hl, List.mem_append] at hp
    rw [eval_add, eval_mul, eval_mul]
    rcases hp with hp | hp
    · rw [half_eval _ _ _ (fun x hx hx' => hdisj x hx x hx' rfl) _ hli p hp,
        (eval_zpoly_eq_zero_iff L p.1).2 (List.of_mem_zip hp).1, mul_zero, add_zero]
    · rw [half_eval _ _ _ (fun x hx hx' => hdisj x hx' x hx rfl) _ hri p hp,
        (eval_zpoly_eq_zero_iff R p.1).2 (List.of_mem_zip hp).1, mul_zero, zero_add]

/-- recombination of the two half interpolants (the last step of every divide-and-conquer variant) -/
theorem combine_halves (domain values : List K) (mid : Nat) (hn : domain.Nodup) (hl : domain.length = values.length)
    (lz rz li ri : List K) (hlzd : denote lz = zpoly (domain.take mid)) (hrzd : denote rz = zpoly (domain.drop mid))
    (hliI : Interpolates (domain.take mid)
      (List.zipWith (FK).mul (values.take mid)
        (((domain.take mid).map (fun x => (denote rz).eval x)).map (fun x => x⁻¹))) (denote li))
    (hriI : Interpolates (domain.drop mid)
      (List.zipWith (FK).mul (values.drop mid)
        (((domain.drop mid).map (fun x => (denote lz).eval x)).map (fun x => x⁻¹))) (denote ri)) :
    Interpolates domain values (denote (add FK (E.mul li rz) (E.mul ri lz))) := by
  have h := Interpolates.append (L := domain.take mid) (R := domain.drop mid) (vL := values.take mid)
    (vR := values.drop mid) (by rw [List.take_append_drop]; exact hn)
    (by rw [List.length_take, List.length_take, hl]) (by rw [← hrzd]; exact hliI) (by rw [← hlzd]; exact hriI)
  rw [denote_add, hE.mul, hE.mul, hlzd, hrzd]
  rwa [List.take_append_drop, List.take_append_drop] at h

omit hE in
/-- the offsets `Z_other(x)`, `x` in the own half, are non-zero: their batch inversion succeeds -/
theorem batchInversion_offsets (own other z : List K) (hz : denote z = zpoly other) (hdisj : ∀ x ∈ own, x ∉ other) :
    batchInversion FK (own.map (fun x => (denote z).eval x))
      = some ((own.map (fun x => (denote z).eval x)).map (fun x => x⁻¹)) := by
  apply batchInversion_map
  intro y hy
  obtain ⟨x, hx, rfl⟩ := List.mem_map.1 hy
  rw [hz, Ne, eval_zpoly_eq_zero_iff]
  exact hdisj x hx

/-- body of `fast_interpolate` / `par_fast_interpolate`, any zerofier cut-off `≥ 2` -/
theorem fastInterpolateStep_spec (zfT : Nat) (hT : 2 ≤ zfT) (interp : List K → List K → Option (List K))
    (bev : List K → List K → Option (List K)) (hbev : BevOK bev) (domain values : List K)
    (hinterp : InterpOK interp domain.length)
    (hne : domain ≠ []) (hn : domain.Nodup) (hl : domain.length = values.length) :
    ∃ f, fastInterpolateStep FK E zfT interp bev domain values = some f ∧ Interpolates domain values (denote f) := by
  by_cases h1 : domain.length = 1
  · -- a single point: the constant polynomial
    obtain ⟨x, rfl⟩ := List.length_eq_one_iff.1 h1
    obtain ⟨v, rfl⟩ := List.length_eq_one_iff.1 (hl ▸ h1 : values.length = 1)
    refine ⟨[v], by simp [fastInterpolateStep], ?_, ?_⟩
    · simp only [denote_cons, denote_nil, mul_zero, add_zero, List.length_singleton, Nat.cast_one]
      exact lt_of_le_of_lt degree_C_le (by norm_num)
    · intro p hp
      simp at hp
      subst hp
      simp
  · have hlen : 2 ≤ domain.length := by
      have := List.length_pos_iff.2 hne; omega
    set mid := domain.length / 2 with hmid
    obtain ⟨lz, hlz, hlzd⟩ := zerofierWith_spec root hE zfT hT (domain.take mid)
    obtain ⟨rz, hrz, hrzd⟩ := zerofierWith_spec root hE zfT hT (domain.drop mid)
    obtain ⟨hnl, hnr, hdisj⟩ := List.nodup_append.1 (by rw [List.take_append_drop]; exact hn :
      (domain.take mid ++ domain.drop mid).Nodup)
    have hloi := batchInversion_offsets root _ _ rz hrzd (fun x hx hx' => hdisj x hx x hx' rfl)
    have hroi := batchInversion_offsets root _ _ lz hlzd (fun x hx hx' => hdisj x hx' x hx rfl)
    have hll : (domain.take mid).length = mid := by rw [List.length_take]; omega
    have hrl : (domain.drop mid).length = domain.length - mid := List.length_drop
    obtain ⟨li, hli, hliI⟩ := hinterp (domain.take mid)
      (List.zipWith (FK).mul (values.take mid)
        (((domain.take mid).map (fun x => (denote rz).eval x)).map (fun x => x⁻¹)))
      (by intro h; rw [h] at hll; simp at hll; omega) (by omega) hnl
      (by rw [List.length_zipWith, List.length_map, List.length_map, hll, List.length_take]; omega)
    obtain ⟨ri, hri, hriI⟩ := hinterp (domain.drop mid)
      (List.zipWith (FK).mul (values.drop mid)
        (((domain.drop mid).map (fun x => (denote lz).eval x)).map (fun x => x⁻¹)))
      (by intro h; rw [h] at hrl; simp at hrl; omega) (by omega) hnr
      (by rw [List.length_zipWith, List.length_map, List.length_map, hrl, List.length_drop]; omega)
    refine ⟨add FK (E.mul li rz) (E.mul ri lz), ?_,
      combine_halves root hE domain values mid hn hl lz rz li ri hlzd hrzd hliI hriI⟩
    unfold fastInterpolateStep
    rw [if_neg (by simpa using h1)]
    simp only
    rw [if_neg (by omega), ← hmid]
    simp only [hlz, hrz, hbev rz _, hbev lz _, Option.bind_eq_bind, Option.bind_some, hloi, hli, hroi, hri,
      Option.pure_def]

/-- `interpolate` / `par_interpolate`: the dispatcher with any cut-off `cut`, any evaluator satisfying its contract -/
theorem interpolateFuel_spec (t : Thr) (hT : 2 ≤ t.zf) (cut : Nat) (bev : List K → List K → Option (List K))
    (hbev : BevOK bev) : ∀ (fuel : Nat), InterpOK (interpolateFuel FK E t cut bev fuel) fuel := by
  intro fuel
  induction fuel with
  | zero => intro d v _ h; omega
  | succ fuel ih =>
    intro d v hne hlen hn hl
    rw [interpolateFuel]
    rw [if_neg (by simpa using hne), if_neg (by simpa using hl)]
    split
    · exact lagrangeInterpolateWith_spec root hE t.zf d v hn hl (zerofierWith_total root (E := E) t.zf hT d)
    · apply fastInterpolateStep_spec root hE t.zf hT _ bev hbev d v _ hne hn hl
      intro d' v' hne' hlen' hn' hl'
      exact ih d' v' hne' (by omega) hn' hl'

/-- the dispatcher as `interpolate` / `par_interpolate` start it, with more fuel than points: it meets the
    interpolator contract for every bound, the bound hypothesis is not needed -/
theorem interpolateFuel_ok (t : Thr) (hT : 2 ≤ t.zf) (cut : Nat) (bev : List K → List K → Option (List K))
    (hbev : BevOK bev) (bound : Nat) :
    InterpOK (fun d v => interpolateFuel FK E t cut bev (d.length + 1) d v) bound :=
  fun d v hd _ hn hl => interpolateFuel_spec root hE t hT cut bev hbev (d.length + 1) d v hd (Nat.lt_succ_self _) hn hl

theorem bevSeq_ok (t : Thr) (hT : 2 ≤ t.zf) (hRT : 0 < t.rt) : BevOK (bevSeq FK E t) :=
  fun p d => batchEvaluateWith_total root hE t.ratio t.rt t.zf hRT hT p d

theorem bevPar_ok (t : Thr) (hT : 2 ≤ t.zf) (hRT : 0 < t.rt) (threads : Nat) (hth : 0 < threads) :
    BevOK (bevPar FK E t threads) :=
  fun p d => parBatchEvaluateWith_total root hE t.ratio t.rt t.zf threads hRT hT hth p d

end dc

section coset

/-- what C06 proves about `ntt` / `intt` for the root `ω = root n` of the table: the forward transform evaluates at
    the powers of `ω`; the inverse transform returns the coefficients (length `n`) of the polynomial taking the
    given values there, provided the `n` powers are pairwise distinct (`ω` primitive) -/
structure Ext.LawfulNtt (E : Ext K) : Prop where
  ntt : ∀ (xs : List K) (ω : K), root xs.length = some ω →
    E.ntt xs = (List.range xs.length).map (fun i => (denote xs).eval (ω ^ i))
  intt : ∀ (vs : List K) (ω : K), root vs.length = some ω →
    ((List.range vs.length).map (fun i => ω ^ i)).Nodup →
    Interpolates ((List.range vs.length).map (fun i => ω ^ i)) vs (denote (E.intt vs))

/-- the coset `offset·⟨ω⟩` in the order the code enumerates it -/
def cosetDomain (offset ω : K) (n : Nat) : List K := (List.range n).map (fun i => offset * ω ^ i)

theorem geom_eq (g : K) : ∀ (n : Nat) (x0 : K), geom FK x0 g n = (List.range n).map (fun i => x0 * g ^ i) := by
  intro n
  induction n with
  | zero => intro x0; rfl
  | succ n ih =>
    intro x0
    rw [geom, ih, List.range_succ_eq_map]
    simp only [List.map_cons, pow_zero, mul_one, List.map_map, FieldOps.ofField_mul]
    congr 1
    apply List.map_congr_left
    intro i _
    simp [pow_succ]; ring

theorem cosetDomain_eq_map (offset ω : K) (n : Nat) :
    cosetDomain offset ω n = ((List.range n).map (fun i => ω ^ i)).map (fun x => offset * x) := by
  simp [cosetDomain]

theorem denote_resize_of_coeff (q : List K) (n : Nat) (h : ∀ i, n ≤ i → (denote q).coeff i = 0) :
    denote (resize FK q n) = denote q :=
  denote_take_append_zeros q n _ h

theorem length_resize (q : List K) (n : Nat) : (resize FK q n).length = n :=
  length_take_append_replicate q n _

variable {E : Ext K} (hN : Ext.LawfulNtt root E)
include hN

/-- `fast_coset_evaluate`: whatever it returns are the values on `offset·ω^i`, `i < order`, in order -/
theorem fastCosetEvaluate_sound (p : List K) (offset : K) (order : Nat) (ω : K) (hω : root order = some ω)
    (out : List K) (h : fastCosetEvaluate FK E p offset order = some out) :
    out = (cosetDomain offset ω order).map (fun x => (denote p).eval x) := by
  unfold fastCosetEvaluate at h
  split at h
  · simp at h
  · next hdeg =>
    have hdeg' : degSucc FK p ≤ order := by simpa using hdeg
    unfold nttChecked at h
    split at h
    · simp only [Option.some.injEq] at h
      subst h
      have hl := length_resize root (scale FK p offset) order
      rw [hN.ntt _ ω (by rw [hl]; exact hω), hl, cosetDomain, List.map_map]
      apply List.map_congr_left
      intro i _
      rw [denote_resize_of_coeff, denote_scale, eval_comp]
      · simp
      · intro j hj
        rw [denote_scale, comp_C_mul_X_coeff, coeff_denote,
          getD_eq_zero_of_ge root p j (le_trans hdeg' hj), zero_mul]
    · simp at h

omit hN in
theorem Interpolates.scale_domain {xs ys : List K} {f : K[X]} (hf : Interpolates xs ys f) (a : K) (ha : a ≠ 0) :
    Interpolates (xs.map (fun x => a * x)) ys (f.comp (C a⁻¹ * X)) := by
  refine ⟨?_, ?_⟩
  · rw [List.length_map, degree_lt_iff_coeff_zero]
    intro m hm
    rw [comp_C_mul_X_coeff, (degree_lt_iff_coeff_zero _ _).1 hf.1 m hm, zero_mul]
  · intro p hp
    rw [List.zip_map_left, List.mem_map] at hp
    obtain ⟨q, hq, rfl⟩ := hp
    simp only [Prod.map_fst, Prod.map_snd, id_eq, eval_comp, eval_mul, eval_C, eval_X]
    rw [← mul_assoc, inv_mul_cancel₀ ha, one_mul]
    exact hf.2 q hq

/-- `intt`, then `scale` by the inverse offset: the step shared by `fast_coset_interpolate`,
    `naive_coset_extrapolate`, the INTT arm of `fast_modular_coset_interpolate…` and the batch extrapolation -/
theorem scale_intt_interpolates (offset : K) (values : List K) (ω : K) (hω : root values.length = some ω)
    (hprim : ((List.range values.length).map (fun i => ω ^ i)).Nodup) (c : List K)
    (hc : inttChecked E values = some c) (hoff : ¬ (FK).isZero offset = true) :
    Interpolates (cosetDomain offset ω values.length) values (denote (scale FK c ((FK).inv offset))) := by
  unfold inttChecked at hc
  split at hc
  · obtain rfl := Option.some.inj hc
    rw [denote_scale, cosetDomain_eq_map]
    exact (hN.intt values ω hω hprim).scale_domain offset (fun h0 => hoff ((FieldOps.ofField_isZero root offset).2 h0))
  · cases hc

/-- `fast_coset_interpolate`: whatever it returns passes the certificate on the coset (for a primitive `ω`) -/
theorem fastCosetInterpolate_sound (offset : K) (values : List K) (ω : K) (hω : root values.length = some ω)
    (hprim : ((List.range values.length).map (fun i => ω ^ i)).Nodup)
    (f : List K) (h : fastCosetInterpolate FK E offset values = some f) :
    Interpolates (cosetDomain offset ω values.length) values (denote f) := by
  unfold fastCosetInterpolate at h
  obtain ⟨c, hc, h⟩ := Option.bind_eq_some_iff.1 h
  obtain ⟨hoff, h⟩ := Option.ite_none_left_eq_some.1 h
  obtain rfl := Option.some.inj h
  exact scale_intt_interpolates root hN offset values ω hω hprim c hc hoff

variable (hE : E.Lawful)
include hE

omit hN hE in
theorem cosetDomain_nodup (offset ω : K) (n : Nat) (hoff : offset ≠ 0)
    (hprim : ((List.range n).map (fun i => ω ^ i)).Nodup) : (cosetDomain offset ω n).Nodup := by
  rw [cosetDomain_eq_map]
  exact hprim.map (fun a b hab => mul_left_cancel₀ hoff hab)

omit hN hE in
theorem length_cosetDomain (offset ω : K) (n : Nat) : (cosetDomain offset ω n).length = n := by
  simp [cosetDomain]

/-- `naive_coset_extrapolate` (INTT, scale by the inverse offset, bulk evaluation): the values of the coset
    interpolant at the points -/
theorem naiveCosetExtrapolate_sound (t : Thr) (offset : K) (codeword points : List K) (ω : K)
    (hω : root codeword.length = some ω) (hprim : ((List.range codeword.length).map (fun i => ω ^ i)).Nodup)
    (out : List K) (h : naiveCosetExtrapolate FK E t offset codeword points = some out) :
    ∃ g : K[X], Interpolates (cosetDomain offset ω codeword.length) codeword g ∧
      out = points.map (fun x => g.eval x) := by
  unfold naiveCosetExtrapolate at h
  obtain ⟨c, hc, h⟩ := Option.bind_eq_some_iff.1 h
  obtain ⟨hoff, h⟩ := Option.ite_none_left_eq_some.1 h
  exact ⟨_, scale_intt_interpolates root hN offset codeword ω hω hprim c hc hoff,
    batchEvaluateWith_sound root hE _ _ _ _ _ _ h⟩

omit hN hE in
/-- what a successful `fast_modular_coset_interpolate_preprocess` has computed -/
theorem fmciPreprocess_eq_some (n : Nat) (offset : K) (modulus : List K) (pre : Pre K)
    (h : fmciPreprocess FK E n offset modulus = some pre) :
    denote modulus ≠ 0 ∧ ∃ ω, root n = some ω ∧ pre =
      { evenZ := sparseZerofiers FK offset⁻¹ (modSquares E modulus (log2 n) [0, 1])
        oddZ := sparseZerofiers FK (offset * ω)⁻¹ (modSquares E modulus (log2 n) [0, 1])
        modulus := modulus } := by
  unfold fmciPreprocess at h
  obtain ⟨ω, hω, h⟩ := Option.bind_eq_some_iff.1 h
  simp only [Option.ite_none_left_eq_some] at h
  obtain ⟨_, _, _, hz, h⟩ := h
  exact ⟨fun h0 => hz ((isZero_iff root modulus).2 h0), ω, hω, (Option.some.inj h).symm⟩

omit hN hE in
theorem fmciPreprocess_modulus (n : Nat) (offset : K) (modulus : List K) (pre : Pre K)
    (h : fmciPreprocess FK E n offset modulus = some pre) : pre.modulus = modulus ∧ denote modulus ≠ 0 := by
  obtain ⟨hm, ω, _, rfl⟩ := fmciPreprocess_eq_some root n offset modulus pre h
  exact ⟨rfl, hm⟩

/-- `fast_modular_coset_interpolate…with_zerofiers_and_ntt_friendly_multiple`, Lagrange arm and INTT-then-reduce arm
    (codeword length up to the INTT cut-off, **for every value of both cut-offs**): the coset interpolant modulo
    the modulus -/
theorem fmciWithFuel_sound_small (t : Thr) (hT : 2 ≤ t.zf) (fuel : Nat) (values : List K) (offset : K)
    (modulus : List K) (pre : Pre K)
    (hpre : pre.modulus = modulus) (hoff : offset ≠ 0) (hsmall : values.length ≤ t.intt ∨ values.length < t.lag)
    (ω : K) (hω : root values.length = some ω)
    (hprim : ((List.range values.length).map (fun i => ω ^ i)).Nodup)
    (r : List K) (h : fmciWithFuel FK E t (fuel + 1) values offset modulus pre = some r) :
    ∃ g : K[X], Interpolates (cosetDomain offset ω values.length) values g ∧
      denote r = g % denote modulus := by
  rw [fmciWithFuel] at h
  by_cases hz : Poly.isZero FK modulus = true
  · rw [if_pos hz] at h; cases h
  rw [if_neg hz] at h
  simp only [FieldOps.ofField_rootOfUnity, hω] at h
  by_cases hlag : values.length < t.lag
  · -- Lagrange on the explicit coset, then reduce
    rw [if_pos hlag] at h
    obtain ⟨f, hf, h⟩ := Option.bind_eq_some_iff.1 h
    obtain ⟨hm, rfl⟩ := reduce_eq_some root f modulus r h
    rw [geom_eq] at hf
    obtain ⟨f', hf', hI⟩ := lagrangeInterpolateWith_spec root hE t.zf (cosetDomain offset ω values.length) values
      (cosetDomain_nodup offset ω values.length hoff hprim) (by rw [length_cosetDomain])
      (zerofierWith_total root (E := E) t.zf hT _)
    obtain rfl : f' = f := Option.some.inj (hf'.symm.trans hf)
    exact ⟨denote f', hI, hE.rem _ _ hm⟩
  · -- INTT, scale, chunk-wise reduction, reduce
    rw [if_neg hlag, if_pos (hsmall.resolve_right hlag)] at h
    obtain ⟨c, hc, h⟩ := Option.bind_eq_some_iff.1 h
    by_cases hoffz : (FK).isZero offset = true
    · rw [if_pos hoffz] at h; cases h
    rw [if_neg hoffz] at h
    obtain ⟨hm, rfl⟩ := reduce_eq_some root _ modulus r h
    refine ⟨_, scale_intt_interpolates root hN offset values ω hω hprim c hc hoffz, ?_⟩
    rw [hE.rem _ _ hm, hpre]
    exact mod_eq_of_dvd_sub (hE.redNtt _ _ hm)

/-- what the extrapolation routines use of `fast_modular_coset_interpolate…` on codewords of length `n`: it returns
    the coset interpolant modulo the modulus.  True in the Lagrange and INTT arms for every table of roots
    (`fmciOK_small`), in all arms for a table of roots with `RootsOK` (`fmciOK_full`, `PolyInterpEO.lean`). -/
def FmciOK (E : Ext K) (t : Thr) (offset ω : K) (n : Nat) : Prop :=
  ∀ (modulus : List K) (pre : Pre K) (cw mi : List K), cw.length = n →
    fmciPreprocess FK E n offset modulus = some pre → fmciWith FK E t cw offset modulus pre = some mi →
    ∃ g : K[X], Interpolates (cosetDomain offset ω n) cw g ∧ denote mi = g % denote modulus

theorem fmciOK_small (t : Thr) (hT : 2 ≤ t.zf) (offset ω : K) (n : Nat) (hoff : offset ≠ 0)
    (hsmall : n ≤ t.intt ∨ n < t.lag) (hω : root n = some ω) (hprim : ((List.range n).map (fun i => ω ^ i)).Nodup) :
    FmciOK root E t offset ω n := by
  intro modulus pre cw mi hlen hpre hmi
  subst hlen
  exact fmciWithFuel_sound_small root hN hE t hT _ cw offset modulus pre
    (fmciPreprocess_modulus root _ _ _ _ hpre).1 hoff hsmall ω hω hprim mi hmi

/-- `coset_extrapolate`, both strategies, for every value of the point-count cut-off, given what the fast strategy
    needs of `fast_modular_coset_interpolate` -/
theorem cosetExtrapolateWith_sound_of (t : Thr) (offset : K) (codeword points : List K) (ω : K)
    (hω : root codeword.length = some ω) (hprim : ((List.range codeword.length).map (fun i => ω ^ i)).Nodup)
    (hfm : FmciOK root E t offset ω codeword.length)
    (out : List K) (h : cosetExtrapolateWith FK E t offset codeword points = some out) :
    ∃ g : K[X], Interpolates (cosetDomain offset ω codeword.length) codeword g ∧
      out = points.map (fun x => g.eval x) := by
  unfold cosetExtrapolateWith at h
  split at h
  · -- modular interpolation by the zerofier of the points, then tree evaluation
    unfold fastCosetExtrapolate fmci at h
    obtain ⟨tree, htree, h⟩ := Option.bind_eq_some_iff.1 h
    obtain ⟨mi, hmi, h⟩ := Option.bind_eq_some_iff.1 h
    obtain ⟨pre, hpre, hmi⟩ := Option.bind_eq_some_iff.1 hmi
    obtain ⟨g, hgI, hgm⟩ := hfm _ pre codeword mi rfl hpre hmi
    rw [dcEval_of_dvd root hE (newFromDomainWith_sound root hE t.rt t.zf points tree htree) mi g
      (by rw [hgm]; exact dvd_mod_sub _ _)] at h
    exact ⟨g, hgI, (Option.some.inj h).symm⟩
  · exact naiveCosetExtrapolate_sound root hN hE t offset codeword points ω hω hprim out h

/-- `coset_extrapolate` when the fast strategy stays in its Lagrange and INTT arms -/
theorem cosetExtrapolateWith_sound (t : Thr) (hT : 2 ≤ t.zf) (offset : K) (codeword points : List K)
    (hoff : offset ≠ 0) (hsmall : codeword.length ≤ t.intt ∨ codeword.length < t.lag) (ω : K)
    (hω : root codeword.length = some ω) (hprim : ((List.range codeword.length).map (fun i => ω ^ i)).Nodup)
    (out : List K) (h : cosetExtrapolateWith FK E t offset codeword points = some out) :
    ∃ g : K[X], Interpolates (cosetDomain offset ω codeword.length) codeword g ∧
      out = points.map (fun x => g.eval x) :=
  cosetExtrapolateWith_sound_of root hN hE t offset codeword points ω hω hprim
    (fmciOK_small root hN hE t hT offset ω _ hoff hsmall hω hprim) out h

omit hN hE in
theorem length_of_mem_codewordSlices {α : Type} (n : Nat) (cws cw : List α) (h : cw ∈ codewordSlices n cws) :
    cw.length = n := by
  unfold codewordSlices at h
  obtain ⟨i, hi, rfl⟩ := List.mem_map.1 h
  have hi' : i < cws.length / n := List.mem_range.1 hi
  have h1 : (i + 1) * n ≤ cws.length := le_trans (Nat.mul_le_mul_right n hi') (Nat.div_mul_le_self _ _)
  simp only [List.length_take, List.length_drop]
  have : i * n + n ≤ cws.length := by rw [← Nat.succ_mul]; exact h1
  omega

/-- what one codeword contributes to the batch result -/
def SliceOK (offset ω : K) (n : Nat) (points : List K) (cw part : List K) : Prop :=
  ∃ g : K[X], Interpolates (cosetDomain offset ω n) cw g ∧ part = points.map (fun x => g.eval x)

/-- `batch_coset_extrapolate` / `par_batch_coset_extrapolate`: every codeword of the batch is extrapolated as by
    interpolate-then-evaluate, results concatenated in order -/
theorem batchCosetExtrapolateWith_sound_of (t : Thr) (offset : K) (n : Nat) (codewords points : List K) (ω : K)
    (hω : root n = some ω) (hprim : ((List.range n).map (fun i => ω ^ i)).Nodup) (hfm : FmciOK root E t offset ω n)
    (out : List K) (h : batchCosetExtrapolateWith FK E t offset n codewords points = some out) :
    ∃ parts, List.Forall₂ (SliceOK offset ω n points) (codewordSlices n codewords) parts ∧ out = parts.flatten := by
  unfold batchCosetExtrapolateWith at h
  by_cases hfast : points.length < t.extra
  · rw [if_pos hfast] at h
    obtain ⟨tree, htree, h⟩ := Option.bind_eq_some_iff.1 h
    obtain ⟨pre, hpre, h⟩ := Option.bind_eq_some_iff.1 h
    obtain ⟨parts, hparts, h⟩ := Option.bind_eq_some_iff.1 h
    simp only [Option.pure_def, Option.some.injEq] at h
    have hov := newFromDomainWith_sound root hE t.rt t.zf points tree htree
    refine ⟨parts, mapM_option_forall₂_mem _ _ ?_ hparts, h.symm⟩
    intro cw hcw part hpart
    obtain ⟨mi, hmi, hpart⟩ := Option.bind_eq_some_iff.1 hpart
    obtain ⟨g, hgI, hgm⟩ := hfm _ pre cw mi (length_of_mem_codewordSlices n codewords cw hcw) hpre hmi
    rw [dcEval_of_dvd root hE hov mi g (by rw [hgm]; exact dvd_mod_sub _ _)] at hpart
    exact ⟨g, hgI, (Option.some.inj hpart).symm⟩
  · rw [if_neg hfast] at h
    obtain ⟨tree, htree, h⟩ := Option.bind_eq_some_iff.1 h
    have hov := newFromDomainWith_sound root hE t.rt t.zf points tree htree
    simp only [Option.ite_none_left_eq_some] at h
    obtain ⟨hmz, _, h⟩ := h
    have hm : denote (tree.zerofier FK) ≠ 0 := fun h0 => hmz ((isZero_iff root _).2 h0)
    obtain ⟨parts, hparts, h⟩ := Option.bind_eq_some_iff.1 h
    simp only [Option.pure_def, Option.some.injEq] at h
    refine ⟨parts, mapM_option_forall₂_mem _ _ ?_ hparts, h.symm⟩
    intro cw hcw part hpart
    have hlen := length_of_mem_codewordSlices n codewords cw hcw
    obtain ⟨c, hc, hpart⟩ := Option.bind_eq_some_iff.1 hpart
    obtain ⟨hoffz, hpart⟩ := Option.ite_none_left_eq_some.1 hpart
    have hgI := scale_intt_interpolates root hN offset cw ω (by rw [hlen]; exact hω)
      (by rw [hlen]; exact hprim) c hc hoffz
    rw [hlen] at hgI
    rw [dcEval_of_dvd root hE hov _ _ (hE.redNtt _ _ hm)] at hpart
    exact ⟨_, hgI, (Option.some.inj hpart).symm⟩

end coset

section idealNtt
open Classical

/-- `ntt`/`intt` defined by their specification -/
noncomputable def Ext.idealNtt : Ext K :=
  { (Ext.ideal : Ext K) with
    ntt := fun xs => match root xs.length with
      | some ω => (List.range xs.length).map (fun i => (denote xs).eval (ω ^ i))
      | none => xs
    intt := fun vs => match root vs.length with
      | some ω =>
        if h : ∃ f : K[X], Interpolates ((List.range vs.length).map (fun i => ω ^ i)) vs f
        then ofPoly (Classical.choose h) else vs
      | none => vs }

theorem Ext.idealNtt_lawful : (Ext.idealNtt root : Ext K).Lawful where
  mul _ _ := denote_ofPoly _
  parBatchMul _ _ := denote_ofPoly _
  rem p m h := (Ext.ideal_lawful (K := K)).rem p m h
  redNtt p m h := (Ext.ideal_lawful (K := K)).redNtt p m h

theorem Ext.idealNtt_lawfulNtt : Ext.LawfulNtt root (Ext.idealNtt root : Ext K) where
  ntt xs ω hω := by
    show (match root xs.length with
      | some ω => (List.range xs.length).map (fun i => (denote xs).eval (ω ^ i))
      | none => xs) = _
    rw [hω]
  intt vs ω hω hprim := by
    have hex : ∃ f : K[X], Interpolates ((List.range vs.length).map (fun i => ω ^ i)) vs f := by
      obtain ⟨f, _, hf⟩ := lagrangeInterpolateWith_spec root (Ext.ideal_lawful (K := K)) 2
        ((List.range vs.length).map (fun i => ω ^ i)) vs hprim (by simp)
        (zerofierWith_total root (E := Ext.ideal) 2 (Nat.le_refl 2) _)
      exact ⟨_, hf⟩
    show Interpolates _ vs (denote (match root vs.length with
      | some ω =>
        if h : ∃ f : K[X], Interpolates ((List.range vs.length).map (fun i => ω ^ i)) vs f
        then ofPoly (Classical.choose h) else vs
      | none => vs))
    rw [hω]
    simp only [dif_pos hex, denote_ofPoly]
    exact Classical.choose_spec hex

end idealNtt

end TF.Model.PolyI
