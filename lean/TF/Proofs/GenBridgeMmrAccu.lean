import TF.Proofs.GenBridgeMmrProof
/-!
# Bridge: the `MmrAccumulator` methods *as regenerated from source* = the hand-written model (C11)

See `TF/Proofs/GenBridgeMmrProof.lean` for the conventions.  An accumulator is the pair `(leaf_count, peaks)` (the struct
item is checked by the translator), a `LeafMutation` the triple `(leaf_index, new_leaf, membership_proof)`.  The methods
call the regenerated peak calculations of `TF/Gen/MmrPeaksLoops.lean`, bridged in `TF/Proofs/GenBridgeMmrPeaks.lean`.
The glue lemmas are stated over variables (flag / value of the callee) so that nothing unfolds a fuel-indexed recursion.
-/
namespace TF.GenBridge.MmrAccu
open TF TF.Gen TF.Model.Mmr TF.Model.MmrAcc TF.GenBridge.MmrPeaks

variable {D : Type} (H : D → D → D) (d0 : D)

/-- the regenerated pair as the hand model's structure -/
def toAcc (p : Nat × List D) : Acc D := { leaf_count := p.1, peaks := p.2 }
/-- the hand model's structure as the regenerated pair -/
def ofAcc (a : Acc D) : Nat × List D := (a.leaf_count, a.peaks)

theorem append_glue (n : Nat) (hn : n + 1 < 2 ^ 64) (cok : Bool) (c h : Option (List D × List D)) (hc : outcome cok c = h) :
    outcome (cok && c.elim true fun _ => decide (n + 1 < 18446744073709551616))
        (c.bind fun t => some (t.2, ((n + 1) % 18446744073709551616, t.1)))
      = h.map fun r => (r.2, (add64 n 1, r.1)) := by
  subst hc
  have hd : decide (n + 1 < 18446744073709551616) = true := by simp only [decide_eq_true_eq]; omega
  cases cok with
  | false => rfl
  | true =>
    cases c with
    | none => rfl
    | some t =>
      simp only [Bool.true_and, Option.elim_some, hd, outcome_true, Option.bind_some, Option.map_some, add64, W64]

/-- **`MmrAccumulator::append`** regenerated from source = hand model (a panic is `none`): every `H`, every accumulator
    whose `u64` leaf count can be incremented (short peak lists panic on both sides); the result is
    `(membership proof, new accumulator)` -/
theorem gen_acc_append_eq (n : Nat) (ps : List D) (x : D) (hn : n + 1 < 2 ^ 64) :
    outcome (Loops.mmra_append_ok H d0 (n, ps) x) (Loops.mmra_append H d0 (n, ps) x)
      = (append H { leaf_count := n, peaks := ps } x).map fun r => (r.2, ofAcc r.1) := by
  unfold Loops.mmra_append Loops.mmra_append_ok append
  rw [Option.map_map]
  exact append_glue n hn _ _ _ (gen_append_eq H d0 n ps x hn)

theorem mutate_glue (n : Nat) (cok : Bool) (c h : Option (List D)) (hc : outcome cok c = h) :
    outcome cok (c.bind fun t => some (n, t)) = h.map fun ps => (n, ps) := by
  subst hc
  cases cok with
  | false => rfl
  | true => cases c <;> rfl

/-- **`MmrAccumulator::mutate_leaf`** regenerated from source = hand model (a panic is `none`): every `H`, every
    accumulator with a `u64` leaf count, every mutation (out-of-range index, short path, short peak list panic on both
    sides) -/
theorem gen_acc_mutate_leaf_eq (n : Nat) (ps : List D) (i : Nat) (x : D) (ap : List D) (hn : n < 2 ^ 64)
    (hap : ap.length < 2 ^ 64) :
    outcome (Loops.mmra_mutate_leaf_ok H d0 (n, ps) (i, x, ap)) (Loops.mmra_mutate_leaf H d0 (n, ps) (i, x, ap))
      = (mutate_leaf H { leaf_count := n, peaks := ps } { leaf_index := i, new_leaf := x, auth := ap }).map ofAcc := by
  unfold Loops.mmra_mutate_leaf Loops.mmra_mutate_leaf_ok mutate_leaf
  rw [Option.map_map]
  exact mutate_glue n _ _ _ (gen_leaf_mutation_eq H d0 ps n x i ap hn hap)

theorem nfl_glue {β : Type} (aok : Bool) (a : Option (List D × (Nat × List D))) (h : Option (Acc D × List D))
    (hc : outcome aok a = h.map fun r => (r.2, ofAcc r.1))
    (G : Nat × List D → Option β) (Gok : Nat × List D → Bool) (V : Acc D → Option β)
    (hrec : ∀ r, h = some r → outcome (Gok (ofAcc r.1)) (G (ofAcc r.1)) = V r.1) :
    outcome (aok && a.elim true fun t => Gok t.2) (a.bind fun t => G t.2) = (h.map Prod.fst).bind V := by
  cases h with
  | none =>
    cases aok with
    | false => rfl
    | true =>
      rw [outcome_true, Option.map_none] at hc
      subst hc
      rfl
  | some r =>
    cases aok with
    | false => cases hc
    | true =>
      rw [outcome_true, Option.map_some] at hc
      subst hc
      exact hrec r rfl

theorem append_count (a : Acc D) (x : D) (r : Acc D × List D) (h : append H a x = some r) :
    r.1.leaf_count = add64 a.leaf_count 1 := by
  unfold append at h
  cases hc : calculate_new_peaks_from_append H a.leaf_count a.peaks x with
  | none => rw [hc] at h; cases h
  | some t => rw [hc] at h; cases h; rfl

/-- the regenerated `for digest in digests { mmra.append(digest); }` = the hand model's `foldlM`, from any accumulator,
    as long as the leaf count cannot overflow -/
theorem nfl_for_eq : ∀ (ds : List D) (n : Nat) (ps : List D), n + ds.length < 2 ^ 64 →
    outcome (Loops.mmra_new_from_leafs_for_ok H d0 ds (n, ps)) (Loops.mmra_new_from_leafs_for H d0 ds (n, ps))
      = (ds.foldlM (fun a d => (append H a d).map Prod.fst) { leaf_count := n, peaks := ps }).map ofAcc := by
  intro ds
  induction ds with
  | nil => intro n ps _; rfl
  | cons x ds ih =>
    intro n ps hn
    rw [Loops.mmra_new_from_leafs_for, Loops.mmra_new_from_leafs_for_ok, List.foldlM_cons]
    have hlen : n + 1 + ds.length < 2 ^ 64 := by simp only [List.length_cons] at hn; omega
    have ha := gen_acc_append_eq H d0 n ps x (by omega)
    refine (nfl_glue _ _ _ ha (fun t => Loops.mmra_new_from_leafs_for H d0 ds t)
      (fun t => Loops.mmra_new_from_leafs_for_ok H d0 ds t)
      (fun a => (ds.foldlM (fun a d => (append H a d).map Prod.fst) a).map ofAcc) ?_).trans ?_
    · intro r hr
      have hcnt := append_count H _ x r hr
      obtain ⟨⟨c, qs⟩, pf⟩ := r
      have hc : c = n + 1 := by
        have : c = add64 n 1 := hcnt
        rw [this]; unfold add64 W64; omega
      subst hc
      exact ih (n + 1) qs hlen
    · cases append H { leaf_count := n, peaks := ps } x <;> rfl

/-- **`MmrAccumulator::new_from_leafs`** regenerated from source = hand model: every `H`, every list of fewer than 2^64
    digests -/
theorem gen_new_from_leafs_eq (ds : List D) (h : ds.length < 2 ^ 64) :
    outcome (Loops.mmra_new_from_leafs_ok H d0 ds) (Loops.mmra_new_from_leafs H d0 ds)
      = (new_from_leafs H ds).map ofAcc := by
  unfold Loops.mmra_new_from_leafs Loops.mmra_new_from_leafs_ok new_from_leafs
  dsimp only
  have := nfl_for_eq H d0 ds 0 [] (by omega)
  rw [← this]
  cases Loops.mmra_new_from_leafs_for_ok H d0 ds (0, []) with
  | false => rfl
  | true => cases Loops.mmra_new_from_leafs_for H d0 ds (0, []) <;> rfl

/-- `num_leafs`, `peaks`, `is_empty`, `bag_peaks` regenerated from source = the hand model's accessors, no check can fail -/
theorem gen_accessors_eq (hash0 : D) (n : Nat) (ps : List D) :
    Loops.mmra_num_leafs H d0 (n, ps) = Acc.num_leafs { leaf_count := n, peaks := ps } ∧
    Loops.mmra_peaks H d0 (n, ps) = ({ leaf_count := n, peaks := ps } : Acc D).peaks ∧
    Loops.mmra_is_empty H d0 (n, ps) = Acc.is_empty { leaf_count := n, peaks := ps } ∧
    Loops.mmra_bag_peaks H d0 hash0 (n, ps) = Acc.bag_peaks H hash0 { leaf_count := n, peaks := ps } ∧
    Loops.mmra_bag_peaks_ok H d0 hash0 (n, ps) = true :=
  ⟨rfl, rfl, rfl, (gen_bag_peaks_eq H d0 hash0 ps).1, (gen_bag_peaks_eq H d0 hash0 ps).2⟩

end TF.GenBridge.MmrAccu
