import TF.Model.RustStd
/-!
Little-endian digit lists in a base `B`: the value of a list, the `n` low digits of a number, and the order of the values
as `Iterator::cmp` on the reversed lists.  The limbs of a `U32s<N>` (`B = 2^32`), the elements of a digest (`B = P`) and
the bytes of a word (`B = 256`) are instances.  Core Lean only.
-/
namespace TF.Digits

def val (B : Nat) : List Nat → Nat
  | [] => 0
  | x :: xs => x + B * val B xs

def ofNat (B : Nat) : Nat → Nat → List Nat
  | 0, _ => []
  | n+1, v => (v % B) :: ofNat B n (v / B)

theorem val_lt {B : Nat} : ∀ {a : List Nat}, (∀ x ∈ a, x < B) → val B a < B ^ a.length
  | [], _ => Nat.one_pos
  | x :: xs, h => by
    have hx := h x List.mem_cons_self
    have ih := Nat.mul_le_mul_left B (Nat.succ_le_of_lt (val_lt fun y hy => h y (List.mem_cons_of_mem _ hy)))
    rw [Nat.mul_succ] at ih
    rw [val, List.length_cons, Nat.pow_succ, Nat.mul_comm _ B]
    omega

theorem length_ofNat (B : Nat) : ∀ n v, (ofNat B n v).length = n
  | 0, _ => rfl
  | n+1, v => congrArg (· + 1) (length_ofNat B n (v / B))

theorem ofNat_lt {B : Nat} (hB : 0 < B) : ∀ n v, ∀ x ∈ ofNat B n v, x < B
  | n+1, v, x, hx => by
    rcases List.mem_cons.mp hx with rfl | hx
    · exact Nat.mod_lt _ hB
    · exact ofNat_lt hB n _ x hx

theorem val_ofNat (B : Nat) : ∀ n v, val B (ofNat B n v) = v % B ^ n
  | 0, v => (Nat.mod_one v).symm
  | n+1, v => by rw [ofNat, val, val_ofNat B n, Nat.pow_succ, Nat.mul_comm _ B, Nat.mod_mul]

theorem ofNat_val {B : Nat} : ∀ {a : List Nat}, (∀ x ∈ a, x < B) → ofNat B a.length (val B a) = a
  | [], _ => rfl
  | x :: xs, h => by
    have hx := h x List.mem_cons_self
    have hB : 0 < B := Nat.zero_lt_of_lt hx
    rw [List.length_cons, ofNat, val, Nat.add_mul_mod_self_left, Nat.mod_eq_of_lt hx, Nat.add_mul_div_left _ _ hB,
      Nat.div_eq_of_lt hx, Nat.zero_add, ofNat_val fun y hy => h y (List.mem_cons_of_mem _ hy)]

theorem foldl_reverse (B : Nat) : ∀ a : List Nat, a.reverse.foldl (fun acc x => acc * B + x) 0 = val B a
  | [] => rfl
  | x :: xs => by
    rw [List.reverse_cons, List.foldl_append, List.foldl_cons, List.foldl_nil, foldl_reverse B xs, val,
      Nat.mul_comm, Nat.add_comm]

/-- one more turn of the loop `(v % B, v /= B)` -/
theorem div_pow_succ (B n v : Nat) : v / B / B ^ n = v / B ^ (n + 1) := by
  rw [Nat.div_div_eq_div_mul, Nat.pow_succ, Nat.mul_comm]

theorem compare_cons {B x y vx vy : Nat} (hx : x < B) (hy : y < B) :
    compare (x + B * vx) (y + B * vy) = (compare vx vy).then (compare x y) := by
  rcases Nat.lt_trichotomy vx vy with h | rfl | h
  · have := Nat.mul_le_mul_left B (Nat.succ_le_of_lt h)
    rw [Nat.mul_succ] at this
    rw [Nat.compare_eq_lt.mpr h, Nat.compare_eq_lt.mpr (by omega)]; rfl
  · rw [Nat.compare_eq_eq.mpr rfl]
    show _ = compare x y
    simp only [Nat.compare_eq_ite_lt, Nat.add_lt_add_iff_right]
  · have := Nat.mul_le_mul_left B (Nat.succ_le_of_lt h)
    rw [Nat.mul_succ] at this
    rw [Nat.compare_eq_gt.mpr h, Nat.compare_eq_gt.mpr (by omega)]; rfl

open TF.RustStd in
theorem iter_cmp_snoc (x y : Nat) : ∀ (l1 l2 : List Nat), l1.length = l2.length →
    iter_cmp (l1 ++ [x]) (l2 ++ [y]) = (iter_cmp l1 l2).then (compare x y)
  | [], [], _ => by
    simp only [List.nil_append, iter_cmp]
    cases compare x y <;> rfl
  | a :: l1, b :: l2, h => by
    simp only [List.cons_append, iter_cmp]
    cases compare a b
    · rfl
    · exact iter_cmp_snoc x y l1 l2 (Nat.succ.inj h)
    · rfl

open TF.RustStd in
theorem iter_cmp_reverse {B : Nat} : ∀ {a b : List Nat}, a.length = b.length → (∀ x ∈ a, x < B) → (∀ x ∈ b, x < B) →
    iter_cmp a.reverse b.reverse = compare (val B a) (val B b)
  | [], [], _, _, _ => rfl
  | x :: xs, y :: ys, h, ha, hb => by
    have hl : xs.length = ys.length := Nat.succ.inj h
    rw [List.reverse_cons, List.reverse_cons,
      iter_cmp_snoc x y _ _ (by rw [List.length_reverse, List.length_reverse, hl]),
      iter_cmp_reverse hl (fun z hz => ha z (List.mem_cons_of_mem _ hz)) (fun z hz => hb z (List.mem_cons_of_mem _ hz)),
      val, val, compare_cons (ha x List.mem_cons_self) (hb y List.mem_cons_self)]

end TF.Digits
