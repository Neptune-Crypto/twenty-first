import TF.Proofs.MmrAuthPathIdx
/-!
The table of S1 (`tree o l h`, the post-order numbered perfect tree) in node coordinates.  The S1 tree over
the aligned block `J` of `2^h` leaves is `tree (nodesOf (J·2^h)) (J·2^h) h`; `mem_rows_block`: its table (`Tree.rows`,
computed by walking the tree) has exactly one row `rowAt … l j` per node `(l, j)` below `(h, J)`.  The statements about
the table of `tree 0 0 63` (node indices `1 … 2^64 − 1`) put this together with the functions on `nodeIdx l j`.
-/
namespace TF.Mmr
open TF TF.Gen TF.Spec.Mmr TF.Model.Mmr
open TF.MmrE (nodeIdx anc sibsUp)
open TF.Spec.MmrE (sibBlk)

theorem tree_idx (o l : Nat) : ∀ h, (tree o l h).idx = o + 2^(h+1) - 1 := by
  intro h; cases h <;> simp [tree, TF.Spec.Mmr.Tree.idx]

theorem tree_height (o l : Nat) : ∀ h, (tree o l h).height = h := by
  intro h
  induction h generalizing o l with
  | zero => rfl
  | succ h ih => simp [tree, TF.Spec.Mmr.Tree.height, ih]

theorem rows_tree_zero (o l p s : Nat) (isR : Bool) (rp mt : Nat) (auth : List Nat) :
    (tree o l 0).rows p s isR rp mt auth =
      [{ idx := o + 1, height := 0, rll := if isR then rp + 1 else 0, parent := p, sibling := s,
         left := 0, right := 0, leaf := some l, mt := mt, auth := auth }] := rfl

/-- number of nodes of an MMR with `m` leaves -/
def nodesOf (m : Nat) : Nat := 2 * m - popCount m

theorem nodesOf_zero : nodesOf 0 = 0 := by simp [nodesOf, popCount_zero]

/-- the root of the aligned block `J` of `2^h` leaves: post-order index by position = offset + size of the S1 tree -/
theorem nodeIdx_eq_nodesOf (h J : Nat) : nodeIdx h J = nodesOf (J * 2^h) + 2^(h+1) - 1 := by
  have h1 := TF.MmrE.nodeIdx_eq h J
  have h2 := popCount_le J
  have h3 : J ≤ J * 2^h := Nat.le_mul_of_pos_right _ (Nat.two_pow_pos h)
  unfold nodesOf
  rw [popCount_mul_two_pow]
  have e : (J + 1) * 2^(h+1) = 2 * (J * 2^h) + 2^(h+1) := by rw [Nat.pow_succ]; ring
  omega

theorem nodesOf_odd (a h : Nat) : nodesOf ((2*a+1) * 2^h) = nodesOf (2*a * 2^h) + 2^(h+1) - 1 := by
  have h1 := nodeIdx_eq_nodesOf h (2*a)
  have h2 := nodeIdx_eq_nodesOf h (2*a+1)
  have h3 := TF.MmrE.nodeIdx_left h a
  have h4 := TF.MmrE.nodeIdx_right h a
  have := Nat.two_pow_pos (h+1)
  omega

/-- the row of the node `(l, j)` in the table of a tree whose root is at level `h` and inherits parent `p`, sibling `s`,
    Merkle-tree index `mt` and authentication path `auth` -/
def rowAt (h p s mt : Nat) (auth : List Nat) (l j : Nat) : Row :=
  { idx := nodeIdx l j, height := l, rll := trailingOnes j,
    parent := if l = h then p else nodeIdx (l + 1) (j / 2),
    sibling := if l = h then s else nodeIdx l (sibBlk j),
    left := if l = 0 then 0 else nodeIdx (l - 1) (2 * j),
    right := if l = 0 then 0 else nodeIdx (l - 1) (2 * j + 1),
    leaf := if l = 0 then some j else none,
    mt := mt * 2^(h - l) + j % 2^(h - l),
    auth := sibsUp l j (h - l) ++ auth }

/-- the block `(h+1, J)` consists of the blocks `(h, 2J)`, `(h, 2J+1)` and its root -/
theorem tree_block_succ (h J : Nat) :
    tree (nodesOf (J * 2^(h+1))) (J * 2^(h+1)) (h+1) =
      .node (nodeIdx (h+1) J) (tree (nodesOf (2*J * 2^h)) (2*J * 2^h) h)
        (tree (nodesOf ((2*J+1) * 2^h)) ((2*J+1) * 2^h) h) := by
  have e1 : J * 2^(h+1) = 2*J * 2^h := by rw [Nat.pow_succ]; ring
  have e3 : (2*J+1) * 2^h = 2*J * 2^h + 2^h := by ring
  have hroot := nodeIdx_eq_nodesOf (h+1) J
  rw [e1] at hroot ⊢
  rw [hroot, nodesOf_odd, e3]
  rfl

theorem rows_block_succ (h J p s : Nat) (isR : Bool) (rp mt : Nat) (auth : List Nat) :
    (tree (nodesOf (J * 2^(h+1))) (J * 2^(h+1)) (h+1)).rows p s isR rp mt auth =
      (tree (nodesOf (2*J * 2^h)) (2*J * 2^h) h).rows (nodeIdx (h+1) J) (nodeIdx h (2*J+1)) false
          (if isR then rp + 1 else 0) (2 * mt) (nodeIdx h (2*J+1) :: auth) ++
      (tree (nodesOf ((2*J+1) * 2^h)) ((2*J+1) * 2^h) h).rows (nodeIdx (h+1) J) (nodeIdx h (2*J)) true
          (if isR then rp + 1 else 0) (2 * mt + 1) (nodeIdx h (2*J) :: auth) ++
      [{ idx := nodeIdx (h+1) J, height := h + 1, rll := if isR then rp + 1 else 0, parent := p, sibling := s,
         left := nodeIdx h (2*J), right := nodeIdx h (2*J+1), leaf := none, mt := mt, auth := auth }] := by
  rw [tree_block_succ]
  simp only [TF.Spec.Mmr.Tree.rows, tree_idx, tree_height, ← nodeIdx_eq_nodesOf]

theorem rows_block_zero (J p s : Nat) (isR : Bool) (rp mt : Nat) (auth : List Nat) :
    (tree (nodesOf (J * 2^0)) (J * 2^0) 0).rows p s isR rp mt auth =
      [{ idx := nodeIdx 0 J, height := 0, rll := if isR then rp + 1 else 0, parent := p, sibling := s,
         left := 0, right := 0, leaf := some J, mt := mt, auth := auth }] := by
  have := nodeIdx_eq_nodesOf 0 J
  rw [rows_tree_zero, this, Nat.pow_zero, Nat.mul_one]
  rfl

theorem sibBlk_even (J : Nat) : sibBlk (2 * J) = 2 * J + 1 := by
  unfold sibBlk; rw [if_pos (by omega)]

theorem sibBlk_odd (J : Nat) : sibBlk (2 * J + 1) = 2 * J := by
  unfold sibBlk; rw [if_neg (by omega)]; omega

theorem rowAt_top (h p s mt : Nat) (auth : List Nat) (J : Nat) :
    rowAt h p s mt auth h J =
      { idx := nodeIdx h J, height := h, rll := trailingOnes J, parent := p, sibling := s,
        left := if h = 0 then 0 else nodeIdx (h - 1) (2 * J), right := if h = 0 then 0 else nodeIdx (h - 1) (2 * J + 1),
        leaf := if h = 0 then some J else none, mt := mt, auth := auth } := by
  simp [rowAt, Nat.mod_one, TF.MmrE.sibsUp_zero]

theorem rowAt_leaf {h p s mt : Nat} {auth : List Nat} {l j li : Nat} (hl : (rowAt h p s mt auth l j).leaf = some li) :
    l = 0 ∧ li = j := by
  have hl0 : l = 0 := by
    by_contra h0
    simp [rowAt, h0] at hl
  subst hl0
  exact ⟨rfl, by simpa [rowAt] using hl.symm⟩

/-- a node below the root is a node of one of the two subtrees: the row inherits the root as parent, the other subtree
    as sibling, one more bit of the Merkle-tree index and one more sibling on the authentication path -/
theorem rowAt_child (h p s mt : Nat) (auth : List Nat) (l j : Nat) (hl : l ≤ h) :
    rowAt (h + 1) p s mt auth l j =
      rowAt h (nodeIdx (h + 1) (j / 2^(h - l) / 2)) (nodeIdx h (sibBlk (j / 2^(h - l))))
        (2 * mt + j / 2^(h - l) % 2) (nodeIdx h (sibBlk (j / 2^(h - l))) :: auth) l j := by
  obtain ⟨k, rfl⟩ := Nat.exists_eq_add_of_le hl
  have e1 : l + k + 1 - l = k + 1 := by omega
  have e2 : l + k - l = k := by omega
  have hmod := mod_two_pow_succ j k
  unfold rowAt
  rw [e1, e2, TF.MmrE.sibsUp_succ_last, if_neg (by omega), if_neg (by omega), List.append_assoc]
  -- left to compare: parent and sibling (they differ in form only for `k = 0`, a child of the root) and `mt`
  congr 1
  · by_cases hk : k = 0
    · subst hk; simp
    · rw [if_neg (by omega)]
  · by_cases hk : k = 0
    · subst hk; simp
    · rw [if_neg (by omega)]
  · rw [hmod, Nat.pow_succ]; ring

/-- **the table of an aligned block in coordinates**: the S1 tree over the block `(h, J)`, hanging anywhere (with the
    right-lineage count it inherits being that of `J`), has exactly one row per node `(l, j)` below `(h, J)` -/
theorem mem_rows_block : ∀ (h J p s : Nat) (isR : Bool) (rp mt : Nat) (auth : List Nat) (r : Row),
    (if isR then rp + 1 else 0) = trailingOnes J →
    (r ∈ (tree (nodesOf (J * 2^h)) (J * 2^h) h).rows p s isR rp mt auth ↔
      ∃ l j, l ≤ h ∧ j / 2^(h - l) = J ∧ r = rowAt h p s mt auth l j) := by
  intro h
  induction h with
  | zero =>
    intro J p s isR rp mt auth r hR
    rw [rows_block_zero, List.mem_singleton, hR]
    constructor
    · rintro rfl
      exact ⟨0, J, Nat.le_refl _, by simp, by rw [rowAt_top]; rfl⟩
    · rintro ⟨l, j, hl, hj, rfl⟩
      obtain rfl : l = 0 := by omega
      obtain rfl : j = J := by simpa using hj
      rw [rowAt_top]; rfl
  | succ h ih =>
    intro J p s isR rp mt auth r hR
    have hRL : (if false = true then (if isR then rp + 1 else 0) + 1 else 0) = trailingOnes (2 * J) := by
      rw [trailingOnes_even _ (by omega)]; rfl
    have hRR : (if true = true then (if isR then rp + 1 else 0) + 1 else 0) = trailingOnes (2 * J + 1) := by
      have : (2 * J + 1) / 2 = J := by omega
      rw [trailingOnes_odd _ (by omega), this, hR]; rfl
    rw [rows_block_succ, List.mem_append, List.mem_append, List.mem_singleton, ih (2*J) _ _ _ _ _ _ r hRL,
      ih (2*J+1) _ _ _ _ _ _ r hRR, hR]
    have step : ∀ l j, l ≤ h → j / 2^(h + 1 - l) = j / 2^(h - l) / 2 := by
      intro l j hl
      have : h + 1 - l = h - l + 1 := by omega
      rw [this, div_two_pow_succ]
    constructor
    · rintro ((⟨l, j, hl, hj, rfl⟩ | ⟨l, j, hl, hj, rfl⟩) | rfl)
      · have hJ : j / 2^(h + 1 - l) = J := by rw [step l j hl, hj]; omega
        refine ⟨l, j, by omega, hJ, ?_⟩
        rw [rowAt_child _ _ _ _ _ l j hl, hj, sibBlk_even]
        have : 2 * J / 2 = J := by omega
        rw [this, Nat.mul_mod_right]
        rfl
      · have hJ : j / 2^(h + 1 - l) = J := by rw [step l j hl, hj]; omega
        refine ⟨l, j, by omega, hJ, ?_⟩
        rw [rowAt_child _ _ _ _ _ l j hl, hj, sibBlk_odd]
        have : (2 * J + 1) / 2 = J := by omega
        have e : (2 * J + 1) % 2 = 1 := by omega
        rw [this, e]
      · exact ⟨h + 1, J, Nat.le_refl _, by simp, by rw [rowAt_top]; rfl⟩
    · rintro ⟨l, j, hl, hj, rfl⟩
      by_cases hlh : l = h + 1
      · subst hlh
        obtain rfl : j = J := by simpa using hj
        right; rw [rowAt_top]; rfl
      · have hl' : l ≤ h := by omega
        rw [step l j hl'] at hj
        left
        rw [rowAt_child _ _ _ _ _ l j hl', hj]
        rcases Nat.mod_two_eq_zero_or_one (j / 2^(h - l)) with hc | hc
        · left
          have e : j / 2^(h - l) = 2 * J := by omega
          exact ⟨l, j, hl', e, by rw [e, sibBlk_even, Nat.mul_mod_right]; rfl⟩
        · right
          have e : j / 2^(h - l) = 2 * J + 1 := by omega
          have e' : (2 * J + 1) % 2 = 1 := by omega
          exact ⟨l, j, hl', e, by rw [e, sibBlk_odd, e']⟩

theorem mem_rootRows (h : Nat) (r : Row) :
    r ∈ (tree 0 0 h).rootRows ↔ ∃ l j, l ≤ h ∧ j < 2^(h - l) ∧ r = rowAt h 0 0 1 [] l j := by
  have := mem_rows_block h 0 0 0 false 0 1 [] r (by rw [trailingOnes_zero]; rfl)
  rw [Nat.zero_mul, nodesOf_zero] at this
  unfold TF.Spec.Mmr.Tree.rootRows
  rw [this]
  constructor
  · rintro ⟨l, j, hl, hj, rfl⟩
    exact ⟨l, j, hl, (Nat.div_eq_zero_iff_lt (Nat.two_pow_pos _)).mp hj, rfl⟩
  · rintro ⟨l, j, hl, hj, rfl⟩
    exact ⟨l, j, hl, Nat.div_eq_of_lt hj, rfl⟩

/-- what the table says about the neighbours of a node, in index arithmetic -/
structure RowArith (r : Row) : Prop where
  right_child : r.parent ≠ 0 → r.rll ≠ 0 → r.parent = r.idx + 1 ∧ r.sibling + 2^(r.height+1) = r.idx + 1 ∧ 1 ≤ r.sibling
  left_child : r.parent ≠ 0 → r.rll = 0 → r.parent = r.idx + 2^(r.height+1) ∧ r.sibling + 1 = r.idx + 2^(r.height+1)
  leaf : r.height = 0 → r.left = 0 ∧ r.right = 0 ∧ r.leaf.isSome
  inner : 0 < r.height → r.left + 2^r.height = r.idx ∧ r.right + 1 = r.idx ∧ r.leaf = none
  big : 2^(r.height+1) ≤ r.idx + 1

/-- stated for a root (inherited parent and sibling `0`): then `parent ≠ 0` excludes `l = h`, the only row whose parent is
    not in coordinate form -/
theorem rowAt_arith (h mt : Nat) (auth : List Nat) (l j : Nat) : RowArith (rowAt h 0 0 mt auth l j) := by
  constructor
  · intro hp hrll
    have hlh : l ≠ h := fun e => hp (if_pos e)
    have hodd := (TF.MmrE.trailingOnes_ne_zero_iff j).mp hrll
    obtain ⟨h1, h2⟩ := TF.MmrE.nodeIdx_up_odd l j hodd
    simp only [rowAt, if_neg hlh]
    exact ⟨h1, h2, TF.MmrE.nodeIdx_pos _ _⟩
  · intro hp hrll
    have hlh : l ≠ h := fun e => hp (if_pos e)
    have heven := (TF.MmrE.trailingOnes_eq_zero_iff j).mp hrll
    simp only [rowAt, if_neg hlh]
    exact TF.MmrE.nodeIdx_up_even l j heven
  · intro hl
    have hl : l = 0 := hl
    simp [rowAt, hl]
  · intro hl
    obtain ⟨l', rfl⟩ : ∃ l', l = l' + 1 := ⟨l - 1, by have : 0 < l := hl; omega⟩
    have h1 := TF.MmrE.nodeIdx_left l' j
    have h2 := TF.MmrE.nodeIdx_right l' j
    simp only [rowAt, Nat.add_sub_cancel, if_neg (Nat.succ_ne_zero l')]
    exact ⟨by omega, by omega, trivial⟩
  · exact TF.MmrE.two_pow_le_nodeIdx l j

theorem rootRows_arith (h : Nat) (r : Row) (hr : r ∈ (tree 0 0 h).rootRows) : RowArith r := by
  obtain ⟨l, j, _, _, rfl⟩ := (mem_rootRows h r).mp hr
  exact rowAt_arith h 1 [] l j

theorem parent_lt (l j : Nat) (hl : l < 63) (hj : j < 2^(63 - l)) : nodeIdx (l + 1) (j / 2) < 2^64 := by
  have : 2^(63 - l) = 2 * 2^(63 - (l + 1)) := by rw [← Nat.pow_succ']; congr 1; omega
  exact TF.MmrE.nodeIdx_lt_of_coords (l + 1) (j / 2) (by omega) (by omega)

section
variable (r : Row) (hr : r ∈ (tree 0 0 63).rootRows)
include hr

theorem rll_own_rows :
    right_lineage_length_and_own_height r.idx = some (r.rll, r.height) := by
  obtain ⟨l, j, hl, hj, rfl⟩ := (mem_rootRows 63 r).mp hr
  exact TF.MmrE.rll_spec l j (TF.MmrE.nodeIdx_lt_of_coords l j hl hj)

theorem rll_node_rows :
    right_lineage_length_from_node_index r.idx = some r.rll := by
  obtain ⟨l, j, hl, hj, rfl⟩ := (mem_rootRows 63 r).mp hr
  exact TF.MmrE.rllFromNode_spec l j (TF.MmrE.nodeIdx_lt_of_coords l j hl hj)

theorem parent_rows (hp : r.parent ≠ 0) :
    parent r.idx = some r.parent := by
  obtain ⟨l, j, hl, hj, rfl⟩ := (mem_rootRows 63 r).mp hr
  have hl63 : l ≠ 63 := fun e => hp (if_pos e)
  simp only [rowAt, if_neg hl63]
  exact TF.MmrE.parent_spec l j (by omega) (parent_lt l j (by omega) hj)

theorem sibling_rows (hp : r.parent ≠ 0) :
    (r.rll ≠ 0 → left_sibling r.idx r.height = r.sibling ∧ left_sibling_ok r.idx r.height = true) ∧
    (r.rll = 0 → right_sibling r.idx r.height = r.sibling ∧ right_sibling_ok r.idx r.height = true) := by
  obtain ⟨l, j, hl, hj, rfl⟩ := (mem_rootRows 63 r).mp hr
  have hl63 : l ≠ 63 := fun e => hp (if_pos e)
  obtain ⟨hls, hrs⟩ := TF.MmrE.siblings_spec l j (by omega) (parent_lt l j (by omega) hj)
  simp only [rowAt, if_neg hl63]
  exact ⟨fun hrll => hls ((TF.MmrE.trailingOnes_ne_zero_iff j).mp hrll),
    fun hrll => hrs ((TF.MmrE.trailingOnes_eq_zero_iff j).mp hrll)⟩

theorem children_rows (hh : 0 < r.height) :
    left_child r.idx r.height = r.left ∧ left_child_ok r.idx r.height = true ∧
    right_child r.idx = r.right ∧ right_child_ok r.idx = true := by
  obtain ⟨l, j, hl, hj, rfl⟩ := (mem_rootRows 63 r).mp hr
  obtain ⟨l', rfl⟩ : ∃ l', l = l' + 1 := ⟨l - 1, by have : 0 < l := hh; omega⟩
  simp only [rowAt, Nat.add_sub_cancel, if_neg (Nat.succ_ne_zero l')]
  exact TF.MmrE.children_spec l' j (by omega) (TF.MmrE.nodeIdx_lt_of_coords _ j hl hj)

theorem n2l_rows :
    node_index_to_leaf_index r.idx = some r.leaf := by
  obtain ⟨l, j, hl, hj, rfl⟩ := (mem_rootRows 63 r).mp hr
  exact TF.MmrE.n2l_spec l j (TF.MmrE.nodeIdx_lt_of_coords l j hl hj)

end

end TF.Mmr
