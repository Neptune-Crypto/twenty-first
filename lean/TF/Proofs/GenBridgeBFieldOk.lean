import TF.Proofs.GenBridgePacc
import TF.Proofs.BFieldModel
/-!
# The `_ok` flags of the regenerated C01 loops hold on canonical inputs

`TF.Gen.Loops.bfe_*_ok` is true iff no plain arithmetic operation overflows, no shift amount is out of range, no array
index is out of bounds and every `assert!` holds on the executed path (debug build = release build).  On canonical
words (`< P`) every `u128` product is below `2^128`, Montgomery reduction does not overflow, the loop counters stay in
range, and the only failing assertion is `assert_ne!(self, zero)` of `inverse`.
-/
namespace TF.GenBridge.BField
open TF TF.Gen TF.Model.BF TF.BF

theorem prod_fits (a b : Nat) (ha : canon a) (hb : canon b) :
    decide (a * b < 340282366920938463463374607431768211456) = true := by
  have h := mul_ok a b ha hb
  unfold bfe_mul_ok at h
  exact (Bool.and_eq_true _ _ ▸ h).1

theorem prod_ok (a b : Nat) (ha : canon a) (hb : canon b) :
    (decide (a * b < 340282366920938463463374607431768211456) &&
      montyred_ok ((a * b) % 340282366920938463463374607431768211456)) = true :=
  band (prod_fits a b ha hb) (montyred_ok_true _)

theorem canon_mont (a b : Nat) (ha : canon a) (hb : canon b) :
    canon (montyred ((a * b) % 340282366920938463463374607431768211456)) := canon_mul a b ha hb

theorem canon_sqN (b : Nat) (hb : canon b) : ∀ k, canon (sqN b k)
  | 0 => by rw [sqN]; exact hb
  | k+1 => by rw [sqN]; exact canon_sqN _ (canon_mul b b hb hb) k

theorem mod_pow_loop_ok_true (a e bl : Nat) (ha : canon a) (hle : bl ≤ 64) :
    ∀ fuel acc i, canon acc → i ≤ bl → Loops.bfe_mod_pow_loop_ok a e bl fuel acc i = true := by
  intro fuel
  induction fuel with
  | zero => intro acc i _ _; rfl
  | succ f ih =>
    intro acc i hacc hi
    rw [Loops.bfe_mod_pow_loop_ok]
    by_cases hik : i < bl
    · rw [if_pos (by simpa using hik)]
      dsimp only
      have hsq := canon_mont acc acc hacc hacc
      refine band (prod_ok acc acc hacc hacc) (band (band (band (band ?_ ?_) ?_) ?_) (band ?_ ?_))
      · exact decide_eq_true (by omega)
      · exact decide_eq_true (by omega)
      · exact decide_eq_true (by omega)
      · split
        · exact prod_ok _ a hsq ha
        · rfl
      · exact decide_eq_true (by omega)
      · apply ih _ _ _ (by omega)
        split
        · exact canon_mont _ a hsq ha
        · exact hsq
    · rw [if_neg (by simpa using hik)]

/-- regenerated `mod_pow`: no overflow, no out-of-range shift on every canonical base and every `u64` exponent -/
theorem gen_mod_pow_ok_true (a e : Nat) (ha : canon a) (he : e < 18446744073709551616) :
    Loops.bfe_mod_pow_ok a e = true := by
  have hle := bitLen_le e he
  unfold Loops.bfe_mod_pow_ok
  dsimp only
  rw [bit_length_eq e hle]
  exact band (decide_eq_true (by omega))
    (mod_pow_loop_ok_true a e (bitLen e) ha hle 65 (bfe_new 1) 0 (new_spec 1 (by decide)).1 (by omega))

theorem exp_loop_ok_true (k : Nat) (hk : k < 18446744073709551616) :
    ∀ fuel res i, canon res → i ≤ k → Loops.bfe_inverse_exp_loop_ok k fuel res i = true := by
  intro fuel
  induction fuel with
  | zero => intro res i _ _; rfl
  | succ f ih =>
    intro res i hres hi
    rw [Loops.bfe_inverse_exp_loop_ok]
    by_cases hik : i < k
    · rw [if_pos (by simpa using hik)]
      dsimp only
      refine band (prod_ok res res hres hres) (band (decide_eq_true (by omega)) ?_)
      exact ih _ _ (canon_mont res res hres hres) (by omega)
    · rw [if_neg (by simpa using hik)]

theorem gen_exp_ok_true (base k : Nat) (hb : canon base) (hk : k < 18446744073709551616) :
    Loops.bfe_inverse_exp_ok base k = true := by
  unfold Loops.bfe_inverse_exp_ok
  exact exp_loop_ok_true k hk (k + 1) base 0 hb (by omega)

theorem square_ok_true (a : Nat) (ha : canon a) : Loops.bfe_square_ok a = true := mul_ok a a ha ha
theorem canon_square (a : Nat) (ha : canon a) : canon (Loops.bfe_square a) := canon_mul a a ha ha

theorem exp_step (b k : Nat) (hb : canon b) (hk : k < 18446744073709551616) (F : Nat → Bool)
    (hF : F (sqN b k) = true) :
    (Loops.bfe_inverse_exp_ok b k && (Loops.bfe_inverse_exp b k).elim true F) = true := by
  rw [gen_exp_ok_true b k hb hk, gen_exp_eq b k hk, Option.elim_some, hF]; rfl

/-- regenerated `inverse`: on every non-zero canonical word no assertion fails and nothing overflows -/
theorem gen_inverse_ok_true (x : Nat) (hx : canon x) (hnz : x ≠ zero) : Loops.bfe_inverse_ok x = true := by
  have hne : (x != Loops.bfe_zero) = true := by
    rw [show Loops.bfe_zero = zero from rfl]; simpa using hnz
  -- short names for the five facts the 30 conjuncts of the flag need: products fit (`m`, `so`) and stay canonical (`c`, `s`, `q`)
  have m := mul_ok
  have c := canon_mul
  have s := canon_square
  have so := square_ok_true
  have q := canon_sqN
  unfold Loops.bfe_inverse_ok
  extract_lets x' b2 b3
  have hb2 : canon b2 := c _ _ (s _ hx) hx
  have hb3 : canon b3 := c _ _ (s _ hb2) hx
  refine band (band rfl hne) (band (band (so _ hx) (m _ _ (s _ hx) hx)) (band (band (so _ hb2) (m _ _ (s _ hb2) hx))
    (exp_step b3 3 hb3 (by decide) _ ?_)))
  refine band (m _ _ (q _ hb3 _) hb3) ?_
  extract_lets b6
  have hb6 : canon b6 := c _ _ (q _ hb3 _) hb3
  refine exp_step b6 6 hb6 (by decide) _ ?_
  refine band (m _ _ (q _ hb6 _) hb6) ?_
  extract_lets b12
  have hb12 : canon b12 := c _ _ (q _ hb6 _) hb6
  refine exp_step b12 12 hb12 (by decide) _ ?_
  refine band (m _ _ (q _ hb12 _) hb12) ?_
  extract_lets b24
  have hb24 : canon b24 := c _ _ (q _ hb12 _) hb12
  refine exp_step b24 6 hb24 (by decide) _ ?_
  refine band (m _ _ (q _ hb24 _) hb6) ?_
  extract_lets b30 b31 b31z b32
  have hb30 : canon b30 := c _ _ (q _ hb24 _) hb6
  have hb31 : canon b31 := c _ _ (s _ hb30) hx
  have hb31z : canon b31z := s _ hb31
  have hb32 : canon b32 := c _ _ (s _ hb31) hx
  refine band (band (so _ hb30) (m _ _ (s _ hb30) hx)) (band (so _ hb31) (band (band (so _ hb31) (m _ _ (s _ hb31) hx))
    (exp_step b31z 32 hb31z (by decide) _ ?_)))
  exact m _ _ (q _ hb31z _) hb32

theorem pacc_loop2_ok_true (N : Nat) (hN : N < 18446744073709551616) : ∀ fuel (result : List Nat) (j : Nat),
    result.length = N → j ≤ N → (∀ k, k < N → canon (result.getD k 0)) →
    Loops.bfe_power_accumulator_loop2_ok N fuel result j = true := by
  intro fuel
  induction fuel with
  | zero => intro result j _ _ _; rfl
  | succ f ih =>
    intro result j hlen hj hc
    rw [Loops.bfe_power_accumulator_loop2_ok]
    by_cases hjn : j < N
    · rw [if_pos (by simpa using hjn)]
      dsimp only
      have hcj := hc j hjn
      have hjl : decide (j < result.length) = true := decide_eq_true (by omega)
      refine band (band (band (band (band hjl hjl) (prod_fits _ _ hcj hcj)) (montyred_ok_true _)) hjl)
        (band (decide_eq_true (by omega)) ?_)
      apply ih _ _ (by rw [List.length_set]; exact hlen) (by omega)
      intro k hk
      by_cases hkj : j = k
      · subst hkj; rw [getD_set_self _ _ _ (by omega)]; exact canon_mont _ _ hcj hcj
      · rw [getD_set_ne _ _ _ _ hkj]; exact hc k hk
    · rw [if_neg (by simpa using hjn)]

theorem pacc_loop3_ok_true (N : Nat) (tail : List Nat) (hN : N < 18446744073709551616) (ht : tail.length = N)
    (htc : ∀ k, k < N → canon (tail.getD k 0)) : ∀ fuel (result : List Nat) (j : Nat),
    result.length = N → j ≤ N → (∀ k, k < N → canon (result.getD k 0)) →
    Loops.bfe_power_accumulator_loop3_ok N tail fuel result j = true := by
  intro fuel
  induction fuel with
  | zero => intro result j _ _ _; rfl
  | succ f ih =>
    intro result j hlen hj hc
    rw [Loops.bfe_power_accumulator_loop3_ok]
    by_cases hjn : j < N
    · rw [if_pos (by simpa using hjn)]
      dsimp only
      have hcj := hc j hjn
      have htj := htc j hjn
      have hjl : decide (j < result.length) = true := decide_eq_true (by omega)
      have hjt : decide (j < tail.length) = true := decide_eq_true (by omega)
      refine band (band (band (band (band hjl hjt) (prod_fits _ _ hcj htj)) (montyred_ok_true _)) hjl)
        (band (decide_eq_true (by omega)) ?_)
      apply ih _ _ (by rw [List.length_set]; exact hlen) (by omega)
      intro k hk
      by_cases hkj : j = k
      · subst hkj; rw [getD_set_self _ _ _ (by omega)]; exact canon_mont _ _ hcj htj
      · rw [getD_set_ne _ _ _ _ hkj]; exact hc k hk
    · rw [if_neg (by simpa using hjn)]

theorem pacc_loop_ok_true (N M : Nat) (hN : N < 18446744073709551616) (hM : M < 18446744073709551616) :
    ∀ fuel (result : List Nat) (i : Nat), result.length = N → i ≤ M → (∀ k, k < N → canon (result.getD k 0)) →
    Loops.bfe_power_accumulator_loop_ok N M fuel result i = true := by
  intro fuel
  induction fuel with
  | zero => intro result i _ _ _; rfl
  | succ f ih =>
    intro result i hlen hi hc
    rw [Loops.bfe_power_accumulator_loop_ok]
    by_cases him : i < M
    · rw [if_pos (by simpa using him)]
      obtain ⟨r2, hr2, hr2l, hr2k⟩ := pacc_loop2_spec N hN (N + M + 1) result 0 hlen (by omega) (by omega)
      dsimp only
      rw [hr2, Option.elim_some]
      refine band (pacc_loop2_ok_true N hN _ result 0 hlen (by omega) hc) (band (decide_eq_true (by omega)) ?_)
      apply ih _ _ hr2l (by omega)
      intro k hk
      rw [hr2k k hk, if_neg (by omega)]
      exact canon_mul _ _ (hc k hk) (hc k hk)
    · rw [if_neg (by simpa using him)]

/-- regenerated `power_accumulator::<N, M>`: no index out of bounds, no overflow, on arrays of `N` canonical words -/
theorem gen_power_accumulator_ok_true (N M : Nat) (base tail : List Nat) (hN : N < 18446744073709551616)
    (hM : M < 18446744073709551616) (hb : base.length = N) (ht : tail.length = N)
    (hbc : ∀ x ∈ base, canon x) (htc : ∀ x ∈ tail, canon x) :
    Loops.bfe_power_accumulator_ok N M base tail = true := by
  have hbc' : ∀ k, k < N → canon (base.getD k 0) := fun k hk => by
    rw [List.getD_eq_getElem _ _ (by omega)]; exact hbc _ (List.getElem_mem _)
  have htc' : ∀ k, k < N → canon (tail.getD k 0) := fun k hk => by
    rw [List.getD_eq_getElem _ _ (by omega)]; exact htc _ (List.getElem_mem _)
  obtain ⟨r1, hr1, hr1l, hr1k⟩ := pacc_loop_spec N M hN hM (N + M + 1) base 0 hb (by omega) (by omega)
  unfold Loops.bfe_power_accumulator_ok
  dsimp only
  rw [hr1, Option.elim_some]
  refine band (pacc_loop_ok_true N M hN hM _ base 0 hb (by omega) hbc') ?_
  apply pacc_loop3_ok_true N tail hN ht htc' _ _ _ hr1l (by omega)
  intro k hk
  rw [hr1k k hk]
  exact canon_sqN _ (hbc' k hk) _

end TF.GenBridge.BField
