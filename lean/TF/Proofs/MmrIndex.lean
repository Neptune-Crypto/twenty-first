import Mathlib.Tactic.Ring
import TF.Model.MmrIndex
import TF.Spec.MmrIndex
/-!
Bit facts (`popCount`, `trailingOnes`, lowest zero bit, highest differing bit); for each translated function of
`TF/Gen/MmrIndex.lean` its closed form on the documented domain together with its `_ok` predicate; the walk over the
trees (`leafPos`) in closed form.

Big literals: never `congr`/`rw` under a goal containing `18446744073709551616` (unification unfolds `%`); rewrite with the
word lemmas (`shl_word`, `sub_word`, …) by `simp only` and leave omega a goal over a generalised power `p = 2^h`.
-/
namespace TF.Mmr
open TF TF.Gen TF.Spec.Mmr

theorem two_pow_succ' (h : Nat) : 2^(h+1) = 2 * 2^h := Nat.pow_succ'

theorem div_two_pow_succ (n K : Nat) : n / 2^(K+1) = n / 2^K / 2 := by rw [Nat.pow_succ, Nat.div_div_eq_div_mul]

theorem div_two_pow_succ_low (n K : Nat) : n / 2^(K+1) = n / 2 / 2^K := by rw [Nat.pow_succ', Nat.div_div_eq_div_mul]

theorem lt_two_pow_log2_succ (n : Nat) : n < 2 ^ (Nat.log2 n + 1) := by
  rcases Nat.eq_zero_or_pos n with rfl | h
  · simp
  · exact (Nat.log2_lt (Nat.ne_of_gt h)).mp (Nat.lt_succ_self _)

theorem popCount_zero : popCount 0 = 0 := by unfold popCount; rfl
theorem popCount_succ (n : Nat) : popCount (n+1) = (n+1) % 2 + popCount ((n+1)/2) := by
  rw [popCount]
theorem popCount_eq (n : Nat) : popCount n = n % 2 + popCount (n/2) := by
  cases n with
  | zero => simp [popCount_zero]
  | succ n => exact popCount_succ n

theorem popCount_bit (a b : Nat) (hb : b ≤ 1) : popCount (2 * a + b) = b + popCount a := by
  have e1 : (2 * a + b) % 2 = b := by omega
  have e2 : (2 * a + b) / 2 = a := by omega
  rw [popCount_eq (2 * a + b), e1, e2]

theorem popCount_two_mul (m : Nat) : popCount (2 * m) = popCount m := by
  have := popCount_bit m 0 (Nat.zero_le 1)
  rwa [Nat.add_zero, Nat.zero_add] at this

theorem popCount_two_mul_add_one (m : Nat) : popCount (2 * m + 1) = popCount m + 1 := by
  rw [popCount_bit m 1 (Nat.le_refl 1), Nat.add_comm]

theorem popCount_one : popCount 1 = 1 := by
  simpa [popCount_zero] using popCount_two_mul_add_one 0

theorem popCount_le (n : Nat) : popCount n ≤ n := by
  induction n using Nat.div2Induction with
  | ind n ih =>
    rw [popCount_eq]
    rcases Nat.eq_zero_or_pos n with rfl | hn
    · simp [popCount_zero]
    · have := ih hn; omega

theorem popCount_pos (n : Nat) (h : n ≠ 0) : 1 ≤ popCount n := by
  induction n using Nat.div2Induction with
  | ind n ih =>
    rw [popCount_eq]
    by_cases ho : n % 2 = 1
    · omega
    · have := ih (by omega) (by omega); omega

theorem popCount_le_bits (k : Nat) : ∀ n, n < 2^k → popCount n ≤ k := by
  induction k with
  | zero =>
    intro n h
    have : n = 0 := by omega
    subst this
    simp [popCount_zero]
  | succ k ih =>
    intro n h
    rw [popCount_eq]
    have := ih (n/2) (by rw [Nat.pow_succ] at h; omega)
    omega

theorem popCount_succ_le (j : Nat) : popCount (j + 1) ≤ popCount j + 1 := by
  induction j using Nat.strongRecOn with
  | _ j ih =>
    rcases Nat.even_or_odd' j with ⟨a, rfl | rfl⟩
    · rw [popCount_two_mul_add_one, popCount_two_mul]
    · have e : 2 * a + 1 + 1 = 2 * (a + 1) := by omega
      rw [e, popCount_two_mul, popCount_two_mul_add_one]
      have := ih a (by omega); omega

theorem popCount_mul_two_pow (m h : Nat) : popCount (m * 2^h) = popCount m := by
  induction h with
  | zero => simp
  | succ h ih => rw [Nat.pow_succ, ← Nat.mul_assoc, Nat.mul_comm, popCount_two_mul, ih]

theorem popCount_split (h : Nat) : ∀ n, popCount n = popCount (n / 2^h) + popCount (n % 2^h) := by
  induction h with
  | zero => intro n; simp [Nat.mod_one, popCount_zero]
  | succ h ih =>
    intro n
    have e1 := div_two_pow_succ_low n h
    have e2 : n % 2^(h+1) / 2 = n / 2 % 2^h := by
      rw [Nat.pow_succ, Nat.mul_comm]; exact Nat.mod_mul_right_div_self n 2 (2^h)
    have e3 : n % 2^(h+1) % 2 = n % 2 := by
      rw [Nat.pow_succ]; exact Nat.mod_mul_left_mod n (2^h) 2
    rw [popCount_eq n, ih (n/2), popCount_eq (n % 2^(h+1)), e1, e2, e3]; omega

theorem popCount_two_pow_add (H m : Nat) (hm : m < 2^H) : popCount (2^H + m) = 1 + popCount m := by
  have h1 : (2^H + m) / 2^H = 1 := by
    rw [Nat.add_div_left _ (Nat.two_pow_pos H), Nat.div_eq_of_lt hm]
  have h2 : (2^H + m) % 2^H = m := by
    rw [Nat.add_mod_left, Nat.mod_eq_of_lt hm]
  rw [popCount_split H (2^H + m), h1, h2, popCount_one]

theorem popCount_two_pow_sub_one (a : Nat) : popCount (2^a - 1) = a := by
  induction a with
  | zero => simp [popCount_zero]
  | succ a ih =>
    have hp := two_pow_succ' a
    have hpos := Nat.two_pow_pos a
    have e : 2^(a+1) - 1 = 2 * (2^a - 1) + 1 := by omega
    rw [e, popCount_two_mul_add_one, ih]

theorem trailingOnes_zero : trailingOnes 0 = 0 := by unfold trailingOnes; rfl
theorem trailingOnes_even (n : Nat) (h : n % 2 = 0) : trailingOnes n = 0 := by
  cases n with
  | zero => exact trailingOnes_zero
  | succ n => rw [trailingOnes]; simp; omega
theorem trailingOnes_odd (n : Nat) (h : n % 2 = 1) : trailingOnes n = trailingOnes (n/2) + 1 := by
  cases n with
  | zero => omega
  | succ n => rw [trailingOnes]; simp [h]

theorem trailingOnes_two_pow_sub_one (h : Nat) : trailingOnes (2^h - 1) = h := by
  induction h with
  | zero => simp [trailingOnes_zero]
  | succ h ih =>
    have hp := two_pow_succ' h
    have hpos := Nat.two_pow_pos h
    have : (2^(h+1) - 1) / 2 = 2^h - 1 := by omega
    rw [trailingOnes_odd _ (by omega), this, ih]

/-- bits above a zero bit do not matter for the trailing ones -/
theorem trailingOnes_add_mul (h : Nat) : ∀ c j, j + 1 < 2^h → trailingOnes (c * 2^h + j) = trailingOnes j := by
  induction h with
  | zero => intro c j hj; simp at hj
  | succ h ih =>
    intro c j hj
    have hp := two_pow_succ' h
    have e : c * 2^(h+1) + j = 2 * (c * 2^h) + j := by rw [hp]; ring
    by_cases hodd : j % 2 = 1
    · rw [trailingOnes_odd j hodd, trailingOnes_odd _ (by omega)]
      have : (c * 2^(h+1) + j) / 2 = c * 2^h + j / 2 := by omega
      rw [this, ih c (j/2) (by omega)]
    · rw [trailingOnes_even j (by omega), trailingOnes_even _ (by omega)]

/-- the carry chain: incrementing flips the trailing ones -/
theorem popCount_succ_add_trailingOnes (c : Nat) : popCount (c + 1) + trailingOnes c = popCount c + 1 := by
  induction c using Nat.strongRecOn with
  | _ c ih =>
    rcases Nat.even_or_odd' c with ⟨a, rfl | rfl⟩
    · rw [popCount_two_mul_add_one, popCount_two_mul, trailingOnes_even _ (by omega)]
    · have e : 2 * a + 1 + 1 = 2 * (a + 1) := by ring
      rw [e, popCount_two_mul, popCount_two_mul_add_one, trailingOnes_odd _ (by omega)]
      have : (2 * a + 1) / 2 = a := by omega
      rw [this]
      have := ih a (by omega)
      omega

theorem mod_two_pow_succ (m h : Nat) : m % 2^(h+1) = 2^h * (m / 2^h % 2) + m % 2^h := by
  rw [Nat.pow_succ, Nat.mod_mul]; omega

theorem and_bit (x y : Nat) : x &&& y = 2 * ((x/2) &&& (y/2)) + (if x % 2 = 1 ∧ y % 2 = 1 then 1 else 0) := by
  have h1 := @Nat.and_div_two x y
  have h2 := @Nat.and_mod_two_eq_one x y
  have h3 := Nat.div_add_mod (x &&& y) 2
  rw [h1] at h3
  by_cases h : x % 2 = 1 ∧ y % 2 = 1
  · rw [if_pos h]; have := h2.mpr h; omega
  · rw [if_neg h]; have : ¬ ((x &&& y) % 2 = 1) := fun hh => h (h2.mp hh); omega

theorem and_compl (k j : Nat) (h : j < 2^k) : j &&& (2^k - 1 - j) = 0 := by
  apply Nat.eq_of_testBit_eq
  intro i
  have : 2^k - 1 - j = 2^k - (j+1) := by omega
  rw [this, Nat.testBit_and, Nat.testBit_two_pow_sub_succ h]
  simp
  intro h1 _
  exact h1

/-- isolating the lowest zero bit: `(i+1) & !i = 2^(trailing ones of i)` in `w`-bit arithmetic -/
theorem lowest_zero_bit (w : Nat) : ∀ i, i + 1 < 2^w → (i+1) &&& (2^w - 1 - i) = 2^(trailingOnes i) := by
  induction w with
  | zero => intro i h; simp at h
  | succ w ih =>
    intro i h
    have hp := two_pow_succ' w
    rw [and_bit]
    by_cases hi : i % 2 = 0
    · rw [trailingOnes_even i hi]
      have h1 : (i+1)/2 = i/2 := by omega
      have h2 : (2^(w+1) - 1 - i)/2 = 2^w - 1 - i/2 := by omega
      rw [h1, h2, and_compl w (i/2) (by omega)]
      have : (i+1) % 2 = 1 ∧ (2^(w+1) - 1 - i) % 2 = 1 := by omega
      rw [if_pos this]; rfl
    · have hi : i % 2 = 1 := by omega
      rw [trailingOnes_odd i hi]
      have h1 : (i+1)/2 = i/2 + 1 := by omega
      have h2 : (2^(w+1) - 1 - i)/2 = 2^w - 1 - i/2 := by omega
      rw [h1, h2, ih (i/2) (by omega)]
      have : ¬ ((i+1) % 2 = 1 ∧ (2^(w+1) - 1 - i) % 2 = 1) := by omega
      rw [if_neg this, Nat.pow_succ]; omega

theorem trailingOnes_lt (w : Nat) : ∀ i, i + 1 < 2^w → trailingOnes i < w := by
  induction w with
  | zero => intro i h; simp at h
  | succ w ih =>
    intro i h
    have hp := two_pow_succ' w
    by_cases hi : i % 2 = 0
    · rw [trailingOnes_even i hi]; omega
    · rw [trailingOnes_odd i (by omega)]
      have := ih (i/2) (by omega)
      omega

theorem bitLen_two_pow (t : Nat) : bitLen (2^t) = t + 1 := by
  unfold bitLen
  have : 2^t ≠ 0 := Nat.ne_of_gt (Nat.two_pow_pos t)
  simp [Nat.log2_two_pow]

theorem log2_lt_64 (n : Nat) (h1 : 1 ≤ n) (h2 : n < 2^64) : Nat.log2 n < 64 :=
  (Nat.log2_lt (by omega)).mpr h2

theorem bitLen_pos (n : Nat) (h1 : 1 ≤ n) : bitLen n = Nat.log2 n + 1 := by
  unfold bitLen; rw [if_neg (by omega)]

theorem two_pow_lt_W (k : Nat) (h : k < 64) : 2^k < 18446744073709551616 := by
  have : (18446744073709551616 : Nat) = 2^64 := by decide
  rw [this]; exact Nat.pow_lt_pow_right (by decide) h

/-- `1 << k` -/
theorem shl_word (k : Nat) (hk : k < 64) : 1 * 2 ^ (k % 64) % 18446744073709551616 = 2 ^ k := by
  rw [Nat.one_mul, Nat.mod_eq_of_lt hk, Nat.mod_eq_of_lt (two_pow_lt_W k hk)]

/-- `a - b` on `u64` -/
theorem sub_word (a b : Nat) (hb : b ≤ a) (ha : a < 18446744073709551616) :
    (a + 18446744073709551616 - b) % 18446744073709551616 = a - b := by omega

theorem sub_word32 (a b : Nat) (hb : b ≤ a) (ha : a < 4294967296) :
    (a + 4294967296 - b) % 4294967296 = a - b := by omega

/-- `u64::BITS - x.leading_zeros()` on `u32`, with `b` the bit length of `x` -/
theorem bits_word (b : Nat) (h : b ≤ 64) : (64 + 4294967296 - (64 - b)) % 4294967296 = b := by omega

theorem rll_leaf_spec (i : Nat) (h : i + 1 < 2^64) :
    right_lineage_length_from_leaf_index i = trailingOnes i ∧ right_lineage_length_from_leaf_index_ok i = true := by
  have hl := lowest_zero_bit 64 i h
  have ht := trailingOnes_lt 64 i h
  have e1 : (i + 1) % 18446744073709551616 = i + 1 := Nat.mod_eq_of_lt h
  have e2 : 18446744073709551615 - i = 2^64 - 1 - i := rfl
  unfold right_lineage_length_from_leaf_index right_lineage_length_from_leaf_index_ok
  simp only [e1, e2, hl, bitLen_two_pow, bits_word (trailingOnes i + 1) (by omega),
    sub_word32 (trailingOnes i + 1) 1 (by omega) (by omega), Bool.and_eq_true, decide_eq_true_eq]
  omega

theorem leftmost_ancestor_spec (n : Nat) (h1 : 1 ≤ n) (h2 : n < 2^64) :
    leftmost_ancestor n = (2^(Nat.log2 n + 1) - 1, Nat.log2 n) ∧ leftmost_ancestor_ok n = true := by
  have hk := log2_lt_64 n h1 h2
  have hb := bitLen_pos n h1
  unfold leftmost_ancestor leftmost_ancestor_ok
  rw [hb]
  generalize Nat.log2 n = k at *
  by_cases hk63 : k = 63
  · -- the branch `leading_zeros = 0`
    subst hk63; decide
  · have e1 : ¬ ((64 - (k+1) == 0) = true) := by simp; omega
    have e3 : (k + 1) % 4294967296 = k + 1 := Nat.mod_eq_of_lt (by omega)
    have e4 := two_pow_lt_W (k+1) (by omega)
    have e5 := Nat.two_pow_pos (k+1)
    rw [if_neg e1, if_neg e1]
    simp only [bits_word (k + 1) (by omega), sub_word32 (k + 1) 1 (by omega) (by omega), Nat.add_sub_cancel, e3,
      shl_word (k+1) (by omega), sub_word _ 1 e5 e4, Bool.and_eq_true, decide_eq_true_eq, true_and]
    omega

theorem xor_eq_zero_imp {x y : Nat} (h : x ^^^ y = 0) : x = y := by
  apply Nat.eq_of_testBit_eq; intro i
  have := congrArg (fun z => z.testBit i) h
  simp at this
  exact this

/-- what the highest differing bit `h` of `i < n` says: above it the numbers agree, at `h` the bit of `n` is set and
    the bit of `i` is not -/
theorem xor_log2_facts (i n : Nat) (hlt : i < n) :
    let h := (i ^^^ n).log2
    i / 2^(h+1) = n / 2^(h+1) ∧ n / 2^h % 2 = 1 ∧ i / 2^h % 2 = 0 := by
  intro h
  have hd : i ^^^ n ≠ 0 := fun e => by have := xor_eq_zero_imp e; omega
  have hlt2 : i ^^^ n < 2^(h+1) := lt_two_pow_log2_succ _
  have ha : i / 2^(h+1) = n / 2^(h+1) := by
    apply xor_eq_zero_imp
    rw [← Nat.xor_div_two_pow]; exact Nat.div_eq_of_lt hlt2
  have hb : (i ^^^ n).testBit h = true := Nat.testBit_log2 hd
  rw [Nat.testBit_xor, Nat.testBit_eq_decide_div_mod_eq, Nat.testBit_eq_decide_div_mod_eq] at hb
  refine ⟨ha, ?_⟩
  -- the bits at `h` differ, and with equal bits above `h` the larger number has the set one
  have hi := mod_two_pow_succ i h
  have hn := mod_two_pow_succ n h
  have di := Nat.div_add_mod i (2^(h+1))
  have dn := Nat.div_add_mod n (2^(h+1))
  have ri := Nat.mod_lt i (Nat.two_pow_pos h)
  rw [ha] at di
  rcases Nat.mod_two_eq_zero_or_one (i / 2^h) with bi | bi
  · rcases Nat.mod_two_eq_zero_or_one (n / 2^h) with bn | bn
    · rw [bi, bn] at hb; simp at hb
    · exact ⟨bn, bi⟩
  · rcases Nat.mod_two_eq_zero_or_one (n / 2^h) with bn | bn
    · rw [bi] at hi; rw [bn] at hn; omega
    · rw [bi, bn] at hb; simp at hb

/-- set bits above bit `h`, when bit `h` is set: all of them, minus those below `h`, minus bit `h` itself -/
theorem popCount_above_bit (n h : Nat) (hb : n / 2^h % 2 = 1) :
    popCount n = popCount (n / 2^(h+1)) + 1 + popCount (n % 2^h) := by
  have s1 := popCount_split h n
  have s2 := popCount_eq (n / 2^h)
  rw [← div_two_pow_succ, hb] at s2
  omega

theorem mt_spec (i n : Nat) (hin : i < n) (hn : n < 2^64) :
    leaf_index_to_mt_index_and_peak_index i n
      = (2^(i ^^^ n).log2 + i % 2^(i ^^^ n).log2, popCount (n / 2^((i ^^^ n).log2+1))) ∧
    leaf_index_to_mt_index_and_peak_index_ok i n = true := by
  have hd : i ^^^ n ≠ 0 := fun e => by have := xor_eq_zero_imp e; omega
  have hd64 : i ^^^ n < 2^64 := Nat.xor_lt_two_pow (by omega) hn
  have hh64 : (i ^^^ n).log2 < 64 := (Nat.log2_lt hd).mpr hd64
  obtain ⟨fa, fb, fc⟩ := xor_log2_facts i n hin
  unfold leaf_index_to_mt_index_and_peak_index leaf_index_to_mt_index_and_peak_index_ok
  dsimp only
  generalize (i ^^^ n).log2 = h at *
  have hW := two_pow_lt_W h hh64
  have hP := Nat.two_pow_pos h
  have hle : 2^h ≤ 2^63 := Nat.pow_le_pow_right (by decide) (by omega)
  have e1 : 2^h % 18446744073709551616 = 2^h := Nat.mod_eq_of_lt hW
  have e2 := sub_word (2^h) 1 hP hW
  have e3 : (2^h - 1) &&& i = i % 2^h := by rw [Nat.and_comm]; exact Nat.and_two_pow_sub_one_eq_mod i h
  have e4 : n &&& (2^h - 1) = n % 2^h := Nat.and_two_pow_sub_one_eq_mod n h
  have hi : i % 2^h < 2^h := Nat.mod_lt _ hP
  have e5 : (i % 2^h + 2^h) % 18446744073709551616 = 2^h + i % 2^h := by
    rw [Nat.mod_eq_of_lt (by omega), Nat.add_comm]
  have s1 := popCount_above_bit n h fb
  have s4 := popCount_le_bits 64 n hn
  have e6 := sub_word32 (popCount n) (popCount (n % 2^h)) (by omega) (by omega)
  have e7 : popCount n - popCount (n % 2^h) = popCount (n / 2^(h+1)) + 1 := by omega
  have e8 := sub_word32 (popCount (n / 2^(h+1)) + 1) 1 (by omega) (by omega)
  simp only [e1, e2, e3, e4, e5, e6, e7, e8, Nat.add_sub_cancel, Bool.and_eq_true, decide_eq_true_eq, bne_iff_ne,
    ne_eq]
  exact ⟨trivial, hin, hd, hW, hP, by omega, by omega, by omega⟩

theorem num_nodes_spec (n : Nat) (h : n < 2^63) :
    num_leafs_to_num_nodes n = 2 * n - popCount n ∧ num_leafs_to_num_nodes_ok n = true := by
  have hpc := popCount_le n
  have e1 : 2 * n % 18446744073709551616 = 2 * n := Nat.mod_eq_of_lt (by omega)
  unfold num_leafs_to_num_nodes num_leafs_to_num_nodes_ok
  simp only [e1, sub_word (2 * n) (popCount n) (by omega) (by omega), Bool.and_eq_true, decide_eq_true_eq, true_and]
  omega

theorem l2n_spec (i : Nat) (h : i < 2^63) :
    leaf_index_to_node_index i = 2 * i - popCount i + 1 ∧ leaf_index_to_node_index_ok i = true := by
  have hpc := popCount_le i
  have e1 : 2 * i % 18446744073709551616 = 2 * i := Nat.mod_eq_of_lt (by omega)
  have e2 : (2 * i - popCount i + 1) % 18446744073709551616 = 2 * i - popCount i + 1 := Nat.mod_eq_of_lt (by omega)
  unfold leaf_index_to_node_index leaf_index_to_node_index_ok
  simp only [e1, sub_word (2 * i) (popCount i) (by omega) (by omega), e2, Bool.and_eq_true, decide_eq_true_eq, true_and]
  omega

theorem left_child_spec (n h : Nat) (hh : h < 64) (hn : n < 2^64) (hle : 2^h ≤ n) :
    left_child n h = n - 2^h ∧ left_child_ok n h = true := by
  unfold left_child left_child_ok
  simp only [shl_word h hh, sub_word n _ hle hn, Bool.and_eq_true, decide_eq_true_eq]
  exact ⟨trivial, hh, hle⟩

theorem left_child_ok_iff (n h : Nat) : left_child_ok n h = true ↔ h < 64 ∧ 2^h ≤ n := by
  unfold left_child_ok
  simp only [Bool.and_eq_true, decide_eq_true_eq]
  exact and_congr_right fun hh => by rw [shl_word h hh]

theorem right_child_spec (n : Nat) (h1 : 1 ≤ n) (hn : n < 2^64) :
    right_child n = n - 1 ∧ right_child_ok n = true := by
  unfold right_child right_child_ok
  simp only [sub_word n 1 h1 hn, decide_eq_true_eq]
  exact ⟨trivial, h1⟩

theorem left_sibling_spec (n h : Nat) (hh : h < 63) (hn : n < 2^64) (hle : 2^(h+1) ≤ n) :
    left_sibling n h = n - 2^(h+1) + 1 ∧ left_sibling_ok n h = true := by
  have hpos := Nat.two_pow_pos (h+1)
  have e32 : (h + 1) % 4294967296 = h + 1 := Nat.mod_eq_of_lt (by omega)
  unfold left_sibling left_sibling_ok
  simp only [e32, shl_word (h+1) (by omega), sub_word n _ hle hn, Bool.and_eq_true, decide_eq_true_eq]
  generalize 2^(h+1) = p at *
  omega

/-- the value is right also when `n + 2^(h+1)` is exactly `2^64` (the sum wraps to `0`, the decrement back): the peak loop
    calls it there; only `_ok` needs the sum below `2^64` -/
theorem right_sibling_spec (n h : Nat) (hh : h < 63) (hs : n + 2^(h+1) < 2^64 + 1) :
    right_sibling n h = n + 2^(h+1) - 1 ∧ (n + 2^(h+1) < 2^64 → right_sibling_ok n h = true) := by
  have hpos := Nat.two_pow_pos (h+1)
  have e32 : (h + 1) % 4294967296 = h + 1 := Nat.mod_eq_of_lt (by omega)
  unfold right_sibling right_sibling_ok
  simp only [e32, shl_word (h+1) (by omega), Bool.and_eq_true, decide_eq_true_eq]
  generalize 2^(h+1) = p at *
  omega

theorem log2_of_range (n k : Nat) (h1 : 2^k ≤ n) (h2 : n ≤ 2^(k+1) - 1) : Nat.log2 n = k := by
  have hpos := Nat.two_pow_pos k
  have hp := two_pow_succ' k
  exact (Nat.log2_eq_iff (by omega)).mpr ⟨h1, by omega⟩

section word
open TF.Model.Mmr

theorem dec32_succ (h : Nat) (hh : h + 1 < 4294967296) : dec32 (h+1) = h := by
  unfold dec32 W32; omega
theorem inc32_lt (c : Nat) (hc : c + 1 < 4294967296) : inc32 c = c + 1 := by
  unfold inc32 W32; omega
theorem shl1_of_lt (a : Nat) (h : a < 64) : shl1 a = 2^a := by unfold shl1; rw [Nat.mod_eq_of_lt h]
theorem add64_of_lt (a b : Nat) (h : a + b < 2^64) : add64 a b = a + b := Nat.mod_eq_of_lt h
theorem sub64_of_le (a b : Nat) (hb : b ≤ a) (ha : a < 2^64) : sub64 a b = a - b := sub_word a b hb ha

end word

theorem div_pow_eq_of_le {i n a K : Nat} (h : i / 2^a = n / 2^a) (hK : a ≤ K) : i / 2^K = n / 2^K := by
  obtain ⟨d, rfl⟩ := Nat.exists_eq_add_of_le hK
  rw [Nat.pow_add, ← Nat.div_div_eq_div_mul, ← Nat.div_div_eq_div_mul, h]

/-- the walk over the trees finds leaf `i` in the tree of the highest bit `h` in which `i` and `n` differ -/
theorem leafPos_walk (n i h : Nat) (fa : i / 2^(h+1) = n / 2^(h+1)) (fb : n / 2^h % 2 = 1) (fc : i / 2^h % 2 = 0) :
    ∀ K, h < K → leafPos K n i (n / 2^K * 2^K) (popCount (n / 2^K))
      = some (h, i % 2^h, popCount (n / 2^(h+1))) := by
  intro K
  induction K with
  | zero => intro hK; omega
  | succ K ih =>
    intro hK
    -- passing bit `K` of `n`: `n / 2^K = 2A + bit`, so the leaves before grow by `bit · 2^K`, the trees by `bit`
    have hdiv := div_two_pow_succ n K
    have hpc := popCount_eq (n / 2^K)
    rw [← hdiv] at hpc
    have hbefore : n / 2^(K+1) * 2^(K+1) = (2 * (n / 2^(K+1))) * 2^K := by rw [Nat.pow_succ]; ring
    have hstep : n / 2^K * 2^K = n / 2^(K+1) * 2^(K+1) + n / 2^K % 2 * 2^K := by
      rw [hbefore, ← Nat.add_mul]; congr 1; omega
    unfold leafPos
    by_cases hKh : K = h
    · subst hKh
      have hi := Nat.div_add_mod' i (2^(K+1))
      have hm := mod_two_pow_succ i K
      have hlt := Nat.mod_lt i (Nat.two_pow_pos K)
      rw [fa] at hi
      rw [fc, Nat.mul_zero, Nat.zero_add] at hm
      rw [if_pos fb, if_pos (by omega)]
      congr 3; omega
    · have hge : n / 2^K * 2^K ≤ i := by
        rw [← div_pow_eq_of_le fa (show h + 1 ≤ K by omega)]; exact Nat.div_mul_le_self i (2^K)
      have ih' := ih (by omega)
      by_cases hbit : n / 2^K % 2 = 1
      · rw [hbit, Nat.one_mul] at hstep
        rw [if_pos hbit, if_neg (by omega), ← hstep]
        have : popCount (n / 2^(K+1)) + 1 = popCount (n / 2^K) := by omega
        rw [this]; exact ih'
      · have h0 : n / 2^K % 2 = 0 := by omega
        rw [h0, Nat.zero_mul, Nat.add_zero] at hstep
        rw [h0, Nat.zero_add] at hpc
        rw [if_neg hbit, ← hstep, ← hpc]; exact ih'

/-- closed form of the walk: for `i < n < 2^K` the leaf is found in the tree of bit `h = log2 (i xor n)` -/
theorem leafPos_closed (K n i : Nat) (hin : i < n) (hnK : n < 2^K) :
    leafPos K n i 0 0 = some ((i ^^^ n).log2, i % 2^(i ^^^ n).log2, popCount (n / 2^((i ^^^ n).log2 + 1))) := by
  obtain ⟨fa, fb, fc⟩ := xor_log2_facts i n hin
  have hd : i ^^^ n ≠ 0 := fun e => by have := xor_eq_zero_imp e; omega
  have hdK : i ^^^ n < 2^K := Nat.xor_lt_two_pow (by omega) hnK
  have hhK : (i ^^^ n).log2 < K := (Nat.log2_lt hd).mpr hdK
  have := leafPos_walk n i _ fa fb fc K hhK
  rw [Nat.div_eq_of_lt hnK, popCount_zero, Nat.zero_mul] at this
  exact this

end TF.Mmr
