import TF.Proofs.PolyMul
import TF.Proofs.NttInverse
import Mathlib.Algebra.BigOperators.Ring.Finset
import Mathlib.Algebra.Polynomial.Eval.Degree
/-!
The spec-level transform `specTransform` of `TF/Model/PolyMul.lean` satisfies
`TransformSpec`, provided `rootOfUnity (2^(k+1))` is an element `w` with `w^(2^k) = −1` and `2 ≠ 0` in the field
(for the base field these are facts about the regenerated table `PRIMITIVE_ROOTS`, property C06):
recursive even/odd evaluation = evaluation at the powers of `w`, which is the DFT of the coefficients; the inverse
transform inverts it (`TF.NttFn.dft_inv` of `TF/Proofs/NttInverse.lean`, orthogonality of the powers of the root).
-/
open Polynomial Finset

namespace TF.Model.Poly
variable {K : Type} [Field K]
open Classical

variable (root : Nat → Option K)
local notation "FK" => FieldOps.ofField K root

theorem eval_split (xs : List K) (z : K) :
    (denote xs).eval z = (denote (evens xs)).eval (z * z) + z * (denote (odds xs)).eval (z * z) := by
  fun_induction evens xs with
  | case1 => simp [odds]
  | case2 x => simp [odds]
  | case3 x y t ih =>
    simp only [odds, denote_cons, eval_add, eval_C, eval_mul, eval_X, ih]
    ring

theorem length_evens_odds (xs : List K) :
    (evens xs).length = (xs.length + 1) / 2 ∧ (odds xs).length = xs.length / 2 := by
  fun_induction evens xs with
  | case1 => simp [odds]
  | case2 x => simp [odds]
  | case3 x y t ih => simp only [odds, List.length_cons, ih]; omega

theorem butterflies_tabulated (w : K) (fe fo : Nat → K) (m s : Nat) :
    butterflies FK w (w ^ s) ((List.range' s m).map fe) ((List.range' s m).map fo)
      = ((List.range' s m).map (fun i => fe i + w ^ i * fo i), (List.range' s m).map (fun i => fe i - w ^ i * fo i)) := by
  induction m generalizing s with
  | zero => simp [butterflies]
  | succ m ih =>
    simp only [List.range'_succ, List.map_cons, butterflies, FieldOps.ofField_mul, FieldOps.ofField_add,
      FieldOps.ofField_sub]
    have : w ^ s * w = w ^ (s + 1) := (pow_succ w s).symm
    rw [this, ih (s + 1)]

theorem butterflies_range (w : K) (fe fo : Nat → K) (m : Nat) :
    butterflies FK w 1 ((List.range m).map fe) ((List.range m).map fo)
      = ((List.range m).map (fun i => fe i + w ^ i * fo i), (List.range m).map (fun i => fe i - w ^ i * fo i)) := by
  simpa only [List.range_eq_range', pow_zero] using butterflies_tabulated root w fe fo m 0

/-- the recursive even/odd transform evaluates at the powers of `w` -/
theorem evalAtPowers_eq (k : Nat) (w : K) (xs : List K) (hlen : xs.length = 2 ^ k)
    (hw : 1 ≤ k → w ^ (2 ^ (k - 1)) = -1) :
    evalAtPowers FK k w xs = (List.range (2 ^ k)).map (fun i => (denote xs).eval (w ^ i)) := by
  induction k generalizing w xs with
  | zero =>
    match xs, hlen with
    | [x], _ => simp [evalAtPowers]
  | succ k ih =>
    have hw' : w ^ (2 ^ k) = -1 := hw (Nat.succ_pos k)
    have hww : 1 ≤ k → (w * w) ^ (2 ^ (k - 1)) = -1 := fun hk => by
      rw [← pow_two, ← pow_mul, ← pow_succ', Nat.sub_add_cancel hk]; exact hw'
    obtain ⟨hle, hlo⟩ := length_evens_odds xs
    rw [hlen, pow_succ] at hle hlo
    unfold evalAtPowers
    simp only [FieldOps.ofField_mul, FieldOps.ofField_one]
    rw [ih (w * w) (evens xs) (by omega) hww, ih (w * w) (odds xs) (by omega) hww, butterflies_range, pow_succ,
      Nat.mul_two, List.range_add, List.map_append, List.map_map]
    refine congrArg₂ (· ++ ·) (List.map_congr_left fun i _ => ?_) (List.map_congr_left fun i _ => ?_)
    · rw [eval_split xs (w ^ i), ← mul_pow]
    · -- `w^(2^k + i) = -w^i`
      rw [Function.comp, eval_split xs (w ^ (2 ^ k + i)), pow_add, hw', neg_one_mul, neg_mul_neg, ← mul_pow]
      ring

/-- the roots table supplies, for every length `2^(k+1)`, an element whose `2^k`-th power is `−1` -/
def RootOK (root : Nat → Option K) : Prop := ∀ k w, root (2 ^ (k + 1)) = some w → w ^ (2 ^ k) = -1

/-- the evaluation points of `specTransform`: the powers of `rootOfUnity n` -/
noncomputable def rootPts (root : Nat → Option K) (n i : Nat) : K :=
  match root n with
  | some w => w ^ i
  | none => 0

theorem RootOK.pow_half (hroot : RootOK root) (k : Nat) (w : K) (h : root (2 ^ k) = some w) :
    1 ≤ k → w ^ (2 ^ (k - 1)) = -1 := by
  intro hk
  obtain ⟨j, rfl⟩ : ∃ j, k = j + 1 := ⟨k - 1, by omega⟩
  simpa using hroot j w h

theorem specNtt_some (hroot : RootOK root) (xs ys : List K) (h : specNtt FK xs = some ys) :
    (xs = [] ∧ ys = []) ∨
    ∃ k w, xs.length = 2 ^ k ∧ 2 ^ k ≤ 4294967295 ∧ root (2 ^ k) = some w ∧ (1 ≤ k → w ^ (2 ^ (k - 1)) = -1) ∧
      ys = (List.range (2 ^ k)).map (fun i => (denote xs).eval (w ^ i)) := by
  rcases Hom.specNtt_eq_some h with h0 | ⟨k, w, hlen, hle, hr⟩
  · exact .inl h0
  · have hw := RootOK.pow_half root hroot k w hr
    rw [Hom.specNtt_two_pow FK k w xs hlen hle hr, evalAtPowers_eq root k w xs hlen hw] at h
    exact .inr ⟨k, w, hlen, hle, hr, hw, (Option.some.inj h).symm⟩

theorem eval_denote_sum (l : List K) (z : K) :
    (denote l).eval z = ∑ j ∈ range l.length, l.getD j 0 * z ^ j := by
  rcases l with _ | ⟨c, cs⟩
  · exact eval_zero
  · rw [eval_eq_sum_range' (natDegree_denote_lt _ (List.cons_ne_nil c cs))]
    simp only [coeff_denote]

/-- evaluation at the powers of `ω` is the DFT of the coefficient vector -/
theorem eval_denote_eq_dft (xs : List K) (ω : K) (i : Nat) :
    (denote xs).eval (ω ^ i) = TF.NttFn.dft xs.length ω (fun j => xs.getD j 0) i := by
  rw [eval_denote_sum]
  exact Finset.sum_congr rfl (fun j _ => by rw [← pow_mul, mul_comm i j])

/-- **the spec-level transform is an evaluation / interpolation pair** -/
theorem specTransform_spec (hroot : RootOK root) (h2 : (2 : K) ≠ 0) :
    TransformSpec (specTransform FK) (rootPts root) where
  ntt_eval := by
    intro xs ys h
    rcases specNtt_some root hroot xs ys h with ⟨rfl, rfl⟩ | ⟨k, w, hlen, _, hr, _, rfl⟩
    · rfl
    · rw [hlen]
      exact List.map_congr_left (fun i _ => by rw [rootPts, hr])
  ntt_some_of_length := by
    intro xs ys xs' h hl
    rcases Hom.specNtt_eq_some h with ⟨rfl, _⟩ | ⟨k, w, hlen, hle, hr⟩
    · rw [List.length_eq_zero_iff.1 hl]; exact ⟨_, h⟩
    · exact ⟨_, Hom.specNtt_two_pow FK k w xs' (hl.trans hlen) hle hr⟩
  intt_ntt := by
    intro xs ys zs h hz
    rcases specNtt_some root hroot xs ys h with ⟨rfl, rfl⟩ | ⟨k, w, hlen, hle, hr, hw, hys⟩
    · exact (Option.some.inj hz).symm
    · have hylen : ys.length = 2 ^ k := by rw [hys]; simp
      have hn0 : (((2 ^ k : Nat)) : K) ≠ 0 := by rw [Nat.cast_pow, Nat.cast_ofNat]; exact pow_ne_zero _ h2
      have hz' := (Hom.specIntt_two_pow FK k w ys hylen hle hr).symm.trans hz
      simp only [(FieldOps.ofField_isZero_false root _).2 hn0, Bool.false_eq_true, if_false, FieldOps.ofField_ofNat,
        FieldOps.ofField_inv, FieldOps.ofField_mul, Option.some.injEq] at hz'
      rw [← hz']
      -- a vector of length 1 is left alone by both transforms; otherwise `w ≠ 0` and `dft_inv` applies
      rcases Nat.eq_zero_or_pos k with rfl | hk
      · obtain ⟨x, rfl⟩ := List.length_eq_one_iff.1 hlen
        simp [hys, evalAtPowers]
      have hw0 : w ≠ 0 := fun h0 => by
        have := hw hk
        rw [h0, zero_pow (Nat.ne_of_gt (Nat.two_pow_pos _))] at this
        exact one_ne_zero (neg_eq_zero.1 this.symm)
      rw [evalAtPowers_eq root k w⁻¹ ys hylen (fun hk => by rw [inv_pow, hw hk]; norm_num)]
      apply List.ext_getElem
      · simp [hlen]
      · intro i hi1 hi2
        simp only [List.length_map, List.length_range] at hi1
        simp only [List.getElem_map, List.getElem_range]
        have hyd : TF.NttFn.dft (2 ^ k) w⁻¹ (fun j => ys.getD j 0) i
            = TF.NttFn.dft (2 ^ k) w⁻¹ (TF.NttFn.dft (2 ^ k) w (fun j => xs.getD j 0)) i := by
          refine Finset.sum_congr rfl (fun j hj => congrArg (· * _) ?_)
          have hj' : j < ys.length := by rw [hylen]; exact Finset.mem_range.1 hj
          show ys.getD j 0 = _
          rw [getD_of_lt _ _ _ hj', ← hlen, ← eval_denote_eq_dft]
          simp only [hys, List.getElem_map, List.getElem_range]
        rw [eval_denote_eq_dft, hylen, hyd, TF.NttFn.dft_inv k w w⁻¹ hw (inv_mul_cancel₀ hw0) _ i hi1,
          getD_of_lt _ _ _ hi2, mul_comm, ← mul_assoc, inv_mul_cancel₀ hn0, one_mul]

theorem nextPowerOfTwo_isPow (n : Nat) : ∃ k, nextPowerOfTwo n = 2 ^ k := by
  unfold nextPowerOfTwo
  split
  · exact ⟨0, rfl⟩
  · exact ⟨_, rfl⟩

/-- the spec-level transform is defined on every length `2^k ≤ u32::MAX` for which the table has a root -/
theorem specTransform_definedAt (hroot : RootOK root) (k : Nat) (w : K) (hle : 2 ^ k ≤ 4294967295)
    (hr : root (2 ^ k) = some w) : Hom.DefinedAt (specTransform FK) (2 ^ k) := by
  have hw := RootOK.pow_half root hroot k w hr
  have hwi : 1 ≤ k → w⁻¹ ^ 2 ^ (k - 1) = -1 := fun hk => by rw [inv_pow, hw hk, inv_neg_one]
  constructor
  · intro xs hx
    refine ⟨_, Hom.specNtt_two_pow FK k w xs hx hle hr, ?_⟩
    rw [evalAtPowers_eq root k w xs hx hw, List.length_map, List.length_range]
  · intro xs hx
    refine ⟨_, Hom.specIntt_two_pow FK k w xs hx hle hr, ?_⟩
    rw [List.length_map, FieldOps.ofField_inv, evalAtPowers_eq root k w⁻¹ xs hx hwi, List.length_map, List.length_range]

/-- `fast_multiply` over the spec-level transform returns (no panic) whenever the roots table has an entry for the
    transform length and that length fits `u32` -/
theorem fastMultiply_spec_isSome (hroot : RootOK root) (a b : List K)
    (hle : nextPowerOfTwo ((degree FK a + degree FK b).toNat + 1) ≤ 4294967295)
    (hsome : (root (nextPowerOfTwo ((degree FK a + degree FK b).toNat + 1))).isSome) :
    (fastMultiply FK (specTransform FK) a b).isSome := by
  refine Hom.fastMultiply_isSome_of FK (specTransform FK) a b ?_
  obtain ⟨k, hk⟩ := nextPowerOfTwo_isPow ((degree FK a + degree FK b).toNat + 1)
  obtain ⟨w, hw⟩ := Option.isSome_iff_exists.1 hsome
  rw [hk] at hle hw ⊢
  exact specTransform_definedAt root hroot k w hle hw

/-! Operands over different fields: the spec-level transform commutes with an embedding of fields whose roots tables agree. -/
section Mixed
variable {K₁ K₂ : Type} [Field K₁] [Field K₂]
variable (root₁ : Nat → Option K₁) (root₂ : Nat → Option K₂)

theorem evens_map {α β : Type} (f : α → β) (l : List α) : evens (l.map f) = (evens l).map f := by
  fun_induction evens l with
  | case1 => rfl
  | case2 x => rfl
  | case3 x y t ih => simp [evens, ih]

theorem odds_map {α β : Type} (f : α → β) (l : List α) : odds (l.map f) = (odds l).map f := by
  fun_induction odds l with
  | case1 => rfl
  | case2 x => rfl
  | case3 x y t ih => simp [odds, ih]

theorem butterflies_hom (φ : K₁ →+* K) (w pw : K₁) (e o : List K₁) :
    butterflies FK (φ w) (φ pw) (e.map φ) (o.map φ)
      = ((butterflies (FieldOps.ofField K₁ root₁) w pw e o).1.map φ,
         (butterflies (FieldOps.ofField K₁ root₁) w pw e o).2.map φ) := by
  induction e generalizing pw o with
  | nil => simp [butterflies]
  | cons x xs ih =>
    cases o with
    | nil => simp [butterflies]
    | cons y ys =>
      simp only [List.map_cons, butterflies, FieldOps.ofField_mul, FieldOps.ofField_add, FieldOps.ofField_sub]
      rw [show φ pw * φ w = φ (pw * w) from (φ.map_mul pw w).symm, ih]
      simp

theorem evalAtPowers_hom (φ : K₁ →+* K) (k : Nat) (w : K₁) (xs : List K₁) :
    evalAtPowers FK k (φ w) (xs.map φ) = (evalAtPowers (FieldOps.ofField K₁ root₁) k w xs).map φ := by
  induction k generalizing w xs with
  | zero => rfl
  | succ k ih =>
    unfold evalAtPowers
    simp only [FieldOps.ofField_mul, FieldOps.ofField_one]
    rw [evens_map, odds_map, ← map_mul, ih, ih]
    have := butterflies_hom root root₁ φ w 1
      (evalAtPowers (FieldOps.ofField K₁ root₁) k (w * w) (evens xs))
      (evalAtPowers (FieldOps.ofField K₁ root₁) k (w * w) (odds xs))
    rw [map_one] at this
    rw [this]
    simp

/-- the roots tables agree along the embedding -/
def RootCompat (φ : K₁ →+* K) (root₁ : Nat → Option K₁) (root : Nat → Option K) : Prop :=
  ∀ n, root n = (root₁ n).map φ

theorem specNtt_hom (φ : K₁ →+* K) (hc : RootCompat φ root₁ root) (xs : List K₁) :
    specNtt FK (xs.map φ) = (specNtt (FieldOps.ofField K₁ root₁) xs).map (List.map φ) := by
  unfold specNtt
  simp only [List.length_map, FieldOps.ofField_rootOfUnity, hc xs.length]
  split
  · rfl
  · split
    · rfl
    · split
      · rfl
      · cases root₁ xs.length with
        | none => rfl
        | some w => simp [evalAtPowers_hom root root₁ φ]

/-- `fast_multiply<FF2>` with operands over different fields, each transformed over its own field, is the same-field
    `fast_multiply` on the embedded operands -/
theorem fastMultiplyG_eq (φ₁ : K₁ →+* K) (φ₂ : K₂ →+* K) (h1 : RootCompat φ₁ root₁ root) (h2 : RootCompat φ₂ root₂ root)
    (a : List K₁) (b : List K₂) :
    fastMultiplyG (FieldOps.ofField K₁ root₁) (FieldOps.ofField K₂ root₂) (fun x y => φ₁ x * φ₂ y)
      (specTransform (FieldOps.ofField K₁ root₁)) (specTransform (FieldOps.ofField K₂ root₂)) (specTransform FK) a b
      = fastMultiply FK (specTransform FK) (a.map φ₁) (b.map φ₂) :=
  fastMultiplyG_eq_of_hom root φ₁ φ₂ root₁ root₂ _ _ _ (fun xs => (specNtt_hom root root₁ φ₁ h1 xs).symm)
    (fun xs => (specNtt_hom root root₂ φ₂ h2 xs).symm) a b

theorem multiplyG_eq (φ₁ : K₁ →+* K) (φ₂ : K₂ →+* K) (h1 : RootCompat φ₁ root₁ root) (h2 : RootCompat φ₂ root₂ root)
    (threshold : Int) (a : List K₁) (b : List K₂) :
    multiplyG (FieldOps.ofField K₁ root₁) (FieldOps.ofField K₂ root₂) FK (fun x y => φ₁ x * φ₂ y) threshold
      (specTransform (FieldOps.ofField K₁ root₁)) (specTransform (FieldOps.ofField K₂ root₂)) (specTransform FK) a b
      = multiply FK threshold (specTransform FK) (a.map φ₁) (b.map φ₂) :=
  multiplyG_eq_of_hom root φ₁ φ₂ root₁ root₂ _ _ _ (fun xs => (specNtt_hom root root₁ φ₁ h1 xs).symm)
    (fun xs => (specNtt_hom root root₂ φ₂ h2 xs).symm) threshold a b

end Mixed

/-- a concrete roots table over `ℚ` (lengths 1 and 2) for the non-vacuity examples -/
def exampleRoot : Nat → Option ℚ := fun n => if n = 1 then some 1 else if n = 2 then some (-1) else none

theorem exampleRoot_ok : RootOK exampleRoot := by
  intro k w h
  cases k with
  | zero =>
    simp [exampleRoot] at h
    subst h
    norm_num
  | succ k =>
    have : 2 ^ (k + 1 + 1) = 4 * 2 ^ k := by ring
    have hpos : 0 < 2 ^ k := by positivity
    simp only [exampleRoot] at h
    rw [if_neg (by omega), if_neg (by omega)] at h
    cases h

end TF.Model.Poly
