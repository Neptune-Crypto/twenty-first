import TF.Proofs.MmrE
import TF.Model.MmrSucc
/-!
C12, `MmrSuccessorProof::verify`: the model (`TF/Model/MmrSucc.lean`) is total and equals the reference verifier
`succVerify` of `TF/Spec/MmrE.lean`; properties of the reference verifier.
-/
namespace TF.MmrE
open TF.Gen TF.Spec.MmrE


section
open TF.Model.MmrE TF.Model.Mmr
variable {D : Type} [DecidableEq D] (H : D → D → D) (dflt : D)

/-- the next `k` digests as the inner loop reads them: `Digest::default()` beyond the end of the list -/
def padded (dflt : D) (paths : List D) (ap k : Nat) : List D := (List.range k).map fun t => (paths[ap + t]?).getD dflt

omit [DecidableEq D] in
theorem padded_succ (paths : List D) (ap k : Nat) :
    padded dflt paths ap (k + 1) = (paths[ap]?).getD dflt :: padded dflt paths (ap + 1) k := by
  unfold padded
  rw [List.range_succ_eq_map, List.map_cons, List.map_map]
  refine congrArg₂ _ rfl (List.map_congr_left fun t _ => ?_)
  simp only [Function.comp, Nat.succ_eq_add_one]
  rw [show ap + (t + 1) = ap + 1 + t by omega]

omit [DecidableEq D] in
theorem padded_eq_take (paths : List D) : ∀ (k ap : Nat), ap + k ≤ paths.length →
    padded dflt paths ap k = (paths.drop ap).take k := by
  intro k
  induction k with
  | zero => intro ap _; rfl
  | succ k ih =>
    intro ap h
    have hlt : ap < paths.length := by omega
    rw [padded_succ, ih (ap + 1) (by omega), List.drop_eq_getElem_cons hlt, List.take_succ_cons,
      List.getElem?_eq_getElem hlt]
    rfl

/-- the inner loop never diverges on a positive Merkle tree index below `2^fuel`: it is the reference fold over the
    next `⌊log2 m⌋` digests -/
theorem climb_spec (paths : List D) : ∀ (k fuel m : Nat) (node : D) (ap : Nat),
    2 ^ k ≤ m → m < 2 ^ (k + 1) → k < fuel →
    climb H dflt paths fuel m node ap = some (foldBlk H m node (padded dflt paths ap k), ap + k) := by
  intro k
  induction k with
  | zero =>
    intro fuel m node ap h1 h2 hf
    have : m = 1 := by simp at h1 h2; omega
    subst this
    cases fuel with
    | zero => omega
    | succ f => simp [climb, foldBlk, padded]
  | succ k ih =>
    intro fuel m node ap h1 h2 hf
    cases fuel with
    | zero => omega
    | succ f =>
      rw [Nat.pow_succ] at h1 h2
      have hm : m ≠ 1 := by have : 0 < 2 ^ k := Nat.pow_pos (by omega); omega
      rw [climb]; simp only [hm, if_false]
      rw [ih f (m / 2) _ (ap + 1) (by omega) (by rw [Nat.pow_succ]; omega) (by omega), padded_succ, foldBlk]
      congr 2; omega

/-- per-iteration facts of the loop of `verify` (`h = ⌊log2 rem⌋` the old peak's height, `h' = (locate nc run).1` the
    height of the new tree above it) -/
theorem iter_facts (nc rem run : Nat) (hnc : nc < 2 ^ 64) (hrem : rem ≠ 0)
    (hinv : ∃ t, rem < 2 ^ t ∧ 2 ^ t ∣ run) (hsum : run + rem ≤ nc) :
    run < nc ∧ Nat.log2 rem ≤ (locate nc run).1 ∧ (locate nc run).1 < 64 ∧
    leaf_index_to_mt_index_and_peak_index run nc
      = (2 ^ (locate nc run).1 + run % 2 ^ (locate nc run).1, (locate nc run).2.2) ∧
    (locate nc run).2.2 < TF.popCount nc ∧
    2 ^ ((locate nc run).1 - Nat.log2 rem)
      ≤ (2 ^ (locate nc run).1 + run % 2 ^ (locate nc run).1) / 2 ^ Nat.log2 rem ∧
    (2 ^ (locate nc run).1 + run % 2 ^ (locate nc run).1) / 2 ^ Nat.log2 rem
      < 2 ^ ((locate nc run).1 - Nat.log2 rem + 1) ∧
    ((2 ^ (locate nc run).1 + run % 2 ^ (locate nc run).1) / 2 ^ Nat.log2 rem) % 2 ^ ((locate nc run).1 - Nat.log2 rem)
      = (run / 2 ^ Nat.log2 rem) % 2 ^ ((locate nc run).1 - Nat.log2 rem) ∧
    (∃ t, rem - 2 ^ Nat.log2 rem < 2 ^ t ∧ 2 ^ t ∣ run + 2 ^ Nat.log2 rem) ∧
    run + 2 ^ Nat.log2 rem + (rem - 2 ^ Nat.log2 rem) ≤ nc := by
  generalize hh : Nat.log2 rem = h
  generalize hh' : (locate nc run).1 = h'
  have h1 : 2 ^ h ≤ rem := by rw [← hh]; exact two_pow_log2_le hrem
  have h2 : rem < 2 ^ h * 2 := by rw [← hh, ← Nat.pow_succ]; exact lt_two_pow_log2_succ rem
  have hpos : 0 < 2 ^ h := Nat.pow_pos (by omega)
  obtain ⟨t, ht1, ht2⟩ := hinv
  have hlt : run < nc := by
    have : 0 < rem := Nat.pos_of_ne_zero hrem
    omega
  have hht : h < t := by
    by_contra hc
    have : 2 ^ t ≤ 2 ^ h := Nat.pow_le_pow_right (by omega) (by omega)
    omega
  have hdvd : 2 ^ h ∣ run := Nat.dvd_trans (Nat.pow_dvd_pow 2 (by omega)) ht2
  have hge : h ≤ h' := by rw [← hh']; exact locate_height_ge h nc run hdvd (by omega)
  have h64 : h' < 64 := by rw [← hh']; exact height_lt_64 nc run hlt hnc
  have hgen := (gen_locate run nc hlt hnc).1
  rw [hh'] at hgen
  have hpk := locate_pk_lt nc run hlt
  have hsplit : 2 ^ h' = 2 ^ h * 2 ^ (h' - h) := by rw [← Nat.pow_add]; congr 1; omega
  have hq : (2 ^ h' + run % 2 ^ h') / 2 ^ h = 2 ^ (h' - h) + (run / 2 ^ h) % 2 ^ (h' - h) := by
    rw [hsplit, Nat.mul_add_div hpos, Nat.mod_mul_right_div_self]
  have hk : 0 < 2 ^ (h' - h) := Nat.pow_pos (by omega)
  have hmodlt : (run / 2 ^ h) % 2 ^ (h' - h) < 2 ^ (h' - h) := Nat.mod_lt _ hk
  refine ⟨hlt, hge, h64, ?_, hpk, ?_, ?_, ?_, ⟨h, ?_, ?_⟩, ?_⟩
  · rw [hgen, Nat.add_comm]
  · rw [hq]; omega
  · rw [hq, Nat.pow_succ]; omega
  · rw [hq, Nat.add_mod, Nat.mod_self, Nat.zero_add, Nat.mod_mod, Nat.mod_mod]
  · omega
  · exact Nat.dvd_add hdvd (Nat.dvd_refl _)
  · omega

theorem verifyStep_spec (paths : List D) (nc : Nat) (np : List D) (hnc : nc < 2 ^ 64)
    (hnp : TF.popCount nc = np.length) (p : D) (rem run ap : Nat) (hrem : rem ≠ 0)
    (hinv : ∃ t, rem < 2 ^ t ∧ 2 ^ t ∣ run) (hsum : run + rem ≤ nc) :
    ∃ q : D, np[(locate nc run).2.2]? = some q ∧
      verifyStep H dflt paths nc np p rem run ap =
        if q ≠ foldBlk H (run / 2 ^ Nat.log2 rem) p (padded dflt paths ap ((locate nc run).1 - Nat.log2 rem))
        then some none
        else some (some (rem - 2 ^ Nat.log2 rem, run + 2 ^ Nat.log2 rem, ap + ((locate nc run).1 - Nat.log2 rem))) := by
  obtain ⟨hlt, hge, h64, hgen, hpk, hm1, hm2, hmod, _, _⟩ := iter_facts nc rem run hnc hrem hinv hsum
  have hc := climb_spec H dflt paths _ descentFuel _ p ap hm1 hm2 (by simp [descentFuel]; omega)
  have hpk' : (locate nc run).2.2 < np.length := by omega
  have hl : (padded dflt paths ap ((locate nc run).1 - Nat.log2 rem)).length = (locate nc run).1 - Nat.log2 rem := by
    simp [padded]
  have hfold : foldBlk H ((2 ^ (locate nc run).1 + run % 2 ^ (locate nc run).1) / 2 ^ Nat.log2 rem) p
        (padded dflt paths ap ((locate nc run).1 - Nat.log2 rem))
      = foldBlk H (run / 2 ^ Nat.log2 rem) p (padded dflt paths ap ((locate nc run).1 - Nat.log2 rem)) := by
    rw [foldBlk_mod H _ ((2 ^ (locate nc run).1 + run % 2 ^ (locate nc run).1) / 2 ^ Nat.log2 rem),
      foldBlk_mod H _ (run / 2 ^ Nat.log2 rem), hl, hmod]
  refine ⟨np[(locate nc run).2.2], List.getElem?_eq_getElem hpk', ?_⟩
  unfold verifyStep
  generalize descentFuel = fuel at *
  simp only [hrem, if_false, hlt, decide_true, Bool.not_true, Bool.false_eq_true, hgen, hc, hfold,
    List.getElem?_eq_getElem hpk']

theorem popCount_strip_len {rem : Nat} {p : D} {ps : List D} (hrem : rem ≠ 0)
    (hlen : TF.popCount rem = (p :: ps).length) : TF.popCount (rem - 2 ^ Nat.log2 rem) = ps.length := by
  have := popCount_strip hrem
  simp at hlen; omega

/-- once `ap` has passed the end of the digests only `false` can come: `ap` never decreases and the final test fails -/
theorem verifyPeaks_over (paths : List D) (nc : Nat) (np : List D) (hnc : nc < 2 ^ 64)
    (hnp : TF.popCount nc = np.length) :
    ∀ (ops : List D) (rem run ap : Nat), TF.popCount rem = ops.length →
      (∃ t, rem < 2 ^ t ∧ 2 ^ t ∣ run) → run + rem ≤ nc → paths.length < ap →
      verifyPeaks H dflt paths nc np ops rem run ap = some false := by
  intro ops
  induction ops with
  | nil =>
    intro rem run ap _ _ _ hap
    simp only [verifyPeaks]
    congr 1; simp; omega
  | cons p ps ih =>
    intro rem run ap hlen hinv hsum hap
    have hrem : rem ≠ 0 := by
      intro h0; subst h0; simp [TF.Mmr.popCount_zero] at hlen
    obtain ⟨_, _, _, _, _, _, _, _, hinv', hsum'⟩ := iter_facts nc rem run hnc hrem hinv hsum
    obtain ⟨q, _, hstep⟩ := verifyStep_spec H dflt paths nc np hnc hnp p rem run ap hrem hinv hsum
    rw [verifyPeaks, hstep]
    by_cases hne : q ≠ foldBlk H (run / 2 ^ Nat.log2 rem) p (padded dflt paths ap ((locate nc run).1 - Nat.log2 rem))
    · rw [if_pos hne]
    · rw [if_neg hne]
      exact ih _ _ _ (popCount_strip_len hrem hlen) hinv' hsum' (by omega)

theorem verifyPeaks_spec (paths : List D) (nc : Nat) (np : List D) (hnc : nc < 2 ^ 64)
    (hnp : TF.popCount nc = np.length) :
    ∀ (ops : List D) (rem run ap : Nat), TF.popCount rem = ops.length →
      (∃ t, rem < 2 ^ t ∧ 2 ^ t ∣ run) → run + rem ≤ nc → ap ≤ paths.length →
      verifyPeaks H dflt paths nc np ops rem run ap
        = some (succGo H nc np ops (stripTop rem run) (paths.drop ap)) := by
  intro ops
  induction ops with
  | nil =>
    intro rem run ap _ _ _ hap
    simp only [verifyPeaks, succGo]
    congr 1
    rw [Bool.eq_iff_iff, beq_iff_eq, List.isEmpty_iff, List.drop_eq_nil_iff]
    omega
  | cons p ps ih =>
    intro rem run ap hlen hinv hsum hap
    have hrem : rem ≠ 0 := by
      intro h0; subst h0; simp [TF.Mmr.popCount_zero] at hlen
    obtain ⟨_, hge, _, _, _, _, _, _, hinv', hsum'⟩ := iter_facts nc rem run hnc hrem hinv hsum
    have hlen' := popCount_strip_len hrem hlen
    rw [stripTop_pos rem run hrem, succGo, verifyPeaks]
    simp only [hge, decide_true, Bool.true_and]
    obtain ⟨q, hq, hstep⟩ := verifyStep_spec H dflt paths nc np hnc hnp p rem run ap hrem hinv hsum
    rw [hstep, hq]
    by_cases hk : (locate nc run).1 - Nat.log2 rem ≤ (paths.drop ap).length
    · have hk' : ap + ((locate nc run).1 - Nat.log2 rem) ≤ paths.length := by
        rw [List.length_drop] at hk; omega
      rw [padded_eq_take dflt paths _ ap hk']
      simp only [hk, decide_true, Bool.true_and]
      by_cases hne : q ≠ foldBlk H (run / 2 ^ Nat.log2 rem) p
          (List.take ((locate nc run).1 - Nat.log2 rem) (List.drop ap paths))
      · rw [if_pos hne]; simp [hne]
      · have heq := not_not.mp hne
        rw [if_neg hne]
        simp only
        rw [ih _ _ _ hlen' hinv' hsum' hk', List.drop_drop, heq]
        simp
    · simp only [hk, decide_false, Bool.false_and]
      by_cases hne : q ≠ foldBlk H (run / 2 ^ Nat.log2 rem) p
          (padded dflt paths ap ((locate nc run).1 - Nat.log2 rem))
      · rw [if_pos hne]
      · rw [if_neg hne]
        exact verifyPeaks_over H dflt paths nc np hnc hnp _ _ _ _ hlen' hinv' hsum'
          (by rw [List.length_drop] at hk; omega)

theorem verify_eq_spec (paths : List D) (old new : Acc D) (hoc : old.count < 2 ^ 64) (hnc : new.count < 2 ^ 64)
    (hlen : new.peaks.length < 2 ^ 32) :
    verify H dflt paths old new = some (succVerify H paths old.count old.peaks new.count new.peaks) := by
  unfold verify succVerify
  by_cases h1 : old.count > new.count
  · have : ¬ old.count ≤ new.count := by omega
    simp [h1, this]
  · have hle : old.count ≤ new.count := by omega
    have hl : ¬ (new.peaks.length ≥ 2 ^ 32) := by omega
    simp only [h1, if_false, hl, hle, decide_true, Bool.true_and]
    by_cases h2 : TF.popCount new.count = new.peaks.length
    · by_cases h3 : TF.popCount old.count = old.peaks.length
      · simp only [h2, h3, ne_eq, not_true_eq_false, if_false, decide_true, Bool.true_and]
        rw [verifyPeaks_spec H dflt paths new.count new.peaks hnc h2 old.peaks old.count 0 0 h3
          ⟨64, hoc, Nat.dvd_zero _⟩ (by omega) (by omega), stripTop_eq_peakPos, List.drop_zero]
      · simp [h2, h3]
    · simp [h2]

/-- acceptance by the reference walk = existence of a segmentation of the digests, one segment per old peak -/
theorem succGo_sound (nc : Nat) (np : List D) : ∀ (qs : List (Nat × Nat)) (ops rest : List D),
    ops.length = qs.length → succGo H nc np ops qs rest = true →
    ∃ segs : List (List D), segs.flatten = rest ∧ segs.length = ops.length ∧
      ∀ (i : Nat) (p : D) (q : Nat × Nat) (seg : List D), ops[i]? = some p → qs[i]? = some q → segs[i]? = some seg →
        q.1 ≤ (locate nc q.2).1 ∧ seg.length = (locate nc q.2).1 - q.1 ∧
        np[(locate nc q.2).2.2]? = some (foldBlk H (q.2 / 2 ^ q.1) p seg) := by
  intro qs
  induction qs with
  | nil =>
    intro ops rest hl h
    have : ops = [] := List.eq_nil_of_length_eq_zero (by simpa using hl)
    subst this
    simp only [succGo, List.isEmpty_iff] at h
    subst h
    exact ⟨[], rfl, rfl, by intro i p q seg h1; simp at h1⟩
  | cons q qs ih =>
    intro ops rest hl h
    match ops, hl with
    | p :: ps, hl =>
      obtain ⟨hq, sq⟩ := q
      simp only [succGo, Bool.and_eq_true, decide_eq_true_eq, beq_iff_eq] at h
      obtain ⟨⟨⟨h1, h2⟩, h3⟩, h4⟩ := h
      obtain ⟨segs, hs1, hs2, hs3⟩ := ih ps _ (by simpa using hl) h4
      refine ⟨rest.take ((locate nc sq).1 - hq) :: segs, ?_, by simp [hs2], ?_⟩
      · simp only [List.flatten_cons, hs1, List.take_append_drop]
      · intro i p' q' seg hp hq' hseg
        cases i with
        | zero =>
          simp only [List.getElem?_cons_zero, Option.some.injEq] at hp hq' hseg
          subst hp; subst hq'; subst hseg
          refine ⟨h1, ?_, h3⟩
          simp only
          rw [List.length_take]; omega
        | succ i =>
          simp only [List.getElem?_cons_succ] at hp hq' hseg
          exact hs3 i p' q' seg hp hq' hseg

theorem succGo_complete (nc : Nat) (np : List D) : ∀ (qs : List (Nat × Nat)) (ops : List D) (segs : List (List D)),
    ops.length = qs.length → segs.length = ops.length →
    (∀ (i : Nat) (p : D) (q : Nat × Nat) (seg : List D), ops[i]? = some p → qs[i]? = some q → segs[i]? = some seg →
        q.1 ≤ (locate nc q.2).1 ∧ seg.length = (locate nc q.2).1 - q.1 ∧
        np[(locate nc q.2).2.2]? = some (foldBlk H (q.2 / 2 ^ q.1) p seg)) →
    succGo H nc np ops qs segs.flatten = true := by
  intro qs
  induction qs with
  | nil =>
    intro ops segs hl hs _
    have : ops = [] := List.eq_nil_of_length_eq_zero (by simpa using hl)
    subst this
    have : segs = [] := List.eq_nil_of_length_eq_zero (by simpa using hs)
    subst this
    simp [succGo]
  | cons q qs ih =>
    intro ops segs hl hs hall
    match ops, hl, segs, hs with
    | p :: ps, hl, seg :: segs, hs =>
      obtain ⟨hq, sq⟩ := q
      obtain ⟨h1, h2, h3⟩ := hall 0 p (hq, sq) seg rfl rfl rfl
      simp only at h1 h2 h3
      have hih := ih ps segs (by simpa using hl) (by simpa using hs)
        (fun i p' q' seg' a b c => hall (i + 1) p' q' seg' (by simpa using a) (by simpa using b) (by simpa using c))
      simp only [succGo, List.flatten_cons, Bool.and_eq_true, decide_eq_true_eq, beq_iff_eq]
      rw [← h2, List.take_left', List.drop_left']
      · exact ⟨⟨⟨h1, by simp⟩, h3⟩, hih⟩
      · rfl
      · rfl

/-- the walk reads the new peaks only at the positions above the old peaks -/
theorem succGo_congr_np (nc : Nat) (np np' : List D) : ∀ (qs : List (Nat × Nat)) (ops rest : List D),
    (∀ q ∈ qs, np[(locate nc q.2).2.2]? = np'[(locate nc q.2).2.2]?) →
    succGo H nc np ops qs rest = succGo H nc np' ops qs rest := by
  intro qs
  induction qs with
  | nil => intro ops rest _; cases ops <;> simp [succGo]
  | cons q qs ih =>
    intro ops rest hall
    cases ops with
    | nil => simp [succGo]
    | cons p ps =>
      obtain ⟨hq, sq⟩ := q
      have h0 := hall (hq, sq) (by simp)
      simp only at h0
      simp only [succGo, h0]
      rw [ih ps _ (fun q hq => hall q (by simp [hq]))]

theorem succGo_np_agree (nc : Nat) (np np' : List D) : ∀ (qs : List (Nat × Nat)) (ops rest : List D),
    ops.length = qs.length → succGo H nc np ops qs rest = true → succGo H nc np' ops qs rest = true →
    ∀ q ∈ qs, np'[(locate nc q.2).2.2]? = np[(locate nc q.2).2.2]? := by
  intro qs
  induction qs with
  | nil => intro _ _ _ _ _ q hq; simp at hq
  | cons q0 qs ih =>
    intro ops rest hl h h' q hq
    match ops, hl with
    | p :: ps, hl =>
      obtain ⟨hq0, sq0⟩ := q0
      simp only [succGo, Bool.and_eq_true, decide_eq_true_eq, beq_iff_eq] at h h'
      obtain ⟨⟨_, h3⟩, h4⟩ := h
      obtain ⟨⟨_, h3'⟩, h4'⟩ := h'
      rcases List.mem_cons.mp hq with rfl | hq
      · simp only; rw [h3, h3']
      · exact ih ps _ (by simpa using hl) h4 h4' q hq

theorem succGo_inj (nc : Nat) (np : List D) : ∀ (qs : List (Nat × Nat)) (ops ops' rest rest' : List D),
    ops.length = qs.length → ops'.length = qs.length →
    succGo H nc np ops qs rest = true → succGo H nc np ops' qs rest' = true →
    (ops = ops' ∧ rest = rest') ∨ Collision H := by
  intro qs
  induction qs with
  | nil =>
    intro ops ops' rest rest' hl hl' h h'
    have e1 : ops = [] := List.eq_nil_of_length_eq_zero (by simpa using hl)
    have e2 : ops' = [] := List.eq_nil_of_length_eq_zero (by simpa using hl')
    subst e1; subst e2
    simp only [succGo, List.isEmpty_iff] at h h'
    exact Or.inl ⟨rfl, by rw [h, h']⟩
  | cons q qs ih =>
    intro ops ops' rest rest' hl hl' h h'
    match ops, hl, ops', hl' with
    | p :: ps, hl, p' :: ps', hl' =>
      obtain ⟨hq, sq⟩ := q
      simp only [succGo, Bool.and_eq_true, decide_eq_true_eq, beq_iff_eq] at h h'
      obtain ⟨⟨⟨h1, h2⟩, h3⟩, h4⟩ := h
      obtain ⟨⟨⟨_, h2'⟩, h3'⟩, h4'⟩ := h'
      rw [h3] at h3'
      have hf := Option.some.inj h3'
      rcases foldBlk_inj H _ _ _ _ _ (by rw [List.length_take, List.length_take]; omega) hf with ⟨hp, ht⟩ | hc
      · rcases ih ps ps' _ _ (by simpa using hl) (by simpa using hl') h4 h4' with ⟨hps, hd⟩ | hc
        · refine Or.inl ⟨by rw [hp, hps], ?_⟩
          rw [← List.take_append_drop ((locate nc sq).1 - hq) rest,
            ← List.take_append_drop ((locate nc sq).1 - hq) rest', ht, hd]
        · exact Or.inr hc
      · exact Or.inr hc

theorem succGo_honest (g : Nat → D) (nc : Nat) : ∀ (qs : List (Nat × Nat)) (ops rest : List D),
    ops.length = qs.length → (∀ q ∈ qs, q.2 < nc) →
    succGo H nc (peaks H nc g) ops qs rest = true →
    (ops = qs.map (fun q => sub H g q.1 (q.2 / 2 ^ q.1)) ∧
      rest = (qs.map (fun q => sibPath H g q.1 ((locate nc q.2).1 - q.1) (q.2 / 2 ^ q.1))).flatten) ∨ Collision H := by
  intro qs
  induction qs with
  | nil =>
    intro ops rest hl _ h
    have e1 : ops = [] := List.eq_nil_of_length_eq_zero (by simpa using hl)
    subst e1
    simp only [succGo, List.isEmpty_iff] at h
    exact Or.inl ⟨rfl, by simp [h]⟩
  | cons q qs ih =>
    intro ops rest hl hin h
    match ops, hl with
    | p :: ps, hl =>
      obtain ⟨hq, sq⟩ := q
      have hlt : sq < nc := hin (hq, sq) (by simp)
      simp only [succGo, Bool.and_eq_true, decide_eq_true_eq, beq_iff_eq] at h
      obtain ⟨⟨⟨h1, h2⟩, h3⟩, h4⟩ := h
      rw [peaks_getElem_locate H nc g sq hlt] at h3
      have hf := (Option.some.inj h3).symm
      have hlen : (List.take ((locate nc sq).1 - hq) rest).length = (locate nc sq).1 - hq := by
        rw [List.length_take]; omega
      have hf' : foldBlk H (sq / 2 ^ hq) p (List.take ((locate nc sq).1 - hq) rest)
          = sub H g (hq + (List.take ((locate nc sq).1 - hq) rest).length)
              (sq / 2 ^ hq / 2 ^ (List.take ((locate nc sq).1 - hq) rest).length) := by
        have e : hq + ((locate nc sq).1 - hq) = (locate nc sq).1 := by omega
        rw [hf, hlen, Nat.div_div_eq_div_mul, ← Nat.pow_add, e]
      rcases foldBlk_sound H g _ hq (sq / 2 ^ hq) p hf' with ⟨hp, ht⟩ | hc
      · rcases ih ps _ (by simpa using hl) (fun q hq => hin q (by simp [hq])) h4 with ⟨hps, hd⟩ | hc
        · refine Or.inl ⟨by simp only [List.map_cons, hp, hps], ?_⟩
          rw [← List.take_append_drop ((locate nc sq).1 - hq) rest, hd, ht, hlen]
          simp only [List.map_cons, List.flatten_cons]
        · exact Or.inr hc
      · exact Or.inr hc

theorem succGo_honest_complete (g : Nat → D) (nc : Nat) : ∀ (qs : List (Nat × Nat)),
    (∀ q ∈ qs, 2 ^ q.1 ∣ q.2 ∧ q.2 + 2 ^ q.1 ≤ nc) →
    succGo H nc (peaks H nc g) (qs.map (fun q => sub H g q.1 (q.2 / 2 ^ q.1))) qs
      (qs.map (fun q => sibPath H g q.1 ((locate nc q.2).1 - q.1) (q.2 / 2 ^ q.1))).flatten = true := by
  intro qs
  induction qs with
  | nil => intro _; simp [succGo]
  | cons q qs ih =>
    intro hin
    obtain ⟨hq, sq⟩ := q
    obtain ⟨hd, hle⟩ := hin (hq, sq) (by simp)
    simp only at hd hle
    have hpos : 0 < 2 ^ hq := Nat.pow_pos (by omega)
    have hlt : sq < nc := by omega
    have hge := locate_height_ge hq nc sq hd hle
    have hih := ih (fun q hq => hin q (by simp [hq]))
    simp only [List.map_cons, List.flatten_cons, succGo, Bool.and_eq_true, decide_eq_true_eq, beq_iff_eq]
    have hl := sibPath_length H g ((locate nc sq).1 - hq) hq (sq / 2 ^ hq)
    have e : hq + ((locate nc sq).1 - hq) = (locate nc sq).1 := by omega
    rw [List.take_left' hl, List.drop_left' hl]
    refine ⟨⟨⟨hge, by rw [List.length_append, hl]; omega⟩, ?_⟩, hih⟩
    rw [peaks_getElem_locate H nc g sq hlt, foldBlk_sibPath, Nat.div_div_eq_div_mul, ← Nat.pow_add, e]

end

end TF.MmrE
