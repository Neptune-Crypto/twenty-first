import Mathlib.Algebra.BigOperators.Intervals
import Mathlib.Tactic.Linarith
import TF.Proofs.NttDft
import TF.Proofs.BlockArith
/-!
The negacyclic ("coset") transform with tabulated twiddles as functions `Nat → R`, over any commutative ring and for any
length `2^L`: if every twiddle squares to the constant of its block (`TableOk`), the forward network evaluates the input at
`2^L` roots of `X^(2^L) - c0` (`cStages_eval`); each inverse stage undoes the matching forward stage up to the factor 2
(`stageCI_stageC`), the whole inverse network the forward one up to `2^L` (`ciStages_full`); evaluation at a root of
`X^n + 1` turns negacyclic convolution into a product (`negaConv_eval`).
-/
namespace TF.LatFn
open Finset TF.NttFn TF.Blocks

variable {R : Type} [CommRing R]

/-- forward stage: `m` blocks of size `2t`, block `b` uses `ζ (m + b)` -/
def stageC (m t : Nat) (ζ : Nat → R) (x : Nat → R) : Nat → R := fun idx =>
  if idx % (2*t) < t then x idx + ζ (m + idx / (2*t)) * x (idx + t)
  else x (idx - t) - ζ (m + idx / (2*t)) * x idx

/-- the two outputs of a forward butterfly: block `i`, position `p < t` and its partner `p + t` -/
theorem stageC_lo (m t : Nat) (ζ : Nat → R) (x : Nat → R) (i p : Nat) (hp : p < t) :
    stageC m t ζ x (i*(2*t) + p) = x (i*(2*t) + p) + ζ (m + i) * x (i*(2*t) + p + t) := by
  rw [stageC, blk_mod i t p (by omega), blk_div i t p (by omega), if_pos hp]

theorem stageC_hi (m t : Nat) (ζ : Nat → R) (x : Nat → R) (i p : Nat) (hp : p < t) :
    stageC m t ζ x (i*(2*t) + p + t) = x (i*(2*t) + p) - ζ (m + i) * x (i*(2*t) + p + t) := by
  rw [stageC, Nat.add_assoc, blk_mod i t (p + t) (by omega), blk_div i t (p + t) (by omega), if_neg (by omega),
    ← Nat.add_assoc, Nat.add_sub_cancel]

/-- `s` forward stages of the length-`2^L` transform -/
def cStages (L : Nat) (ζ : Nat → R) : Nat → (Nat → R) → (Nat → R)
  | 0, y => y
  | s+1, y => stageC (2^s) (2^(L-s-1)) ζ (cStages L ζ s y)

/-- the constant of block `i` at level `s`: the block holds the input modulo `X^(2^(L-s)) - c(s,i)` -/
def cconst (c0 : R) (ζ : Nat → R) : Nat → Nat → R
  | 0, _ => c0
  | s+1, i => if i % 2 = 0 then ζ (2^s + i / 2) else - ζ (2^s + i / 2)

/-- the table is consistent: every twiddle squares to the constant of its block -/
def TableOk (L : Nat) (c0 : R) (ζ : Nat → R) : Prop :=
  ∀ s, s < L → ∀ i, i < 2^s → ζ (2^s + i) ^ 2 = cconst c0 ζ s i

/-- interleaving: the polynomial `Σ x_r w^r` of length `2n` from its even and odd parts in `w²` -/
theorem sum_interleave (n t : Nat) (x : Nat → R) (p : Nat) (w : R) :
    ∑ r ∈ range (2*n), x (p + r*t) * w^r
      = ∑ q ∈ range n, x (p + q*(2*t)) * (w^2)^q + w * ∑ q ∈ range n, x (p + t + q*(2*t)) * (w^2)^q :=
  sum_even_odd_pow n (fun r => x (p + r*t)) _ _ w (w^2) rfl (fun q => congrArg x (by ring)) (fun q => congrArg x (by ring))

/-- the stage invariant: after `s` stages block `i` (of size `2^(L-s)`) holds the input reduced modulo
    `X^(2^(L-s)) - c(s,i)`, i.e. position `p` of the block is the polynomial `Σ_q x(p + q·2^(L-s)) Y^q` at `Y = c(s,i)` -/
theorem c_invariant (L : Nat) (c0 : R) (ζ : Nat → R) (hT : TableOk L c0 ζ) (x : Nat → R) :
    ∀ s, s ≤ L → ∀ i p, i < 2^s → p < 2^(L-s) →
      cStages L ζ s x (i * 2^(L-s) + p)
        = ∑ q ∈ range (2^s), x (p + q * 2^(L-s)) * (cconst c0 ζ s i)^q := by
  intro s
  induction s with
  | zero =>
    intro _ i p hi hp
    have : i = 0 := by simpa using hi
    subst this
    simp [cStages]
  | succ s ih =>
    intro hs i' p hi' hp
    obtain ⟨d, hd⟩ : ∃ d, L - s = d + 1 := ⟨L - s - 1, by omega⟩
    rw [show L - (s+1) = d by omega] at hp ⊢
    have hB : 2^(L-s) = 2 * 2^d := by rw [hd, pow_succ, mul_comm]
    obtain ⟨i, b, hb, rfl⟩ : ∃ i b, b < 2 ∧ i' = 2*i + b := ⟨i'/2, i'%2, Nat.mod_lt _ (by norm_num), by omega⟩
    have hi : i < 2^s := by rw [pow_succ] at hi'; omega
    -- the two inputs of the butterfly, by the induction hypothesis
    have e0 := ih (by omega) i p hi (by rw [hB]; omega)
    have e1 := ih (by omega) i (p + 2^d) hi (by rw [hB]; omega)
    rw [hB, ← hT s (by omega) i hi] at e0 e1
    rw [← add_assoc] at e1
    rw [cStages, show L - s - 1 = d by omega, pow_succ, mul_comm (2^s) 2, sum_interleave]
    rcases (show b = 0 ∨ b = 1 by omega) with rfl | rfl
    · rw [show (2*i + 0) * 2^d + p = i * (2 * 2^d) + p by ring, stageC_lo _ _ _ _ _ _ hp, e0, e1]
      simp only [cconst, Nat.add_zero, Nat.mul_mod_right, if_true, Nat.mul_div_cancel_left i (show 0 < 2 by norm_num)]
    · rw [show (2*i + 1) * 2^d + p = i * (2 * 2^d) + p + 2^d by ring, stageC_hi _ _ _ _ _ _ hp, e0, e1]
      simp only [cconst, show (2*i+1) % 2 ≠ 0 by omega, if_false, show (2*i+1)/2 = i by omega]
      rw [neg_sq]
      ring

/-- the point at which output `i` evaluates the input -/
def rho (L : Nat) (c0 : R) (ζ : Nat → R) (i : Nat) : R := cconst c0 ζ L i

theorem cconst_pow (L : Nat) (c0 : R) (ζ : Nat → R) (hT : TableOk L c0 ζ) :
    ∀ s, s ≤ L → ∀ i, i < 2^s → (cconst c0 ζ s i)^(2^s) = c0 := by
  intro s
  induction s with
  | zero =>
    intro _ i _
    simp [cconst]
  | succ s ih =>
    intro hs i hi
    have hi2 : i / 2 < 2^s := by rw [pow_succ] at hi; omega
    have hsq : (cconst c0 ζ (s+1) i)^2 = cconst c0 ζ s (i/2) := by
      rw [← hT s (by omega) (i/2) hi2]
      simp only [cconst]
      split <;> ring
    rw [pow_succ, Nat.mul_comm, pow_mul, hsq]
    exact ih (by omega) (i/2) hi2

/-- the forward transform evaluates the input polynomial at `ρ_i`, and `ρ_i^(2^L) = c0` -/
theorem cStages_eval (L : Nat) (c0 : R) (ζ : Nat → R) (hT : TableOk L c0 ζ) (x : Nat → R) (i : Nat) (hi : i < 2^L) :
    cStages L ζ L x i = ∑ q ∈ range (2^L), x q * (rho L c0 ζ i)^q ∧ (rho L c0 ζ i)^(2^L) = c0 := by
  have := c_invariant L c0 ζ hT x L (le_refl L) i 0 hi (by simp)
  simp only [Nat.sub_self, pow_zero, Nat.mul_one, Nat.add_zero, Nat.zero_add] at this
  exact ⟨this, cconst_pow L c0 ζ hT L (le_refl L) i hi⟩

/-- inverse stage: `h` blocks of size `2t`, block `b` uses `ζi (h + b)` -/
def stageCI (h t : Nat) (ζi : Nat → R) (x : Nat → R) : Nat → R := fun idx =>
  if idx % (2*t) < t then x idx + x (idx + t)
  else ζi (h + idx / (2*t)) * (x (idx - t) - x idx)

theorem stageCI_lo (h t : Nat) (ζi : Nat → R) (x : Nat → R) (i p : Nat) (hp : p < t) :
    stageCI h t ζi x (i*(2*t) + p) = x (i*(2*t) + p) + x (i*(2*t) + p + t) := by
  rw [stageCI, blk_mod i t p (by omega), if_pos hp]

theorem stageCI_hi (h t : Nat) (ζi : Nat → R) (x : Nat → R) (i p : Nat) (hp : p < t) :
    stageCI h t ζi x (i*(2*t) + p + t) = ζi (h + i) * (x (i*(2*t) + p) - x (i*(2*t) + p + t)) := by
  rw [stageCI, Nat.add_assoc, blk_mod i t (p + t) (by omega), blk_div i t (p + t) (by omega), if_neg (by omega),
    ← Nat.add_assoc, Nat.add_sub_cancel]

theorem stageCI_stageC (m t : Nat) (ht : 0 < t) (ζ ζi : Nat → R) (hinv : ∀ k, ζi k * ζ k = 1) (x : Nat → R) :
    stageCI m t ζi (stageC m t ζ x) = fun idx => 2 * x idx := by
  funext idx
  obtain ⟨i, p, hp, rfl | rfl⟩ := blk_cases t idx ht
  · rw [stageCI_lo _ _ _ _ _ _ hp, stageC_lo _ _ _ _ _ _ hp, stageC_hi _ _ _ _ _ _ hp]
    ring
  · rw [stageCI_hi _ _ _ _ _ _ hp, stageC_lo _ _ _ _ _ _ hp, stageC_hi _ _ _ _ _ _ hp]
    calc ζi (m + i) * (x (i*(2*t) + p) + ζ (m + i) * x (i*(2*t) + p + t) - (x (i*(2*t) + p) - ζ (m + i) * x (i*(2*t) + p + t)))
        = 2 * (ζi (m + i) * ζ (m + i)) * x (i*(2*t) + p + t) := by ring
      _ = 2 * x (i*(2*t) + p + t) := by rw [hinv, mul_one]

theorem stageCI_smul (h t : Nat) (ζi : Nat → R) (c : R) (x : Nat → R) :
    stageCI h t ζi (fun k => c * x k) = fun k => c * stageCI h t ζi x k := by
  funext idx
  simp only [stageCI]
  split <;> ring

theorem stageCI_add (h t : Nat) (ζi : Nat → R) (x y : Nat → R) :
    stageCI h t ζi (fun k => x k + y k) = fun k => stageCI h t ζi x k + stageCI h t ζi y k := by
  funext idx
  simp only [stageCI]
  split <;> ring

/-- `k` inverse stages, starting with the innermost (`t = 1`) -/
def ciStages (L : Nat) (ζi : Nat → R) : Nat → (Nat → R) → (Nat → R)
  | 0, y => y
  | k+1, y => stageCI (2^(L-k-1)) (2^k) ζi (ciStages L ζi k y)

theorem ciStages_smul (L : Nat) (ζi : Nat → R) (c : R) (x : Nat → R) :
    ∀ k, ciStages L ζi k (fun i => c * x i) = fun i => c * ciStages L ζi k x i
  | 0 => rfl
  | k+1 => by rw [ciStages, ciStages, ciStages_smul L ζi c x k, stageCI_smul]

theorem ciStages_add (L : Nat) (ζi : Nat → R) (x y : Nat → R) :
    ∀ k, ciStages L ζi k (fun i => x i + y i) = fun i => ciStages L ζi k x i + ciStages L ζi k y i
  | 0 => rfl
  | k+1 => by rw [ciStages, ciStages, ciStages, ciStages_add L ζi x y k, stageCI_add]

/-- the inverse network undoes the forward network up to the factor `2^L` -/
theorem ciStages_cStages (L : Nat) (ζ ζi : Nat → R) (hinv : ∀ k, ζi k * ζ k = 1) (x : Nat → R) :
    ∀ k, k ≤ L → ciStages L ζi k (cStages L ζ L x) = fun i => 2^k * cStages L ζ (L - k) x i := by
  intro k
  induction k with
  | zero => intro _; simp only [ciStages, pow_zero, one_mul, Nat.sub_zero]
  | succ k ih =>
    intro hk
    obtain ⟨s, hs⟩ : ∃ s, L - k = s + 1 := ⟨L - k - 1, by omega⟩
    have hs' : L - (k+1) = s := by omega
    have hs'' : L - k - 1 = s := by omega
    have hk' : L - s - 1 = k := by omega
    rw [ciStages, ih (by omega), stageCI_smul, hs'', hs', hs, cStages, hk',
      stageCI_stageC (2^s) (2^k) (by positivity) ζ ζi hinv]
    funext i
    rw [pow_succ]
    ring

theorem ciStages_full (L : Nat) (ζ ζi : Nat → R) (hinv : ∀ k, ζi k * ζ k = 1) (x : Nat → R) :
    ciStages L ζi L (cStages L ζ L x) = fun i => 2^L * x i := by
  rw [ciStages_cStages L ζ ζi hinv x L (le_refl L), Nat.sub_self]
  rfl

/-- coefficient `k` of the product modulo `X^n + 1` -/
def negaConv (n : Nat) (a b : Nat → R) (k : Nat) : R :=
  ∑ i ∈ range n, (if i ≤ k then a i * b ((k + n - i) % n) else - (a i * b ((k + n - i) % n)))

/-- a sum over `range n` read from position `i` on, wrapping around -/
theorem sum_range_rot (n i : Nat) (hi : i ≤ n) (F G : Nat → R) (h1 : ∀ j, j < n - i → F (i + j) = G j)
    (h2 : ∀ j, j < i → F j = G (n - i + j)) : ∑ k ∈ range n, F k = ∑ j ∈ range n, G j := by
  obtain ⟨m, rfl⟩ : ∃ m, n = i + m := ⟨n - i, by omega⟩
  rw [Nat.add_sub_cancel_left] at h1 h2
  rw [sum_range_add, Nat.add_comm i m, sum_range_add, add_comm]
  exact congrArg₂ (· + ·) (sum_congr rfl fun j hj => h1 j (mem_range.1 hj)) (sum_congr rfl fun j hj => h2 j (mem_range.1 hj))

theorem negaConv_eval (n : Nat) (ρ : R) (hρ : ρ^n = -1) (a b : Nat → R) :
    ∑ k ∈ range n, negaConv n a b k * ρ^k = (∑ i ∈ range n, a i * ρ^i) * (∑ j ∈ range n, b j * ρ^j) := by
  unfold negaConv
  simp only [sum_mul]
  rw [sum_comm]
  refine sum_congr rfl fun i hi => ?_
  have hin : i < n := mem_range.1 hi
  -- for fixed `i`, term `k` is `a_i ρ^i · b_j ρ^j` with `j = k - i` (`k ≥ i`) or `j = k + n - i` (`k < i`, where `ρ^n = -1`)
  rw [mul_sum]
  refine sum_range_rot n i (by omega) _ _ (fun j hj => ?_) (fun j hj => ?_)
  · rw [if_pos (by omega), show i + j + n - i = j + n by omega, Nat.add_mod_right, Nat.mod_eq_of_lt (by omega), pow_add]
    ring
  · rw [if_neg (by omega), Nat.mod_eq_of_lt (by omega), show j + n - i = n - i + j by omega]
    have h : ρ^i * ρ^(n - i + j) = -ρ^j := by
      rw [← pow_add, show i + (n - i + j) = n + j by omega, pow_add, hρ, neg_one_mul]
    rw [mul_assoc (a i), mul_left_comm (ρ^i), h]
    ring
end TF.LatFn
