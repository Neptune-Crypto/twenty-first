import TF.Proofs.MerkleFill
/-! `try_from` succeeds exactly on the proofs that are `Spec.wellFormed` and then holds the reference values
(`tryFrom_ok`, `tryFrom_err`); hence `verify` returns the verdict of `Spec.refVerify` (`verify_eq_refVerify`). -/
namespace TF.Merkle
open TF.Gen

theorem fillCtx_of {D : Type} {p : Proof D} (hh : p.height ≤ 31) (hr : ∀ x ∈ p.leafs, x.1 < 2^p.height)
    (hl : p.auth.length = (Spec.needed p.height (p.leafs.map (·.1))).length) :
    FillCtx p.height (p.leafs.map (·.1)) (Spec.leafAt p.height p.leafs)
      (Spec.authAt p.height (p.leafs.map (·.1)) p.auth) :=
  have hi : ∀ i ∈ p.leafs.map (·.1), i < 2^p.height := by
    intro i hi
    obtain ⟨x, hx, rfl⟩ := List.mem_map.1 hi
    exact hr x hx
  ⟨hh, hi, fun _ => lookup_zip_isSome (Nat.le_of_eq hl.symm), fun _ => leafAt_isSome⟩

section TryFrom
variable {D : Type} [DecidableEq D] (H : D → D → D)

theorem wellFormed_iff (p : Proof D) : Spec.wellFormed p = true ↔
    (p.height ≤ 31 ∧ (∀ x ∈ p.leafs, x.1 < 2^p.height) ∧ Spec.consistent p.leafs = true ∧
      p.auth.length = (Spec.needed p.height (p.leafs.map (·.1))).length) := by
  unfold Spec.wellFormed MAX_TREE_HEIGHT
  simp only [Bool.and_eq_true, decide_eq_true_eq, List.all_eq_true, and_assoc]

theorem fillCtx_of_wellFormed {p : Proof D} (hw : Spec.wellFormed p = true) :
    FillCtx p.height (p.leafs.map (·.1)) (Spec.leafAt p.height p.leafs)
      (Spec.authAt p.height (p.leafs.map (·.1)) p.auth) :=
  have ⟨hh, hr, _, hl⟩ := (wellFormed_iff p).1 hw
  fillCtx_of hh hr hl

theorem tryFrom_height_err {p : Proof D} (hh : ¬ p.height ≤ 31) : tryFrom H p = .err .treeTooHigh := by
  rw [tryFrom, numLeafs_err (Nat.not_le.1 hh)]; rfl

theorem tryFrom_range_err {p : Proof D} (hh : p.height ≤ 31) (hr : ∃ x ∈ p.leafs, 2^p.height ≤ x.1) :
    tryFrom H p = .err .leafIndexInvalid := by
  obtain ⟨x, hx, hle⟩ := hr
  have : (p.leafs.map (·.1)).any (fun i => decide (i ≥ 2^p.height)) = true :=
    List.any_eq_true.2 ⟨x.1, List.mem_map.2 ⟨x, hx, rfl⟩, decide_eq_true hle⟩
  simp only [tryFrom, numLeafs_ok hh, Res.ok_bind, this, if_true]

/-- `try_from` past its checks of height and index range -/
theorem tryFrom_eq {p : Proof D} (hh : p.height ≤ 31) (hr : ∀ x ∈ p.leafs, x.1 < 2^p.height) :
    tryFrom H p =
      if p.auth.length ≠ (Spec.needed p.height (p.leafs.map (·.1))).length then
        .err .authenticationStructureLengthMismatch else
      (do let nodes ← collectMap (Spec.needed p.height (p.leafs.map (·.1))) p.auth
          let nodes ← Res.foldlM (insertLeaf (2^p.height)) nodes p.leafs
          fill H { height := p.height, idxs := p.leafs.map (·.1), nodes := nodes }) := by
  have hi : ∀ i ∈ p.leafs.map (·.1), i < 2^p.height := fun i hi => by
    obtain ⟨x, hx, rfl⟩ := List.mem_map.1 hi; exact hr x hx
  have hany : (p.leafs.map (·.1)).any (fun i => decide (i ≥ 2^p.height)) = false := by
    rw [List.any_eq_false]
    intro i hi'
    have := hi i hi'
    simp; omega
  simp only [tryFrom, numLeafs_ok hh, Res.ok_bind, hany, authIdx_eq_needed (show p.height ≤ 62 by omega) hi,
    Bool.false_eq_true, if_false]

/-- `try_from` up to `fill`: with height, index range and number of nodes in order it stops with the mismatch error iff
    two claims for one index differ, and else hands `fill` the supplied nodes and the first claims.  (A claimed leaf is
    not among the supplied nodes, so the leaf loop compares each claim with the first claim for its index.) -/
theorem tryFrom_leafs {p : Proof D} (hh : p.height ≤ 31) (hr : ∀ x ∈ p.leafs, x.1 < 2^p.height)
    (hl : p.auth.length = (Spec.needed p.height (p.leafs.map (·.1))).length) :
    (Spec.consistent p.leafs = true ∧ ∃ m0, tryFrom H p = fill H { height := p.height, idxs := p.leafs.map (·.1), nodes := m0 } ∧
      ∀ k, m0.get k = (Spec.authAt p.height (p.leafs.map (·.1)) p.auth k).or (Spec.leafAt p.height p.leafs k))
    ∨ (¬ Spec.consistent p.leafs = true ∧ tryFrom H p = .err .repeatedLeafDigestMismatch) := by
  -- stated first: given as an argument below, the unifier would unfold `Spec.needed`
  have hnd := needed_nodup p.height (p.leafs.map (·.1))
  obtain ⟨mA, hc1, hc2⟩ := collectMap_get hl.symm hnd
  have hA : ∀ k, mA.get k = Spec.authAt p.height (p.leafs.map (·.1)) p.auth k := hc2
  have hcons : (∀ x ∈ p.leafs, (mA.get (x.1 + 2^p.height)).or (Spec.leafAt p.height p.leafs (x.1 + 2^p.height)) = some x.2) ↔
      Spec.consistent p.leafs = true := by
    rw [← consistent_iff (h := p.height)]
    refine forall_congr' fun x => forall_congr' fun hx => ?_
    rw [hA, ← anc_zero, auth_none_of_covered (fillCtx_of hh hr hl) (covered_anc (List.mem_map.2 ⟨x, hx, rfl⟩) (Nat.zero_le _)),
      Option.none_or]
  have e0 : tryFrom H p = (Res.foldlM (insertLeaf (2^p.height)) mA p.leafs >>= fun nodes =>
      fill H { height := p.height, idxs := p.leafs.map (·.1), nodes := nodes }) := by
    rw [tryFrom_eq H hh hr, if_neg (not_not_intro hl), hc1, Res.ok_bind]
  rcases foldl_insertLeaf p.leafs mA (fun x hx => leaf_add_lt_usize (by omega) (hr x hx)) with
    ⟨hP, m0, e, hget⟩ | ⟨hP, e⟩
  · refine Or.inl ⟨hcons.1 hP, m0, ?_, fun k => ?_⟩
    · rw [e0, e, Res.ok_bind]
    · rw [hget, hA]
  · refine Or.inr ⟨fun c => hP (hcons.2 c), ?_⟩
    rw [e0, e]
    rfl

/-- **`try_from` succeeds on well-formed proofs**, and then every computable node of the partial tree carries its
    reference value -/
theorem tryFrom_ok {p : Proof D} (hw : Spec.wellFormed p = true) :
    ∃ m', tryFrom H p = .ok { height := p.height, idxs := p.leafs.map (·.1), nodes := m' } ∧
      FillInv H p.height (p.leafs.map (·.1)) (Spec.leafAt p.height p.leafs)
        (Spec.authAt p.height (p.leafs.map (·.1)) p.auth) p.height m' := by
  obtain ⟨hh, hr, hcons, hl⟩ := (wellFormed_iff p).1 hw
  rcases tryFrom_leafs H hh hr hl with ⟨_, m0, e, hm0⟩ | ⟨hn, _⟩
  · obtain ⟨m', hf, inv⟩ := fill_ok H (fillCtx_of hh hr hl) hm0
    exact ⟨m', e.trans hf, inv⟩
  · exact absurd hcons hn

/-- **`try_from` rejects every other proof** with an error (never panics) -/
theorem tryFrom_err {p : Proof D} (hw : Spec.wellFormed p = false) : ∃ e, tryFrom H p = .err e := by
  by_cases hh : p.height ≤ 31
  case neg => exact ⟨_, tryFrom_height_err H hh⟩
  by_cases hr' : ∃ x ∈ p.leafs, 2^p.height ≤ x.1
  case pos => exact ⟨_, tryFrom_range_err H hh hr'⟩
  have hr : ∀ x ∈ p.leafs, x.1 < 2^p.height := fun x hx => Nat.lt_of_not_le fun hle => hr' ⟨x, hx, hle⟩
  by_cases hl : p.auth.length = (Spec.needed p.height (p.leafs.map (·.1))).length
  case neg => exact ⟨_, by rw [tryFrom_eq H hh hr, if_pos hl]⟩
  rcases tryFrom_leafs H hh hr hl with ⟨hcons, _⟩ | ⟨_, e⟩
  · rw [(wellFormed_iff p).2 ⟨hh, hr, hcons, hl⟩] at hw
    cases hw
  · exact ⟨_, e⟩

/-- a well-formed proof that claims no leaf is the trivial proof -/
theorem leafs_ne_nil {p : Proof D} (hw : Spec.wellFormed p = true) (ht : p.isTrivial = false) : p.leafs ≠ [] := by
  intro hnil
  obtain ⟨_, _, _, hl⟩ := (wellFormed_iff p).1 hw
  rw [hnil, List.map_nil, needed_nil, List.length_nil] at hl
  simp [Proof.isTrivial, hnil, List.eq_nil_of_length_eq_zero hl] at ht

/-- **exactness and totality of `verify`**: for every proof (any height, indices, lengths) and every root the verifier
    returns a verdict (no panic) and the verdict is that of the reference recomputation -/
theorem verify_eq_refVerify (p : Proof D) (root : D) : verify H p root = .ok (Spec.refVerify H p root) := by
  unfold verify Spec.refVerify
  cases ht : p.isTrivial
  case true => rfl
  simp only [Bool.false_eq_true, if_false, Bool.false_or]
  cases hw : Spec.wellFormed p
  · obtain ⟨e, htf⟩ := tryFrom_err H hw
    rw [htf]
    rfl
  · obtain ⟨m', htf, inv⟩ := tryFrom_ok H hw
    -- there is a claimed leaf, hence the root was computed
    obtain ⟨x, hx⟩ := List.exists_mem_of_ne_nil _ (leafs_ne_nil hw ht)
    have hxi : x.1 ∈ p.leafs.map (·.1) := List.mem_map.2 ⟨x, hx, rfl⟩
    obtain ⟨_, hrange, _, _⟩ := (wellFormed_iff p).1 hw
    have hv := inv.computed p.height (Nat.le_refl _) x.1 hxi
    obtain ⟨v, hr⟩ := Option.isSome_iff_exists.1
      (refVal_isSome H (fillCtx_of_wellFormed hw) p.height (Nat.le_refl _) x.1 hxi)
    rw [anc_top (hrange x hx)] at hv hr
    rw [hr] at hv
    simp only [htf, Partial.root, ROOT_INDEX, hv, Spec.refRoot, hr, Bool.true_and, Option.some.injEq]
end TryFrom

end TF.Merkle
