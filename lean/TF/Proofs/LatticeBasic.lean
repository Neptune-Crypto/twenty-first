import TF.Model.Lattice
/-!
Sizes and entries of the lattice model's arrays (`TF/Model/Lattice.lean`): what the transforms, the coefficient-wise ring
operations, the module operations and the conversions `Ciphertext <-> [BFieldElement; 320]` return at an index.
Core Lean only.
-/
namespace TF.LatticeProofs
open TF.Gen TF.Model.Ntt TF.Model.Lattice

section transforms
variable {σ α : Type} (ops : Ops σ α)

theorem cosetNttStage_size (m t : Nat) (psi : Array σ) (x : Array α) : (cosetNttStage ops m t psi x).size = x.size :=
  Array.size_ofFn

theorem cosetInttStage_size (h t : Nat) (psiInv : Array σ) (x : Array α) :
    (cosetInttStage ops h t psiInv x).size = x.size :=
  Array.size_ofFn

theorem cosetNttLoop_size (psi : Array σ) (n : Nat) : ∀ f m t (x : Array α),
    (cosetNttLoop ops psi n f m t x).size = x.size := by
  intro f
  induction f with
  | zero =>
    intro m t x
    rfl
  | succ f ih =>
    intro m t x
    rw [cosetNttLoop]
    split
    · rw [ih, cosetNttStage_size]
    · rfl

theorem cosetInttLoop_size (psiInv : Array σ) : ∀ f t h (x : Array α),
    (cosetInttLoop ops psiInv f t h x).size = x.size := by
  intro f
  induction f with
  | zero =>
    intro t h x
    rfl
  | succ f ih =>
    intro t h x
    rw [cosetInttLoop, ih, cosetInttStage_size]

theorem cosetNtt_size (psi : Array σ) (x : Array α) : (cosetNtt ops psi x).size = x.size :=
  cosetNttLoop_size ops psi _ _ _ _ x

theorem cosetIntt_size (psiInv : Array σ) (ninv : σ) (x : Array α) : (cosetIntt ops psiInv ninv x).size = x.size := by
  rw [cosetIntt, Array.size_map, cosetInttLoop_size]

end transforms

theorem ntt64_size (x : Ring) (hx : x.size = 64) : (ntt64 x).size = 64 := by
  rw [ntt64, cosetNtt_size, hx]

theorem intt64_size (x : Ring) (hx : x.size = 64) : (intt64 x).size = 64 := by
  rw [intt64, cosetIntt_size, hx]

theorem getD_ofFn {α : Type} {n : Nat} (f : Fin n → α) (k : Nat) (hk : k < n) (d : α) : (Array.ofFn f).getD k d = f ⟨k, hk⟩ := by
  rw [Array.getD_eq_getD_getElem?, Array.getElem?_ofFn, dif_pos hk, Option.getD_some]

/-- arrays of the same size with the same entries (read with a default) are equal -/
theorem array_ext_getD {α : Type} (d : α) (x y : Array α) (n : Nat) (hx : x.size = n) (hy : y.size = n)
    (h : ∀ i, i < n → x.getD i d = y.getD i d) : x = y := by
  apply Array.ext (by rw [hx, hy])
  intro i h1 h2
  have := h i (by omega)
  rwa [Array.getD_eq_getD_getElem?, Array.getD_eq_getD_getElem?, Array.getElem?_eq_getElem h1,
    Array.getElem?_eq_getElem h2, Option.getD_some, Option.getD_some] at this

theorem ringZip_size (f : Nat → Nat → Nat) (a b : Ring) : (ringZip f a b).size = 64 := Array.size_ofFn

theorem ringZip_get (f : Nat → Nat → Nat) (a b : Ring) (i : Nat) (hi : i < 64) :
    (ringZip f a b).getD i 0 = f (a.getD i 0) (b.getD i 0) := by
  rw [ringZip, getD_ofFn _ i hi]

theorem ringAdd_size (a b : Ring) : (ringAdd a b).size = 64 := ringZip_size _ a b
theorem ringSub_size (a b : Ring) : (ringSub a b).size = 64 := ringZip_size _ a b
theorem ringHadamard_size (a b : Ring) : (ringHadamard a b).size = 64 := ringZip_size _ a b
theorem ringZero_size : ringZero.size = 64 := Array.size_replicate

theorem foldl_invariant {β : Type} (p : β → Prop) (f : β → Nat → β) (h : ∀ acc i, p (f acc i)) :
    ∀ (l : List Nat) (acc : β), p acc → p (l.foldl f acc)
  | [], _, h0 => h0
  | i :: l, acc, _ => foldl_invariant p f h l (f acc i) (h acc i)

theorem foldl_congr_mem {β : Type} (f g : β → Nat → β) : ∀ (l : List Nat) (acc : β),
    (∀ a, ∀ i ∈ l, f a i = g a i) → l.foldl f acc = l.foldl g acc
  | [], _, _ => rfl
  | i :: l, acc, h => by
    rw [List.foldl_cons, List.foldl_cons, h acc i List.mem_cons_self]
    exact foldl_congr_mem f g l _ (fun a j hj => h a j (List.mem_cons_of_mem _ hj))

theorem foldl_ringAdd_size (g : Nat → Ring) : ∀ (l : List Nat) (acc : Ring), acc.size = 64 →
    (l.foldl (fun acc i => ringAdd acc (g i)) acc).size = 64 := by
  intro l
  induction l with
  | nil =>
    intro acc h
    exact h
  | cons i l ih =>
    intro acc _
    rw [List.foldl_cons]
    exact ih _ (ringAdd_size _ _)

/-- a module element with `n` ring elements of 64 coefficients each -/
def Shaped (n : Nat) (m : Module) : Prop := m.size = n ∧ ∀ k, k < n → (m.getD k ringZero).size = 64

theorem shaped_singleton (r : Ring) (hr : r.size = 64) : Shaped 1 #[r] :=
  ⟨rfl, fun k hk => by
    have : k = 0 := by omega
    subst this
    exact hr⟩

theorem module_ext (a b : Module) (n : Nat) (ha : a.size = n) (hb : b.size = n)
    (h : ∀ i, i < n → a.getD i ringZero = b.getD i ringZero) : a = b :=
  array_ext_getD ringZero a b n ha hb h

theorem getD_map_of_lt {α β : Type} (g : α → β) (a : Array α) (i : Nat) (d : α) (e : β) (hi : i < a.size) :
    (a.map g).getD i e = g (a.getD i d) := by
  rw [Array.getD_eq_getD_getElem?, Array.getD_eq_getD_getElem?, Array.getElem?_map, Array.getElem?_eq_getElem hi]
  rfl

theorem modNtt_getD (m : Module) (k : Nat) (hk : k < m.size) : (modNtt m).getD k ringZero = ntt64 (m.getD k ringZero) :=
  getD_map_of_lt ntt64 m k ringZero ringZero hk

theorem modIntt_getD (m : Module) (k : Nat) (hk : k < m.size) : (modIntt m).getD k ringZero = intt64 (m.getD k ringZero) :=
  getD_map_of_lt intt64 m k ringZero ringZero hk

theorem modZip_size (f : Ring → Ring → Ring) (a b : Module) : (modZip f a b).size = a.size := Array.size_ofFn

theorem modZip_getD (f : Ring → Ring → Ring) (a b : Module) (idx : Nat) (h : idx < a.size) :
    (modZip f a b).getD idx ringZero = f (a.getD idx ringZero) (b.getD idx ringZero) := by
  rw [modZip, getD_ofFn _ idx h]

theorem modMulWith_size (prod : Ring → Ring → Ring) (H I W : Nat) (l r : Module) :
    (modMulWith prod H I W l r).size = H * W := Array.size_ofFn

/-- entry `idx = h·W + w` of a matrix product: the inner product of row `h` and column `w` -/
theorem modMulWith_getD (prod : Ring → Ring → Ring) (H I W : Nat) (l r : Module) (idx : Nat) (hidx : idx < H * W) :
    (modMulWith prod H I W l r).getD idx ringZero
      = (List.range I).foldl (fun acc i =>
          ringAdd acc (prod (l.getD (idx / W * I + i) ringZero) (r.getD (i * W + idx % W) ringZero))) ringZero := by
  rw [modMulWith, getD_ofFn _ idx hidx]

/-- the entries a matrix product reads exist -/
theorem index_bounds (H I W idx i : Nat) (hidx : idx < H * W) (hi : i < I) :
    idx / W * I + i < H * I ∧ i * W + idx % W < I * W := by
  have hW : 0 < W := Nat.pos_of_ne_zero fun h => by rw [h, Nat.mul_zero] at hidx; omega
  have hh : idx / W < H := Nat.div_lt_of_lt_mul (by rwa [Nat.mul_comm] at hidx)
  have hw : idx % W < W := Nat.mod_lt _ hW
  have h1 : (idx / W + 1) * I ≤ H * I := Nat.mul_le_mul_right _ hh
  have h2 : (i + 1) * W ≤ I * W := Nat.mul_le_mul_right _ hi
  rw [Nat.succ_mul] at h1 h2
  omega

theorem sampleShortModule_shaped (n : Nat) (rnd : List Nat) : Shaped n (sampleShortModule n rnd) :=
  ⟨Array.size_ofFn, fun k hk => by rw [sampleShortModule, getD_ofFn _ k hk]; exact Array.size_ofFn⟩

theorem sampleUniformModule_shaped (n : Nat) (rnd : List Nat) : Shaped n (sampleUniformModule n rnd) :=
  ⟨Array.size_ofFn, fun k hk => by rw [sampleUniformModule, getD_ofFn _ k hk]; exact Array.size_ofFn⟩

theorem embedMsg_size (m : List Nat) : (embedMsg m).size = 64 := Array.size_ofFn

theorem shaped_ext (n : Nat) (a b : Module) (ha : Shaped n a) (hb : Shaped n b)
    (h : ∀ k, k < n → ∀ i, i < 64 → (a.getD k ringZero).getD i 0 = (b.getD k ringZero).getD i 0) : a = b :=
  module_ext a b n ha.1 hb.1 fun k hk => array_ext_getD 0 _ _ 64 (ha.2 k hk) (hb.2 k hk) (h k hk)

/-- blocks of equal length laid end to end: entry `i` is entry `i % n` of block `i / n` -/
theorem flatMap_toList_getElem? (n : Nat) (hn : 0 < n) : ∀ (l : List (Array Nat)), (∀ a ∈ l, a.size = n) → ∀ i,
    (l.flatMap Array.toList)[i]? = (l.getD (i / n) #[])[i % n]?
  | [], _, i => rfl
  | a :: l, h, i => by
    have ha : a.toList.length = n := h a List.mem_cons_self
    rw [List.flatMap_cons]
    by_cases hlt : i < n
    · rw [List.getElem?_append_left (by rw [ha]; exact hlt), Nat.div_eq_of_lt hlt, Nat.mod_eq_of_lt hlt,
        List.getD_cons_zero, Array.getElem?_toList]
    · rw [List.getElem?_append_right (by rw [ha]; omega), ha,
        flatMap_toList_getElem? n hn l (fun b hb => h b (List.mem_cons_of_mem _ hb)) (i - n),
        Nat.div_eq i n, if_pos ⟨hn, by omega⟩, ← Nat.mod_eq_sub_mod (by omega), List.getD_cons_succ]

theorem flatMap_toList_length (n : Nat) : ∀ (l : List (Array Nat)), (∀ a ∈ l, a.size = n) →
    (l.flatMap Array.toList).length = n * l.length
  | [], _ => rfl
  | a :: l, h => by
    rw [List.flatMap_cons, List.length_append, flatMap_toList_length n l (fun b hb => h b (List.mem_cons_of_mem _ hb)),
      List.length_cons, Nat.mul_succ, Nat.add_comm]
    exact congrArg (n * l.length + ·) (h a List.mem_cons_self)

theorem shaped_mem (n : Nat) (m : Module) (h : Shaped n m) : ∀ a ∈ m.toList, a.size = 64 := by
  intro a ha
  obtain ⟨k, hk, rfl⟩ := List.getElem_of_mem ha
  have hk' : k < m.size := by rwa [Array.length_toList] at hk
  have := h.2 k (by rw [← h.1]; exact hk')
  rwa [Array.getD_eq_getD_getElem?, Array.getElem?_eq_getElem hk', Option.getD_some] at this

theorem ciphertextToArray_size (c : Ciphertext) (hbg : Shaped 4 c.bg) (hbm : Shaped 1 c.bgaM) :
    (ciphertextToArray c).size = 320 := by
  rw [ciphertextToArray, List.size_toArray, List.length_append, flatMap_toList_length 64 _ (shaped_mem 4 _ hbg),
    flatMap_toList_length 64 _ (shaped_mem 1 _ hbm), Array.length_toList, Array.length_toList, hbg.1, hbm.1]

theorem toList_getD (m : Module) (k : Nat) (hk : k < m.size) (d d' : Ring) : m.toList.getD k d = m.getD k d' := by
  rw [List.getD_eq_getElem?_getD, Array.getElem?_toList, Array.getD_eq_getD_getElem?, Array.getElem?_eq_getElem hk]
  rfl

/-- entry `i` of the array of a ciphertext: `bg` fills `0..256`, `bga_m` fills `256..320` -/
theorem ciphertextToArray_getD (c : Ciphertext) (hbg : Shaped 4 c.bg) (hbm : Shaped 1 c.bgaM) (i : Nat) (hi : i < 320) :
    (ciphertextToArray c).getD i 0 =
      if i < 256 then (c.bg.getD (i / 64) ringZero).getD (i % 64) 0
      else (c.bgaM.getD 0 ringZero).getD (i - 256) 0 := by
  have hl : (c.bg.toList.flatMap Array.toList).length = 256 := by
    rw [flatMap_toList_length 64 _ (shaped_mem 4 _ hbg), Array.length_toList, hbg.1]
  rw [ciphertextToArray, Array.getD_eq_getD_getElem?, List.getElem?_toArray]
  split
  · rw [List.getElem?_append_left (by omega), flatMap_toList_getElem? 64 (by decide) _ (shaped_mem 4 _ hbg),
      toList_getD _ _ (by rw [hbg.1]; omega) _ ringZero]
    simp only [Array.getD_eq_getD_getElem?]
  · rw [List.getElem?_append_right (by omega), hl, flatMap_toList_getElem? 64 (by decide) _ (shaped_mem 1 _ hbm),
      Nat.div_eq_of_lt (by omega), Nat.mod_eq_of_lt (by omega), toList_getD _ _ (by rw [hbm.1]; decide) _ ringZero]
    simp only [Array.getD_eq_getD_getElem?]

theorem ciphertextOfArray_bg_getD (v : Array Nat) (k i : Nat) (hk : k < 4) (hi : i < 64) :
    ((ciphertextOfArray v).bg.getD k ringZero).getD i 0 = v.getD (64 * k + i) 0 := by
  rw [ciphertextOfArray, getD_ofFn _ k hk, getD_ofFn _ i hi]

theorem ciphertextOfArray_bgaM_getD (v : Array Nat) (i : Nat) (hi : i < 64) :
    ((ciphertextOfArray v).bgaM.getD 0 ringZero).getD i 0 = v.getD (256 + i) 0 := by
  rw [ciphertextOfArray, show ∀ x d : Ring, (#[x] : Module).getD 0 d = x from fun _ _ => rfl, getD_ofFn _ i hi]

theorem ciphertextOfArray_shaped (v : Array Nat) : Shaped 4 (ciphertextOfArray v).bg ∧ Shaped 1 (ciphertextOfArray v).bgaM :=
  ⟨⟨Array.size_ofFn, fun k hk => by rw [ciphertextOfArray, getD_ofFn _ k hk]; exact Array.size_ofFn⟩,
   shaped_singleton _ Array.size_ofFn⟩

theorem toArray_ofArray (v : Array Nat) (hv : v.size = 320) :
    ciphertextToArray (ciphertextOfArray v) = v := by
  obtain ⟨s4, s1⟩ := ciphertextOfArray_shaped v
  refine array_ext_getD 0 _ _ 320 (ciphertextToArray_size _ s4 s1) hv fun i hi => ?_
  rw [ciphertextToArray_getD _ s4 s1 i hi]
  split
  · rw [ciphertextOfArray_bg_getD v _ _ (by omega) (Nat.mod_lt _ (by decide)), Nat.div_add_mod]
  · rw [ciphertextOfArray_bgaM_getD v _ (by omega), Nat.add_sub_cancel' (by omega)]

theorem ofArray_toArray (c : Ciphertext) (hbg : Shaped 4 c.bg) (hbm : Shaped 1 c.bgaM) :
    ciphertextOfArray (ciphertextToArray c) = c := by
  obtain ⟨s4, s1⟩ := ciphertextOfArray_shaped (ciphertextToArray c)
  have h4 := shaped_ext 4 _ _ s4 hbg fun k hk i hi => by
    rw [ciphertextOfArray_bg_getD _ k i hk hi, ciphertextToArray_getD c hbg hbm _ (by omega), if_pos (by omega),
      Nat.mul_add_div (by decide), Nat.div_eq_of_lt hi, Nat.add_zero, Nat.mul_add_mod, Nat.mod_eq_of_lt hi]
  have h1 := shaped_ext 1 _ _ s1 hbm fun k hk i hi => by
    have : k = 0 := by omega
    subst this
    rw [ciphertextOfArray_bgaM_getD _ i hi, ciphertextToArray_getD c hbg hbm _ (by omega), if_neg (by omega),
      Nat.add_sub_cancel_left]
  obtain ⟨bg, bm⟩ := c
  exact congr (congrArg Ciphertext.mk h4) h1

end TF.LatticeProofs
