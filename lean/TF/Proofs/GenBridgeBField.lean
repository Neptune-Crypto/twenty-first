import TF.Gen.BFieldLoops
import TF.Model.BField
import Mathlib.Data.Nat.Bitwise
/-!
# Bridge: the loops of `b_field_element.rs` *as regenerated from source* = the hand-written model (C01)

`TF/Gen/BFieldLoops.lean` is written by `tools/rs2lean_bfe.py` from the Rust text on every run: a `BFieldElement` is its
raw Montgomery word, `Self(Self::montyred(a.0 as u128 * b.0 as u128))` is emitted as written (and is, term for term, the
translated `bfe_mul`), `while` loops are fuel-indexed recursions (`none` = out of fuel), the nested `const fn exp` of
`inverse` is translated on its own and its calls are sequenced with `Option.bind`.  The theorems say that the
regenerated functions terminate within their fuel and return the hand model's value (`TF/Model/BField.lean`:
`modPow`, `sqN`, `inverse`), for every base and every `u64` exponent — so `mod_pow_exact`, `inverse_exact`, … of C01 are
theorems about the current source text.
-/
namespace TF.GenBridge.BField
open TF TF.Gen TF.Model.BF

theorem mul_unfold (a b : Nat) : montyred ((a * b) % 340282366920938463463374607431768211456) = bfe_mul a b := rfl

theorem bitLen_le (e : Nat) (he : e < 18446744073709551616) : bitLen e ≤ 64 := by
  unfold bitLen
  split
  · omega
  · have h := (Nat.log2_lt (by assumption)).mpr (show e < 2 ^ 64 by simpa using he)
    omega

theorem lt_two_pow_bitLen (e : Nat) : e < 2 ^ bitLen e := by
  unfold bitLen
  split
  · subst_vars; decide
  · exact Nat.lt_log2_self

theorem two_pow_bitLen_le (e : Nat) (he : e ≠ 0) : 2 ^ (bitLen e - 1) ≤ e := by
  unfold bitLen
  rw [if_neg he, Nat.add_sub_cancel]
  exact Nat.log2_self_le he

theorem bit_test (e k : Nat) (hk : k < 64) :
    ((e &&& (1 * 2 ^ (k % 64) % 18446744073709551616)) != 0) = decide (e / 2 ^ k % 2 = 1) := by
  have h1 : k % 64 = k := Nat.mod_eq_of_lt hk
  have h2 : 1 * 2 ^ k % 18446744073709551616 = 2 ^ k := by
    rw [Nat.one_mul]
    exact Nat.mod_eq_of_lt (by
      have : (18446744073709551616 : Nat) = 2 ^ 64 := by decide
      rw [this]; exact Nat.pow_lt_pow_right (by decide) hk)
  rw [h1, h2, Nat.and_two_pow, ← Nat.testBit_eq_decide_div_mod_eq]
  cases e.testBit k <;> simp

theorem modPow_step (a p : Nat) (hp : p ≠ 0) :
    modPow a p = if p % 2 = 1 then bfe_mul (bfe_mul (modPow a (p / 2)) (modPow a (p / 2))) a
      else bfe_mul (modPow a (p / 2)) (modPow a (p / 2)) := by
  obtain ⟨q, rfl⟩ := Nat.exists_eq_succ_of_ne_zero hp
  rw [modPow]

/-- the counter `i = bl - (j+1)` of the loop: its successor, and the shift amount `bit_length - 1 - i` -/
theorem mod_pow_idx (bl j : Nat) (hj : j + 1 ≤ bl) (hle : bl ≤ 64) :
    (bl - (j + 1) + 1) % 4294967296 = bl - j ∧
    (((bl + 4294967296 - 1) % 4294967296) + 4294967296 - (bl - (j + 1))) % 4294967296 = j := by
  omega

/-- the loop with `j` bits of the exponent still to go: the accumulator is `modPow` of the bits already seen -/
theorem mod_pow_loop_eq (a e : Nat) (hle : bitLen e ≤ 64) : ∀ j fuel, j ≤ bitLen e → j < fuel →
    Loops.bfe_mod_pow_loop a e (bitLen e) fuel (modPow a (e / 2 ^ j)) (bitLen e - j) = some (modPow a e, bitLen e)
  | 0, fuel+1, _, _ => by
    rw [Loops.bfe_mod_pow_loop, Nat.sub_zero, if_neg (by simp), Nat.pow_zero, Nat.div_one]
  | j+1, fuel+1, hj, hf => by
    have he0 : e ≠ 0 := by
      rintro rfl; simp [bitLen] at hj
    -- the bits already seen are a non-zero prefix; the next bit is bit `j`
    have hp : e / 2 ^ j ≠ 0 :=
      Nat.ne_of_gt (Nat.div_pos (Nat.le_trans (Nat.pow_le_pow_right (by decide) (by omega)) (two_pow_bitLen_le e he0))
        (Nat.two_pow_pos _))
    have hhalf : e / 2 ^ j / 2 = e / 2 ^ (j + 1) := by rw [Nat.div_div_eq_div_mul, ← Nat.pow_succ]
    obtain ⟨e1, e2⟩ := mod_pow_idx (bitLen e) j hj hle
    rw [Loops.bfe_mod_pow_loop, if_pos (decide_eq_true (Nat.sub_lt (by omega) (Nat.succ_pos j)))]
    dsimp only
    rw [mul_unfold, mul_unfold, e1, e2, bit_test e j (by omega), ← hhalf]
    have ih := mod_pow_loop_eq a e hle j fuel (by omega) (by omega)
    rw [modPow_step a _ hp] at ih
    by_cases hb : e / 2 ^ j % 2 = 1
    · rw [if_pos hb] at ih; rw [decide_eq_true hb, if_pos rfl]; exact ih
    · rw [if_neg hb] at ih; rw [decide_eq_false hb, if_neg (by simp)]; exact ih

/-- `bit_length = 64 - exp.leading_zeros()` as the translator writes it -/
theorem bit_length_eq (e : Nat) (hle : bitLen e ≤ 64) : (64 + 4294967296 - (64 - bitLen e)) % 4294967296 = bitLen e := by
  omega

/-- `BFieldElement::mod_pow` regenerated from source (the bit loop) = hand model, every base, every `u64` exponent -/
theorem gen_mod_pow_eq (a e : Nat) (he : e < 18446744073709551616) : Loops.bfe_mod_pow a e = some (modPow a e) := by
  have hle := bitLen_le e he
  have h := mod_pow_loop_eq a e hle (bitLen e) 65 (Nat.le_refl _) (by omega)
  rw [Nat.sub_self, Nat.div_eq_of_lt (lt_two_pow_bitLen e), modPow, show one = bfe_new 1 from rfl] at h
  unfold Loops.bfe_mod_pow
  dsimp only
  rw [bit_length_eq e hle, h]
  rfl

theorem exp_loop_eq (k : Nat) (hk : k < 18446744073709551616) : ∀ fuel res i, i ≤ k → k - i < fuel →
    Loops.bfe_inverse_exp_loop k fuel res i = some (sqN res (k - i), k) := by
  intro fuel
  induction fuel with
  | zero => intro res i h1 h2; omega
  | succ f ih =>
    intro res i h1 h2
    rw [Loops.bfe_inverse_exp_loop]
    by_cases hik : i < k
    · have e1 : (i + 1) % 18446744073709551616 = i + 1 := Nat.mod_eq_of_lt (by omega)
      have e2 : k - i = (k - (i + 1)) + 1 := by omega
      rw [if_pos (by simpa using hik)]
      dsimp only
      rw [mul_unfold, e1, ih _ _ (by omega) (by omega), e2, sqN]
    · have : i = k := by omega
      subst this
      rw [if_neg (by simp), Nat.sub_self, sqN]

/-- the regenerated local `exp(base, k)` of `inverse` is `k` squarings (`sqN`), every `k < 2^64` -/
theorem gen_exp_eq (base k : Nat) (hk : k < 18446744073709551616) : Loops.bfe_inverse_exp base k = some (sqN base k) := by
  unfold Loops.bfe_inverse_exp
  dsimp only
  rw [exp_loop_eq k hk (k + 1) base 0 (by omega) (by omega)]
  rfl

/-- `Inverse::inverse` regenerated from source (the addition chain with its `exp` loops) is the hand model's chain:
    the regenerated function returns the chain value for every input, and the hand model returns it unless `x = 0`,
    where the regenerated `_ok` flag is false (the `assert_ne!` fails) -/
theorem gen_inverse_eq (x : Nat) :
    inverse x = if x == zero then none else Loops.bfe_inverse x := by
  simp only [Loops.bfe_inverse, Loops.bfe_square, inverse, square,
    gen_exp_eq _ 3 (by decide), gen_exp_eq _ 6 (by decide), gen_exp_eq _ 12 (by decide), gen_exp_eq _ 32 (by decide),
    Option.bind_some]

theorem gen_inverse_ok_zero : Loops.bfe_inverse_ok zero = false := by
  unfold Loops.bfe_inverse_ok
  have : (zero != Loops.bfe_zero) = false := by decide
  dsimp only
  rw [this]
  simp

/-- `mod_pow_u32` / `mod_pow_u64` (`self.mod_pow(exp as u64)`) -/
theorem gen_mod_pow_u32_eq (a e : Nat) (he : e < 4294967296) : Loops.bfe_mod_pow_u32 a e = some (modPow a e) := by
  unfold Loops.bfe_mod_pow_u32
  exact gen_mod_pow_eq a e (by omega)

theorem gen_mod_pow_u64_eq (a e : Nat) (he : e < 18446744073709551616) : Loops.bfe_mod_pow_u64 a e = some (modPow a e) := by
  unfold Loops.bfe_mod_pow_u64
  exact gen_mod_pow_eq a e he
end TF.GenBridge.BField
