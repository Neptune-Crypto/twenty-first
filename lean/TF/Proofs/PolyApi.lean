import TF.Proofs.PolyVal
import TF.Proofs.PolyDiv
import TF.Proofs.PolyInterp
import TF.Model.PolyApi
import Mathlib.Tactic.FieldSimp
import Mathlib.Tactic.LinearCombination
import Mathlib.Algebra.Polynomial.AlgebraMap
/-!
Lemmas for the functions modelled in `TF/Model/PolyApi.lean` (API audit, docs/POLY_API_COVERAGE.md): constructors,
`truncate` with `usize` arithmetic, evaluation across a field extension, colinearity, hand-built zerofier trees.
-/
open Polynomial

namespace TF.Model
variable {K : Type} [Field K] (root : Nat → Option K)
local notation "FK" => FieldOps.ofField K root

namespace Poly
open Classical

theorem denote_fromXfe (c : K × K × K) :
    denote (fromXfe c) = C c.1 + C c.2.1 * X + C c.2.2 * X ^ 2 := by
  simp only [fromXfe, denote_cons, denote_nil]; ring

/-- after the repair F13 the saturating count takes as much as the mathematical `k + 1`, for every polynomial with fewer than
    `2^64` coefficients and every `k` -/
theorem truncateUsize_eq (p : List K) (k : Nat) (h : (normalize FK p).length < 2 ^ 64) :
    truncateUsize FK p k = truncate FK p k := by
  unfold truncateUsize truncate USIZE_MOD
  by_cases hk : k + 1 ≤ 2 ^ 64 - 1
  · rw [Nat.min_eq_left hk]
  · simp only
    rw [Nat.min_eq_right (by omega)]
    have e1 : (normalize FK p).length - (2 ^ 64 - 1) = 0 := by omega
    have e2 : (normalize FK p).length - (k + 1) = 0 := by omega
    rw [e1, e2]

theorem truncateUsize_congr {a a' : List K} (h : denote a = denote a') (k : Nat) :
    truncateUsize FK a k = truncateUsize FK a' k := by
  unfold truncateUsize; rw [normalize_congr root h]

theorem truncateBeforeF13_max (p : List K) : truncateBeforeF13 FK p (2 ^ 64 - 1) = [] := by
  unfold truncateBeforeF13 USIZE_MOD
  have : (2 ^ 64 - 1 + 1) % 2 ^ 64 = 0 := by norm_num
  rw [this]; simp

theorem evaluateLift_spec {L : Type} [Field L] [Algebra K L] (rootL : Nat → Option L) (p : List K) (x : L) :
    evaluateLift (FieldOps.ofField L rootL) (algebraMap K L) p x = (denote p).eval₂ (algebraMap K L) x := by
  unfold evaluateLift evaluateG
  induction p with
  | nil => simp
  | cons c cs ih =>
    simp only [List.foldr_cons, denote_cons, eval₂_add, eval₂_mul, eval₂_C, eval₂_X]
    rw [ih]
    simp only [FieldOps.ofField_add, FieldOps.ofField_mul]
    ring

theorem evaluateLift_id (p : List K) (x : K) : evaluateLift FK id p x = (denote p).eval x := by
  rw [← eval_denote root]
  rfl

theorem allUniqueBy_iff (l : List K) : allUniqueBy FK l = true ↔ l.Nodup := by
  induction l with
  | nil => simp [allUniqueBy]
  | cons x xs ih =>
    simp only [allUniqueBy, Bool.and_eq_true, Bool.not_eq_true', ← Bool.not_eq_true, List.any_eq_true,
      FieldOps.ofField_beq, exists_eq_right', List.nodup_cons, ih]

/-- a line `y = a·x + b` -/
def OnLine (a b : K) (p : K × K) : Prop := p.2 = a * p.1 + b

theorem onLine_sub {a b : K} {p q : K × K} (hp : OnLine a b p) (hq : OnLine a b q) : p.2 - q.2 = a * (p.1 - q.1) := by
  rw [hp, hq]; ring

/-- the line through two points with distinct abscissae has slope `(y0 − y1)/(x0 − x1)` -/
theorem onLine_through {x0 y0 x1 y1 : K} (h : x0 ≠ x1) :
    OnLine ((y0 - y1) / (x0 - x1)) (y0 - (y0 - y1) / (x0 - x1) * x0) (x0, y0) ∧
    OnLine ((y0 - y1) / (x0 - x1)) (y0 - (y0 - y1) / (x0 - x1) * x0) (x1, y1) := by
  have hdx : x0 - x1 ≠ 0 := sub_ne_zero.2 h
  refine ⟨by simp only [OnLine]; ring, ?_⟩
  simp only [OnLine]
  field_simp
  ring

/-- the line through two points with distinct abscissae is unique -/
theorem onLine_unique {a b x0 y0 x1 y1 : K} (h : x0 ≠ x1) (e0 : OnLine a b (x0, y0)) (e1 : OnLine a b (x1, y1)) :
    a = (y0 - y1) / (x0 - x1) ∧ b = y0 - (y0 - y1) / (x0 - x1) * x0 := by
  have ha : a = (y0 - y1) / (x0 - x1) := eq_div_of_mul_eq (sub_ne_zero.2 h) (onLine_sub e0 e1).symm
  refine ⟨ha, ?_⟩
  rw [← ha, show y0 = a * x0 + b from e0]; ring

theorem areColinear3_iff (p0 p1 p2 : K × K) :
    areColinear3 FK p0 p1 p2 = true ↔
      (p0.1 ≠ p1.1 ∧ p1.1 ≠ p2.1 ∧ p2.1 ≠ p0.1) ∧ ∃ a b : K, OnLine a b p0 ∧ OnLine a b p1 ∧ OnLine a b p2 := by
  obtain ⟨x0, y0⟩ := p0
  obtain ⟨x1, y1⟩ := p1
  obtain ⟨x2, y2⟩ := p2
  unfold areColinear3
  dsimp only
  by_cases hx : x0 ≠ x1 ∧ x1 ≠ x2 ∧ x2 ≠ x0
  · have hcond : ((FK).beq x0 x1 || (FK).beq x1 x2 || (FK).beq x2 x0) = false := by
      simp [FieldOps.ofField, hx.1, hx.2.1, hx.2.2]
    simp only [hcond, Bool.false_eq_true, if_false, FieldOps.ofField_beq, FieldOps.ofField_mul, FieldOps.ofField_sub,
      and_iff_right hx]
    have hdx : x0 - x1 ≠ 0 := sub_ne_zero.2 hx.1
    constructor
    · intro h
      obtain ⟨e0, e1⟩ := onLine_through (y0 := y0) (y1 := y1) hx.1
      refine ⟨_, _, e0, e1, ?_⟩
      simp only [OnLine]
      field_simp
      linear_combination h
    · rintro ⟨a, b, e0, e1, e2⟩
      rw [onLine_sub e2 e0, onLine_sub e0 e1]; ring
  · have hcond : ((FK).beq x0 x1 || (FK).beq x1 x2 || (FK).beq x2 x0) = true := by
      simp only [Bool.or_eq_true, FieldOps.ofField_beq]; tauto
    simp only [hcond, if_true, Bool.false_eq_true, hx, false_and]

theorem areColinear_iff (points : List (K × K)) :
    areColinear FK points = true ↔
      3 ≤ points.length ∧ (points.map (·.1)).Nodup ∧ ∃ a b : K, ∀ p ∈ points, OnLine a b p := by
  unfold areColinear
  by_cases hlen : points.length < 3
  · rw [if_pos hlen]
    exact ⟨fun h => absurd h Bool.false_ne_true, fun h => absurd h.1 (Nat.not_le.2 hlen)⟩
  rw [if_neg hlen]
  by_cases hu : (points.map (·.1)).Nodup
  · rw [(allUniqueBy_iff root _).2 hu]
    simp only [Bool.not_true, Bool.false_eq_true, if_false]
    match points, hlen, hu with
    | [], h, _ => simp at h
    | [_], h, _ => simp at h
    | (x0, y0) :: (x1, y1) :: rest, hlen', hu =>
      have h01 : x0 ≠ x1 := by
        intro h; simp [h] at hu
      simp only [List.all_eq_true, FieldOps.ofField_beq, FieldOps.ofField_mul, FieldOps.ofField_sub,
        FieldOps.ofField_add, FieldOps.div, FieldOps.ofField_inv, ← div_eq_mul_inv]
      obtain ⟨e0, e1⟩ := onLine_through (y0 := y0) (y1 := y1) h01
      constructor
      · intro h
        refine ⟨Nat.not_lt.1 hlen', hu, (y0 - y1) / (x0 - x1), y0 - (y0 - y1) / (x0 - x1) * x0, fun p hp => ?_⟩
        rcases List.mem_cons.1 hp with rfl | hp
        · exact e0
        rcases List.mem_cons.1 hp with rfl | hp
        · exact e1
        · exact (h p hp).symm
      · rintro ⟨_, _, a, b, hline⟩ p hp
        obtain ⟨rfl, rfl⟩ := onLine_unique h01 (hline (x0, y0) (by simp)) (hline (x1, y1) (by simp))
        exact (hline p (by simp [hp])).symm
  · rw [Bool.eq_false_iff.2 (fun h => hu ((allUniqueBy_iff root _).1 h))]
    exact ⟨fun h => absurd h Bool.false_ne_true, fun h => absurd h.2.1 hu⟩

theorem getColinearY_spec (p0 p1 : K × K) (x : K) (h : p0.1 ≠ p1.1) :
    ∃ y, getColinearY FK p0 p1 x = some y ∧
      (∃ a b : K, OnLine a b p0 ∧ OnLine a b p1 ∧ y = a * x + b) ∧
      (∀ a b : K, OnLine a b p0 → OnLine a b p1 → y = a * x + b) := by
  obtain ⟨x0, y0⟩ := p0
  obtain ⟨x1, y1⟩ := p1
  simp only at h
  have hdx : x0 - x1 ≠ 0 := sub_ne_zero.2 h
  have hb : (FK).beq x0 x1 = false := by simp [FieldOps.ofField, h]
  obtain ⟨e0, e1⟩ := onLine_through (y0 := y0) (y1 := y1) h
  have hy : ((y0 - y1) * (x - x0) + (x0 - x1) * y0) / (x0 - x1)
      = (y0 - y1) / (x0 - x1) * x + (y0 - (y0 - y1) / (x0 - x1) * x0) := by field_simp; ring
  refine ⟨_, by simp only [getColinearY, hb, Bool.false_eq_true, if_false, FieldOps.div, FieldOps.ofField_mul,
    FieldOps.ofField_add, FieldOps.ofField_sub, FieldOps.ofField_inv, ← div_eq_mul_inv], ⟨_, _, e0, e1, hy⟩, ?_⟩
  intro a b e0' e1'
  obtain ⟨rfl, rfl⟩ := onLine_unique h e0' e1'
  exact hy

theorem getColinearY_none (p0 p1 : K × K) (x : K) : getColinearY FK p0 p1 x = none ↔ p0.1 = p1.1 := by
  unfold getColinearY
  split
  · next h => exact ⟨fun _ => (FieldOps.ofField_beq root _ _).1 h, fun _ => rfl⟩
  · next h => exact ⟨fun h' => absurd h' (Option.some_ne_none _), fun h' => absurd ((FieldOps.ofField_beq root _ _).2 h') h⟩

end Poly

namespace PolyI
open TF.Model.Poly
variable {E : Ext K}

theorem allUnique_eq (l : List K) : allUnique FK l = allUniqueBy FK l := by
  induction l with
  | nil => rfl
  | cons x xs ih => exact congrArg (_ && ·) ih

theorem allUnique_iff (l : List K) : allUnique FK l = true ↔ l.Nodup := by
  rw [allUnique_eq, allUniqueBy_iff]

theorem buildTree_total (T : Nat) (hT : 2 ≤ T) : ∀ (s : TreeSpec K), (buildTree FK E T s).isSome := by
  intro s
  induction s with
  | leaf pts =>
    simp only [buildTree, Option.isSome_map]
    exact zerofierWith_total root T hT pts
  | branch l r ihl ihr =>
    obtain ⟨tl, hl⟩ := Option.isSome_iff_exists.1 ihl
    obtain ⟨tr, hr⟩ := Option.isSome_iff_exists.1 ihr
    simp [buildTree, hl, hr]
  | padding => simp [buildTree]

variable (hE : E.Lawful)
include hE

/-- every tree assembled from `Leaf::new` / `Branch::new` / `Padding` stores correct zerofiers, and its points are
    those of the shape in order -/
theorem buildTree_good (T : Nat) : ∀ (s : TreeSpec K) (t : ZTree K), buildTree FK E T s = some t →
    t.Good ∧ t.points = s.points := by
  intro s
  induction s with
  | leaf pts =>
    intro t h
    simp only [buildTree, Option.map_eq_some_iff] at h
    obtain ⟨z, hz, rfl⟩ := h
    exact ⟨zerofierWith_sound root hE T pts z hz, rfl⟩
  | branch l r ihl ihr =>
    intro t h
    simp only [buildTree, Option.bind_eq_bind, Option.bind_eq_some_iff] at h
    obtain ⟨tl, hl, tr, hr, h⟩ := h
    simp only [Option.pure_def, Option.some.injEq] at h
    subst h
    obtain ⟨gl, pl⟩ := ihl tl hl
    obtain ⟨gr, pr⟩ := ihr tr hr
    refine ⟨⟨?_, gl, gr⟩, by simp [mkBranch, ZTree.points, TreeSpec.points, pl, pr]⟩
    rw [hE.mul, gl.zerofier root, gr.zerofier root]
    exact (zpoly_append _ _).symm
  | padding =>
    intro t h
    simp only [buildTree, Option.some.injEq] at h
    subst h
    exact ⟨trivial, rfl⟩

end PolyI
end TF.Model
