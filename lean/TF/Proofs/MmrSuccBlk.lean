import TF.Proofs.MmrAppendIdx
import TF.Proofs.MmrSucc
/-!
C12, `new_from_batch_append`: the peaks in block coordinates (`peakBlk`, `TF/Proofs/MmrDigests.lean`) against `locate`
and `get_peak_heights_and_peak_node_indices`, and the chain of ancestors of an old peak (what lies beyond the old leaves,
which siblings are old peaks).
-/
namespace TF.MmrE
open TF TF.Gen TF.Model.Mmr TF.Spec.MmrE TF.Spec.Mmr

/-- closed form: the peaks are the set bits `l` of `n`, the block index is `n / 2^l − 1` -/
theorem mem_peakBlk (n l b : Nat) : (l, b) ∈ peakBlk n ↔ n / 2 ^ l % 2 = 1 ∧ b + 1 = n / 2 ^ l := by
  rw [UpdAppend.bitsBelow_peakBlk _ n (lt_two_pow_log2_succ n), List.mem_map]
  constructor
  · rintro ⟨j, hj, he⟩
    obtain ⟨rfl, rfl⟩ := Prod.mk.inj he
    have hb := ((UpdAppend.mem_bitsBelow n _ j).mp hj).2
    exact ⟨hb, Nat.sub_add_cancel (Nat.pos_of_ne_zero fun h0 => by rw [h0] at hb; cases hb)⟩
  · rintro ⟨h1, h2⟩
    refine ⟨l, (UpdAppend.mem_bitsBelow n _ l).mpr ⟨?_, h1⟩, Prod.ext rfl (by simp only; omega)⟩
    -- a set bit lies below the bit length
    by_contra hc
    have : n / 2 ^ l = 0 := Nat.div_eq_of_lt
      (Nat.lt_of_lt_of_le (lt_two_pow_log2_succ n) (Nat.pow_le_pow_right (by omega) (by omega)))
    omega

/-- node indices of the peaks of the MMR with `n` leaves -/
def peakIdx (n : Nat) : List Nat := (peakBlk n).map (fun b => nodeIdx b.1 b.2)

theorem peaksIdx_spec (n : Nat) (hn : n < 2 ^ 63) :
    get_peak_heights_and_peak_node_indices n
      = some ((peakBlk n).map (·.1), peakIdx n) := by
  unfold peakIdx
  rw [UpdAppend.peak_indices_nodeIdx n hn, UpdAppend.bitsBelow_peakBlk 64 n (by omega), List.map_map, List.map_map]
  exact congrArg some (Prod.ext (List.map_id' _).symm rfl)

theorem peakBlk_getElem_locate : ∀ (n i : Nat), i < n →
    (peakBlk n)[(locate n i).2.2]? = some ((locate n i).1, i / 2 ^ (locate n i).1) := by
  intro n
  induction n using Nat.strongRecOn with
  | _ n ih =>
    intro i hlt
    have hn : n ≠ 0 := by omega
    rw [peakBlk_unfold n hn, locate_unfold n i hn]
    have hlen := peakBlk_length (n / 2)
    have hpc := TF.Mmr.popCount_eq n
    by_cases hc : n % 2 = 1 ∧ i = n - 1
    · rw [if_pos hc]
      obtain ⟨h1, h2⟩ := hc
      simp only [h1, if_true]
      rw [List.getElem?_append_right (by simp only [List.length_map]; omega)]
      have : TF.popCount n - 1 - ((peakBlk (n / 2)).map (fun b => (b.1 + 1, b.2))).length = 0 := by
        simp only [List.length_map]; omega
      rw [this]; simp [h2]
    · rw [if_neg hc]
      have hlt2 : i / 2 < n / 2 := by omega
      have h3 := locate_pk_lt (n / 2) (i / 2) hlt2
      simp only
      rw [List.getElem?_append_left (by simp only [List.length_map]; omega), List.getElem?_map,
        ih (n / 2) (by omega) (i / 2) hlt2]
      simp only [Option.map_some, Option.some.injEq, Prod.mk.injEq, true_and]
      rw [Nat.div_div_eq_div_mul, Nat.pow_succ, Nat.mul_comm 2]

/-- the index of a peak in the peak list is the peak index `locate` computes for its first leaf -/
theorem locate_peakPos : ∀ (n i h s : Nat), (peakPos n)[i]? = some (h, s) → (locate n s).2.2 = i := by
  intro n
  induction n using Nat.strongRecOn with
  | _ n ih =>
    intro i h s hget
    by_cases hn : n = 0
    · subst hn; simp [peakPos_zero] at hget
    · rw [peakPos_unfold n hn] at hget
      have hlen : ((peakPos (n / 2)).map (fun p => (p.1 + 1, 2 * p.2))).length = TF.popCount (n / 2) := by
        rw [List.length_map, peakPos_length]
      by_cases hi : i < TF.popCount (n / 2)
      · rw [List.getElem?_append_left (by omega), List.getElem?_map] at hget
        cases hq : (peakPos (n / 2))[i]? with
        | none => rw [hq] at hget; simp at hget
        | some q =>
          rw [hq] at hget
          simp only [Option.map_some, Option.some.injEq, Prod.mk.injEq] at hget
          obtain ⟨h', s'⟩ := q
          obtain ⟨rfl, rfl⟩ := hget
          have hmem := peakPos_mem (n / 2) (h', s') (List.mem_of_getElem? hq)
          simp only at hmem
          have hpos : 0 < 2 ^ h' := Nat.pow_pos (by omega)
          rw [locate_unfold n (2 * s') hn, if_neg (by omega)]
          simp only
          have e : 2 * s' / 2 = s' := by omega
          rw [e]
          exact ih (n / 2) (by omega) i h' s' hq
      · rw [List.getElem?_append_right (by omega), hlen] at hget
        by_cases hodd : n % 2 = 1
        · rw [if_pos hodd] at hget
          have hi0 : i - TF.popCount (n / 2) = 0 := by
            by_contra hc
            rw [List.getElem?_eq_none (by simp; omega)] at hget
            cases hget
          rw [hi0] at hget
          simp only [List.getElem?_cons_zero, Option.some.injEq, Prod.mk.injEq] at hget
          obtain ⟨rfl, rfl⟩ := hget
          rw [locate_unfold n (n - 1) hn, if_pos ⟨hodd, rfl⟩]
          have := TF.Mmr.popCount_eq n
          simp only; omega
        · rw [if_neg hodd] at hget; simp at hget

theorem locate_of_mem_peakBlk : ∀ (l n i : Nat), (l, i / 2 ^ l) ∈ peakBlk n → (locate n i).1 = l := by
  intro l
  induction l with
  | zero =>
    intro n i h
    rw [mem_peakBlk] at h
    simp only [Nat.pow_zero, Nat.div_one] at h
    rw [locate_unfold n i (by omega), if_pos ⟨h.1, by omega⟩]
  | succ l ih =>
    intro n i h
    rw [mem_peakBlk] at h
    have e : ∀ x, x / 2 ^ (l + 1) = x / 2 / 2 ^ l := fun x => by
      rw [Nat.div_div_eq_div_mul, Nat.pow_succ, Nat.mul_comm]
    rw [e n, e i] at h
    have hlt : i / 2 < n / 2 := by
      apply Nat.lt_of_div_lt_div (c := 2 ^ l); omega
    have := ih (n / 2) (i / 2) ((mem_peakBlk _ _ _).mpr h)
    rw [locate_unfold n i (by omega), if_neg (by omega)]
    simp only [this]

theorem mem_peakBlk_bend (n l b : Nat) (h : (l, b) ∈ peakBlk n) : bend l b ≤ n := by
  rw [mem_peakBlk] at h
  unfold bend
  rw [h.2]
  exact Nat.div_mul_le_self n (2 ^ l)

theorem mem_peakIdx (n l b : Nat) (hn : n < 2 ^ 63) : nodeIdx l b ∈ peakIdx n ↔ (l, b) ∈ peakBlk n := by
  unfold peakIdx
  rw [List.mem_map]
  constructor
  · rintro ⟨⟨l', b'⟩, hmem, heq⟩
    have hlt := nodeIdx_lt_of_block l' b' n (mem_peakBlk_bend n l' b' hmem) hn
    obtain ⟨rfl, rfl⟩ := nodeIdx_inj l' b' l b hlt heq
    exact hmem
  · intro h; exact ⟨(l, b), h, rfl⟩

theorem level_lt_of_bend (l b n : Nat) (h : bend l b ≤ n) (hn : n < 2 ^ 63) : l < 63 :=
  lt_of_two_pow_le (Nat.le_trans (two_pow_le_bend l b) h) hn

/-- the first leaf of a block inside the MMR lies in a tree at least as high as the block -/
theorem locate_block (l b n : Nat) (h : bend l b ≤ n) : b * 2 ^ l < n ∧ l ≤ (locate n (b * 2 ^ l)).1 := by
  have hpos : 0 < 2 ^ l := Nat.pow_pos (by omega)
  rw [bend_eq] at h
  exact ⟨by omega, locate_height_ge l n (b * 2 ^ l) ⟨b, Nat.mul_comm _ _⟩ h⟩

theorem blk_div (l b t : Nat) : b * 2 ^ l / 2 ^ (l + t) = b / 2 ^ t := by
  rw [Nat.pow_add, ← Nat.div_div_eq_div_mul, Nat.mul_div_cancel _ (Nat.pow_pos (by omega))]

theorem oldPeak_even (m h j : Nat) (hp : (h, j) ∈ peakBlk m) : j % 2 = 0 := by
  rw [mem_peakBlk] at hp; omega

/-- every strict ancestor of an old peak reaches beyond the old leaves -/
theorem oldPeak_anc_gt (m h j : Nat) (hp : (h, j) ∈ peakBlk m) (t : Nat) : m < bend (h + t + 1) (j / 2 ^ (t + 1)) := by
  have hev := oldPeak_even m h j hp
  rw [mem_peakBlk] at hp
  have h1 : m < bend (h + 1) (j / 2) := by
    unfold bend
    have e : (j / 2 + 1) * 2 ^ (h + 1) = (2 * (j / 2) + 2) * 2 ^ h := by rw [Nat.pow_succ]; ring
    have e2 : 2 * (j / 2) + 2 = m / 2 ^ h + 1 := by omega
    rw [e, e2]
    have := Nat.div_add_mod m (2 ^ h)
    have := Nat.mod_lt m (Nat.pow_pos (by omega : 0 < 2) (n := h))
    have e3 : (m / 2 ^ h + 1) * 2 ^ h = 2 ^ h * (m / 2 ^ h) + 2 ^ h := by ring
    omega
  have h2 := bend_le_anc (h + 1) (j / 2) t
  have e : j / 2 / 2 ^ t = j / 2 ^ (t + 1) := by rw [Nat.div_div_eq_div_mul, Nat.pow_succ']
  have e' : h + 1 + t = h + t + 1 := by omega
  rw [e, e'] at h2
  omega

/-- a left sibling on the way up from an old peak is itself an old peak -/
theorem oldPeak_left_sibling (m h j : Nat) (hp : (h, j) ∈ peakBlk m) (t : Nat) (hodd : j / 2 ^ t % 2 = 1) :
    (h + t, j / 2 ^ t - 1) ∈ peakBlk m := by
  have hev := oldPeak_even m h j hp
  rw [mem_peakBlk] at hp ⊢
  cases t with
  | zero => simp at hodd; omega
  | succ t =>
    have e1 : m / 2 ^ (h + (t + 1)) = m / 2 ^ h / 2 ^ (t + 1) := by rw [Nat.pow_add, Nat.div_div_eq_div_mul]
    have e2 : m / 2 ^ h / 2 ^ (t + 1) = j / 2 ^ (t + 1) := by
      rw [Nat.pow_succ', ← Nat.div_div_eq_div_mul, ← Nat.div_div_eq_div_mul]
      congr 1; omega
    rw [e1, e2]
    generalize j / 2 ^ (t + 1) = q at *
    exact ⟨hodd, by omega⟩

/-- the append of the last leaf of block `(l, b)` merges `l` levels inside the block and then as many as `b` has
    trailing ones: for odd `b` the block is created below the top of that append -/
theorem trailingOnes_bend (b : Nat) : ∀ l, TF.trailingOnes (bend l b - 1) = l + TF.trailingOnes b := by
  intro l
  induction l with
  | zero => simp [bend]
  | succ l ih =>
    have hpos : 0 < 2 ^ l := Nat.pow_pos (by omega)
    have hb := bend_succ l b
    have hge : 1 ≤ bend l b := by have := two_pow_le_bend l b; omega
    rw [TF.Mmr.trailingOnes_odd _ (by omega)]
    have e : (bend (l + 1) b - 1) / 2 = bend l b - 1 := by omega
    rw [e, ih]; omega

theorem bend_sub_one_div (l b : Nat) : (bend l b - 1) / 2 ^ l = b := by
  unfold bend
  have hpos : 0 < 2 ^ l := Nat.pow_pos (by omega)
  have e : (b + 1) * 2 ^ l - 1 = 2 ^ l * b + (2 ^ l - 1) := by
    have : (b + 1) * 2 ^ l = 2 ^ l * b + 2 ^ l := by ring
    omega
  rw [e, Nat.mul_add_div hpos, Nat.div_eq_of_lt (by omega)]
  rfl

end TF.MmrE
