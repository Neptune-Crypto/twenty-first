import TF.Model.Ntt
import TF.Proofs.Pow2
/-!
Facts about the array model `TF/Model/Ntt.lean` that hold for every record of operations: sizes, `ceilLog2` and
`isPow2` on powers of two, the wrappers `ntt`/`intt` on an admissible length, what a successful call returns, and the
twiddle table `powers` as repeated `w *= w_m` (`wp`, which keeps the namespace `TF.GenBridge.Ntt` because the statements
of C06 name it there).  Core Lean only: the bridge to the regenerated loops uses them as well as the ring theorems.
-/
namespace TF.NttProofs
open TF.Model.Ntt

theorem isPow2_two_pow (L : Nat) : TF.isPow2 (2^L) = true := (isPow2_iff _).2 ⟨L, rfl⟩

/-- the lengths `ntt` and `intt` admit: the `u32` conversion and the `assert!` -/
theorem admissible_iff (n : Nat) :
    (¬ 2^32 ≤ n ∧ (n == 0 || TF.isPow2 n) = true) ↔ (n = 0 ∨ ∃ k, k ≤ 31 ∧ n = 2^k) := by
  rw [Bool.or_eq_true, beq_iff_eq, isPow2_iff]
  constructor
  · rintro ⟨hlt, h0 | ⟨k, rfl⟩⟩
    · exact Or.inl h0
    · exact Or.inr ⟨k, Nat.le_of_lt_succ ((Nat.pow_lt_pow_iff_right (by decide)).1 (Nat.lt_of_not_le hlt)), rfl⟩
  · rintro (rfl | ⟨k, hk, rfl⟩)
    · exact ⟨by decide, Or.inl rfl⟩
    · exact ⟨Nat.not_le_of_lt ((Nat.pow_lt_pow_iff_right (by decide)).2 (Nat.lt_succ_of_le hk)), Or.inr ⟨k, rfl⟩⟩

theorem ceilLog2Aux_two_pow (L : Nat) : ∀ fuel l, l ≤ L → L - l ≤ fuel → ceilLog2Aux (2^L) fuel l = L := by
  intro fuel
  induction fuel with
  | zero => intro l h1 h2; exact Nat.le_antisymm h1 (Nat.le_of_sub_eq_zero (Nat.le_zero.1 h2))
  | succ f ih =>
    intro l h1 h2
    rw [ceilLog2Aux]
    by_cases hl : l = L
    · rw [hl, if_neg (Nat.lt_irrefl _)]
    · rw [if_pos ((Nat.pow_lt_pow_iff_right (by decide)).2 (Nat.lt_of_le_of_ne h1 hl))]
      exact ih (l+1) (Nat.lt_of_le_of_ne h1 hl) (by omega)

theorem ceilLog2_two_pow (L : Nat) : ceilLog2 (2^L) = L :=
  ceilLog2Aux_two_pow L (2^L) 0 (Nat.zero_le _) (Nat.le_of_lt Nat.lt_two_pow_self)

variable {σ α : Type}

theorem swapLoop_size (log : Nat) : ∀ n k (a b : Array α), swapLoop log n k a = some b → b.size = a.size := by
  intro n
  induction n with
  | zero => intro k a b h; cases h; rfl
  | succ n ih =>
    intro k a b h
    rw [swapLoop] at h
    split at h
    · split at h
      · rw [ih _ _ _ h, Array.size_swap]
      · cases h
    · exact ih _ _ _ h

theorem stage_size (ops : Ops σ α) (m : Nat) (tw : Array σ) (x : Array α) : (stage ops m tw x).size = x.size :=
  Array.size_ofFn

theorem stageNoswap_size (ops : Ops σ α) (t : Nat) (z : Array σ) (x : Array α) : (stageNoswap ops t z x).size = x.size :=
  Array.size_ofFn

theorem stagesLoop_size (ops : Ops σ α) (omega : σ) (n : Nat) : ∀ f m (x : Array α),
    (stagesLoop ops omega n f m x).size = x.size := by
  intro f
  induction f with
  | zero => intro m x; rfl
  | succ f ih => intro m x; rw [stagesLoop, ih, stage_size]

theorem nttUnchecked_size (ops : Ops σ α) (x y : Array α) (omega : σ) (log : Nat)
    (h : nttUnchecked ops x omega log = some y) : y.size = x.size := by
  obtain ⟨z, hz, rfl⟩ := Option.map_eq_some_iff.1 h
  rw [stagesLoop_size, swapLoop_size log _ _ _ _ hz]

theorem powersBitrevAux_size (ops : Ops σ α) (omega : σ) (lg : Nat) : ∀ n i (cur : σ) (acc z : Array σ),
    powersBitrevAux ops omega lg n i cur acc = some z → z.size = acc.size := by
  intro n
  induction n with
  | zero => intro i cur acc z h; cases h; rfl
  | succ n ih =>
    intro i cur acc z h
    rw [powersBitrevAux] at h
    split at h
    · rw [ih _ _ _ _ h, Array.size_setIfInBounds]
    · cases h

theorem ntt_unfold (ops : Ops σ α) (root : Nat → Option σ) (x : Array α) (L : Nat) (hL : L ≤ 31)
    (hx : x.size = 2^L) (ω : σ) (hr : root (2^L) = some ω) : ntt ops root x = nttUnchecked ops x ω L := by
  have hlt := ((admissible_iff (2^L)).2 (Or.inr ⟨L, hL, rfl⟩)).1
  have hne : (2^L == 0) = false := beq_false_of_ne (Nat.pos_iff_ne_zero.1 (Nat.two_pow_pos L))
  simp only [ntt, hx, if_neg hlt, hne, isPow2_two_pow, Bool.or_true, Bool.not_true, Bool.false_eq_true, if_false,
    Nat.log2_two_pow, hr]

theorem intt_unfold (ops : Ops σ α) (root : Nat → Option σ) (x : Array α) (L : Nat) (hL : L ≤ 31)
    (hx : x.size = 2^L) (ω ωi : σ) (hr : root (2^L) = some ω) (hi : ops.sinv ω = some ωi) :
    intt ops root x = (nttUnchecked ops x ωi L).map
      (fun y => y.map (ops.scale (ops.sinv0 (ops.sofNat (2^L))))) := by
  have hlt := ((admissible_iff (2^L)).2 (Or.inr ⟨L, hL, rfl⟩)).1
  have hne : (2^L == 0) = false := beq_false_of_ne (Nat.pos_iff_ne_zero.1 (Nat.two_pow_pos L))
  simp only [intt, hx, if_neg hlt, hne, isPow2_two_pow, Bool.or_true, Bool.not_true, Bool.false_eq_true, if_false,
    Nat.log2_two_pow, hr, hi]
  cases nttUnchecked ops x ωi L <;> rfl

theorem ntt_some_form (ops : Ops σ α) (root : Nat → Option σ) (x y : Array α)
    (h : ntt ops root x = some y) : ∃ ω log, nttUnchecked ops x ω log = some y := by
  simp only [ntt] at h
  repeat' split at h
  all_goals first | cases h | exact ⟨_, _, h⟩

theorem intt_some_form (ops : Ops σ α) (root : Nat → Option σ) (x y : Array α)
    (h : intt ops root x = some y) : ∃ (c : σ) (z : Array α), y = z.map (ops.scale c) := by
  simp only [intt] at h
  repeat' split at h
  all_goals first | (cases h; exact ⟨_, _, rfl⟩) | cases h

theorem nttNoswap_some_form (ops : Ops σ α) (root : Nat → Option σ) (x y : Array α)
    (h : nttNoswap ops root x = some y) : ∃ z, y = noswapLoop ops z x.size x.size 1 x.size x := by
  simp only [nttNoswap] at h
  repeat' split at h
  all_goals first | (cases h; exact ⟨_, rfl⟩) | cases h

theorem inttNoswap_some_form (ops : Ops σ α) (root : Nat → Option σ) (x y : Array α)
    (h : inttNoswap ops root x = some y) : ∃ w, y = stagesLoop ops w x.size (ceilLog2 x.size) 1 x := by
  simp only [inttNoswap] at h
  repeat' split at h
  all_goals first | (cases h; exact ⟨_, rfl⟩) | cases h

theorem unscale_some_form (ops : Ops σ α) (x y : Array α)
    (h : unscale ops x = some y) : ∃ c, y = x.map (ops.scale c) := by
  simp only [unscale] at h
  split at h
  · cases h
  · exact ⟨_, (Option.some.inj h).symm⟩

end TF.NttProofs

namespace TF.GenBridge.Ntt
open TF.Model.Ntt

variable {σ α : Type}

/-- the twiddle after `t` further updates `w *= w_m` -/
def wp {σ α : Type} (ops : Ops σ α) (w_m : σ) : σ → Nat → σ
  | w, 0 => w
  | w, t+1 => wp ops w_m (ops.smul w w_m) t

theorem wp_succ (ops : Ops σ α) (w_m : σ) : ∀ t w, wp ops w_m w (t + 1) = ops.smul (wp ops w_m w t) w_m := by
  intro t
  induction t with
  | zero => intro w; rfl
  | succ t ih => intro w; rw [wp, ih (ops.smul w w_m)]; rfl

theorem powersAux_wp (ops : Ops σ α) (w : σ) : ∀ k (cur : σ) (acc : Array σ), cur = wp ops w ops.sone acc.size →
    (∀ j, j < acc.size → acc[j]? = some (wp ops w ops.sone j)) →
    (powersAux ops w k cur acc).size = acc.size + k ∧
    ∀ j, j < acc.size + k → (powersAux ops w k cur acc)[j]? = some (wp ops w ops.sone j) := by
  intro k
  induction k with
  | zero => intro cur acc _ h; exact ⟨rfl, fun j hj => h j hj⟩
  | succ k ih =>
    intro cur acc hc h
    rw [powersAux]
    have := ih (ops.smul cur w) (acc.push cur)
      (by rw [Array.size_push, wp_succ, hc])
      (by
        intro j hj
        rw [Array.size_push] at hj
        rw [Array.getElem?_push]
        by_cases hjs : j = acc.size
        · simp [hjs, hc]
        · rw [if_neg hjs]; exact h j (by omega))
    rw [Array.size_push] at this
    constructor
    · omega
    · intro j hj; exact this.2 j (by omega)

/-- the twiddle table of the model: entry `j` is `1 · w_m^j` computed by `j` updates `w *= w_m` -/
theorem powers_wp (ops : Ops σ α) (w : σ) (m : Nat) :
    (powers ops w m).size = m ∧ ∀ j, j < m → (powers ops w m)[j]? = some (wp ops w ops.sone j) := by
  have := powersAux_wp ops w m ops.sone (Array.mkEmpty m) (by simp [wp]) (by simp)
  simpa [powers] using this

end TF.GenBridge.Ntt
