import TF.Proofs.BFieldMore
import TF.Proofs.XFieldInv
/-!
Extension field: the assign / mixed operators, `Sub` through `Neg`, `increment`/`decrement`, `Sum`,
`mod_pow_u64` (= repeated product), `get_cyclic_group_elements`, `batch_inversion`.  The loops are followed in the field
`K = F_p[X]/(X³ − X + 1)` (`TF/Proofs/Shah.lean`) through `φ : raw word triples → K`.
-/
namespace TF.XFp
open TF.Gen TF.BF TF.Model TF.Spec

theorem ext_toF (x y : XF.X3) (hx : canon3 x) (hy : canon3 y) (h0 : toF x.1 = toF y.1) (h1 : toF x.2.1 = toF y.2.1)
    (h2 : toF x.2.2 = toF y.2.2) : x = y :=
  Prod.ext (toF_inj _ _ hx.1 hy.1 h0) (Prod.ext (toF_inj _ _ hx.2.1 hy.2.1 h1) (toF_inj _ _ hx.2.2 hy.2.2 h2))

theorem add_neg_eq_sub (a b : Nat) (ha : canon a) (hb : canon b) : bfe_add a (BF.neg b) = bfe_sub a b := by
  apply toF_inj _ _ (canon_add _ _ ha (canon_neg b hb)) (canon_sub _ _ ha hb)
  rw [toF_add _ _ ha (canon_neg b hb), toF_neg b hb, toF_sub _ _ ha hb]; ring

theorem neg_add_eq_sub (a b : Nat) (ha : canon a) (hb : canon b) : bfe_add (BF.neg a) b = bfe_sub b a := by
  apply toF_inj _ _ (canon_add _ _ (canon_neg a ha) hb) (canon_sub _ _ hb ha)
  rw [toF_add _ _ (canon_neg a ha) hb, toF_neg a ha, toF_sub _ _ hb ha]; ring

theorem add_zero_right (a : Nat) (ha : canon a) : bfe_add a BF.zero = a := by
  apply toF_inj _ _ (canon_add _ _ ha canon_zero) ha
  rw [toF_add _ _ ha canon_zero, toF_zero, add_zero]

theorem sub_zero_right (a : Nat) (ha : canon a) : bfe_sub a BF.zero = a := by
  apply toF_inj _ _ (canon_sub _ _ ha canon_zero) ha
  rw [toF_sub _ _ ha canon_zero, toF_zero, sub_zero]

theorem neg'_eq (a : XF.X3) : XF.neg' a = XF.neg a := rfl

theorem sub'_eq (a b : XF.X3) (ha : canon3 a) (hb : canon3 b) : XF.sub' a b = XF.sub a b := by
  unfold XF.sub' XF.sub XF.add
  rw [neg'_eq]
  simp only [XF.neg]
  rw [add_neg_eq_sub _ _ ha.1 hb.1, add_neg_eq_sub _ _ ha.2.1 hb.2.1, add_neg_eq_sub _ _ ha.2.2 hb.2.2]

theorem subB'_eq (a : XF.X3) (b : Nat) (ha : canon3 a) (hb : canon b) : XF.subB' a b = XF.subB a b := by
  unfold XF.subB' XF.addB' XF.subB
  rw [show bfe_add_assign a.1 (bfe_neg b) = bfe_add a.1 (BF.neg b) from rfl, add_neg_eq_sub _ _ ha.1 hb]

theorem bSub'_eq (b : Nat) (a : XF.X3) (ha : canon3 a) (hb : canon b) : XF.bSub' b a = XF.bSub b a := by
  unfold XF.bSub' XF.bAdd XF.bSub
  rw [neg'_eq]
  simp only [XF.neg]
  rw [show bfe_add_assign (BF.neg a.1) b = bfe_add (BF.neg a.1) b from rfl, neg_add_eq_sub _ _ ha.1 hb]

/-- the mixed operators are the operators on the lifted element -/
theorem addB_eq_lift (a : XF.X3) (b : Nat) (ha : canon3 a) : XF.addB a b = XF.add a (XF.lift b) := by
  unfold XF.addB XF.add XF.lift
  simp only
  rw [add_zero_right _ ha.2.1, add_zero_right _ ha.2.2]

theorem subB_eq_lift (a : XF.X3) (b : Nat) (ha : canon3 a) : XF.subB a b = XF.sub a (XF.lift b) := by
  unfold XF.subB XF.sub XF.lift
  simp only
  rw [sub_zero_right _ ha.2.1, sub_zero_right _ ha.2.2]

-- `canon3_lift` and `canon3_mulB` are lemmas of their own: as anonymous constructors inside `mulB_eq_lift` the unifier
-- evaluates `BF.zero` to match the components
theorem canon3_lift (b : Nat) (hb : canon b) : canon3 (XF.lift b) := ⟨hb, canon_zero, canon_zero⟩

theorem canon3_mulB (a : XF.X3) (b : Nat) (ha : canon3 a) (hb : canon b) : canon3 (XF.mulB a b) :=
  ⟨canon_mul _ _ ha.1 hb, canon_mul _ _ ha.2.1 hb, canon_mul _ _ ha.2.2 hb⟩

theorem mulB_eq_lift (a : XF.X3) (b : Nat) (ha : canon3 a) (hb : canon b) : XF.mulB a b = XF.mul a (XF.lift b) := by
  obtain ⟨hc, h0, h1, h2⟩ := mul_coeffs a (XF.lift b) ha (canon3_lift b hb)
  apply ext_toF _ _ (canon3_mulB a b ha hb) hc
  · rw [h0]; simp only [XF.mulB, XF.lift, toF_mul _ _ ha.1 hb, toF_zero]; ring
  · rw [h1]; simp only [XF.mulB, XF.lift, toF_mul _ _ ha.2.1 hb, toF_zero]; ring
  · rw [h2]; simp only [XF.mulB, XF.lift, toF_mul _ _ ha.2.2 hb, toF_zero]; ring

theorem ev_zero (t : Fp) : ev t XF.zero = 0 := by
  simp only [ev, XF.zero, toF_zero]; ring

theorem sum_spec (t : Fp) (xs : List XF.X3) (h : ∀ x ∈ xs, canon3 x) :
    canon3 (XF.sum xs) ∧ ev t (XF.sum xs) = (xs.map (ev t)).sum := by
  cases xs with
  | nil => exact ⟨TF.XFInvProofs.canon3_zero, ev_zero t⟩
  | cons x xs =>
    exact foldl_add_hom canon3 XF.add (ev t) (fun a b ha hb => ev_add a b ha hb t) xs x
      (h x List.mem_cons_self) (fun y hy => h y (List.mem_cons_of_mem _ hy))

open TF.XFInvProofs TF.XK

/-- the repeated product of the specification: `x · x · … · x` (`n` factors), `1` for `n = 0`.  `Spec.xpow` is
    square-and-multiply; the statements about `mod_pow_u64` and the cyclic group say what is computed, so they use this -/
def xnpow (x : Spec.X3) : Nat → Spec.X3
  | 0 => xone
  | n+1 => xmul (xnpow x n) x

theorem xnpow_zero (x : Spec.X3) : xnpow x 0 = xone := rfl
theorem xnpow_succ (x : Spec.X3) (n : Nat) : xnpow x (n+1) = xmul (xnpow x n) x := rfl

theorem xnpow_canon (x : Spec.X3) : ∀ n, TF.Shah.canon3 (xnpow x n)
  | 0 => TF.Shah.xone_canon
  | _+1 => TF.Shah.xmul_canon _ _

theorem φv_xnpow (v : Spec.X3) : ∀ n, φv (xnpow v n) = φv v ^ n
  | 0 => by rw [xnpow_zero, φv_xone, pow_zero]
  | n+1 => by rw [xnpow_succ, φv_xmul, φv_xnpow v n, pow_succ]

theorem xnpow_add (x : Spec.X3) (m n : Nat) : xnpow x (m + n) = xmul (xnpow x m) (xnpow x n) :=
  φv_inj _ _ (xnpow_canon x _) (TF.Shah.xmul_canon _ _) (by rw [φv_xmul, φv_xnpow, φv_xnpow, φv_xnpow, pow_add])

theorem xnpow_one (x : Spec.X3) (hx : TF.Shah.canon3 x) : xnpow x 1 = x :=
  φv_inj _ _ (xnpow_canon x 1) hx (by rw [φv_xnpow, pow_one])

theorem xnpow_eq_one_iff (v : Spec.X3) (n : Nat) : xnpow v n = xone ↔ φv v ^ n = 1 := by
  rw [← φv_xnpow, ← φv_xone]
  exact ⟨fun h => by rw [h], φv_inj _ _ (xnpow_canon v n) TF.Shah.xone_canon⟩

end TF.XFp

namespace TF.XK
open TF TF.Gen TF.Spec TF.Shah TF.Model TF.XFInvProofs

/-- raw word triple ↦ element of `K` -/
noncomputable def φ (x : XF.X3) : K := φv (XF.toVal x)

theorem φ_mul (x y : XF.X3) (hx : XFp.canon3 x) (hy : XFp.canon3 y) : φ (XF.mul x y) = φ x * φ y := by
  unfold φ; rw [toVal_mul x y hx hy, φv_xmul]

theorem φ_one : φ XF.one = 1 := by unfold φ; rw [toVal_one, φv_xone]
theorem φ_zero : φ XF.zero = 0 := by unfold φ; rw [toVal_zero, φv_xzero]

theorem φ_inj (x y : XF.X3) (hx : XFp.canon3 x) (hy : XFp.canon3 y) (h : φ x = φ y) : x = y :=
  toVal_inj x y hx hy (φv_inj _ _ (toVal_canon x hx) (toVal_canon y hy) h)

theorem φ_eq_zero (x : XF.X3) (hx : XFp.canon3 x) : φ x = 0 ↔ x = XF.zero :=
  ⟨fun h => φ_inj x XF.zero hx canon3_zero (h.trans φ_zero.symm), fun h => h ▸ φ_zero⟩

end TF.XK

namespace TF.XFp
open TF.Gen TF.BF TF.Model TF.Spec TF.XFInvProofs TF.XK

/-- loop invariant of `mod_pow_u64`: `result · x^i` is preserved; `fuel` bounds the bit length of `i` -/
theorem modPowAux_spec : ∀ (fuel : Nat) (x r : XF.X3) (i : Nat), canon3 x → canon3 r → i < 2^fuel →
    canon3 (XF.modPowAux fuel x r i) ∧ φ (XF.modPowAux fuel x r i) = φ r * φ x ^ i
  | 0, x, r, i, _, hr, hi => by
    obtain rfl : i = 0 := by simpa using hi
    rw [XF.modPowAux, pow_zero, mul_one]
    exact ⟨hr, rfl⟩
  | fuel+1, x, r, i, hx, hr, hi => by
    rw [XF.modPowAux]
    by_cases h0 : i = 0
    · subst h0
      rw [beq_self_eq_true, if_pos rfl, pow_zero, mul_one]
      exact ⟨hr, rfl⟩
    · rw [if_neg (by simpa using h0)]
      have hxx := (mul_coeffs x x hx hx).1
      have hi2 : i / 2 < 2^fuel := by rw [Nat.pow_succ] at hi; omega
      have hsq : (φ x * φ x) ^ (i / 2) = φ x ^ (2 * (i / 2)) := by rw [pow_mul, pow_two]
      dsimp only
      by_cases hodd : i % 2 = 1
      · rw [if_pos (by simpa using hodd)]
        obtain ⟨hc, hv⟩ := modPowAux_spec fuel (XF.mul x x) (XF.mul r x) (i / 2) hxx (mul_coeffs r x hr hx).1 hi2
        refine ⟨hc, ?_⟩
        rw [hv, φ_mul r x hr hx, φ_mul x x hx hx, hsq, mul_assoc, ← pow_succ']
        congr 2; omega
      · rw [if_neg (by simpa using hodd)]
        obtain ⟨hc, hv⟩ := modPowAux_spec fuel (XF.mul x x) r (i / 2) hxx hr hi2
        refine ⟨hc, ?_⟩
        rw [hv, φ_mul x x hx hx, hsq]
        congr 2; omega

theorem modPow_spec (x : XF.X3) (hx : canon3 x) (e : Nat) (he : e < 2^64) :
    canon3 (XF.modPow x e) ∧ XF.toVal (XF.modPow x e) = xnpow (XF.toVal x) e := by
  obtain ⟨hc, hv⟩ := modPowAux_spec 64 x XF.one e hx canon3_one he
  refine ⟨hc, φv_inj _ _ (toVal_canon _ hc) (xnpow_canon _ _) ?_⟩
  rw [φv_xnpow]
  exact hv.trans (by rw [φ_one, one_mul]; rfl)

abbrev xpw (g : XF.X3) : Nat → XF.X3 := pwG XF.mulAssign g

theorem xpw_spec (g : XF.X3) (hg : canon3 g) :
    ∀ n, canon3 (xpw g n) ∧ XF.toVal (xpw g n) = xnpow (XF.toVal g) (n+1)
  | 0 => by rw [xpw, pwG_zero, Nat.zero_add, xnpow_one _ (toVal_canon g hg)]; exact ⟨hg, rfl⟩
  | n+1 => by
    obtain ⟨hc, hv⟩ := xpw_spec g hg n
    rw [xpw, pwG_succ, show XF.mulAssign _ g = XF.mul _ g from rfl]
    exact ⟨(mul_coeffs _ _ hc hg).1, by rw [toVal_mul _ _ hc hg, hv]; exact (xnpow_succ _ _).symm⟩

theorem x_one_eq : ((bfe_ONE, bfe_ZERO, bfe_ZERO) : XF.X3) = XF.one := rfl
theorem x_zero_eq : ((bfe_ZERO, bfe_ZERO, bfe_ZERO) : XF.X3) = XF.zero := rfl

theorem x_is_one_iff (a : XF.X3) : XF.isOne a = true ↔ a = XF.one := by
  unfold XF.isOne; rw [x_one_eq]; exact beq_iff_eq
theorem x_is_zero_iff (a : XF.X3) : XF.isZero a = true ↔ a = XF.zero := by
  unfold XF.isZero; rw [x_zero_eq]; exact beq_iff_eq

theorem toVal_eq_one_iff (a : XF.X3) (ha : canon3 a) : a = XF.one ↔ XF.toVal a = xone :=
  ⟨fun h => h ▸ toVal_one, fun h => toVal_inj a XF.one ha canon3_one (h.trans toVal_one.symm)⟩

theorem xstop_iff (g : XF.X3) (hg : canon3 g) (max : Option Nat) (n : Nat) :
    stopG XF.mulAssign XF.isOne g max n = true ↔
      (xnpow (XF.toVal g) (n + 2) = xone ∨ ∃ m, max = some m ∧ m ≤ n + 2) := by
  unfold stopG
  rw [Bool.or_eq_true, x_is_one_iff, toVal_eq_one_iff _ (xpw_spec g hg (n+1)).1, (xpw_spec g hg (n+1)).2]
  cases max <;> simp

theorem xstopIs (g : XF.X3) (hg : canon3 g) (mx : Option Nat) : StopIs XF.mulAssign XF.isOne g mx (φ g) := fun n => by
  rw [xstop_iff g hg, xnpow_eq_one_iff]; rfl

theorem x_cyclicGroup_core (g : XF.X3) (hg : canon3 g) (max : Option Nat) (N fuel : Nat) (hf : N < fuel)
    (hs : stopG XF.mulAssign XF.isOne g max N = true)
    (hb : ∀ j, j < N → stopG XF.mulAssign XF.isOne g max j = false) :
    ∃ l, XF.cyclicGroup fuel g max = some l ∧ (∀ x ∈ l, canon3 x) ∧
      l.map XF.toVal = (List.range (N + 2)).map (xnpow (XF.toVal g)) :=
  cyclicGroupG_core canon3 XF.toVal (xnpow (XF.toVal g)) XF.one ⟨canon3_one, toVal_one⟩ (xpw_spec g hg) N fuel hf hs hb

theorem x_cyclicGroup_some (g : XF.X3) (hg : canon3 g) (m fuel : Nat) (hf : max m 2 ≤ fuel + 1) :
    ∃ l, XF.cyclicGroup fuel g (some m) = some l ∧ (∀ x ∈ l, canon3 x) ∧ 2 ≤ l.length ∧ l.length ≤ max m 2 ∧
      l.map XF.toVal = (List.range l.length).map (xnpow (XF.toVal g)) :=
  cyclicGroupG_bounded canon3 XF.toVal (xnpow (XF.toVal g)) XF.one ⟨canon3_one, toVal_one⟩ (xpw_spec g hg) m fuel hf

theorem x_cyclicGroup_zero_none (fuel : Nat) : XF.cyclicGroup fuel XF.zero none = none :=
  cyclicGroupG_noOne_unbounded XF.one (xstopIs _ canon3_zero none)
    (fun j hj => by rw [φ_zero, zero_pow (by omega)]; exact zero_ne_one) rfl fuel

theorem increment_oob (x : XF.X3) (n : Nat) : XF.increment x (n+3) = none ∧ XF.decrement x (n+3) = none := ⟨rfl, rfl⟩
theorem increment_0 (x : XF.X3) : XF.increment x 0 = some (bfe_increment x.1, x.2.1, x.2.2) := rfl
theorem increment_1 (x : XF.X3) : XF.increment x 1 = some (x.1, bfe_increment x.2.1, x.2.2) := rfl
theorem increment_2 (x : XF.X3) : XF.increment x 2 = some (x.1, x.2.1, bfe_increment x.2.2) := rfl
theorem decrement_0 (x : XF.X3) : XF.decrement x 0 = some (bfe_decrement x.1, x.2.1, x.2.2) := rfl
theorem decrement_1 (x : XF.X3) : XF.decrement x 1 = some (x.1, bfe_decrement x.2.1, x.2.2) := rfl
theorem decrement_2 (x : XF.X3) : XF.decrement x 2 = some (x.1, x.2.1, bfe_decrement x.2.2) := rfl

theorem ev_mk (t : Fp) (a b c : Nat) : ev t (a, b, c) = toF a + toF b * t + toF c * t^2 := rfl

theorem incdec_word (a : Nat) (ha : canon a) : canon (bfe_increment a) ∧ canon (bfe_decrement a) ∧
    toF (bfe_increment a) = toF a + 1 ∧ toF (bfe_decrement a) = toF a - 1 :=
  ⟨canon_add _ _ ha canon_one, canon_sub _ _ ha canon_one,
    by rw [show bfe_increment a = bfe_add a BF.one from rfl, toF_add _ _ ha canon_one, toF_one],
    by rw [show bfe_decrement a = bfe_sub a BF.one from rfl, toF_sub _ _ ha canon_one, toF_one]⟩

theorem incdec_spec (x : XF.X3) (hx : canon3 x) (i : Nat) (hi : i < 3) (t : Fp) :
    ∃ y z, XF.increment x i = some y ∧ XF.decrement x i = some z ∧ canon3 y ∧ canon3 z ∧
      ev t y = ev t x + t ^ i ∧ ev t z = ev t x - t ^ i := by
  have hi3 : i = 0 ∨ i = 1 ∨ i = 2 := by omega
  obtain ⟨c0, c1, c2⟩ := x
  obtain ⟨h0, h1, h2⟩ := hx
  obtain rfl | rfl | rfl := hi3
  · obtain ⟨cw, cv, hw, hv⟩ := incdec_word c0 h0
    refine ⟨_, _, increment_0 _, decrement_0 _, ⟨cw, h1, h2⟩, ⟨cv, h1, h2⟩, ?_, ?_⟩
    · rw [ev_mk, ev_mk, hw]; ring
    · rw [ev_mk, ev_mk, hv]; ring
  · obtain ⟨cw, cv, hw, hv⟩ := incdec_word c1 h1
    refine ⟨_, _, increment_1 _, decrement_1 _, ⟨h0, cw, h2⟩, ⟨h0, cv, h2⟩, ?_, ?_⟩
    · rw [ev_mk, ev_mk, hw]; ring
    · rw [ev_mk, ev_mk, hv]; ring
  · obtain ⟨cw, cv, hw, hv⟩ := incdec_word c2 h2
    refine ⟨_, _, increment_2 _, decrement_2 _, ⟨h0, h1, cw⟩, ⟨h0, h1, cv⟩, ?_, ?_⟩
    · rw [ev_mk, ev_mk, hw]; ring
    · rw [ev_mk, ev_mk, hv]; ring

theorem isZero_false_iff (x : XF.X3) : XF.isZero x = false ↔ x ≠ XF.zero := by
  rw [← Bool.not_eq_true, x_is_zero_iff]

theorem φ_inverse (x : XF.X3) (hx : canon3 x) (hnz : x ≠ XF.zero) :
    ∃ r, XF.inverse x = some r ∧ canon3 r ∧ φ r = (φ x)⁻¹ := by
  obtain ⟨r, hr, hc, hm, _⟩ := inverse_spec x hx hnz
  refine ⟨r, hr, hc, eq_inv_of_mul_eq_one_left ?_⟩
  rw [← φ_mul r x hc hx, hm, φ_one]

/-- batch inversion on the extension field: any vector of non-zero elements (canonical coefficient words) is
    mapped to the vector of inverses -/
theorem x_batchInversion_spec (xs : List XF.X3) (h : ∀ x ∈ xs, canon3 x ∧ x ≠ XF.zero) :
    ∃ rs, XF.batchInversion xs = some rs ∧ rs.length = xs.length ∧
      ∀ i (h1 : i < rs.length) (h2 : i < xs.length), canon3 rs[i] ∧ XF.mul rs[i] xs[i] = XF.one ∧
        XF.mul xs[i] rs[i] = XF.one ∧ XF.inverse xs[i] = some rs[i] := by
  obtain ⟨rs, hrs, hrc, hrm⟩ := batchInversionG_spec canon3 XF.mul XF.isZero φ
    (fun a b ha hb => (mul_coeffs a b ha hb).1) φ_mul
    (fun a ha => by rw [φ_eq_zero a ha, x_is_zero_iff])
    XF.inverse XF.one canon3_one φ_one
    (fun a ha hz => φ_inverse a ha ((isZero_false_iff a).1 hz))
    xs (fun x hx => ⟨(h x hx).1, (isZero_false_iff x).2 (h x hx).2⟩)
  have hlen : rs.length = xs.length := by simpa using congrArg List.length hrm
  refine ⟨rs, hrs, hlen, fun i h1 h2 => ?_⟩
  have hc : canon3 rs[i] := hrc _ (List.getElem_mem h1)
  have hx := h xs[i] (List.getElem_mem h2)
  have hφ : φ rs[i] = (φ xs[i])⁻¹ := by
    have := congrArg (fun l => l[i]?) hrm
    simpa [h1, h2] using this
  have hxz : φ xs[i] ≠ 0 := fun h0 => hx.2 ((φ_eq_zero _ hx.1).1 h0)
  have hl : XF.mul rs[i] xs[i] = XF.one := by
    apply φ_inj _ _ (mul_coeffs _ _ hc hx.1).1 canon3_one
    rw [φ_mul _ _ hc hx.1, hφ, φ_one, inv_mul_cancel₀ hxz]
  have hr : XF.mul xs[i] rs[i] = XF.one := by
    apply φ_inj _ _ (mul_coeffs _ _ hx.1 hc).1 canon3_one
    rw [φ_mul _ _ hx.1 hc, hφ, φ_one, mul_inv_cancel₀ hxz]
  refine ⟨hc, hl, hr, ?_⟩
  obtain ⟨r, hr1, _, _, _, huniq⟩ := inverse_spec xs[i] hx.1 hx.2
  rw [hr1, huniq rs[i] hc hl]

theorem x_batchInversion_zero (xs : List XF.X3) (h : XF.zero ∈ xs) : XF.batchInversion xs = none :=
  batchInversionG_zero _ _ _ _ xs ⟨_, h, (x_is_zero_iff _).2 rfl⟩

theorem x_batchInversion_nil : XF.batchInversion [] = some [] := rfl

end TF.XFp
