import TF.Gen.MmrPeaksLoops
import TF.Model.MmrAcc
import TF.Proofs.MmrIndex
import TF.Proofs.ListBasics
/-!
# Bridge: the MMR peak calculations *as regenerated from source* = the hand-written model (C11)

`TF/Gen/MmrPeaksLoops.lean` is written by `tools/rs2lean_bt4.py` from the text of `shared_basic.rs` on every run, with the
digest type opaque (`D`), `Tip5::hash_pair` the parameter `H` and `d0` the value read after a panic (`pop` on an empty
vector / index out of range — the `_ok` twin is false there).  The hand model (`TF/Model/MmrAcc.lean`) returns `none`
for a panic.  With `outcome ok v = if ok then v else none` the theorems say, for **every** `H`, `d0` and input,

    outcome (Loops.f_ok ..) (Loops.f ..) = Model.f ..

so the C11 theorems are theorems about the current source text: a one-token change of a translated function changes
`Loops.mmr_*`, and these proofs are re-checked or break.
-/
namespace TF.GenBridge.MmrPeaks
open TF TF.Gen TF.Model.MmrAcc

/-- the result of a regenerated function: `none` when its `_ok` flag says the Rust code panicked -/
def outcome {α : Type} (ok : Bool) (v : Option α) : Option α := if ok then v else none

theorem outcome_true {α : Type} (v : Option α) : outcome true v = v := rfl
theorem outcome_false {α : Type} (v : Option α) : outcome false v = none := rfl
theorem outcome_and {α : Type} (a b : Bool) (v : Option α) : outcome (a && b) v = if a then outcome b v else none := by
  cases a <;> rfl
theorem outcome_bind {α β : Type} (ok : Bool) (v : Option α) (g : α → Option β) :
    outcome ok (v.bind g) = (outcome ok v).bind g := by
  cases ok <;> rfl

theorem outcome_eq_some {α : Type} {ok : Bool} {v : Option α} {x : α} (h : outcome ok v = some x) :
    ok = true ∧ v = some x := by
  cases ok with
  | false => cases h
  | true => exact ⟨rfl, h⟩

variable {D : Type} (H : D → D → D) (d0 : D)

theorem pop_rev (a : D) (l : List D) : TF.RustIter.popVal ((a :: l).reverse) d0 = a := by
  simp [TF.RustIter.popVal]
theorem dropLast_rev (a : D) (l : List D) : ((a :: l).reverse).dropLast = l.reverse := by
  simp
theorem isEmpty_rev (a : D) (l : List D) : ((a :: l).reverse).isEmpty = false := by
  simp

/-- the regenerated merge loop on the peak vector (`pop`/`push` at the end) = the hand model's loop on the reversed list -/
theorem append_loop_eq : ∀ (t f : Nat) (st ap : List D), t < f → t < 4294967296 →
    outcome (Loops.mmr_calculate_new_peaks_from_append_loop_ok H d0 f st.reverse t ap)
        (Loops.mmr_calculate_new_peaks_from_append_loop H d0 f st.reverse t ap)
      = (mergeLoop H t st ap).map (fun r => (r.1.reverse, 0, r.2)) := by
  intro t
  induction t with
  | zero =>
    intro f st ap hf _
    obtain ⟨f, rfl⟩ : ∃ g, f = g + 1 := ⟨f - 1, by omega⟩
    rw [Loops.mmr_calculate_new_peaks_from_append_loop, Loops.mmr_calculate_new_peaks_from_append_loop_ok]
    rfl
  | succ t ih =>
    intro f st ap hf ht
    obtain ⟨f, rfl⟩ : ∃ g, f = g + 1 := ⟨f - 1, by omega⟩
    rw [Loops.mmr_calculate_new_peaks_from_append_loop, Loops.mmr_calculate_new_peaks_from_append_loop_ok]
    have hne : (t + 1 != 0) = true := by simp
    have hdec : (t + 1 + 4294967296 - 1) % 4294967296 = t := by omega
    have hle : decide (1 ≤ t + 1) = true := by simp
    rw [if_pos hne, if_pos hne]
    match st with
    | [] => rfl
    | [a] =>
      have h1 : ([a] : List D).reverse = [a] := rfl
      rw [h1]
      rfl
    | a :: b :: rest =>
      have e1 : TF.RustIter.popVal (a :: b :: rest).reverse d0 = a := pop_rev d0 a _
      have e2 : ((a :: b :: rest).reverse).dropLast = (b :: rest).reverse := dropLast_rev a _
      have e3 : TF.RustIter.popVal (b :: rest).reverse d0 = b := pop_rev d0 b _
      have e4 : ((b :: rest).reverse).dropLast = rest.reverse := dropLast_rev b _
      have e5 : ((a :: b :: rest).reverse).isEmpty = false := isEmpty_rev a _
      have e6 : ((b :: rest).reverse).isEmpty = false := isEmpty_rev b _
      have e7 : rest.reverse ++ [H b a] = (H b a :: rest).reverse := by simp
      simp only [e1, e2, e3, e4, e5, e6, e7, hdec, hle, Bool.not_false, Bool.true_and]
      rw [ih f (H b a :: rest) (ap ++ [b]) (by omega) (by omega)]
      rfl

/-- **`calculate_new_peaks_from_append`** regenerated from source = hand model (a panic is `none`), every `H`, every input
    with a `u64` leaf count that can be incremented -/
theorem gen_append_eq (n : Nat) (peaks : List D) (leaf : D) (h : n + 1 < 2 ^ 64) :
    outcome (Loops.mmr_calculate_new_peaks_from_append_ok H d0 n peaks leaf)
        (Loops.mmr_calculate_new_peaks_from_append H d0 n peaks leaf)
      = calculate_new_peaks_from_append H n peaks leaf := by
  have hrl := (TF.Mmr.rll_leaf_spec n h).2
  have hlt : right_lineage_length_from_leaf_index n < 4294967296 := by
    unfold right_lineage_length_from_leaf_index
    exact Nat.mod_lt _ (by decide)
  have hpk : peaks ++ [leaf] = (leaf :: peaks.reverse).reverse := by simp
  unfold Loops.mmr_calculate_new_peaks_from_append Loops.mmr_calculate_new_peaks_from_append_ok
    calculate_new_peaks_from_append appendWith
  simp only [hrl, Bool.true_and, hpk]
  rw [outcome_bind, append_loop_eq H d0 _ _ _ _ (Nat.lt_succ_self _) hlt]
  cases mergeLoop H (right_lineage_length_from_leaf_index n) (leaf :: peaks.reverse) [] with
  | none => rfl
  | some r => rfl

theorem foldPath_zero : ∀ (ap : List D) (acc : D), foldPath H 0 acc ap = none := by
  intro ap
  induction ap with
  | nil => intro acc; rfl
  | cons a rest ih =>
    intro acc
    rw [foldPath]
    simp only [Nat.zero_ne_one, if_false, Nat.zero_div]
    exact ih _

/-- with `acc_mt_index = 0` the regenerated loop never returns a value: it runs out of the path (panic) or of fuel -/
theorem mut_loop_zero (ap : List D) : ∀ (f : Nat) (acc : D) (i : Nat),
    outcome (Loops.mmr_calculate_new_peaks_from_leaf_mutation_loop_ok H d0 ap f 0 acc i)
      (Loops.mmr_calculate_new_peaks_from_leaf_mutation_loop H d0 ap f 0 acc i) = none := by
  intro f
  induction f with
  | zero => intro acc i; rfl
  | succ f ih =>
    intro acc i
    rw [Loops.mmr_calculate_new_peaks_from_leaf_mutation_loop, Loops.mmr_calculate_new_peaks_from_leaf_mutation_loop_ok]
    have h01 : ((0 : Nat) != 1) = true := rfl
    rw [if_pos h01, if_pos h01]
    have h02 : ((0 : Nat) % 2 == 1) = false := rfl
    simp only [outcome_and, Nat.zero_div, h02, Bool.false_eq_true, if_false]
    repeat' split
    all_goals first | exact ih _ _ | rfl

/-- the regenerated path-folding loop (indexing `authentication_path[i]`) = the hand model's recursion over the rest of the
    path, as long as the fuel covers the halvings -/
theorem mut_loop_eq (ap : List D) (hap : ap.length < 2 ^ 64) : ∀ (f mt : Nat) (acc : D) (i : Nat), 1 ≤ mt → mt < 2 ^ f →
    (outcome (Loops.mmr_calculate_new_peaks_from_leaf_mutation_loop_ok H d0 ap f mt acc i)
      (Loops.mmr_calculate_new_peaks_from_leaf_mutation_loop H d0 ap f mt acc i)).map (fun t => t.2.1)
      = foldPath H mt acc (ap.drop i) := by
  intro f
  induction f with
  | zero => intro mt acc i h1 h2; simp at h2; omega
  | succ f ih =>
    intro mt acc i h1 h2
    rw [Loops.mmr_calculate_new_peaks_from_leaf_mutation_loop, Loops.mmr_calculate_new_peaks_from_leaf_mutation_loop_ok]
    by_cases hm : mt = 1
    · subst hm
      rw [if_neg (by simp), if_neg (by simp)]
      cases ap.drop i <;> rfl
    · have hne : (mt != 1) = true := by simpa using hm
      rw [if_pos hne, if_pos hne]
      by_cases hi : i < ap.length
      · have hd : decide (i < ap.length) = true := by simpa using hi
        have hi1 : decide (i + 1 < 18446744073709551616) = true := by
          simp only [decide_eq_true_eq]; have : (2:Nat)^64 = 18446744073709551616 := by decide
          omega
        have hmod : (i + 1) % 18446744073709551616 = i + 1 := Nat.mod_eq_of_lt (by
          have : (2:Nat)^64 = 18446744073709551616 := by decide
          omega)
        have h2ne : ((2 : Nat) != 0) = true := rfl
        have hacc : (if (mt % 2 == 1) = true then H (ap.getD i d0) acc else H acc (ap.getD i d0))
            = (if mt % 2 = 1 then H (ap.getD i d0) acc else H acc (ap.getD i d0)) := by
          by_cases hodd : mt % 2 = 1 <;> simp [hodd]
        simp only [hd, hi1, hmod, h2ne, Bool.true_and]
        rw [hacc, TF.drop_cons_getD ap d0 i hi, foldPath, if_neg hm]
        have hhalf1 : 1 ≤ mt / 2 := by omega
        have hhalf2 : mt / 2 < 2 ^ f := by
          rw [Nat.pow_succ] at h2; omega
        have := ih (mt / 2) (if mt % 2 = 1 then H (ap.getD i d0) acc else H acc (ap.getD i d0)) (i + 1) hhalf1 hhalf2
        rw [← this]
      · have hd : decide (i < ap.length) = false := by simpa using hi
        simp only [hd, Bool.false_and, outcome_false, Option.map_none]
        rw [List.drop_of_length_le (by omega), foldPath, if_neg hm]

omit H d0 in
theorem mut_tail (lok : Bool) (l : Option (Nat × D × Nat)) (old_peaks : List D) (pidx : Nat) :
    outcome (lok && l.elim true fun _ => decide (pidx < old_peaks.length))
        (l.bind fun a => some (old_peaks.set pidx a.2.1))
      = (Option.map (fun t => t.2.1) (outcome lok l)).bind fun acc_hash => setAt? old_peaks pidx acc_hash := by
  cases lok with
  | false => rfl
  | true =>
    cases l with
    | none => rfl
    | some t =>
      simp only [Bool.true_and, Option.elim_some, outcome_true, Option.map_some, Option.bind_some, setAt?]
      by_cases hp : pidx < old_peaks.length
      · have : decide (pidx < old_peaks.length) = true := by simpa using hp
        rw [this, if_pos hp]; rfl
      · have : decide (pidx < old_peaks.length) = false := by simpa using hp
        rw [this, if_neg hp]; rfl

/-- **`calculate_new_peaks_from_leaf_mutation`** regenerated from source = hand model (a panic is `none`), every `H`, every
    input with `u64` counts -/
theorem gen_leaf_mutation_eq (old_peaks : List D) (leaf_count : Nat) (new_leaf : D) (leaf_index : Nat) (ap : List D)
    (hn : leaf_count < 2 ^ 64) (hap : ap.length < 2 ^ 64) :
    outcome (Loops.mmr_calculate_new_peaks_from_leaf_mutation_ok H d0 old_peaks leaf_count new_leaf leaf_index ap)
        (Loops.mmr_calculate_new_peaks_from_leaf_mutation H d0 old_peaks leaf_count new_leaf leaf_index ap)
      = calculate_new_peaks_from_leaf_mutation H old_peaks leaf_count new_leaf leaf_index ap := by
  unfold Loops.mmr_calculate_new_peaks_from_leaf_mutation Loops.mmr_calculate_new_peaks_from_leaf_mutation_ok
    calculate_new_peaks_from_leaf_mutation mutateWith
  by_cases hin : leaf_index < leaf_count
  · have hspec := TF.Mmr.mt_spec leaf_index leaf_count hin hn
    rw [if_pos hin]
    simp only [hspec.2, Bool.true_and]
    generalize hmt : (leaf_index_to_mt_index_and_peak_index leaf_index leaf_count).1 = mt
    generalize hpi : (leaf_index_to_mt_index_and_peak_index leaf_index leaf_count).2 = pidx
    have hd : leaf_index ^^^ leaf_count ≠ 0 := fun e => by have := TF.Mmr.xor_eq_zero_imp e; omega
    have hd64 : leaf_index ^^^ leaf_count < 2 ^ 64 := Nat.xor_lt_two_pow (by omega) hn
    have hh64 : (leaf_index ^^^ leaf_count).log2 < 64 := (Nat.log2_lt hd).mpr hd64
    have hmt' : mt = 2 ^ (leaf_index ^^^ leaf_count).log2 + leaf_index % 2 ^ (leaf_index ^^^ leaf_count).log2 := by
      rw [← hmt, hspec.1]
    have hpos : 0 < 2 ^ (leaf_index ^^^ leaf_count).log2 := Nat.two_pow_pos _
    have hmod := Nat.mod_lt leaf_index hpos
    have h1 : 1 ≤ mt := by omega
    -- 65 = `descentFuel`: the rounds the translator grants the loop
    have hmtlt : mt < 2 ^ 65 :=
      calc mt < 2 ^ ((leaf_index ^^^ leaf_count).log2 + 1) := by rw [Nat.pow_succ]; omega
        _ ≤ 2 ^ 65 := Nat.pow_le_pow_right (by decide) (by omega)
    have hloop := mut_loop_eq H d0 ap hap 65 mt new_leaf 0 h1 hmtlt
    rw [List.drop_zero] at hloop
    rw [← hloop]
    generalize Loops.mmr_calculate_new_peaks_from_leaf_mutation_loop_ok H d0 ap 65 mt new_leaf 0 = lok
    generalize Loops.mmr_calculate_new_peaks_from_leaf_mutation_loop H d0 ap 65 mt new_leaf 0 = l
    exact mut_tail lok l old_peaks pidx
  · rw [if_neg hin]
    have : leaf_index_to_mt_index_and_peak_index_ok leaf_index leaf_count = false := by
      unfold leaf_index_to_mt_index_and_peak_index_ok
      have : decide (leaf_index < leaf_count) = false := by simpa using hin
      rw [this]; rfl
    rw [this]
    rfl

/-! ### `bag_peaks`: `next_back` twice, then `rev().fold(acc, |acc, &peak| hash_pair(peak, acc))` -/

/-- regenerated `shared::bag_peaks` = the hand model, for every hash, every list of peaks (no check can fail) -/
theorem gen_bag_peaks_eq (hash0 : D) (ps : List D) :
    Loops.mmr_bag_peaks H d0 hash0 ps = bag_peaks H hash0 ps ∧ Loops.mmr_bag_peaks_ok H d0 hash0 ps = true := by
  refine ⟨?_, rfl⟩
  unfold Loops.mmr_bag_peaks bag_peaks
  generalize hr : ps.reverse = r
  have hps : ps = r.reverse := by rw [← hr, List.reverse_reverse]
  subst hps
  cases r with
  | nil => rfl
  | cons a r =>
    have e1 : ((a :: r).reverse).isEmpty = false := by simp
    have e2 : ((a :: r).reverse).dropLast = r.reverse := by simp
    simp only [e1, Bool.false_eq_true, if_false, pop_rev, e2]
    cases r with
    | nil => rfl
    | cons b r =>
      have e3 : ((b :: r).reverse).isEmpty = false := by simp
      have e4 : ((b :: r).reverse).dropLast = r.reverse := by simp
      simp only [e3, Bool.false_eq_true, if_false, pop_rev, e4, List.reverse_reverse]

end TF.GenBridge.MmrPeaks
