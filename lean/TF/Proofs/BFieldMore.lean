import TF.Proofs.BFieldModel
import TF.Model.BFieldMore
import Mathlib.GroupTheory.OrderOfElement
import TF.Proofs.NttTable
/-!
The translated one-liners (`bfe_increment`, `bfe_raw_u16s`, ...) and the hand-written models of
`TF/Model/BFieldMore.lean`.  The two generic loops of `traits.rs` (`get_cyclic_group_elements`, `batch_inversion`) are
analysed once, for an arbitrary carrier with a "canonical" predicate closed under the product and a multiplicative map
into a monoid / field; the base field (`toF`) and the extension field (`φ`, `TF/Proofs/XFieldMore.lean`) are instances.
-/
namespace TF.XK

/-- the number of elements `get_cyclic_group_elements(max)` returns for an element of order `k` (here because the generic
    `cyclicGroupG_order` below is stated with it) -/
def cycLen (k : Nat) : Option Nat → Nat
  | none => max k 2
  | some m => min (max k 2) (max m 2)

end TF.XK

namespace TF.BF
open TF.Gen TF.Model TF.Spec

theorem ZERO_eq : bfe_ZERO = BF.zero := rfl
theorem ONE_eq : bfe_ONE = BF.one := rfl
theorem zero_eq : bfe_zero = BF.zero := rfl
theorem one_eq : bfe_one = BF.one := rfl
theorem neg_eq (a : Nat) : bfe_neg a = BF.neg a := rfl

/-- the `n` low digits of `x` in base `B`, least significant first (`raw_bytes`, `raw_u16s`); a fixed number of digits,
    zeros included, which Mathlib's `Nat.digits` does not give -/
def digits (B : Nat) : Nat → Nat → List Nat
  | 0, _ => []
  | n+1, x => x % B :: digits B n (x / B)

def ofDigits (B : Nat) : List Nat → Nat
  | [] => 0
  | d :: ds => d + B * ofDigits B ds

theorem ofDigits_digits (B : Nat) : ∀ n x, ofDigits B (digits B n x) = x % B ^ n
  | 0, x => by rw [Nat.pow_zero, Nat.mod_one]; rfl
  | n+1, x => by rw [digits, ofDigits, ofDigits_digits B n, Nat.pow_succ', Nat.mod_mul]

theorem digits_lt {B : Nat} (hB : 0 < B) : ∀ n x, ∀ d ∈ digits B n x, d < B
  | 0, _, _, h => by cases h
  | n+1, x, d, h => by
    rcases List.mem_cons.1 h with rfl | h
    · exact Nat.mod_lt _ hB
    · exact digits_lt hB n _ d h

theorem digits_ofDigits {B : Nat} : ∀ ds : List Nat, (∀ d ∈ ds, d < B) →
    digits B ds.length (ofDigits B ds) = ds ∧ ofDigits B ds < B ^ ds.length
  | [], _ => ⟨rfl, Nat.one_pos⟩
  | d :: ds, h => by
    have hd := h d List.mem_cons_self
    have hB : 0 < B := Nat.lt_of_le_of_lt (Nat.zero_le _) hd
    obtain ⟨ih, ihlt⟩ := digits_ofDigits ds (fun e he => h e (List.mem_cons_of_mem _ he))
    constructor
    · rw [List.length_cons, ofDigits, digits, Nat.add_mul_mod_self_left, Nat.mod_eq_of_lt hd,
        Nat.add_mul_div_left _ _ hB, Nat.div_eq_of_lt hd, Nat.zero_add, ih]
    · rw [List.length_cons, ofDigits, Nat.pow_succ']
      calc d + B * ofDigits B ds < B + B * ofDigits B ds := Nat.add_lt_add_right hd _
        _ = B * (ofDigits B ds + 1) := by rw [Nat.mul_add, Nat.mul_one, Nat.add_comm]
        _ ≤ B * B ^ ds.length := Nat.mul_le_mul_left _ ihlt

theorem digits_four (B a : Nat) : digits B 4 a = [a % B, a / B % B, a / (B * B) % B, a / (B * B * B) % B] := by
  simp only [digits, Nat.div_div_eq_div_mul]

theorem digits_eight (a : Nat) : digits 256 8 a = [a % 256, a / 256 % 256, a / 65536 % 256, a / 16777216 % 256,
    a / 4294967296 % 256, a / 1099511627776 % 256, a / 281474976710656 % 256, a / 72057594037927936 % 256] := by
  simp only [digits, Nat.div_div_eq_div_mul]

theorem raw_u16s_eq (a : Nat) : bfe_raw_u16s a = digits 65536 4 a := by
  rw [digits_four]
  unfold bfe_raw_u16s
  simp only [show ∀ x, x &&& 65535 = x % 65536 from fun x => Nat.and_two_pow_sub_one_eq_mod x 16, Nat.mod_mod]

theorem raw_bytes_eq (a : Nat) : bfe_raw_bytes a = digits 256 8 a := by
  rw [digits_eight]; unfold bfe_raw_bytes; simp only [Nat.div_one]

-- `m` is the literal of the generated text; `rw` needs it syntactically, `hm` says it is a power of two
theorem or_shift (a b m i : Nat) (hm : m = 2 ^ i) (hb : b < m) : a * m ||| b = a * m + b := by
  subst hm; rw [← Nat.shiftLeft_eq, Nat.shiftLeft_add_eq_or_of_lt hb]

theorem from_raw_u16s_eq (c0 c1 c2 c3 : Nat) (h0 : c0 < 65536) (h1 : c1 < 65536) (h2 : c2 < 65536) (h3 : c3 < 65536) :
    bfe_from_raw_u16s c0 c1 c2 c3 = ofDigits 65536 [c0, c1, c2, c3] := by
  unfold bfe_from_raw_u16s
  rw [Nat.mod_eq_of_lt (show c3 * 281474976710656 < 18446744073709551616 by omega),
    Nat.mod_eq_of_lt (show c2 * 4294967296 < 18446744073709551616 by omega),
    Nat.mod_eq_of_lt (show c1 * 65536 < 18446744073709551616 by omega),
    Nat.or_assoc, Nat.or_assoc, or_shift c1 c0 65536 16 rfl h0, or_shift c2 _ 4294967296 32 rfl (by omega),
    or_shift c3 _ 281474976710656 48 rfl (by omega)]
  simp only [ofDigits]; omega

theorem from_raw_bytes_eq (b0 b1 b2 b3 b4 b5 b6 b7 : Nat) :
    bfe_from_raw_bytes b0 b1 b2 b3 b4 b5 b6 b7 = ofDigits 256 [b0, b1, b2, b3, b4, b5, b6, b7] := by
  simp only [bfe_from_raw_bytes, ofDigits]; omega

theorem fromRawBytes_eq (b0 b1 b2 b3 b4 b5 b6 b7 : Nat) :
    BF.fromRawBytes [b0, b1, b2, b3, b4, b5, b6, b7] = some (bfe_from_raw_bytes b0 b1 b2 b3 b4 b5 b6 b7) := rfl
theorem fromRawU16s_eq (c0 c1 c2 c3 : Nat) :
    BF.fromRawU16s [c0, c1, c2, c3] = some (bfe_from_raw_u16s c0 c1 c2 c3) := rfl

section cyc
variable {α : Type} (mulAssign : α → α → α) (isOne : α → Bool) (g : α) (mx : Option Nat)

/-- `val` at the start of iteration `n` (0-based): `g · g^n` -/
def pwG : Nat → α
  | 0 => g
  | n+1 => mulAssign (pwG n) g

/-- does iteration `n` (0-based; `ret.len() = n + 1` before its push) end the loop? -/
def stopG (n : Nat) : Bool :=
  isOne (pwG mulAssign g (n+1)) || (match mx with | some m => decide (n + 1 + 1 ≥ m) | none => false)

theorem pwG_zero : pwG mulAssign g 0 = g := rfl
theorem pwG_succ (n : Nat) : pwG mulAssign g (n+1) = mulAssign (pwG mulAssign g n) g := rfl

theorem cyclicTail_step (fuel k : Nat) :
    cyclicTail mulAssign isOne g mx (fuel+1) (pwG mulAssign g k) (k+1) =
      if stopG mulAssign isOne g mx k then some [pwG mulAssign g k]
      else (cyclicTail mulAssign isOne g mx fuel (pwG mulAssign g (k+1)) (k+1+1)).map (pwG mulAssign g k :: ·) := by
  rfl

theorem cyclicTail_running : ∀ (fuel k : Nat), (∀ j, k ≤ j → j < k + fuel → stopG mulAssign isOne g mx j = false) →
    cyclicTail mulAssign isOne g mx fuel (pwG mulAssign g k) (k+1) = none
  | 0, _, _ => rfl
  | fuel+1, k, h => by
    rw [cyclicTail_step, h k (Nat.le_refl _) (by omega)]
    simp only [Bool.false_eq_true, if_false]
    rw [cyclicTail_running fuel (k+1) (fun j h1 h2 => h j (by omega) (by omega))]
    rfl

theorem cyclicTail_stops : ∀ (fuel k n : Nat), k ≤ n → n < k + fuel → stopG mulAssign isOne g mx n = true →
    (∀ j, k ≤ j → j < n → stopG mulAssign isOne g mx j = false) →
    cyclicTail mulAssign isOne g mx fuel (pwG mulAssign g k) (k+1) =
      some ((List.range' k (n - k + 1)).map (pwG mulAssign g))
  | 0, _, _, _, h, _, _ => by omega
  | fuel+1, k, n, hkn, hn, hs, hb => by
    rw [cyclicTail_step]
    by_cases hk : k = n
    · subst hk
      rw [hs]; simp
    · rw [hb k (Nat.le_refl _) (by omega)]
      simp only [Bool.false_eq_true, if_false]
      rw [cyclicTail_stops fuel (k+1) n (by omega) (by omega) hs (fun j h1 h2 => hb j (by omega) h2)]
      have : n - k + 1 = (n - (k+1) + 1) + 1 := by omega
      rw [this]
      simp [List.range'_succ]

theorem cyclicGroupG_eq (one : α) (fuel : Nat) :
    cyclicGroupG mulAssign isOne one fuel g mx =
      (cyclicTail mulAssign isOne g mx fuel (pwG mulAssign g 0) (0+1)).map (one :: ·) := rfl

/-- the loop's exit test at every iteration, read in a monoid `M` through an element `a` (the image of `g`) -/
def StopIs {M : Type} [Monoid M] (a : M) : Prop :=
  ∀ n, stopG mulAssign isOne g mx n = true ↔ (a ^ (n + 2) = 1 ∨ ∃ m, mx = some m ∧ m ≤ n + 2)

variable {mulAssign isOne g mx} {β : Type} (Cn : α → Prop) (v : α → β) (pw : Nat → β) (one : α)
  (hone : Cn one ∧ v one = pw 0) (hpw : ∀ n, Cn (pwG mulAssign g n) ∧ v (pwG mulAssign g n) = pw (n + 1))
include hone hpw

/-- if iteration `N` is the first one that ends the loop and the fuel suffices, the call returns
    `[1, g, ..., g^(N+1)]`: canonical elements with the values `pw 0, …, pw (N+1)` -/
theorem cyclicGroupG_core (N fuel : Nat) (hf : N < fuel) (hs : stopG mulAssign isOne g mx N = true)
    (hb : ∀ j, j < N → stopG mulAssign isOne g mx j = false) :
    ∃ l, cyclicGroupG mulAssign isOne one fuel g mx = some l ∧ (∀ x ∈ l, Cn x) ∧
      l.map v = (List.range (N + 2)).map pw := by
  have h := cyclicTail_stops mulAssign isOne g mx fuel 0 N (Nat.zero_le _) (by omega) hs (fun j _ hj => hb j hj)
  refine ⟨one :: (List.range' 0 (N - 0 + 1)).map (pwG mulAssign g), ?_, ?_, ?_⟩
  · rw [cyclicGroupG_eq, h, Option.map_some]
  · intro x hx
    rcases List.mem_cons.1 hx with rfl | hx
    · exact hone.1
    · obtain ⟨j, _, rfl⟩ := List.mem_map.1 hx
      exact (hpw j).1
  · rw [List.range_succ_eq_map, List.map_cons, List.map_cons, List.map_map, List.map_map, hone.2, Nat.sub_zero,
      List.range_eq_range']
    exact congrArg _ (List.map_congr_left fun j _ => (hpw j).2)

/-- with a bound `m` the loop always ends, after at most `max m 2 - 1` iterations -/
theorem cyclicGroupG_bounded (m fuel : Nat) (hf : max m 2 ≤ fuel + 1) :
    ∃ l, cyclicGroupG mulAssign isOne one fuel g (some m) = some l ∧ (∀ x ∈ l, Cn x) ∧ 2 ≤ l.length ∧
      l.length ≤ max m 2 ∧ l.map v = (List.range l.length).map pw := by
  have hlast : stopG mulAssign isOne g (some m) (max m 2 - 2) = true := by
    unfold stopG
    rw [Bool.or_eq_true]; right
    simp only [decide_eq_true_eq]; omega
  have hex : ∃ n, stopG mulAssign isOne g (some m) n = true := ⟨_, hlast⟩
  have hN : Nat.find hex ≤ max m 2 - 2 := Nat.find_min' hex hlast
  obtain ⟨l, h1, h2, h3⟩ := cyclicGroupG_core Cn v pw one hone hpw (Nat.find hex) fuel
    (by omega) (Nat.find_spec hex) (fun j hj => Bool.eq_false_iff.2 (Nat.find_min hex hj))
  have hlen : l.length = Nat.find hex + 2 := by simpa using congrArg List.length h3
  exact ⟨l, h1, h2, by omega, by omega, hlen ▸ h3⟩

variable {M : Type} [Monoid M] {a : M} (hstop : StopIs mulAssign isOne g mx a)
include hstop

/-- the loop ends at iteration `L - 2` and returns `L` elements as soon as `L` is the least exponent `≥ 2` at which the
    power is one or the bound is reached -/
theorem cyclicGroupG_of_first (L fuel : Nat) (hL : 2 ≤ L) (hf : L ≤ fuel + 1)
    (hs : a ^ L = 1 ∨ ∃ m, mx = some m ∧ m ≤ L)
    (hb : ∀ j, 2 ≤ j → j < L → a ^ j ≠ 1 ∧ ∀ m, mx = some m → j < m) :
    ∃ l, cyclicGroupG mulAssign isOne one fuel g mx = some l ∧ (∀ x ∈ l, Cn x) ∧ l.map v = (List.range L).map pw := by
  obtain ⟨N, rfl⟩ : ∃ N, L = N + 2 := ⟨L - 2, by omega⟩
  refine cyclicGroupG_core Cn v pw one hone hpw N fuel (by omega) ((hstop N).2 hs) fun j hj => ?_
  rw [Bool.eq_false_iff, Ne, hstop j]
  rintro (h | ⟨m, hm, hle⟩)
  · exact (hb (j + 2) (by omega) (by omega)).1 h
  · exact absurd ((hb (j + 2) (by omega) (by omega)).2 m hm) (by omega)

/-- an element of finite multiplicative order `k` (`L` and `hL` as in the statements of C01): the call returns the `max k 2` first powers, or the first
    `max m 2` of them if the bound `m` comes first -/
theorem cyclicGroupG_order (hk : 0 < orderOf a) (L fuel : Nat)
    (hL : L = TF.XK.cycLen (orderOf a) mx)
    (hf : L ≤ fuel + 1) :
    ∃ l, cyclicGroupG mulAssign isOne one fuel g mx = some l ∧ (∀ x ∈ l, Cn x) ∧ l.map v = (List.range L).map pw := by
  have hmax : a ^ max (orderOf a) 2 = 1 := by
    rcases Nat.lt_or_ge (orderOf a) 2 with h | h
    · rw [orderOf_eq_one_iff.1 (show orderOf a = 1 by omega), one_pow]
    · rw [show max (orderOf a) 2 = orderOf a by omega]; exact pow_orderOf_eq_one a
  have hne (j : Nat) (h2 : 2 ≤ j) (hj : j < max (orderOf a) 2) : a ^ j ≠ 1 :=
    pow_ne_one_of_lt_orderOf (by omega) (by omega)
  cases mx with
  | none =>
    obtain rfl : L = max (orderOf a) 2 := hL
    exact cyclicGroupG_of_first Cn v pw one hone hpw hstop _ fuel (by omega) hf (Or.inl hmax)
      fun j h2 hj => ⟨hne j h2 hj, fun m hm => by cases hm⟩
  | some m =>
    replace hL : L = min (max (orderOf a) 2) (max m 2) := hL
    refine cyclicGroupG_of_first Cn v pw one hone hpw hstop L fuel (by omega) hf ?_
      fun j h2 hj => ⟨hne j h2 (by omega), fun m' hm => by cases hm; omega⟩
    by_cases h : max (orderOf a) 2 ≤ max m 2
    · left; rw [hL, show min (max (orderOf a) 2) (max m 2) = max (orderOf a) 2 by omega]; exact hmax
    · right; exact ⟨m, rfl, by omega⟩

/-- no power is one, bound `m`: the call returns `max m 2` elements -/
theorem cyclicGroupG_noOne_bounded (hne : ∀ j, 2 ≤ j → a ^ j ≠ 1) (m fuel : Nat) (hm : mx = some m)
    (hf : max m 2 ≤ fuel + 1) :
    ∃ l, cyclicGroupG mulAssign isOne one fuel g mx = some l ∧ (∀ x ∈ l, Cn x) ∧
      l.map v = (List.range (max m 2)).map pw :=
  cyclicGroupG_of_first Cn v pw one hone hpw hstop _ fuel (by omega) hf
    (Or.inr ⟨m, hm, by omega⟩) fun j h2 hj => ⟨hne j h2, fun m' hm' => by rw [hm] at hm'; cases hm'; omega⟩

omit hone hpw in
/-- no power is one, no bound: the call never returns, whatever the fuel -/
theorem cyclicGroupG_noOne_unbounded (hne : ∀ j, 2 ≤ j → a ^ j ≠ 1) (hm : mx = none) (fuel : Nat) :
    cyclicGroupG mulAssign isOne one fuel g mx = none := by
  rw [cyclicGroupG_eq, cyclicTail_running, Option.map_none]
  intro j _ _
  rw [Bool.eq_false_iff, Ne, hstop j]
  rintro (h | ⟨m, hm', _⟩)
  · exact hne _ (by omega) h
  · rw [hm] at hm'; cases hm'

end cyc

theorem map_eq_of_forall₂ {α β γ : Type} {f : α → γ} {g : β → γ} : ∀ {l₁ : List α} {l₂ : List β},
    List.Forall₂ (fun a b => f a = g b) l₁ l₂ → l₁.map f = l₂.map g
  | _, _, .nil => rfl
  | _, _, .cons h t => by rw [List.map_cons, List.map_cons, h, map_eq_of_forall₂ t]

section batch
variable {α : Type} {L : Type} [Field L] (Cn : α → Prop) (mul : α → α → α) (isZero : α → Bool) (ψ : α → L)
  (hC : ∀ a b, Cn a → Cn b → Cn (mul a b))
  (hmul : ∀ a b, Cn a → Cn b → ψ (mul a b) = ψ a * ψ b)
  (hzero : ∀ a, Cn a → (ψ a = 0 ↔ isZero a = true))

theorem batchPrefixG_zero : ∀ (l : List α) (acc : α), (∃ x ∈ l, isZero x = true) → batchPrefixG mul isZero l acc = none
  | [], _, h => by obtain ⟨_, h, _⟩ := h; cases h
  | y :: ys, acc, h => by
    rw [batchPrefixG]
    by_cases hy : isZero y = true
    · rw [if_pos hy]
    · obtain ⟨x, hx, hz⟩ := h
      rcases List.mem_cons.1 hx with rfl | hx
      · exact absurd hz hy
      · rw [if_neg hy, batchPrefixG_zero ys _ ⟨x, hx, hz⟩]

theorem batchInversionG_zero (inverse : α → Option α) (one : α) (xs : List α) (h : ∃ x ∈ xs, isZero x = true) :
    batchInversionG mul isZero inverse one xs = none := by
  cases xs with
  | nil => obtain ⟨_, h, _⟩ := h; cases h
  | cons x xs => unfold batchInversionG; simp only [batchPrefixG_zero mul isZero _ _ h]

include hC hmul

/-- both loops at once.  The first loop leaves the running products in `sc`; the second, run on the reversed lists with
    any accumulator `A` (and any lists `rxs`, `rsc` still to come), pushes results `r` with `ψ r · ψ x = ψ A · ψ acc · Π ψ xs`
    and leaves `A · Π xs`.  No inverse is mentioned, so no index has to be followed. -/
theorem batchLoops_spec : ∀ (xs : List α) (acc : α), Cn acc → (∀ x ∈ xs, Cn x ∧ isZero x = false) →
    ∃ sc fin, batchPrefixG mul isZero xs acc = some (sc, fin) ∧ Cn fin ∧ ψ fin = ψ acc * (xs.map ψ).prod ∧
      ∀ (rxs rsc : List α) (A : α) (out : List α), Cn A →
        ∃ A' rs, batchBackG mul (xs.reverse ++ rxs) (sc.reverse ++ rsc) A out = batchBackG mul rxs rsc A' (rs ++ out) ∧
          Cn A' ∧ ψ A' = ψ A * (xs.map ψ).prod ∧ (∀ r ∈ rs, Cn r) ∧
          List.Forall₂ (fun r x => ψ r * ψ x = ψ A * ψ acc * (xs.map ψ).prod) rs xs
  | [], acc, hacc, _ =>
    ⟨[], acc, rfl, hacc, by simp, fun rxs rsc A out hA => ⟨A, [], rfl, hA, by simp, by simp, List.Forall₂.nil⟩⟩
  | x :: xs, acc, hacc, h => by
    obtain ⟨hx, hxz⟩ := h x List.mem_cons_self
    obtain ⟨sc, fin, e, hfin, hprod, hback⟩ := batchLoops_spec xs (mul acc x) (hC _ _ hacc hx)
      (fun y hy => h y (List.mem_cons_of_mem _ hy))
    refine ⟨acc :: sc, fin, by rw [batchPrefixG, hxz, e]; rfl, hfin,
      by rw [hprod, hmul _ _ hacc hx, List.map_cons, List.prod_cons, mul_assoc], fun rxs rsc A out hA => ?_⟩
    obtain ⟨A', rs, hb, hA', hψA, hrs, hall⟩ := hback (x :: rxs) (acc :: rsc) A out hA
    refine ⟨mul A' x, mul A' acc :: rs, ?_, hC _ _ hA' hx, ?_, ?_, List.Forall₂.cons ?_ (hall.imp fun r y hr => ?_)⟩
    · rw [List.reverse_cons, List.reverse_cons, List.append_assoc, List.append_assoc, List.singleton_append,
        List.singleton_append, hb, batchBackG, List.cons_append]
    · rw [hmul _ _ hA' hx, hψA, List.map_cons, List.prod_cons]; ring
    · intro r hr
      rcases List.mem_cons.1 hr with rfl | hr
      · exact hC _ _ hA' hacc
      · exact hrs r hr
    · rw [hmul _ _ hA' hacc, hψA, List.map_cons, List.prod_cons]; ring
    · rw [hr, hmul _ _ hacc hx, List.map_cons, List.prod_cons]; ring

include hzero

/-- generic `batch_inversion`: if `inverse` inverts every non-zero canonical element, any vector of non-zero canonical
    elements is mapped to the vector of inverses -/
theorem batchInversionG_spec (inverse : α → Option α) (one : α) (hone : Cn one) (hψone : ψ one = 1)
    (hinv : ∀ a, Cn a → isZero a = false → ∃ r, inverse a = some r ∧ Cn r ∧ ψ r = (ψ a)⁻¹)
    (xs : List α) (h : ∀ x ∈ xs, Cn x ∧ isZero x = false) :
    ∃ rs, batchInversionG mul isZero inverse one xs = some rs ∧ (∀ r ∈ rs, Cn r) ∧
      rs.map ψ = xs.map (fun x => (ψ x)⁻¹) := by
  cases xs with
  | nil => exact ⟨[], rfl, by simp, by simp⟩
  | cons x xs =>
    have hnz (y : α) (hy : y ∈ x :: xs) : ψ y ≠ 0 := fun h0 => by
      have := (hzero y (h y hy).1).1 h0
      rw [(h y hy).2] at this; cases this
    have hpz : ((x :: xs).map ψ).prod ≠ 0 := fun hp => by
      obtain ⟨y, hy, hy0⟩ := List.mem_map.1 (List.prod_eq_zero_iff.1 hp)
      exact hnz y hy hy0
    obtain ⟨sc, fin, e, hfin, hprod, hback⟩ := batchLoops_spec Cn mul isZero ψ hC hmul (x :: xs) one hone h
    rw [hψone, one_mul] at hprod
    have hfin_nz : isZero fin = false := by
      rw [← Bool.not_eq_true, ← hzero fin hfin, hprod]; exact hpz
    obtain ⟨ai, hai, haic, haiv⟩ := hinv fin hfin hfin_nz
    obtain ⟨_, rs, hb, _, _, hrs, hall⟩ := hback [] [] ai [] haic
    rw [List.append_nil, List.append_nil, List.append_nil] at hb
    have hc : ψ ai * ψ one * ((x :: xs).map ψ).prod = 1 := by rw [haiv, hprod, hψone, mul_one, inv_mul_cancel₀ hpz]
    refine ⟨rs, ?_, hrs, ?_⟩
    · unfold batchInversionG
      simp only [e, hai]
      exact congrArg some hb
    · exact map_eq_of_forall₂ (hall.imp fun r y hr => eq_inv_of_mul_eq_one_left (hr.trans hc))

end batch

/-- `Sum`: a left fold of a canonical-closed, additive operation -/
theorem foldl_add_hom {α β : Type} [AddCommMonoid β] (Cn : α → Prop) (op : α → α → α) (ψ : α → β)
    (hop : ∀ a b, Cn a → Cn b → Cn (op a b) ∧ ψ (op a b) = ψ a + ψ b) :
    ∀ (xs : List α) (a : α), Cn a → (∀ x ∈ xs, Cn x) →
      Cn (xs.foldl op a) ∧ ψ (xs.foldl op a) = ψ a + (xs.map ψ).sum
  | [], a, ha, _ => ⟨ha, by rw [List.map_nil, List.sum_nil, add_zero]; rfl⟩
  | x :: xs, a, ha, h => by
    obtain ⟨h1, h2⟩ := hop a x ha (h x List.mem_cons_self)
    obtain ⟨hc, hv⟩ := foldl_add_hom Cn op ψ hop xs (op a x) h1 (fun y hy => h y (List.mem_cons_of_mem _ hy))
    exact ⟨hc, by rw [List.foldl_cons, hv, h2, List.map_cons, List.sum_cons, add_assoc]⟩

theorem beq_zero_false {x : Nat} : (x == BF.zero) = false ↔ x ≠ BF.zero := by
  rw [← Bool.not_eq_true, beq_iff_eq]

theorem batchPrefix_eq_G : ∀ (xs : List Nat) (acc : Nat),
    BF.batchPrefix xs acc = batchPrefixG bfe_mul (fun x => x == BF.zero) xs acc
  | [], acc => rfl
  | x :: xs, acc => by
    rw [BF.batchPrefix, batchPrefixG, batchPrefix_eq_G xs]
    split
    · rfl
    · cases batchPrefixG bfe_mul (fun x => x == BF.zero) xs (bfe_mul acc x) <;> rfl

theorem batchBack_eq_G : ∀ (xs ss : List Nat) (acc : Nat) (out : List Nat),
    BF.batchBack xs ss acc out = batchBackG bfe_mul xs ss acc out
  | [], _, _, _ => by simp [BF.batchBack, batchBackG]
  | _ :: _, [], _, _ => by simp [BF.batchBack, batchBackG]
  | x :: xs, s :: ss, acc, out => by rw [BF.batchBack, batchBackG, batchBack_eq_G xs ss]

/-- the base-field `batch_inversion` of the hand model is the generic one -/
theorem batchInversion_eq_G (xs : List Nat) :
    BF.batchInversion xs = batchInversionG bfe_mul (fun x => x == BF.zero) BF.inverse BF.one xs := by
  unfold BF.batchInversion batchInversionG
  cases xs with
  | nil => rfl
  | cons x xs =>
    simp only [batchPrefix_eq_G, batchBack_eq_G]
    cases batchPrefixG bfe_mul (fun x => x == BF.zero) (x :: xs) BF.one with
    | none => rfl
    | some r =>
      obtain ⟨sc, acc⟩ := r
      simp only []
      cases BF.inverse acc <;> rfl

/-- batch inversion: on any vector of non-zero elements the result is the element-wise inverse;
    it panics iff some element is zero (the empty vector gives the empty vector) -/
theorem batchInversion_spec (xs : List Nat) (h : ∀ x ∈ xs, canon x ∧ x ≠ BF.zero) :
    ∃ rs, BF.batchInversion xs = some rs ∧ (∀ r ∈ rs, canon r) ∧
      rs.map toF = xs.map (fun x => (toF x)⁻¹) := by
  rw [batchInversion_eq_G]
  exact batchInversionG_spec canon bfe_mul (fun x => x == BF.zero) toF canon_mul toF_mul
    (fun a ha => by rw [toF_eq_zero a ha, beq_iff_eq]) BF.inverse BF.one canon_one toF_one
    (fun a ha hz => toF_inverse a ha (beq_zero_false.1 hz)) xs fun x hx => ⟨(h x hx).1, beq_zero_false.2 (h x hx).2⟩

theorem batchInversion_zero (xs : List Nat) (h : BF.zero ∈ xs) : BF.batchInversion xs = none := by
  rw [batchInversion_eq_G]
  generalize BF.zero = z at h ⊢
  exact batchInversionG_zero _ _ _ _ xs ⟨z, h, beq_self_eq_true z⟩

abbrev bpw (g : Nat) : Nat → Nat := pwG bfe_mul_assign g

theorem bpw_spec (g : Nat) (hg : canon g) : ∀ n, canon (bpw g n) ∧ toF (bpw g n) = toF g ^ (n+1)
  | 0 => by rw [bpw, pwG_zero, Nat.zero_add, pow_one]; exact ⟨hg, rfl⟩
  | n+1 => by
    obtain ⟨hc, hv⟩ := bpw_spec g hg n
    rw [bpw, pwG_succ]
    refine ⟨canon_mul _ _ hc hg, ?_⟩
    rw [show bfe_mul_assign _ g = bfe_mul _ g from rfl, toF_mul _ _ hc hg, hv]
    exact (pow_succ _ _).symm

theorem is_one_iff (a : Nat) (ha : canon a) : bfe_is_one a = true ↔ toF a = 1 := by
  unfold bfe_is_one; rw [ONE_eq, beq_iff_eq]
  exact ⟨fun h => h ▸ toF_one, fun h => toF_inj a _ ha canon_one (h.trans toF_one.symm)⟩

theorem is_zero_iff (a : Nat) (ha : canon a) : bfe_is_zero a = true ↔ toF a = 0 := by
  unfold bfe_is_zero; rw [ZERO_eq, beq_iff_eq]
  exact (toF_eq_zero a ha).symm

theorem bstopIs (g : Nat) (hg : canon g) (mx : Option Nat) : StopIs bfe_mul_assign bfe_is_one g mx (toF g) := by
  intro n
  unfold stopG
  rw [Bool.or_eq_true, is_one_iff _ (bpw_spec g hg (n+1)).1, (bpw_spec g hg (n+1)).2]
  cases mx <;> simp

theorem orderOf_toF_pos (g : Nat) (hg : canon g) (hnz : g ≠ BF.zero) : 0 < orderOf (toF g) := by
  rw [orderOf_pos_iff, isOfFinOrder_iff_pow_eq_one]
  exact ⟨18446744069414584321 - 1, by norm_num, ZMod.pow_card_sub_one_eq_one fun h => hnz ((toF_eq_zero g hg).1 h)⟩

/-- `get_cyclic_group_elements` for a non-zero `g` of multiplicative order `k`: the loop returns
    `[1, g, ..., g^(L-1)]`, `L = max k 2` without a bound, `min (max k 2) (max m 2)` with the bound `m` -/
theorem cyclicGroup_order (g : Nat) (hg : canon g) (hnz : g ≠ BF.zero) (mx : Option Nat) (L fuel : Nat)
    (hL : L = TF.XK.cycLen (orderOf (toF g)) mx)
    (hf : L ≤ fuel + 1) :
    ∃ l, BF.cyclicGroup fuel g mx = some l ∧ (∀ x ∈ l, canon x) ∧ l.map toF = (List.range L).map (fun i => toF g ^ i) :=
  cyclicGroupG_order canon toF (fun i => toF g ^ i) bfe_one ⟨canon_one, toF_one.trans (pow_zero _).symm⟩ (bpw_spec g hg)
    (bstopIs g hg mx) (orderOf_toF_pos g hg hnz) L fuel hL hf

/-- zero: with a bound `m` the loop returns `max m 2` elements `1, 0, 0, …`; without a bound it never returns,
    whatever the fuel -/
theorem cyclicGroup_zero :
    (∀ m fuel, max m 2 ≤ fuel + 1 → ∃ l, BF.cyclicGroup fuel BF.zero (some m) = some l ∧ (∀ x ∈ l, canon x) ∧
      l.map toF = (List.range (max m 2)).map (fun i => toF BF.zero ^ i)) ∧
    ∀ fuel, BF.cyclicGroup fuel BF.zero none = none := by
  have hne : ∀ j, 2 ≤ j → toF BF.zero ^ j ≠ 1 := fun j hj => by
    rw [toF_zero, zero_pow (by omega)]; exact zero_ne_one
  refine ⟨fun m fuel hf => ?_, fun fuel => ?_⟩
  · exact cyclicGroupG_noOne_bounded canon toF _ bfe_one ⟨canon_one, toF_one.trans (pow_zero _).symm⟩
      (bpw_spec _ canon_zero) (bstopIs _ canon_zero _) hne m fuel rfl hf
  · exact cyclicGroupG_noOne_unbounded bfe_one (bstopIs _ canon_zero _) hne rfl fuel

theorem generator_val : canon bfe_generator ∧ bfe_value bfe_generator = 7 :=
  ⟨(new_spec 7 (by decide)).1, value_new 7 (by decide)⟩

theorem toF_generator : toF bfe_generator = 7 := toF_new 7 (by decide)

/-- 7 generates the multiplicative group: its order is `P - 1 = 2^32 · 3 · 5 · 17 · 257 · 65537` -/
theorem orderOf_seven : orderOf (7 : ZMod 18446744069414584321) = 18446744069414584321 - 1 :=
  orderOf_eq_of_pow_and_pow_div_prime (by norm_num) seven_pow_pred seven_pow_div

theorem sum_spec (xs : List Nat) (h : ∀ x ∈ xs, canon x) :
    canon (BF.sum xs) ∧ toF (BF.sum xs) = (xs.map toF).sum := by
  cases xs with
  | nil => exact ⟨canon_zero, toF_zero⟩
  | cons x xs =>
    exact foldl_add_hom canon bfe_add toF (fun a b ha hb => ⟨canon_add a b ha hb, toF_add a b ha hb⟩) xs x
      (h x List.mem_cons_self) (fun y hy => h y (List.mem_cons_of_mem _ hy))

theorem powerAccumulator_spec (m base tail : Nat) (hb : canon base) (ht : canon tail) :
    canon (BF.powerAccumulator m base tail) ∧
      toF (BF.powerAccumulator m base tail) = toF base ^ (2 ^ m) * toF tail := by
  have h := (IsPow.self hb).sqN m
  unfold BF.powerAccumulator
  exact ⟨canon_mul _ _ h.1 ht, by rw [toF_mul _ _ h.1 ht, h.2, Nat.one_mul]⟩

theorem lookup_mem : ∀ (l : List (Nat × Nat)) (n r : Nat), l.lookup n = some r → (n, r) ∈ l
  | [], _, _, h => by cases h
  | (k, v) :: rest, n, r, h => by
    rw [List.lookup_cons] at h
    split at h
    · next hk => cases h; rw [beq_iff_eq.1 hk]; exact List.mem_cons_self
    · exact List.mem_cons_of_mem _ (lookup_mem rest n r h)

/-- `primitive_root_of_unity(n) = Some(w)`: `w` is the canonical word of a table entry for `n`, and for `n ≥ 1` its
    multiplicative order is exactly `n` -/
theorem primitiveRoot_spec (n w : Nat) (h : BF.primitiveRoot n = some w) :
    ∃ r, (n, r) ∈ PRIMITIVE_ROOTS ∧ w = bfe_new r ∧ canon w ∧ (0 < n → orderOf (toF w) = n) := by
  obtain ⟨r, hl, rfl⟩ := Option.map_eq_some_iff.1 h
  have hm := lookup_mem _ _ _ hl
  have ht := TF.NttProofs.table_entries n r hm
  have hr : r < W := by
    rcases ht with ⟨_, h1⟩ | ⟨k, _, _, h1, _⟩
    · subst h1; decide
    · exact Nat.lt_trans h1 Pn_lt_W
  refine ⟨r, hm, rfl, (new_spec r hr).1, fun hn => ?_⟩
  rw [toF_new r hr]
  rcases ht with ⟨h0, _⟩ | ⟨k, _, rfl, _, hr'⟩
  · omega
  · by_cases hk0 : k = 0
    · subst hk0; rw [if_pos rfl] at hr'; subst hr'; simp
    · rw [if_neg hk0] at hr'
      exact TF.NttProofs.orderOf_of_half_pow _ k (by omega) (TF.NttProofs.cast_pow_eq_neg_one r _ hr')

end TF.BF
