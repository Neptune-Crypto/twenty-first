import TF.Proofs.MmrIndex
import TF.Proofs.MmrPeaks
import TF.Proofs.MmrMember
import TF.Model.MmrAcc
/-!
# C11: lemmas connecting the accumulator model (`TF/Model/MmrAcc.lean`) with the from-scratch peaks (`TF/Spec/MmrAcc.lean`)

The specification of `TF/Spec/MmrAcc.lean` (`peaks`, `authPath`) is the one of `TF/Spec/MmrE.lean` (`peaks`,
`authPathOf`): `peaks_eq`, `authPath_eq`.  The single mutation is proved over the latter in `TF/Proofs/MmrMember.lean`
and carried over.
-/
namespace TF.MmrAccP
open TF TF.Gen TF.Mmr TF.Spec.MmrAcc TF.Model.MmrAcc TF.MmrPeaks TF.Spec.Mmr

variable {D : Type} (H : D → D → D)

/-- on stacks that are long enough the model's merge loop (which can panic) is App. A.5's `mergeN` -/
theorem mergeLoop_eq (t : Nat) : ∀ (st ap : List D), t + 1 ≤ st.length →
    ∃ ap', mergeLoop H t st ap = some (mergeN H t st, ap') := by
  induction t with
  | zero => intro st ap _; exact ⟨ap, by simp [mergeLoop, mergeN]⟩
  | succ t ih =>
    intro st ap h
    match st, h with
    | new :: prev :: rest, h =>
      simp only [mergeLoop, mergeN]
      exact ih (H prev new :: rest) (ap ++ [prev]) (by simp at h ⊢; omega)

theorem mergeLoop_none (t : Nat) : ∀ (st ap : List D), st.length < t + 2 → mergeLoop H (t+1) st ap = none := by
  induction t with
  | zero =>
    intro st ap h
    match st with
    | [] => rfl
    | [_] => rfl
    | _ :: _ :: _ =>
      exfalso
      simp only [List.length_cons] at h
      omega
  | succ t ih =>
    intro st ap h
    match st with
    | [] => rfl
    | [_] => rfl
    | new :: prev :: rest =>
      simp only [mergeLoop]
      exact ih (H prev new :: rest) (ap ++ [prev]) (by simp at h ⊢; omega)

theorem calc_append_refines (n : Nat) (hn : n + 1 < 2^64) (f : Nat → D) :
    ∃ ap, calculate_new_peaks_from_append H n (peaks H n f) (f n) = some (peaks H (n+1) f, ap) := by
  have hr := (rll_leaf_spec n hn).1
  have hlen := peaks_length_ge H n f
  have hl : trailingOnes n + 1 ≤ (f n :: (peaks H n f).reverse).length := by
    rewrite [List.length_cons, List.length_reverse]; exact Nat.succ_le_succ hlen
  obtain ⟨ap, hm⟩ := mergeLoop_eq H (trailingOnes n) (f n :: (peaks H n f).reverse) [] hl
  refine ⟨ap, ?_⟩
  have := append_refines H n f
  unfold appendPeaks at this
  unfold calculate_new_peaks_from_append
  rewrite [hr]
  unfold appendWith
  rewrite [hm, Option.map_some, this]
  exact rfl

theorem append_refines_model (n : Nat) (hn : n + 1 < 2^64) (f : Nat → D) :
    ∃ ap, append H { leaf_count := n, peaks := peaks H n f } (f n)
      = some ({ leaf_count := n + 1, peaks := peaks H (n+1) f }, ap) := by
  obtain ⟨ap, h⟩ := calc_append_refines H n hn f
  refine ⟨ap, ?_⟩
  show (calculate_new_peaks_from_append H n (peaks H n f) (f n)).map
      (fun r => (({ leaf_count := TF.Model.Mmr.add64 n 1, peaks := r.1 } : Acc D), r.2)) = _
  rewrite [h, Option.map_some, MmrE.add64_succ n hn]
  exact rfl


theorem peaks_zero (f : Nat → D) : peaks H 0 f = [] := by unfold peaks; rfl

theorem foldlM_refines (step : Acc D → D → Option (Acc D)) (f : Nat → D) (n : Nat)
    (hstep : ∀ k, k < n → step { leaf_count := k, peaks := peaks H k f } (f k)
        = some { leaf_count := k + 1, peaks := peaks H (k+1) f }) :
    List.foldlM step ({ leaf_count := 0, peaks := peaks H 0 f } : Acc D) ((List.range n).map f)
      = some { leaf_count := n, peaks := peaks H n f } := by
  induction n with
  | zero => rfl
  | succ n ih =>
    have ih' := ih (fun k hk => hstep k (Nat.lt_succ_of_lt hk))
    rewrite [List.range_succ, List.map_append, List.foldlM_append, ih']
    simp only [Option.bind_eq_bind, Option.bind_some, List.map_cons, List.map_nil, List.foldlM_cons,
      List.foldlM_nil, hstep n (Nat.lt_succ_self n)]
    rfl

theorem append_fst_refines (n : Nat) (hn : n + 1 < 2^64) (f : Nat → D) :
    (append H { leaf_count := n, peaks := peaks H n f } (f n)).map Prod.fst
      = some { leaf_count := n + 1, peaks := peaks H (n+1) f } := by
  obtain ⟨ap, ha⟩ := append_refines_model H n hn f
  rewrite [ha, Option.map_some]
  exact rfl

theorem new_from_leafs_range (n : Nat) (hn : n < 2^64) (f : Nat → D) :
    new_from_leafs H ((List.range n).map f) = some { leaf_count := n, peaks := peaks H n f } := by
  have := foldlM_refines H (fun a d => (append H a d).map Prod.fst) f n
    (fun k hk => append_fst_refines H k (Nat.lt_of_le_of_lt (Nat.succ_le_of_lt hk) hn) f)
  rewrite [peaks_zero] at this
  exact this

theorem root_pair (f : Nat → D) (h : Nat) : ∀ s, root H f (h+1) (2*s) = root H (pair H f) h s := by
  induction h with
  | zero => intro s; simp [root, pair]
  | succ h ih =>
    intro s
    have e : 2 * s + 2 ^ (h+1) = 2 * (s + 2^h) := by rw [Nat.pow_succ]; omega
    rw [root, ih s, e, ih (s + 2^h)]
    rfl

/-- one level of the low-bit recursion on the direct definition -/
theorem peaksDirectAux_pair (f : Nat → D) (h : Nat) : ∀ n s,
    peaksDirectAux H f (h+1) n (2*s) =
      peaksDirectAux H (pair H f) h (n/2) s ++ (if n % 2 = 1 then [f (2*s + 2*((n/2) % 2^h))] else []) := by
  induction h with
  | zero =>
    intro n s
    simp [peaksDirectAux, root, Nat.mod_one]
  | succ h ih =>
    intro n s
    have eb : n / 2^(h+1) = n / 2 / 2^h := by rw [Nat.div_div_eq_div_mul, Nat.pow_succ, Nat.mul_comm]
    have e : 2 * s + 2 ^ (h+1) = 2 * (s + 2^h) := by rw [Nat.pow_succ]; omega
    have hm := Nat.div_add_mod (n/2) (2^h)
    have hm2 := Nat.div_add_mod (n/2/2^h) 2
    have hmm : (n/2) % 2^(h+1) = 2^h * ((n/2/2^h) % 2) + (n/2) % 2^h := by
      rw [Nat.pow_succ, Nat.mod_mul]; omega
    have eL : peaksDirectAux H f (h+1+1) n (2*s) =
        if n / 2^(h+1) % 2 = 1 then root H f (h+1) (2*s) :: peaksDirectAux H f (h+1) n (2*s + 2^(h+1))
        else peaksDirectAux H f (h+1) n (2*s) := rfl
    have eR : peaksDirectAux H (pair H f) (h+1) (n/2) s =
        if n / 2 / 2^h % 2 = 1 then root H (pair H f) h s :: peaksDirectAux H (pair H f) h (n/2) (s + 2^h)
        else peaksDirectAux H (pair H f) h (n/2) s := rfl
    rw [eL, eR, eb]
    by_cases hb : n / 2 / 2^h % 2 = 1
    · rw [if_pos hb, if_pos hb, e, ih n (s + 2^h), root_pair]
      have : 2 * (s + 2^h) + 2 * (n / 2 % 2^h) = 2 * s + 2 * (n / 2 % 2^(h+1)) := by
        rw [hmm, hb]; omega
      rw [this]; simp
    · rw [if_neg hb, if_neg hb, ih n s]
      have hb0 : n / 2 / 2^h % 2 = 0 := by omega
      have : n / 2 % 2^h = n / 2 % 2^(h+1) := by rw [hmm, hb0]; omega
      rw [this]

theorem peaksDirectAux_zero (f : Nat → D) (h : Nat) : ∀ s, peaksDirectAux H f h 0 s = [] := by
  induction h with
  | zero => intro s; rfl
  | succ h ih => intro s; simp [peaksDirectAux, ih]

/-- `peaks` walks over the same trees as the direct definition, for any bound `h` on the number of bits -/
theorem peaks_eq_peaksDirectAux (h : Nat) : ∀ (n : Nat) (f : Nat → D), n < 2^h →
    peaks H n f = peaksDirectAux H f h n 0 := by
  induction h with
  | zero =>
    intro n f hn
    have : n = 0 := by simpa using hn
    subst this; simp [peaks, peaksDirectAux]
  | succ h ih =>
    intro n f hn
    cases n with
    | zero => rw [peaksDirectAux_zero]; simp [peaks]
    | succ n =>
      have hlt : (n+1)/2 < 2^h := by rw [Nat.pow_succ] at hn; omega
      have := peaksDirectAux_pair H f h (n+1) 0
      simp only [Nat.mul_zero, Nat.zero_add] at this
      rw [peaks, this, ih ((n+1)/2) (pair H f) hlt, Nat.mod_eq_of_lt hlt]
      by_cases ho : (n+1) % 2 = 1
      · have : 2 * ((n+1)/2) = n := by omega
        rw [if_pos ho, if_pos ho, this]
      · rw [if_neg ho, if_neg ho]

theorem foldl_bag_aux (z : D) : ∀ (rest t : List D), t ≠ [] →
    rest.foldl (fun acc peak => H peak acc) (bagSpec H z t) = bagSpec H z (rest.reverse ++ t) := by
  intro rest
  induction rest with
  | nil => intro t _; rfl
  | cons r rs ih =>
    intro t ht
    cases t with
    | nil => exact absurd rfl ht
    | cons a as =>
      have h1 : H r (bagSpec H z (a :: as)) = bagSpec H z (r :: a :: as) := rfl
      rw [List.foldl_cons, h1, ih (r :: a :: as) (by simp), List.reverse_cons, List.append_assoc]
      rfl

theorem bag_peaks_eq (z : D) (ps : List D) : bag_peaks H z ps = bagSpec H z ps := by
  unfold bag_peaks
  cases h : ps.reverse with
  | nil =>
    have : ps = [] := by simpa using h
    subst this; rfl
  | cons last t =>
    cases t with
    | nil =>
      have : ps = [last] := by simpa using congrArg List.reverse h
      subst this; rfl
    | cons q rest =>
      have : ps = rest.reverse ++ [q, last] := by simpa using congrArg List.reverse h
      subst this
      exact foldl_bag_aux H z rest [q, last] (by simp)

theorem allUnique_false_of_dup : ∀ (l : List Nat) (i j : Nat) (hi : i < l.length) (hj : j < l.length),
    i ≠ j → l[i] = l[j] → allUnique l = false := by
  intro l
  induction l with
  | nil => intro i j hi; simp at hi
  | cons x xs ih =>
    intro i j hi hj hne heq
    unfold allUnique
    cases i with
    | zero =>
      cases j with
      | zero => exact absurd rfl hne
      | succ j =>
        simp only [List.getElem_cons_zero, List.getElem_cons_succ] at heq
        have : xs.contains x = true := by
          rw [List.contains_iff_mem, heq]; exact List.getElem_mem _
        rw [this]; rfl
    | succ i =>
      cases j with
      | zero =>
        simp only [List.getElem_cons_zero, List.getElem_cons_succ] at heq
        have : xs.contains x = true := by
          rw [List.contains_iff_mem, ← heq]; exact List.getElem_mem _
        rw [this]; rfl
      | succ j =>
        simp only [List.getElem_cons_succ] at heq
        have := ih i j (by simpa using hi) (by simpa using hj) (by omega) heq
        simp [this]

theorem peaks_eq (n : Nat) : ∀ f : Nat → D, Spec.MmrAcc.peaks H n f = Spec.MmrE.peaks H n f := by
  induction n using Nat.strongRecOn with
  | _ n ih =>
    intro f
    cases n with
    | zero => rw [Spec.MmrAcc.peaks, Spec.MmrE.peaks]
    | succ n =>
      rw [Spec.MmrAcc.peaks, Spec.MmrE.peaks, ih ((n + 1) / 2) (by omega)]
      rfl


theorem authPathAux_of_leafPos (f : Nat → D) (n i : Nat) : ∀ (K s k h j k' : Nat), s ≤ i →
    leafPos K n i s k = some (h, j, k') →
    authPathAux H f K n s i = some (treePath H f h (i - j) j) := by
  intro K
  induction K with
  | zero => intro s k h j k' _ hl; simp [leafPos] at hl
  | succ K ih =>
    intro s k h j k' hsi hl
    unfold leafPos at hl
    unfold authPathAux
    by_cases hb : n / 2^K % 2 = 1
    · rw [if_pos hb] at hl
      rw [if_pos hb]
      by_cases hlt : i < s + 2^K
      · rw [if_pos hlt] at hl
        simp only [Option.some.injEq, Prod.mk.injEq] at hl
        obtain ⟨rfl, rfl, rfl⟩ := hl
        have e : i - (i - s) = s := by omega
        rw [if_pos hlt, e]
      · rw [if_neg hlt] at hl
        rw [if_neg hlt]
        exact ih (s + 2^K) (k+1) h j k' (by omega) hl
    · rw [if_neg hb] at hl
      rw [if_neg hb]
      exact ih s k h j k' hsi hl

theorem root_eq_sub (f : Nat → D) : ∀ (l j : Nat), Spec.MmrAcc.root H f l (j * 2 ^ l) = Spec.MmrE.sub H f l j := by
  intro l
  induction l with
  | zero => intro j; simp [Spec.MmrAcc.root, Spec.MmrE.sub]
  | succ l ih =>
    intro j
    have e1 : j * 2 ^ (l + 1) = (2 * j) * 2 ^ l := by rw [Nat.pow_succ]; ring
    have e2 : j * 2 ^ (l + 1) + 2 ^ l = (2 * j + 1) * 2 ^ l := by rw [Nat.pow_succ]; ring
    rw [Spec.MmrAcc.root, Spec.MmrE.sub, e2, e1, ih, ih]

theorem treePath_eq_sibPath (f : Nat → D) : ∀ (h c j : Nat), j < 2 ^ h →
    Spec.MmrAcc.treePath H f h (c * 2 ^ h) j = Spec.MmrE.sibPath H f 0 h (c * 2 ^ h + j) := by
  intro h
  induction h with
  | zero => intro c j _; simp [Spec.MmrAcc.treePath, Spec.MmrE.sibPath]
  | succ h ih =>
    intro c j hj
    have hp : 2 ^ (h + 1) = 2 * 2 ^ h := by rw [Nat.pow_succ]; omega
    have hpos : 0 < 2 ^ h := Nat.pow_pos (by omega)
    have e1 : c * 2 ^ (h + 1) = (2 * c) * 2 ^ h := by rw [Nat.pow_succ]; ring
    have e2 : c * 2 ^ (h + 1) + 2 ^ h = (2 * c + 1) * 2 ^ h := by rw [Nat.pow_succ]; ring
    rw [Spec.MmrAcc.treePath, MmrE.sibPath_split H f h 1 0 (c * 2 ^ (h + 1) + j)]
    simp only [Spec.MmrE.sibPath, Nat.zero_add]
    by_cases hlt : j < 2 ^ h
    · rw [if_pos hlt, e2, root_eq_sub, e1, ih (2 * c) j hlt]
      have hd : (2 * c * 2 ^ h + j) / 2 ^ h = 2 * c := by
        rw [Nat.mul_comm (2 * c), Nat.mul_add_div hpos, Nat.div_eq_of_lt hlt]; rfl
      have hs : Spec.MmrE.sibBlk (2 * c) = 2 * c + 1 := by unfold Spec.MmrE.sibBlk; rw [if_pos (by omega)]
      rw [hd, hs]
    · rw [if_neg hlt, e2, e1, root_eq_sub, ih (2 * c + 1) (j - 2 ^ h) (by omega)]
      have e3 : (2 * c + 1) * 2 ^ h + (j - 2 ^ h) = 2 * c * 2 ^ h + j := by
        have : (2 * c + 1) * 2 ^ h = 2 * c * 2 ^ h + 2 ^ h := by ring
        omega
      have hd : (2 * c * 2 ^ h + j) / 2 ^ h = 2 * c + 1 := by
        rw [← e3, Nat.mul_comm (2 * c + 1), Nat.mul_add_div hpos, Nat.div_eq_of_lt (by omega)]
      have hs : Spec.MmrE.sibBlk (2 * c + 1) = 2 * c := by unfold Spec.MmrE.sibBlk; rw [if_neg (by omega)]; rfl
      rw [e3, hd, hs]

theorem authPath_eq (f : Nat → D) (n i : Nat) (hin : i < n) :
    Spec.MmrAcc.authPath H n f i = some (Spec.MmrE.authPathOf H f n i) := by
  have hnK := MmrE.lt_two_pow_log2_succ n
  have hl := TF.Mmr.leafPos_closed (Nat.log2 n + 1) n i hin hnK
  have hpath := authPathAux_of_leafPos H f n i _ 0 0 _ _ _ (Nat.zero_le _) hl
  unfold Spec.MmrAcc.authPath
  rw [hpath]
  have hloc : (Spec.MmrE.locate n i).1 = (i ^^^ n).log2 := by rw [MmrE.locate_eq_ideal n i hin]; rfl
  unfold Spec.MmrE.authPathOf
  rw [hloc]
  generalize (i ^^^ n).log2 = h
  have hpos : 0 < 2 ^ h := Nat.pow_pos (by omega)
  have hdm := Nat.div_add_mod i (2 ^ h)
  have e : i - i % 2 ^ h = (i / 2 ^ h) * 2 ^ h := by rw [Nat.mul_comm]; omega
  rw [e, treePath_eq_sibPath H f h (i / 2 ^ h) (i % 2 ^ h) (Nat.mod_lt _ hpos)]
  congr 2
  rw [Nat.mul_comm]; omega

theorem update_eq (f : Nat → D) (i : Nat) (x : D) : Spec.MmrAcc.update f i x = Function.update f i x := by
  funext k
  unfold Spec.MmrAcc.update
  by_cases h : k = i
  · subst h; simp
  · simp [h]


/-- the `while acc_mt_index != 1` loops of the two models: the one of `TF/Model/MmrAccE.lean` has fuel -/
theorem foldPath_eq_foldMt : ∀ (ap : List D) (fuel mt : Nat) (acc : D), ap.length < fuel →
    foldPath H mt acc ap = Model.MmrE.foldMt H fuel mt acc ap := by
  intro ap
  induction ap with
  | nil =>
    intro fuel mt acc hf
    obtain ⟨f, rfl⟩ : ∃ f, fuel = f + 1 := ⟨fuel - 1, by simp at hf; omega⟩
    rfl
  | cons a rest ih =>
    intro fuel mt acc hf
    obtain ⟨f, rfl⟩ : ∃ f, fuel = f + 1 := ⟨fuel - 1, by simp at hf; omega⟩
    rw [foldPath, Model.MmrE.foldMt, ih f (mt / 2) _ (by simpa using hf)]
    rcases Nat.mod_two_eq_zero_or_one mt with h | h <;> simp [h]

theorem calc_mutation_spec (g : Nat → D) (n i : Nat) (x : D) (hi : i < n) (hn : n < 2 ^ 64) :
    calculate_new_peaks_from_leaf_mutation H (Spec.MmrE.peaks H n g) n x i (Spec.MmrE.authPathOf H g n i)
      = some (Spec.MmrE.peaks H n (Function.update g i x)) := by
  have h := MmrE.calcMutation_spec H g n i x hi hn
  have hlen : (Spec.MmrE.authPathOf H g n i).length < Model.Mmr.descentFuel := by
    unfold Spec.MmrE.authPathOf
    rw [MmrE.sibPath_length]
    have := MmrE.height_lt_64 n i hi hn
    unfold Model.Mmr.descentFuel; omega
  unfold Model.MmrE.calculateNewPeaksFromLeafMutation at h
  unfold calculate_new_peaks_from_leaf_mutation mutateWith setAt?
  rw [if_pos hi, foldPath_eq_foldMt H _ _ _ _ hlen]
  simpa [hi] using h

theorem mutate_leaf_refines_model (f : Nat → D) (x : D) (n i : Nat) (hin : i < n) (hn : n < 2^64) (ap : List D)
    (hap : authPath H n f i = some ap) :
    mutate_leaf H { leaf_count := n, peaks := peaks H n f } { leaf_index := i, new_leaf := x, auth := ap }
      = some { leaf_count := n, peaks := peaks H n (update f i x) } := by
  rw [authPath_eq H f n i hin] at hap
  obtain rfl := Option.some.inj hap
  unfold mutate_leaf
  simp only
  rw [peaks_eq, peaks_eq, update_eq, calc_mutation_spec H f n i x hin hn]
  rfl

theorem peaks_congr (n : Nat) (f g : Nat → D) (h : ∀ m, m < n → f m = g m) : peaks H n f = peaks H n g := by
  rw [peaks_eq, peaks_eq]
  exact MmrE.peaks_congr H n f g h

inductive Op (D : Type) where
  | append (x : D)
  | mutate (i : Nat) (x : D)

def specStep (st : Nat × (Nat → D)) : Op D → Nat × (Nat → D)
  | .append x => (st.1 + 1, update st.2 st.1 x)
  | .mutate i x => (st.1, update st.2 i x)

def specRun (st : Nat × (Nat → D)) (ops : List (Op D)) : Nat × (Nat → D) := ops.foldl specStep st

def opOk (n : Nat) : Op D → Prop
  | .append _ => n + 1 < 2^64
  | .mutate i _ => i < n ∧ n < 2^64

def nextCount (n : Nat) : Op D → Nat
  | .append _ => n + 1
  | .mutate _ _ => n

def histOk : (n : Nat) → List (Op D) → Prop
  | _, [] => True
  | n, op :: rest => opOk n op ∧ histOk (nextCount n op) rest

/-- one step of the accumulator; a mutation is carried out with the from-scratch membership proof of the leaf
    in the current leaf list -/
def modelStep (st : Nat × (Nat → D)) (a : Acc D) : Op D → Option (Acc D)
  | .append x => (append H a x).map Prod.fst
  | .mutate i x =>
    match authPath H st.1 st.2 i with
    | some ap => mutate_leaf H a { leaf_index := i, new_leaf := x, auth := ap }
    | none => none

def modelRun : (st : Nat × (Nat → D)) → (a : Acc D) → List (Op D) → Option (Acc D)
  | _, a, [] => some a
  | st, a, op :: rest =>
    match modelStep H st a op with
    | some a' => modelRun (specStep st op) a' rest
    | none => none

theorem specStep_count (n : Nat) (f : Nat → D) (op : Op D) : (specStep (n, f) op).1 = nextCount n op := by
  cases op <;> rfl

theorem authPath_isSome (f : Nat → D) (n i : Nat) (hin : i < n) : ∃ ap, authPath H n f i = some ap :=
  ⟨_, authPath_eq H f n i hin⟩

theorem modelStep_refines (n : Nat) (f : Nat → D) (op : Op D) (hok : opOk n op) :
    modelStep H (n, f) { leaf_count := n, peaks := peaks H n f } op
      = some { leaf_count := (specStep (n, f) op).1, peaks := peaks H (specStep (n, f) op).1 (specStep (n, f) op).2 } := by
  cases op with
  | append x =>
    have h1 : peaks H n f = peaks H n (update f n x) :=
      peaks_congr H n f (update f n x) (fun m hm => by unfold update; rw [if_neg (by omega)])
    have h2 : update f n x n = x := by unfold update; rw [if_pos rfl]
    have := append_fst_refines H n hok (update f n x)
    rw [← h1, h2] at this
    exact this
  | mutate i x =>
    obtain ⟨hin, hn⟩ := hok
    obtain ⟨ap, hap⟩ := authPath_isSome H f n i hin
    show (match authPath H n f i with
      | some ap => mutate_leaf H _ { leaf_index := i, new_leaf := x, auth := ap }
      | none => none) = _
    rw [hap]
    exact mutate_leaf_refines_model H f x n i hin hn ap hap

theorem history_refines_model : ∀ (ops : List (Op D)) (n : Nat) (f : Nat → D), histOk n ops →
    modelRun H (n, f) { leaf_count := n, peaks := peaks H n f } ops
      = some { leaf_count := (specRun (n, f) ops).1, peaks := peaks H (specRun (n, f) ops).1 (specRun (n, f) ops).2 } := by
  intro ops
  induction ops with
  | nil => intro n f _; rfl
  | cons op rest ih =>
    intro n f hok
    obtain ⟨h1, h2⟩ := hok
    unfold modelRun
    rw [modelStep_refines H n f op h1]
    rw [← specStep_count n f op] at h2
    exact ih (specStep (n, f) op).1 (specStep (n, f) op).2 h2

theorem verify_false_of_not_unique [BEq D] (a : Acc D) (np app : List D) (muts : List (LeafMutation D))
    (h : allUnique (muts.map (·.leaf_index)) = false) : verify_batch_update H a np app muts = some false := by
  unfold verify_batch_update
  simp only [h, Bool.not_false, if_true]

theorem verify_false_of_oob [BEq D] (a : Acc D) (np app : List D) (muts : List (LeafMutation D))
    (m : LeafMutation D) (hm : m ∈ muts) (hoob : a.leaf_count ≤ m.leaf_index) :
    verify_batch_update H a np app muts = some false := by
  unfold verify_batch_update
  by_cases hu : allUnique (muts.map (·.leaf_index)) = true
  · have hne : (muts.map (·.leaf_index)).isEmpty = false := by
      cases muts with
      | nil => simp at hm
      | cons _ _ => rfl
    have hany : (muts.map (·.leaf_index)).any (· ≥ a.leaf_count) = true := by
      rw [List.any_eq_true]
      exact ⟨m.leaf_index, List.mem_map.mpr ⟨m, hm, rfl⟩, by simpa using hoob⟩
    simp only [hu, hne, hany, Bool.not_true, Bool.not_false, Bool.and_true, Bool.or_true, if_true]
    rfl
  · have : allUnique (muts.map (·.leaf_index)) = false := by simpa using hu
    simp only [this, Bool.not_false, if_true]

theorem batch_empty [BEq D] (a : Acc D) :
    batch_mutate_leaf_and_update_mps H a [] [] [] = some (a, [], []) := by
  cases a; rfl

theorem verify_no_mutations [BEq D] (a : Acc D) (np apps : List D) :
    verify_batch_update H a np apps [] =
      (verifyAppendLoop H apps a.leaf_count a.peaks).map fun peaks2 => peaks2 == np := by
  unfold verify_batch_update
  cases h : a.is_empty <;> rfl

theorem verifyAppendLoop_one (n : Nat) (ps : List D) (x : D) :
    verifyAppendLoop H [x] n ps = (calculate_new_peaks_from_append H n ps x).bind fun r => some r.1 := rfl

theorem verify_one_append [BEq D] (n : Nat) (hn : n + 1 < 2^64) (f : Nat → D) (np : List D) :
    verify_batch_update H { leaf_count := n, peaks := peaks H n f } np [f n] []
      = some (peaks H (n+1) f == np) := by
  obtain ⟨ap, h⟩ := calc_append_refines H n hn f
  rewrite [verify_no_mutations, verifyAppendLoop_one]
  show ((calculate_new_peaks_from_append H n (peaks H n f) (f n)).bind fun r => some r.1).map _ = _
  rewrite [h]
  rfl

end TF.MmrAccP
