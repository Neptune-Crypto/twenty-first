import TF.Proofs.MmrDigests
import TF.Proofs.MmrNodeIndex
import TF.Proofs.MmrForest
/-!
What an append does, in block coordinates (used by the append update routines of C05 and by the successor proofs of
C12): the new leaf `n` and its `trailingOnes n` new ancestors are the blocks `(k, n / 2^k)` with consecutive node
indices; the peaks are the blocks `(j, n / 2^j − 1)` for the set bits `j` of `n`.  `node_indices_added_by_append` and
`get_peak_heights_and_peak_node_indices` in `nodeIdx` form.
-/
namespace TF.MmrE.UpdAppend
open TF TF.Gen TF.Model.Mmr TF.Model.MmrE TF.Spec.MmrE

theorem trailingOnes_bit_lt : ∀ (k n : Nat), k < trailingOnes n → n / 2 ^ k % 2 = 1 := by
  intro k
  induction k with
  | zero =>
    intro n h
    have := (trailingOnes_ne_zero_iff n).mp (by omega)
    simpa using this
  | succ k ih =>
    intro n h
    have hodd : n % 2 = 1 := (trailingOnes_ne_zero_iff n).mp (by omega)
    rw [TF.Mmr.trailingOnes_odd n hodd] at h
    rw [div_pow_succ']
    exact ih (n / 2) (by omega)

theorem trailingOnes_bit_eq : ∀ n : Nat, n / 2 ^ trailingOnes n % 2 = 0 := by
  intro n
  induction n using Nat.strongRecOn with
  | _ n ih =>
    by_cases h : n % 2 = 1
    · rw [TF.Mmr.trailingOnes_odd n h, div_pow_succ']
      exact ih (n / 2) (by omega)
    · rw [TF.Mmr.trailingOnes_even n (by omega)]
      simp; omega

/-- where leaf `i` sits: above bit `h` the leaf index and the leaf count agree, bit `h` of the count is set, of the
    index clear -/
theorem locate_bits (n i : Nat) (hlt : i < n) :
    i / 2 ^ ((locate n i).1 + 1) = n / 2 ^ ((locate n i).1 + 1) ∧ n / 2 ^ (locate n i).1 % 2 = 1 ∧
      i / 2 ^ (locate n i).1 % 2 = 0 := by
  rw [locate_eq_ideal n i hlt]
  exact TF.Mmr.xor_log2_facts i n hlt

theorem nodeIdx_zero (n : Nat) : nodeIdx 0 n = TF.Mmr.nodesOf n + 1 := by
  have := nodeIdx_eq 0 n
  have := TF.Mmr.popCount_le n
  unfold TF.Mmr.nodesOf
  omega

/-- the right spine above the new leaf `n`: consecutive node indices -/
theorem nodeIdx_spine (n : Nat) : ∀ k, k ≤ trailingOnes n → nodeIdx k (n / 2 ^ k) = TF.Mmr.nodesOf n + 1 + k := by
  intro k
  induction k with
  | zero => intro _; simpa using nodeIdx_zero n
  | succ k ih =>
    intro hk
    have hbit := trailingOnes_bit_lt k n (by omega)
    have e : n / 2 ^ k = 2 * (n / 2 ^ (k + 1)) + 1 := by rw [div_pow_succ]; omega
    have := nodeIdx_right k (n / 2 ^ (k + 1))
    rw [← e] at this
    rw [this, ih (by omega)]
    omega

theorem spine_lt (n k : Nat) (hn : n + 1 < 2 ^ 63) (hk : k ≤ trailingOnes n) : nodeIdx k (n / 2 ^ k) < 2 ^ 64 := by
  rw [nodeIdx_spine n k hk]
  have := TF.Mmr.nodesOf_succ n
  have := TF.Mmr.nodesOf_le (n + 1)
  omega

/-- **`node_indices_added_by_append`**: the new leaf and its new ancestors -/
theorem added_nodeIdx (n : Nat) (hn : n < 2 ^ 63) :
    node_indices_added_by_append n
      = some ((List.range (trailingOnes n + 1)).map fun k => nodeIdx k (n / 2 ^ k)) := by
  rw [TF.Mmr.added_spec n hn]
  congr 1
  apply List.map_congr_left
  intro k hk
  rw [nodeIdx_spine n k (by have := List.mem_range.mp hk; omega)]

theorem mem_bitsBelow (n : Nat) : ∀ K j, j ∈ TF.Spec.Mmr.bitsBelow K n ↔ j < K ∧ n / 2 ^ j % 2 = 1 := by
  intro K
  induction K with
  | zero => intro j; simp [TF.Spec.Mmr.bitsBelow]
  | succ K ih =>
    intro j
    rw [TF.Mmr.bitsBelow_succ]
    by_cases hb : n / 2 ^ K % 2 = 1
    · rw [if_pos hb, List.mem_cons, ih]
      constructor
      · rintro (rfl | ⟨h1, h2⟩)
        · exact ⟨by omega, hb⟩
        · exact ⟨by omega, h2⟩
      · rintro ⟨h1, h2⟩
        by_cases hj : j = K
        · exact Or.inl hj
        · exact Or.inr ⟨by omega, h2⟩
    · rw [if_neg hb, ih]
      constructor
      · rintro ⟨h1, h2⟩; exact ⟨by omega, h2⟩
      · rintro ⟨h1, h2⟩
        have : j ≠ K := by rintro rfl; exact hb h2
        exact ⟨by omega, h2⟩

/-- **`get_peak_heights_and_peak_node_indices`**, node indices in `nodeIdx` form: the peak of height `j` (a set bit of
    `n`) is the block `n / 2^j − 1` of level `j` -/
theorem peak_indices_nodeIdx (n : Nat) (hn : n < 2 ^ 63) :
    get_peak_heights_and_peak_node_indices n
      = some (TF.Spec.Mmr.bitsBelow 64 n, (TF.Spec.Mmr.bitsBelow 64 n).map fun j => nodeIdx j (n / 2 ^ j - 1)) := by
  have h64 : n < 2 ^ 64 := by omega
  rw [TF.Mmr.forest_peaks n hn, (TF.Mmr.forest_shape n h64).2.2, TF.Mmr.forest_peak_idxs n h64]
  refine congrArg some (Prod.ext rfl (List.map_congr_left fun j hj => ?_))
  have hbit := ((mem_bitsBelow n 64 j).mp hj).2
  rw [div_pow_succ]
  congr 1
  omega

theorem bitsBelow_peakBlk : ∀ (K n : Nat), n < 2 ^ K → peakBlk n = (TF.Spec.Mmr.bitsBelow K n).map (fun j => (j, n / 2 ^ j - 1)) := by
  intro K
  induction K with
  | zero => intro n hn; have : n = 0 := by simpa using hn
            subst this; simp [peakBlk_zero, TF.Spec.Mmr.bitsBelow]
  | succ K ih =>
    intro n hn
    by_cases h0 : n = 0
    · subst h0; simp [peakBlk_zero, TF.Mmr.bitsBelow_zero_n]
    · have hn2 : n / 2 < 2 ^ K := by rw [Nat.pow_succ] at hn; omega
      rw [peakBlk_unfold n h0, TF.Mmr.bitsBelow_low, ih (n / 2) hn2, List.map_append, List.map_map, List.map_map]
      congr 1
      · apply List.map_congr_left
        intro j _
        simp only [Function.comp]
        rw [Nat.div_div_eq_div_mul, ← Nat.pow_succ']
      · by_cases h : n % 2 = 1
        · simp [h]
        · simp [h]

section
variable {D : Type} (H : D → D → D)

theorem peaks_bitsBelow (n K : Nat) (f : Nat → D) (hK : n < 2 ^ K) :
    peaks H n f = (TF.Spec.Mmr.bitsBelow K n).map fun j => sub H f j (n / 2 ^ j - 1) := by
  rw [← dpeaks_sub, dpeaks, dgs, bitsBelow_peakBlk K n hK, List.map_map]
  rfl

/-- the lowest `trailingOnes n` peaks (the ones an append merges), lowest first -/
theorem peaks_reverse_low : ∀ (n : Nat) (f : Nat → D), ∃ rest,
    (peaks H n f).reverse = (List.range (trailingOnes n)).map (fun k => sub H f k (n / 2 ^ k - 1)) ++ rest := by
  intro n
  induction n using Nat.strongRecOn with
  | _ n ih =>
    intro f
    by_cases h : n % 2 = 1
    · obtain ⟨rest, hr⟩ := ih (n / 2) (by omega) (pair H f)
      refine ⟨rest, ?_⟩
      rw [peaks_unfold H n f (by omega), TF.Mmr.trailingOnes_odd n h, List.reverse_append, hr,
        List.range_succ_eq_map, List.map_cons, List.map_map]
      simp only [h, if_true, List.reverse_cons, List.reverse_nil, List.nil_append,
        List.cons_append, sub, Nat.pow_zero, Nat.div_one]
      congr 2
      apply List.map_congr_left
      intro k _
      simp only [Function.comp, sub_pair, div_pow_succ', Nat.succ_eq_add_one]
    · exact ⟨(peaks H n f).reverse, by rw [TF.Mmr.trailingOnes_even n (by omega)]; simp⟩

theorem peaks_reverse_getElem? (n : Nat) (f : Nat → D) (k : Nat) (hk : k < trailingOnes n) :
    (peaks H n f).reverse[k]? = some (sub H f k (n / 2 ^ k - 1)) := by
  obtain ⟨rest, hr⟩ := peaks_reverse_low H n f
  rw [hr, List.getElem?_append_left (by simpa using hk)]
  simp [hk]

end

end TF.MmrE.UpdAppend
