import Mathlib.Algebra.BigOperators.Group.Finset.Basic
import Mathlib.Algebra.BigOperators.Intervals
import Mathlib.Algebra.BigOperators.Ring.Finset
import Mathlib.Tactic.Ring
import Mathlib.Tactic.Linarith
/-!
NTT stage invariant and `ntt_eq_dft` for the functional stage model over any commutative ring.
-/
namespace TF.NttFn

open Finset

variable {R : Type} [CommRing R]

/-- bit reversal of the low `l` bits -/
def bitrev : Nat → Nat → Nat
  | 0, _ => 0
  | l+1, n => (n % 2) * 2^l + bitrev l (n / 2)

theorem bitrev_even (l b : Nat) : bitrev (l+1) (2*b) = bitrev l b := by
  simp [bitrev]
theorem bitrev_odd (l b : Nat) : bitrev (l+1) (2*b+1) = 2^l + bitrev l b := by
  have h1 : (2*b+1) % 2 = 1 := by omega
  have h2 : (2*b+1) / 2 = b := by omega
  simp [bitrev, h1, h2]

/-- one butterfly stage with half-block size `m` and twiddle `w` (functional form of the in-place loops) -/
def stage (m : Nat) (w : R) (x : Nat → R) : Nat → R := fun idx =>
  let j := idx % m
  let base := idx - idx % (2*m)
  if idx % (2*m) < m then x (base + j) + w^j * x (base + j + m)
  else x (base + j) - w^j * x (base + j + m)

/-- DFT of length `n` of the sequence `f` with root `z`, at index `j` -/
def dft (n : Nat) (z : R) (f : Nat → R) (j : Nat) : R := ∑ i ∈ range n, f i * z^(i*j)

theorem sum_range_even_odd (m : Nat) (g : Nat → R) :
    ∑ i ∈ range (2*m), g i = ∑ i ∈ range m, g (2*i) + ∑ i ∈ range m, g (2*i+1) := by
  induction m with
  | zero => simp
  | succ m ih =>
    rw [show 2*(m+1) = 2*m + 1 + 1 by ring, sum_range_succ, sum_range_succ, ih, sum_range_succ, sum_range_succ]
    ring

/-- a polynomial evaluated through its even and odd parts (`fe`, `fo`; `a2 = a²`); both stage networks rest on this -/
theorem sum_even_odd_pow (m : Nat) (f fe fo : Nat → R) (a a2 : R) (h2 : a^2 = a2)
    (he : ∀ i, f (2*i) = fe i) (ho : ∀ i, f (2*i+1) = fo i) :
    ∑ i ∈ range (2*m), f i * a^i = ∑ i ∈ range m, fe i * a2^i + a * ∑ i ∈ range m, fo i * a2^i := by
  rw [sum_range_even_odd, mul_sum, ← h2]
  congr 1 <;> apply sum_congr rfl <;> intro i _
  · rw [pow_mul, he]
  · rw [pow_succ, pow_mul, mul_comm _ a, mul_left_comm, ho]

theorem dft_eq_eval (n : Nat) (z : R) (f : Nat → R) (k : Nat) : dft n z f k = ∑ i ∈ range n, f i * (z^k)^i := by
  unfold dft
  apply sum_congr rfl; intro i _
  rw [← pow_mul, Nat.mul_comm]

/-- Danielson–Lanczos with the square of the root and the two subsequences as variables -/
theorem dft_split_of (m : Nat) (η η2 : R) (h2 : η^2 = η2) (hm : η^m = -1) (f fe fo : Nat → R)
    (he : ∀ i, f (2*i) = fe i) (ho : ∀ i, f (2*i+1) = fo i) (j : Nat) :
    dft (2*m) η f j = dft m η2 fe j + η^j * dft m η2 fo j ∧
    dft (2*m) η f (j+m) = dft m η2 fe j - η^j * dft m η2 fo j := by
  have hsq : (η^j)^2 = η2^j := by rw [← h2]; exact (pow_right_comm η 2 j).symm
  have hneg : η^(j+m) = -η^j := by rw [pow_add, hm, mul_neg_one]
  simp only [dft_eq_eval]
  rw [sum_even_odd_pow m f fe fo _ _ hsq he ho, hneg, sum_even_odd_pow m f fe fo _ _ ((neg_sq _).trans hsq) he ho, neg_mul,
    sub_eq_add_neg]
  exact ⟨rfl, rfl⟩

/-- Danielson–Lanczos: a DFT of size 2m from the DFTs of the even and odd subsequences. -/
theorem dft_split (m : Nat) (η : R) (hm : η^m = -1) (f : Nat → R) (j : Nat) (hj : j < m) :
    dft (2*m) η f j = dft m (η^2) (fun i => f (2*i)) j + η^j * dft m (η^2) (fun i => f (2*i+1)) j ∧
    dft (2*m) η f (j+m) = dft m (η^2) (fun i => f (2*i)) j - η^j * dft m (η^2) (fun i => f (2*i+1)) j :=
  dft_split_of m η (η^2) rfl hm f _ _ (fun _ => rfl) (fun _ => rfl) j

/-- `s` butterfly stages of the length-`2^L` transform (stage `t` has half-block `2^t`, twiddle `ω^(2^(L-t-1))`) -/
def nttStages (L : Nat) (ω : R) : Nat → (Nat → R) → (Nat → R)
  | 0, y => y
  | s+1, y => stage (2^s) (ω^(2^(L-s-1))) (nttStages L ω s y)

/-- the two halves of block `b` of a stage combine the blocks `2b` and `2b+1` of half the size -/
theorem stage_add (m : Nat) (w : R) (x : Nat → R) (b r : Nat) (hr : r < m) :
    stage m w x (b*(2*m) + r) = x (2*b*m + r) + w^r * x ((2*b+1)*m + r) := by
  have h1 : (b*(2*m) + r) % (2*m) = r := Nat.mul_add_mod_of_lt (by omega)
  have h2 : (b*(2*m) + r) % m = r := by rw [← Nat.mul_assoc]; exact Nat.mul_add_mod_of_lt hr
  rw [stage, h1, h2, if_pos hr, Nat.add_sub_cancel, show b*(2*m) + r = 2*b*m + r by ring,
    show 2*b*m + r + m = (2*b+1)*m + r by ring]

theorem stage_sub (m : Nat) (w : R) (x : Nat → R) (b r : Nat) (hr : r < m) :
    stage m w x (b*(2*m) + (r + m)) = x (2*b*m + r) - w^r * x ((2*b+1)*m + r) := by
  have h1 : (b*(2*m) + (r + m)) % (2*m) = r + m := Nat.mul_add_mod_of_lt (by omega)
  have h2 : (b*(2*m) + (r + m)) % m = r := by
    rw [← Nat.add_assoc, Nat.add_mod_right, ← Nat.mul_assoc]; exact Nat.mul_add_mod_of_lt hr
  rw [stage, h1, h2, if_neg (by omega), Nat.add_sub_cancel, show b*(2*m) + r = 2*b*m + r by ring,
    show 2*b*m + r + m = (2*b+1)*m + r by ring]

/-- the stride-`2^d` subsequence from `bitrev d b` splits into the stride-`2^(d+1)` subsequences from
    `bitrev (d+1) (2b)` (even positions) and `bitrev (d+1) (2b+1)` (odd positions) -/
theorem bitrev_stride (d b i : Nat) :
    bitrev d b + 2*i * 2^d = bitrev (d+1) (2*b) + i * 2^(d+1) ∧
    bitrev d b + (2*i+1) * 2^d = bitrev (d+1) (2*b+1) + i * 2^(d+1) := by
  rw [bitrev_even, bitrev_odd, pow_succ, Nat.add_mul, Nat.one_mul, Nat.mul_comm (2^d) 2, ← Nat.mul_assoc, Nat.mul_comm i 2]
  exact ⟨rfl, by omega⟩

/-- the stage invariant; the condition on `ω` is asked only for `L ≥ 1` (for `L = 0` there is no stage) -/
theorem stages_invariant_of (L : Nat) (ω : R) (hω : 0 < L → ω^(2^(L-1)) = -1) (x : Nat → R) :
    ∀ s, s ≤ L → ∀ b j, j < 2^s →
      nttStages L ω s (fun i => x (bitrev L i)) (b * 2^s + j)
        = dft (2^s) (ω^(2^(L-s))) (fun i => x (bitrev (L-s) b + i * 2^(L-s))) j := by
  intro s
  induction s with
  | zero =>
    intro _ b j hj
    have : j = 0 := by simpa using hj
    subst this
    simp [nttStages, dft]
  | succ s ih =>
    intro hs b j hj
    obtain ⟨d, hd⟩ : ∃ d, L - s = d + 1 := ⟨L - s - 1, by omega⟩
    have ih := ih (by omega)
    have hm : (ω^(2^d))^(2^s) = -1 := by
      rw [← pow_mul, ← pow_add, show d + s = L - 1 by omega]
      exact hω (by omega)
    have h2 : (ω^(2^d))^2 = ω^(2^(d+1)) := by rw [← pow_mul, ← pow_succ]
    rw [hd] at ih
    rw [pow_succ 2 s, Nat.mul_comm (2^s) 2] at hj
    rw [nttStages, show L - s - 1 = d by omega, show L - (s+1) = d by omega, pow_succ 2 s, Nat.mul_comm (2^s) 2]
    generalize 2^s = m at *
    rcases Nat.lt_or_ge j m with hlt | hge
    · rw [stage_add m _ _ b j hlt, ih (2*b) j hlt, ih (2*b+1) j hlt]
      refine ((dft_split_of m _ _ h2 hm _ _ _ ?_ ?_ j).1).symm
      exacts [fun i => congrArg x (bitrev_stride d b i).1, fun i => congrArg x (bitrev_stride d b i).2]
    · obtain ⟨r, rfl⟩ := Nat.exists_eq_add_of_le' hge
      have hr : r < m := by omega
      rw [stage_sub m _ _ b r hr, ih (2*b) r hr, ih (2*b+1) r hr]
      refine ((dft_split_of m _ _ h2 hm _ _ _ ?_ ?_ r).2).symm
      exacts [fun i => congrArg x (bitrev_stride d b i).1, fun i => congrArg x (bitrev_stride d b i).2]

theorem stages_invariant (L : Nat) (ω : R) (hω : ω^(2^(L-1)) = -1) (x : Nat → R) :
    ∀ s, s ≤ L → ∀ b j, j < 2^s →
      nttStages L ω s (fun i => x (bitrev L i)) (b * 2^s + j)
        = dft (2^s) (ω^(2^(L-s))) (fun i => x (bitrev (L-s) b + i * 2^(L-s))) j :=
  stages_invariant_of L ω (fun _ => hω) x

theorem ntt_eq_dft' (L : Nat) (ω : R) (hω : 0 < L → ω^(2^(L-1)) = -1) (x : Nat → R) (j : Nat) (hj : j < 2^L) :
    nttStages L ω L (fun i => x (bitrev L i)) j = dft (2^L) ω x j := by
  have := stages_invariant_of L ω hω x L (le_refl L) 0 j hj
  simp [bitrev] at this
  rw [this]

theorem ntt_eq_dft (L : Nat) (ω : R) (hω : ω^(2^(L-1)) = -1) (x : Nat → R) (j : Nat) (hj : j < 2^L) :
    nttStages L ω L (fun i => x (bitrev L i)) j = dft (2^L) ω x j :=
  ntt_eq_dft' L ω (fun _ => hω) x j hj

end TF.NttFn
