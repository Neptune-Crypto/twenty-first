/-!
Arithmetic of blocks of size `2t` inside a range: position `r` of block `i` is the index `i·2t + r`.  Used by the
function-level stage theory, the array model and the in-place passes.  Core Lean only.
-/
namespace TF.Blocks

theorem blk_mod (i t r : Nat) (hr : r < 2*t) : (i*(2*t) + r) % (2*t) = r := by
  rw [Nat.add_comm, Nat.add_mul_mod_self_right, Nat.mod_eq_of_lt hr]

theorem blk_div (i t r : Nat) (hr : r < 2*t) : (i*(2*t) + r) / (2*t) = i := by
  rw [Nat.add_comm, Nat.add_mul_div_right _ _ (by omega), Nat.div_eq_of_lt hr, Nat.zero_add]

/-- block `b < B` ends inside `B` blocks -/
theorem blk_le (b B t : Nat) (hb : b < B) : b*(2*t) + 2*t ≤ B*(2*t) := by
  have : (b+1)*(2*t) ≤ B*(2*t) := Nat.mul_le_mul_right _ hb
  rwa [Nat.succ_mul] at this

/-- every index is position `p` or `p + t` (`p < t`) of some block of size `2t` -/
theorem blk_cases (t idx : Nat) (ht : 0 < t) : ∃ i p, p < t ∧ (idx = i*(2*t) + p ∨ idx = i*(2*t) + p + t) := by
  have h := Nat.div_add_mod idx (2*t)
  have hr : idx % (2*t) < 2*t := Nat.mod_lt _ (by omega)
  rw [Nat.mul_comm] at h
  by_cases hlt : idx % (2*t) < t
  · exact ⟨idx / (2*t), idx % (2*t), hlt, Or.inl h.symm⟩
  · exact ⟨idx / (2*t), idx % (2*t) - t, by omega, Or.inr (by omega)⟩

/-- inside `q` blocks: the block index is below `q`, and the partner of a low position is inside too -/
theorem block_bounds (t q i : Nat) (hi : i < q * (2*t)) :
    i / (2*t) < q ∧ (i % (2*t) < t → i + t < q * (2*t)) := by
  have hd : i / (2*t) < q := Nat.div_lt_of_lt_mul (by rwa [Nat.mul_comm] at hi)
  refine ⟨hd, fun hlt => ?_⟩
  have h1 := Nat.div_add_mod i (2*t)
  have h2 : (i / (2*t) + 1) * (2*t) ≤ q * (2*t) := Nat.mul_le_mul_right _ hd
  rw [Nat.add_mul, Nat.one_mul, Nat.mul_comm] at h2
  omega

end TF.Blocks
