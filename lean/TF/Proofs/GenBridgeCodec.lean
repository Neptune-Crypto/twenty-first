import TF.Gen.CodecLeaves
import TF.Proofs.BField
import TF.Proofs.Codec
import TF.Proofs.GenBridgeCodecArith
/-!
Bridge between the leaf codecs **regenerated from source** (`TF/Gen/CodecLeaves.lean`, written by `tools/rs2lean_conv.py`
from the two `macro_rules!` bodies and the hand-written impls of `bfield_codec.rs`, and the `From` impls of
`b_field_element.rs` they go through) and the leaf cases of the hand model `TF/Model/Codec.lean`.  Core Lean only.

The regenerated code works on *raw Montgomery words* (a `BFieldElement` is its `u64`), the hand model on canonical values:
`vals r = r.map bfe_value`.  A `Result<_, BFieldCodecError>` is `Except String _` whose error is the variant's name:
`exceptNat` / `exceptBool` / `exceptVal` print a model outcome in that form (`errName` gives the variant of each model error
kind), so the bridges also say that the *error kinds* of the model's leaf decoders are the ones of the source.
-/
namespace TF.GenBridge.Codec
open TF.Gen TF.Gen.Loops TF.Codec TF.BF TF.GenBridge.CodecArith TF.RustStd

/-- canonical values of a list of raw words -/
def vals (l : List Nat) : List Nat := l.map bfe_value

/-- raw words that are canonical (`< P`), as every `BFieldElement` built through `new` is -/
def Raw (l : List Nat) : Prop := ∀ x ∈ l, x < TF.Gen.P
instance (l : List Nat) : Decidable (Raw l) := inferInstanceAs (Decidable (∀ x ∈ l, x < TF.Gen.P))

/-- the variant of `BFieldCodecError` behind each error kind of the model's leaf decoders -/
def errName : Err → String
  | .empty => "EmptySequence"
  | .tooShort => "SequenceTooShort"
  | .tooLong => "SequenceTooLong"
  | .range => "ElementOutOfRange"
  | .missingLen => "MissingLengthIndicator"
  | .invalidLen => "InvalidLengthIndicator"
  | .trailingZeros => "TrailingZerosInPolynomialEncoding"
  | .badDiscriminant => "InvalidVariantIndex"

/-- a model outcome of an integer leaf as the `Result` of the source.  (The model's leaf decoders never return `panic`; the
    case is there for totality.  Whether the source panics is what the `_ok` twins say.) -/
def exceptNat : Outcome Val → Except String Nat
  | .ok v => .ok (numOf v)
  | .err k => .error (errName k)
  | .panic => .error "panic"

/-- … of `bool`: the model's value is `0` / `1` -/
def exceptBool : Outcome Val → Except String Bool
  | .ok v => .ok (numOf v != 0)
  | .err k => .error (errName k)
  | .panic => .error "panic"

/-- … of `BFieldElement`: the source returns the raw word, the model its value -/
def exceptVal : Except String Nat → Except String Nat
  | .ok r => .ok (bfe_value r)
  | .error e => .error e

/-- decidable equality of `Result`s (for the non-vacuity examples; scoped) -/
def decEqExcept {α : Type} [DecidableEq α] : DecidableEq (Except String α)
  | .ok a, .ok b => if h : a = b then isTrue (by rw [h]) else isFalse (fun e => h (Except.ok.inj e))
  | .error a, .error b => if h : a = b then isTrue (by rw [h]) else isFalse (fun e => h (Except.error.inj e))
  | .ok _, .error _ => isFalse (fun e => by cases e)
  | .error _, .ok _ => isFalse (fun e => by cases e)
scoped instance {α : Type} [DecidableEq α] : DecidableEq (Except String α) := decEqExcept

theorem pow8 : (2 : Nat) ^ 8 = 256 := by decide
theorem pow16 : (2 : Nat) ^ 16 = 65536 := by decide
theorem pow32 : (2 : Nat) ^ 32 = 4294967296 := by decide

/-- core of the macro body over a plain value (no field arithmetic in sight): `uN::try_from(v).map_err(..)?` -/
theorem small_core (b x : Nat) :
    (TF.RustStd.tryE (TF.RustStd.map_err (TF.RustStd.int_try_from b x) "ElementOutOfRange")
      fun t_try1 => (Except.ok t_try1 : Except String Nat)) = exceptNat (decodeSmall b [x]) := by
  simp only [TF.RustStd.int_try_from, decodeSmall]
  by_cases h : x < b
  · rw [if_pos h, if_pos h]; rfl
  · rw [if_neg h, if_neg h]; rfl

/-- the decoder the macro `impl_bfield_codec_for_small_primitive_uint` expands to, for the bound `b = 2^BITS`, over a plain
    element reader `val`, and its no-panic twin -/
theorem small_decode (val : Nat → Nat) (valok : Nat → Bool) (hvo : ∀ s, valok s = true) (b : Nat) (r : List Nat) :
    (if (r.length == 0) then (Except.error "EmptySequence" : Except String Nat)
     else (if (r.length == 1) then
        (let arr_1 := r
         let first_v := arr_1.getD 0 0
         TF.RustStd.tryE (TF.RustStd.map_err (TF.RustStd.int_try_from b (val first_v)) "ElementOutOfRange")
           fun t_try1 => let element_v := t_try1; (Except.ok element_v : Except String Nat))
       else (Except.error "SequenceTooLong" : Except String Nat)))
      = exceptNat (decodeSmall b (r.map val)) ∧
    (if (r.length == 0) then true else (if (r.length == 1) then
      (let arr_1 := r
       let first_v := arr_1.getD 0 0
       (valok first_v)) else true)) = true := by
  match r with
  | [] => exact ⟨rfl, rfl⟩
  | _ :: _ :: _ => exact ⟨rfl, rfl⟩
  | [a] => exact ⟨small_core b (val a), hvo a⟩

theorem gen_u8_decode (r : List Nat) :
    codec_u8_decode r = exceptNat (decode .u8 (vals r)) ∧ codec_u8_decode_ok r = true := by
  have h : decode .u8 (vals r) = decodeSmall 256 (vals r) := by simp only [decode, pow8]
  rw [h]; exact small_decode bfe_value bfe_value_ok value_ok 256 r

theorem gen_u16_decode (r : List Nat) :
    codec_u16_decode r = exceptNat (decode .u16 (vals r)) ∧ codec_u16_decode_ok r = true := by
  have h : decode .u16 (vals r) = decodeSmall 65536 (vals r) := by simp only [decode, pow16]
  rw [h]; exact small_decode bfe_value bfe_value_ok value_ok 65536 r

theorem gen_u32_decode (r : List Nat) :
    codec_u32_decode r = exceptNat (decode .u32 (vals r)) ∧ codec_u32_decode_ok r = true := by
  have h : decode .u32 (vals r) = decodeSmall 4294967296 (vals r) := by simp only [decode, pow32]
  rw [h]; exact small_decode bfe_value bfe_value_ok value_ok 4294967296 r

theorem bool_core (x : Nat) :
    (if (x == 0) then (Except.ok false : Except String Bool)
     else (if (x == 1) then (Except.ok true : Except String Bool)
       else (Except.error "ElementOutOfRange" : Except String Bool))) = exceptBool (decodeSmall 2 [x]) := by
  match x with
  | 0 => rfl
  | 1 => rfl
  | n + 2 =>
    simp only [decodeSmall]
    rw [if_neg (show ¬ n + 2 < 2 by omega)]
    rfl

/-- the hand-written `bool` decoder over a plain element reader `val` (no field arithmetic in sight) -/
theorem bool_decode (val : Nat → Nat) (valok : Nat → Bool) (hvo : ∀ s, valok s = true) (r : List Nat) :
    (if (r.length == 0) then (Except.error "EmptySequence" : Except String Bool)
     else (if (decide (r.length > 1)) then (Except.error "SequenceTooLong" : Except String Bool)
     else (let scrut_1 := (val (r.getD 0 0))
       if (scrut_1 == 0) then (let element_v := false; (Except.ok element_v : Except String Bool))
       else (if (scrut_1 == 1) then (let element_v := true; (Except.ok element_v : Except String Bool))
       else (Except.error "ElementOutOfRange" : Except String Bool)))))
      = exceptBool (decodeSmall 2 (r.map val)) ∧
    (if (r.length == 0) then true else (if (decide (r.length > 1)) then true
      else ((decide (0 < r.length)) && (valok (r.getD 0 0))))) = true := by
  match r with
  | [] => exact ⟨rfl, rfl⟩
  | _ :: _ :: _ => exact ⟨rfl, rfl⟩
  | [a] => exact ⟨bool_core (val a), hvo a⟩

theorem gen_bool_decode (r : List Nat) :
    codec_bool_decode r = exceptBool (decode .bool (vals r)) ∧ codec_bool_decode_ok r = true := by
  have h : decode .bool (vals r) = decodeSmall 2 (vals r) := by simp only [decode]
  rw [h]
  exact bool_decode bfe_value bfe_value_ok value_ok r

theorem bfe_dec_raw (a : Nat) : exceptVal (codec_bfe_decode [a]) = Except.ok (bfe_value a) := by
  unfold codec_bfe_decode
  simp only [List.length_cons, List.length_nil, Nat.zero_add, Nat.reduceBEq, Bool.false_eq_true, if_false,
    gt_iff_lt, Nat.lt_irrefl, decide_false, List.getD_cons_zero, exceptVal]

theorem bfe_dec_model (x : Nat) : exceptNat (decode .bfe [x]) = Except.ok x := by
  simp only [decode, exceptNat, numOf]

theorem gen_bfe_decode (r : List Nat) :
    exceptVal (codec_bfe_decode r) = exceptNat (decode .bfe (vals r)) ∧ codec_bfe_decode_ok r = true := by
  match r with
  | [] => exact ⟨rfl, rfl⟩
  | _ :: _ :: _ => exact ⟨rfl, rfl⟩
  | [a] =>
    refine ⟨?_, rfl⟩
    rw [bfe_dec_raw]
    exact (bfe_dec_model (bfe_value a)).symm

theorem enumerateFrom_map {α β : Type} (g : α → β) (l : List α) :
    ∀ i, enumerateFrom i (l.map g) = (enumerateFrom i l).map fun p => (p.1, g p.2) := by
  induction l with
  | nil => intro i; rfl
  | cons x xs ih => intro i; simp only [List.map_cons, enumerateFrom, ih]

theorem enumerateFrom_index {α : Type} (l : List α) : ∀ i, ∀ p ∈ enumerateFrom i l, p.1 < i + l.length := by
  induction l with
  | nil => intro i p hp; cases hp
  | cons x xs ih =>
    intro i p hp
    rw [enumerateFrom, List.mem_cons] at hp
    rcases hp with rfl | hp
    · rw [List.length_cons]; omega
    · have := ih (i + 1) p hp; rw [List.length_cons]; omega

theorem limbs_small (val : Nat → Nat) (r : List Nat) (hc : r.any (fun s => decide (val s > 4294967295)) = false) :
    ∀ x ∈ r.map val, x < 2 ^ 32 := by
  intro x hx
  obtain ⟨s, hs, rfl⟩ := List.mem_map.1 hx
  have := List.any_eq_false.1 hc s hs
  simp only [decide_eq_true_eq] at this
  omega

/-- the decoder the macro `impl_bfield_codec_for_big_primitive_uint` expands to, for `k` limbs and an integer type of `BITS` bits
    that holds them (`B = 2^BITS`; `W = 2^64`, the range of the `usize` shift amount), over a plain element reader `val`, and its
    no-panic twin: element reads do not panic (`valok`), no shift amount is out of range, no partial sum overflows -/
theorem big_decode (val : Nat → Nat) (valok : Nat → Bool) (hvo : ∀ s, valok s = true) (k BITS B W : Nat) (hk : 32 * k ≤ BITS)
    (hB : B = 2 ^ BITS) (hW : BITS ≤ W) (r : List Nat) :
    (if (r.length == 0) then (Except.error "EmptySequence" : Except String Nat)
     else (if (decide (r.length < k)) then (Except.error "SequenceTooShort" : Except String Nat)
     else (if (decide (r.length > k)) then (Except.error "SequenceTooLong" : Except String Nat)
     else (if (r.any (fun s => (decide ((val s) > 4294967295)))) then (Except.error "ElementOutOfRange" : Except String Nat)
     else (let element_v := (TF.RustStd.sum_w B ((TF.RustStd.enumerate r).map (fun p_1 => let i := p_1.1; let s := p_1.2;
              ((val s) * 2 ^ (((i * 32) % W) % BITS) % B))))
       (Except.ok element_v : Except String Nat))))))
      = exceptNat (decodeLimbs k (r.map val)) ∧
    (if (r.length == 0) then true else (if (decide (r.length < k)) then true else (if (decide (r.length > k)) then true else
      ((r.all (fun s => (valok s))) && (if (r.any (fun s => (decide ((val s) > 4294967295)))) then true else
        (((TF.RustStd.enumerate r).all (fun p_1 =>
            let i := p_1.1; let s := p_1.2; (valok s) && (decide (i * 32 < W)) && (decide (((i * 32) % W) < BITS)))) &&
          (TF.RustStd.sum_ok B ((TF.RustStd.enumerate r).map (fun p_1 =>
            let i := p_1.1; let s := p_1.2; ((val s) * 2 ^ (((i * 32) % W) % BITS) % B)))))))))) = true := by
  subst hB
  by_cases h0 : r.length = 0
  · rw [List.eq_nil_of_length_eq_zero h0]; exact ⟨rfl, rfl⟩
  have hne : r.map val ≠ [] := fun e => h0 (by rw [← List.length_map (f := val), e]; rfl)
  have e0 : (r.length == 0) = false := by simpa using h0
  simp only [e0, Bool.false_eq_true, if_false]
  by_cases h1 : r.length < k
  · rw [decodeLimbs_of_length_lt hne (by rwa [List.length_map])]
    simp only [decide_eq_true h1, if_true, and_true]
    rfl
  by_cases h2 : r.length > k
  · rw [decodeLimbs_of_length_gt (by rwa [List.length_map])]
    simp only [decide_eq_false h1, decide_eq_true h2, Bool.false_eq_true, if_false, if_true, and_true]
    rfl
  rw [decodeLimbs_of_length_eq (by omega) (by rw [List.length_map]; omega), List.any_map,
    List.all_eq_true.2 fun s _ => hvo s]
  simp only [decide_eq_false h1, decide_eq_false h2, Bool.false_eq_true, if_false, Bool.true_and]
  have hany : (r.any ((fun x => decide (x > 2 ^ 32 - 1)) ∘ val)) = r.any (fun s => decide (val s > 4294967295)) := rfl
  rw [hany]
  cases hc : r.any (fun s => decide (val s > 4294967295)) with
  | true => exact ⟨rfl, rfl⟩
  | false =>
    have hl := limbs_small val r hc
    obtain ⟨hs, hf⟩ := shifted_sum BITS W hW (r.map val) 0 hl (by rw [List.length_map]; omega)
    rw [enumerateFrom_map, List.map_map, Nat.mul_zero, Nat.pow_zero, Nat.one_mul] at hs hf
    have hidx : (enumerate r).all (fun p_1 => let i := p_1.1; let s := p_1.2;
        (valok s) && (decide (i * 32 < W)) && (decide (((i * 32) % W) < BITS))) = true := by
      refine List.all_eq_true.2 fun p hp => ?_
      have hi := enumerateFrom_index r 0 p hp
      have hiW : p.1 * 32 < W := by omega
      simp only [hvo, Bool.true_and, Bool.and_eq_true, decide_eq_true_eq]
      exact ⟨hiW, by rw [Nat.mod_eq_of_lt hiW]; omega⟩
    simp only [Bool.false_eq_true, if_false, hidx, Bool.true_and]
    refine ⟨congrArg Except.ok hs, sum_ok_intro _ _ (Nat.lt_of_le_of_lt (Nat.le_of_eq (hf 0)) ?_)⟩
    rw [Nat.zero_add]
    exact Nat.lt_of_lt_of_le (limbsValue_lt (r.map val) hl) (Nat.pow_le_pow_right (by decide) (by rw [List.length_map]; omega))

theorem gen_u64_decode (r : List Nat) :
    codec_u64_decode r = exceptNat (decode .u64 (vals r)) ∧ codec_u64_decode_ok r = true := by
  have e : decode .u64 (vals r) = decodeLimbs 2 (vals r) := by simp only [decode]
  rw [e]
  exact big_decode bfe_value bfe_value_ok value_ok 2 64 _ _ (by decide) (by decide) (by decide) r

theorem gen_u128_decode (r : List Nat) :
    codec_u128_decode r = exceptNat (decode .u128 (vals r)) ∧ codec_u128_decode_ok r = true := by
  have e : decode .u128 (vals r) = decodeLimbs 4 (vals r) := by simp only [decode]
  rw [e]
  exact big_decode bfe_value bfe_value_ok value_ok 4 128 _ _ (by decide) (by decide) (by decide) r

/-- what `exceptNat` shows as `ok n` was accepted by the model, with a value that reads as `n` -/
theorem exceptNat_ok_inv {o : Outcome Val} {n : Nat} (h : exceptNat o = .ok n) : ∃ v, o = .ok v ∧ numOf v = n := by
  cases o with
  | ok v => exact ⟨v, rfl, Except.ok.inj h⟩
  | err k => cases h
  | panic => cases h

theorem exceptNat_limbs_inv (k : Nat) (s : List Nat) (n : Nat) (h : exceptNat (decodeLimbs k s) = .ok n) :
    decodeLimbs k s = .ok (.num n) := by
  obtain ⟨v, hv, hn⟩ := exceptNat_ok_inv h
  rw [hv, ← hn, (decodeLimbs_ok hv).2.2]
  rfl

theorem exceptNat_u64_inv (s : List Nat) (n : Nat) (h : exceptNat (decode .u64 s) = .ok n) :
    decode .u64 s = .ok (.num n) := by
  have e : decode .u64 s = decodeLimbs 2 s := by simp only [decode]
  rw [e] at h ⊢; exact exceptNat_limbs_inv 2 s n h

theorem exceptNat_u128_inv (s : List Nat) (n : Nat) (h : exceptNat (decode .u128 s) = .ok n) :
    decode .u128 s = .ok (.num n) := by
  have e : decode .u128 s = decodeLimbs 4 s := by simp only [decode]
  rw [e] at h ⊢; exact exceptNat_limbs_inv 4 s n h

theorem Pn_lt_W' : Pn < 18446744073709551616 := by decide
theorem H_lt_Pn (x : Nat) (h : x < 4294967296) : x < Pn := Nat.lt_trans h (by decide)

/-- `BFieldElement::from(v)` for `u8`/`u16`/`u32`/`u64` is `new(v as u64)`: the element with value `v` (for `v < P`) -/
theorem from_small (v : Nat) (h : v < Pn) :
    bfe_value (bfe_new v) = v ∧ bfe_new v < TF.Gen.P ∧ bfe_new_ok v = true :=
  ⟨value_new v h, (new_spec v (Nat.lt_trans h Pn_lt_W)).1, new_ok v (Nat.lt_trans h Pn_lt_W)⟩

/-- `BFieldElement::from(v: u128)` goes through `mod_reduce`; on a 32-bit limb it is the element with that value -/
theorem from_u128_limb (x : Nat) (h : x < 4294967296) :
    bfe_value (codec_bfe_from_u128 x) = x ∧ codec_bfe_from_u128 x < TF.Gen.P ∧ codec_bfe_from_u128_ok x = true := by
  have hW : x < W * W := Nat.lt_trans h (by decide)
  obtain ⟨m1, m2⟩ := mod_reduce_spec x hW
  obtain ⟨c, v⟩ := new_spec (mod_reduce x) m1
  unfold codec_bfe_from_u128 codec_bfe_from_u128_ok
  refine ⟨?_, c, ?_⟩
  · rw [v, m2]; exact Nat.mod_eq_of_lt (H_lt_Pn x h)
  · rw [mod_reduce_ok_true, new_ok _ m1]; rfl

theorem from_small_list (v : Nat) (h : v < Pn) : vals [bfe_new v] = [v] ∧ Raw [bfe_new v] ∧ bfe_new_ok v = true :=
  ⟨congrArg (fun t => [t]) (from_small v h).1, fun x hx => by rw [List.mem_singleton.mp hx]; exact (from_small v h).2.1,
    (from_small v h).2.2⟩

theorem gen_small_encode (n : Nat) (h : n < Pn) :
    vals (codec_u8_encode n) = encode .u8 (.num n) ∧ vals (codec_u16_encode n) = encode .u16 (.num n) ∧
    vals (codec_u32_encode n) = encode .u32 (.num n) ∧
    Raw (codec_u8_encode n) ∧ Raw (codec_u16_encode n) ∧ Raw (codec_u32_encode n) ∧
    codec_u8_encode_ok n = true ∧ codec_u16_encode_ok n = true ∧ codec_u32_encode_ok n = true := by
  obtain ⟨e, r, o⟩ := from_small_list n h
  have m8 : encode .u8 (.num n) = [n] := by simp only [encode, numOf]
  have m16 : encode .u16 (.num n) = [n] := by simp only [encode, numOf]
  have m32 : encode .u32 (.num n) = [n] := by simp only [encode, numOf]
  rw [m8, m16, m32]
  exact ⟨e, e, e, r, r, r, o, o, o⟩

theorem gen_bool_encode (b : Bool) :
    vals (codec_bool_encode b) = encode .bool (.num (if b then 1 else 0)) ∧ Raw (codec_bool_encode b) ∧
    codec_bool_encode_ok b = true := by
  have m : ∀ k, encode .bool (.num k) = [k] := fun k => by simp only [encode, numOf]
  rw [m]
  exact from_small_list _ (by cases b <;> decide)

theorem gen_bfe_encode (r : Nat) :
    vals (codec_bfe_encode r) = encode .bfe (.num (bfe_value r)) ∧ codec_bfe_encode r = [r] ∧
    codec_bfe_encode_ok r = true := by
  have m : ∀ k, encode .bfe (.num k) = [k] := fun k => by simp only [encode, numOf]
  rw [m]
  exact ⟨rfl, rfl, rfl⟩

/-- the encoder the macro `impl_bfield_codec_for_big_primitive_uint` expands to, for `k` limbs and an integer type of `BITS` bits
    that holds them: the `i`-th element is `from` of the `i`-th 32-bit limb, its value is that limb, it is canonical, and
    neither a shift nor `from` panics; `frm` is `BFieldElement::from(uN)` -/
theorem big_encode (frm : Nat → Nat) (frmok : Nat → Bool)
    (hfrm : ∀ x, x < 4294967296 → bfe_value (frm x) = x ∧ frm x < TF.Gen.P ∧ frmok x = true)
    (k BITS W : Nat) (hk : 32 * k ≤ BITS) (hW : BITS ≤ W) (n : Nat) :
    vals ((List.range k).map (fun i => (frm ((n / 2 ^ (((i * 32) % W) % BITS)) &&& 4294967295)))) =
      (List.range k).map (fun i => n / 2 ^ (32 * i) % 2 ^ 32) ∧
    Raw ((List.range k).map (fun i => (frm ((n / 2 ^ (((i * 32) % W) % BITS)) &&& 4294967295)))) ∧
    (List.range k).all (fun i => ((decide (i * 32 < W)) && (decide (((i * 32) % W) < BITS))) &&
      (frmok ((n / 2 ^ (((i * 32) % W) % BITS)) &&& 4294967295))) = true := by
  have key : ∀ i ∈ List.range k, i * 32 < W ∧ i * 32 % W < BITS ∧
      (n / 2 ^ (i * 32 % W % BITS)) &&& 4294967295 = n / 2 ^ (32 * i) % 2 ^ 32 := by
    intro i hi
    have hik := List.mem_range.1 hi
    have h1 : i * 32 < W := by omega
    refine ⟨h1, by rw [Nat.mod_eq_of_lt h1]; omega, ?_⟩
    rw [Nat.mod_eq_of_lt h1, Nat.mod_eq_of_lt (by omega : i * 32 < BITS), mask32, Nat.mul_comm]
  have hlt : ∀ i, n / 2 ^ (32 * i) % 2 ^ 32 < 4294967296 := fun i => Nat.mod_lt _ (by decide)
  refine ⟨?_, ?_, ?_⟩
  · rw [vals, List.map_map]
    refine List.map_congr_left fun i hi => ?_
    rw [Function.comp, (key i hi).2.2]
    exact (hfrm _ (hlt i)).1
  · intro x hx
    obtain ⟨i, hi, rfl⟩ := List.mem_map.1 hx
    rw [(key i hi).2.2]
    exact (hfrm _ (hlt i)).2.1
  · refine List.all_eq_true.2 fun i hi => ?_
    rw [(key i hi).2.2, (hfrm _ (hlt i)).2.2, decide_eq_true (key i hi).1, decide_eq_true (key i hi).2.1]
    rfl

theorem gen_u64_encode (n : Nat) :
    vals (codec_u64_encode n) = encode .u64 (.num n) ∧ Raw (codec_u64_encode n) ∧ codec_u64_encode_ok n = true := by
  have m : encode .u64 (.num n) = (List.range 2).map (fun i => n / 2 ^ (32 * i) % 2 ^ 32) := by
    simp only [encode, numOf]
    show _ = [n / 2 ^ (32 * 0) % 2 ^ 32, n / 2 ^ (32 * 1) % 2 ^ 32]
    rw [Nat.mul_zero, Nat.pow_zero, Nat.div_one]
  rw [m]
  exact big_encode codec_bfe_from_u64 codec_bfe_from_u64_ok (fun x h => from_small x (H_lt_Pn x h)) 2 64 _ (by decide)
    (by decide) n

theorem gen_u128_encode (n : Nat) :
    vals (codec_u128_encode n) = encode .u128 (.num n) ∧ Raw (codec_u128_encode n) ∧
    codec_u128_encode_ok n = true := by
  have m : encode .u128 (.num n) = (List.range 4).map (fun i => n / 2 ^ (32 * i) % 2 ^ 32) := by
    simp only [encode, numOf]
    show _ = [n / 2 ^ (32 * 0) % 2 ^ 32, n / 2 ^ (32 * 1) % 2 ^ 32, n / 2 ^ (32 * 2) % 2 ^ 32, n / 2 ^ (32 * 3) % 2 ^ 32]
    rw [Nat.mul_zero, Nat.pow_zero, Nat.div_one]
  rw [m]
  exact big_encode codec_bfe_from_u128 codec_bfe_from_u128_ok from_u128_limb 4 128 _ (by decide) (by decide) n

theorem gen_static_lengths :
    codec_u64_static_length = staticLength .u64 ∧ codec_u128_static_length = staticLength .u128 ∧
    codec_u8_static_length = staticLength .u8 ∧ codec_u16_static_length = staticLength .u16 ∧
    codec_u32_static_length = staticLength .u32 ∧ codec_bool_static_length = staticLength .bool ∧
    codec_bfe_static_length = staticLength .bfe := by decide

end TF.GenBridge.Codec
