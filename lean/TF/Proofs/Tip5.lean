import TF.Model.Tip5
import TF.Spec.Tip5
import TF.Proofs.BField
import Mathlib.Data.Nat.ModEq
import Mathlib.Tactic.Ring
/-!
Lemmas for C02 (Tip5).  The word-level pieces (`LOOKUP_TABLE`, `ROUND_CONSTANTS`, `MDS_MATRIX_FIRST_COLUMN`,
`offset_fermat_cube_map`, `generated_function`, `mds_recombine`, `bfe_*`) are regenerated from the Rust source on
every run; the lemmas below are re-checked against them.
-/
namespace TF.Tip5P
open TF.Gen TF.BF TF.Model.Tip5
open TF.Spec.Tip5 (dot mdsRow fermatCube)

theorem lookup_table_eq : LOOKUP_TABLE = (List.range 256).map fermatCube := by decide +kernel

theorem lookup_eq (b : Fin 256) : lookup b = fermatCube b.val := by
  unfold lookup
  rw [List.getElem_of_eq lookup_table_eq, List.getElem_map, List.getElem_range]

/-- `y ↦ (y+1)^171 − 1` in `F_257`; it undoes the offset cube map because `3 · 171 = 2 · 256 + 1` -/
def cubeRoot (y : Nat) : Nat := ((y + 1) ^ 171 + 256) % 257

theorem fermatCube_byte : ∀ b : Fin 256,
    offset_fermat_cube_map b.val = fermatCube b.val ∧ offset_fermat_cube_map_ok b.val = true ∧
    fermatCube b.val < 256 ∧ cubeRoot (fermatCube b.val) = b.val := by decide +kernel

theorem lookup_lt (b : Fin 256) : lookup b < 256 := by
  rw [lookup_eq]; exact (fermatCube_byte b).2.2.1

theorem lookup_injective (a b : Fin 256) (h : lookup a = lookup b) : a = b := by
  rw [lookup_eq, lookup_eq] at h
  have := congrArg cubeRoot h
  rw [(fermatCube_byte a).2.2.2, (fermatCube_byte b).2.2.2] at this
  exact Fin.ext this

theorem lookup_zero : lookup 0 = 0 := by rw [lookup_eq]; decide

theorem lookup_ff (b : Fin 256) (h : lookup b = 255) : b.val = 255 :=
  congrArg Fin.val (lookup_injective b 255 (h.trans (by rw [lookup_eq]; decide)))

/-- `18446744065119617026 = P − 2^32 + 1 = 2P − 2^64` -/
theorem round_constants_all : ∀ r : Fin 5, ∀ i : Fin 16,
    roundConstant r i ≤ 18446744065119617026 ∧ TF.Spec.Tip5.roundConstant r i < P ∧
    bfe_value (roundConstant r i) = TF.Spec.Tip5.roundConstant r i := by decide +kernel

/-- every row of the circulant matrix has the entries of `MDS_MATRIX_FIRST_COLUMN`, whose sum is `524757 < 2^20` -/
theorem mdsRow_sum : ∀ i : Fin 16, (mdsRow i).sum = 524757 := by decide +kernel

theorem mapBytes_add (f : Fin 256 → Nat) (n : Nat) : ∀ m w : Nat,
    mapBytes f (m + n) w = mapBytes f m w + 256 ^ m * mapBytes f n (w / 256 ^ m)
  | 0, w => by simp [mapBytes]
  | m+1, w => by
    rw [Nat.add_right_comm, mapBytes, mapBytes, mapBytes_add f n m, Nat.div_div_eq_div_mul, Nat.pow_succ']
    ring

/-- Invariant over the number `n` of bytes, for a byte map that yields bytes, fixes `0x00` and sends only `0xff` to
    `0xff`: the result has `n` bytes, is zero if the `n` low bytes of `w` are, and is all-ones only if they are.  In
    the step the low byte `c`, the rest `r`, `M = 256^n` and `q = (w / 256) % M` are made variables; what is left is
    linear. -/
theorem mapBytes_bytes {f : Fin 256 → Nat} (hf : ∀ b, f b < 256) (h0 : f 0 = 0) (hff : ∀ b, f b = 255 → b.val = 255) :
    ∀ n w : Nat, mapBytes f n w < 256 ^ n ∧ (w % 256 ^ n = 0 → mapBytes f n w = 0) ∧
      (mapBytes f n w = 256 ^ n - 1 → w % 256 ^ n = 256 ^ n - 1)
  | 0, w => by simp [mapBytes, Nat.mod_one]
  | n+1, w => by
    obtain ⟨i1, i2, i3⟩ := mapBytes_bytes hf h0 hff n (w / 256)
    have hb := hf ⟨w % 256, Nat.mod_lt _ (by decide)⟩
    have hz : w % 256 = 0 → f ⟨w % 256, Nat.mod_lt _ (by decide)⟩ = 0 := fun h => (congrArg f (Fin.ext h)).trans h0
    have ho := hff ⟨w % 256, Nat.mod_lt _ (by decide)⟩
    have hm : w % 256 ^ (n + 1) = w % 256 + 256 * (w / 256 % 256 ^ n) := by rw [Nat.pow_succ', Nat.mod_mul]
    have hp : 0 < 256 ^ n := Nat.pow_pos (by decide)
    rw [mapBytes, hm, Nat.pow_succ']
    generalize f ⟨w % 256, _⟩ = c at *
    generalize mapBytes f n (w / 256) = r at *
    generalize 256 ^ n = M at *
    generalize w / 256 % M = q at *
    simp only at ho
    refine ⟨by omega, fun h => by omega, fun h => by omega⟩

/-- `w ≥ P` iff the high half of `w` is all-ones and the low half is not zero; the byte map keeps both properties of
    a half from occurring unless they did before -/
theorem split_and_lookup_canon (w : Nat) (hw : w < Pn) : split_and_lookup w < Pn := by
  obtain ⟨l1, l2, _⟩ := mapBytes_bytes lookup_lt lookup_zero lookup_ff 4 w
  obtain ⟨h1, _, h3⟩ := mapBytes_bytes lookup_lt lookup_zero lookup_ff 4 (w / 256 ^ 4)
  rw [split_and_lookup, mapBytes_add lookup 4 4 w]
  generalize mapBytes lookup 4 w = lo at *
  generalize mapBytes lookup 4 (w / 256 ^ 4) = hi at *
  simp only [Nat.reducePow] at *
  unfold Pn at *
  omega

theorem mapBytes_eq (n w : Nat) : TF.Spec.Tip5.mapBytes fermatCube n w = mapBytes lookup n w := by
  induction n generalizing w with
  | zero => rfl
  | succ n ih =>
    simp only [TF.Spec.Tip5.mapBytes, mapBytes, ih]
    rw [lookup_eq]

theorem pow_two_64 : (2 : Nat) ^ 64 = W := by decide
theorem pow_two_128_mod : (2 : Nat) ^ 128 % Pn = Winv := by decide

theorem split_and_lookup_value (w : Nat) (hw : w < Pn) :
    bfe_value (split_and_lookup w) = TF.Spec.Tip5.sboxL (bfe_value w) := by
  have hc := split_and_lookup_canon w hw
  unfold TF.Spec.Tip5.sboxL TF.Spec.Tip5.toMont TF.Spec.Tip5.fromMont
  rw [pow_two_64, P_eq, value_mul_W w hw, mapBytes_eq, value_eq _ (Nat.lt_trans hc Pn_lt_W)]
  show split_and_lookup w * Winv % Pn = split_and_lookup w * 2 ^ 128 % Pn
  rw [Nat.mul_mod _ (2 ^ 128), pow_two_128_mod, Nat.mod_mul_mod]

theorem pow7_spec (x : Nat) (hx : x < Pn) :
    pow7 x < Pn ∧ bfe_value (pow7 x) = bfe_value x ^ 7 % Pn := by
  unfold pow7
  simp only
  obtain ⟨c1, v1⟩ := mul_spec x x hx hx
  obtain ⟨c2, v2⟩ := mul_spec _ _ c1 c1
  obtain ⟨c3, v3⟩ := mul_spec _ _ c1 c2
  obtain ⟨c4, v4⟩ := mul_spec _ _ hx c3
  refine ⟨c4, ?_⟩
  rw [v4, v3, v2, v1]
  generalize bfe_value x = v
  have h2 : v * v % Pn ≡ v * v [MOD Pn] := Nat.mod_modEq _ _
  have h4 : v * v % Pn * (v * v % Pn) % Pn ≡ v * v * (v * v) [MOD Pn] := (Nat.mod_modEq _ _).trans (h2.mul h2)
  have h6 : v * v % Pn * (v * v % Pn * (v * v % Pn) % Pn) % Pn ≡ v * v * (v * v * (v * v)) [MOD Pn] :=
    (Nat.mod_modEq _ _).trans (h2.mul h4)
  have h7 := (Nat.ModEq.refl v).mul h6
  rwa [show v * (v * v * (v * v * (v * v))) = v ^ 7 by ring] at h7

/-- no multiplication inside the power map overflows `u128` -/
theorem pow7_ok (x : Nat) (hx : x < Pn) :
    bfe_mul_ok x x = true ∧ bfe_mul_ok (bfe_mul x x) (bfe_mul x x) = true ∧
    bfe_mul_ok (bfe_mul x x) (bfe_mul (bfe_mul x x) (bfe_mul x x)) = true ∧
    bfe_mul_ok x (bfe_mul (bfe_mul x x) (bfe_mul (bfe_mul x x) (bfe_mul x x))) = true := by
  obtain ⟨c1, _⟩ := mul_spec x x hx hx
  obtain ⟨c2, _⟩ := mul_spec _ _ c1 c1
  obtain ⟨c3, _⟩ := mul_spec _ _ c1 c2
  exact ⟨mul_ok _ _ hx hx, mul_ok _ _ c1 c1, mul_ok _ _ c1 c2, mul_ok _ _ hx c3⟩

/-- `Σ cₖ·xₖ` in wrapping 64-bit arithmetic -/
def udot : List UInt64 → List UInt64 → UInt64
  | c :: cs, x :: xs => c * x + udot cs xs
  | _, _ => 0

/-- row `i` of `16·M` as machine words -/
def urow (i : Fin 16) : List UInt64 := (mdsRow i).map fun c => UInt64.ofNat (16 * c)

/-- pointwise sum of two coefficient lists, the shorter one extended by zeros -/
def vadd : List UInt64 → List UInt64 → List UInt64
  | [], bs => bs
  | as, [] => as
  | a :: as, b :: bs => (a + b) :: vadd as bs

def basis (j : Nat) : List UInt64 := List.replicate j 0 ++ [1]

theorem udot_vadd : ∀ c d X : List UInt64, udot c X + udot d X = udot (vadd c d) X
  | [], d, X => UInt64.zero_add _
  | a :: as, [], X => UInt64.add_zero _
  | a :: as, b :: bs, [] => UInt64.add_zero _
  | a :: as, b :: bs, x :: xs => by
    simp only [udot, vadd, ← udot_vadd as bs xs]; grobner

theorem udot_smul (k : UInt64) : ∀ c X : List UInt64, udot c X * k = udot (c.map (· * k)) X
  | [], X => UInt64.zero_mul
  | a :: as, [] => UInt64.zero_mul
  | a :: as, x :: xs => by simp only [List.map_cons, udot, ← udot_smul k as xs]; grobner

/-- `18446744073709551615 = 2^64 − 1` is `−1` in `UInt64` -/
theorem udot_vsub (c d X : List UInt64) :
    udot c X - udot d X = udot (vadd c (d.map (· * 18446744073709551615))) X := by
  rw [← udot_vadd, ← udot_smul]; grobner

theorem udot_basis : ∀ (j : Nat) (X : List UInt64) (h : j < X.length), udot (basis j) X = X[j]
  | 0, x :: xs, _ => by
    simp only [basis, List.replicate_zero, List.nil_append, udot, UInt64.one_mul, UInt64.add_zero,
      List.getElem_cons_zero]
  | j+1, x :: xs, h => by
    have := udot_basis j xs (Nat.lt_of_succ_lt_succ h)
    simp only [basis, List.replicate_succ, List.cons_append, udot, List.getElem_cons_succ] at this ⊢
    rw [this, UInt64.zero_mul, UInt64.zero_add]

/-- `generated_function` consists of additions, subtractions and multiplications by constants only.  Fed with the linear
    forms `udot (basis j) X`, every node is again a linear form in `X` (`udot_vadd`, `udot_vsub`, `udot_smul`); what is left
    are sixteen closed coefficient lists, which one evaluation compares with the rows of `16·M`. -/
theorem generated_function_lin (X : List UInt64) :
    generated_function (udot (basis 0) X) (udot (basis 1) X) (udot (basis 2) X) (udot (basis 3) X) (udot (basis 4) X)
      (udot (basis 5) X) (udot (basis 6) X) (udot (basis 7) X) (udot (basis 8) X) (udot (basis 9) X) (udot (basis 10) X)
      (udot (basis 11) X) (udot (basis 12) X) (udot (basis 13) X) (udot (basis 14) X) (udot (basis 15) X)
      = ((List.finRange 16).map urow).map (udot · X) := by
  simp only [generated_function, udot_vadd, udot_vsub, udot_smul]
  exact congrArg (List.map (udot · X)) (a₁ := [_, _, _, _, _, _, _, _, _, _, _, _, _, _, _, _]) (by decide +kernel)

theorem genFn_getElem (x : Vector UInt64 16) (i : Fin 16) : (genFn x)[i] = udot (urow i) x.toList := by
  have hb : ∀ (j : Nat) (h : j < 16), x[j] = udot (basis j) x.toList := fun j h => by
    rw [udot_basis j _ (by simpa using h), Vector.getElem_toList]
  unfold genFn
  simp only [hb, generated_function_lin, Fin.getElem_fin, Vector.getElem_mk, List.getElem_toArray, List.getElem_map,
    List.getElem_finRange, Fin.cast_mk, Fin.eta]

theorem dot_scale (k : Nat) : ∀ cs xs : List Nat, dot (cs.map (k * ·)) xs = k * dot cs xs
  | [], _ => by simp [dot]
  | _ :: _, [] => by simp [dot]
  | c :: cs, x :: xs => by
    simp only [List.map_cons, dot, dot_scale k cs xs]; ring

theorem dot_split : ∀ cs ss : List Nat, dot cs (ss.map (· % H)) + H * dot cs (ss.map (· / H)) = dot cs ss
  | [], _ => by simp [dot]
  | _ :: _, [] => by simp [dot]
  | c :: cs, s :: ss => by
    have ih := dot_split cs ss
    simp only [List.map_cons, dot]
    have : s = s % H + H * (s / H) := (Nat.mod_add_div s H).symm
    calc c * (s % H) + dot cs (ss.map (· % H)) + H * (c * (s / H) + dot cs (ss.map (· / H)))
        = c * (s % H + H * (s / H)) + (dot cs (ss.map (· % H)) + H * dot cs (ss.map (· / H))) := by ring
      _ = c * s + dot cs ss := by rw [← this, ih]

theorem dot_le (B : Nat) : ∀ cs xs : List Nat, (∀ x ∈ xs, x ≤ B) → dot cs xs ≤ cs.sum * B
  | [], _, _ => by simp [dot]
  | _ :: _, [], _ => by simp [dot]
  | c :: cs, x :: xs, h => by
    have ih := dot_le B cs xs (fun y hy => h y (List.mem_cons_of_mem _ hy))
    have hx : x ≤ B := h x (List.mem_cons_self)
    simp only [dot, List.sum_cons, Nat.add_mul]
    exact Nat.add_le_add (Nat.mul_le_mul_left c hx) ih

theorem udot_toNat_mod : ∀ cs xs : List UInt64,
    (udot cs xs).toNat = dot (cs.map UInt64.toNat) (xs.map UInt64.toNat) % 2 ^ 64
  | [], _ => by simp [udot, dot]
  | _ :: _, [] => by simp [udot, dot]
  | c :: cs, x :: xs => by
    have ih := udot_toNat_mod cs xs
    simp only [udot, List.map_cons, dot, UInt64.toNat_add, UInt64.toNat_mul, ih]
    omega

theorem le_sum_of_mem {a : Nat} : ∀ {l : List Nat}, a ∈ l → a ≤ l.sum
  | b :: l, h => by
    rw [List.sum_cons]
    rcases List.mem_cons.mp h with rfl | h
    · exact Nat.le_add_right _ _
    · exact Nat.le_trans (le_sum_of_mem h) (Nat.le_add_left _ _)

/-- the entries of `16·M` fit a machine word (each is at most `16` times the row sum) -/
theorem urow_toNat (i : Fin 16) : (urow i).map UInt64.toNat = (mdsRow i).map (16 * ·) := by
  rw [urow, List.map_map]
  refine List.map_congr_left fun c hc => ?_
  have : c ≤ 524757 := mdsRow_sum i ▸ le_sum_of_mem hc
  exact UInt64.toNat_ofNat_of_lt' (by unfold UInt64.size; omega)

theorem genFn_mod (x : Vector UInt64 16) (i : Fin 16) :
    (genFn x)[i].toNat = 16 * dot (mdsRow i) (x.toList.map UInt64.toNat) % 2 ^ 64 := by
  rw [genFn_getElem, udot_toNat_mod, urow_toNat, dot_scale]

/-- `4503599627370496 = 2^52`; the sum is at most `524757 · (2^32 − 1) < 2^52` (`mdsRow_sum`) -/
theorem genFn_toNat (x : Vector UInt64 16) (hx : ∀ y ∈ x.toList, y.toNat < 2 ^ 32) (i : Fin 16) :
    (genFn x)[i].toNat = 16 * dot (mdsRow i) (x.toList.map UInt64.toNat) ∧
    dot (mdsRow i) (x.toList.map UInt64.toNat) < 4503599627370496 := by
  have hb : dot (mdsRow i) (x.toList.map UInt64.toNat) ≤ 524757 * 4294967295 := by
    rw [← mdsRow_sum i]
    apply dot_le
    intro y hy
    obtain ⟨z, hz, rfl⟩ := List.mem_map.mp hy
    have := hx z hz
    omega
  refine ⟨?_, by omega⟩
  rw [genFn_mod]
  omega

/-- the translated body of the `for r` loop of `mds_generated`, `(lo >> 4) + (hi << 28)` followed by the fold of the
    high word with `2^64 ≡ 2^32 − 1`, on **any** two 64-bit words: no overflow anywhere (in particular `res + 0xffffffff`
    in the `over` branch), a 64-bit result, and with `s = ⌊lo/16⌋ + 2^28·hi`: `result + k·P = s` for `k = ⌊s/2^64⌋` (no
    `over`) or `k + 1` (`over`).  Constants: `268435456 = 2^28`, `340282366920938463463374607431768211456 = 2^128` (the
    `u128` sum), `9903520314283042199192993792 = 2^93 > s`, `536870912 = 2^29 > ⌊s/2^64⌋`. -/
theorem recombine_word (a b : Nat) (ha : a < W) (hb : b < W) :
    mds_recombine a b < W ∧ mds_recombine_ok a b = true ∧
    (mds_recombine a b + (a / 16 + b * 268435456) / W * Pn = a / 16 + b * 268435456 ∨
     mds_recombine a b + ((a / 16 + b * 268435456) / W + 1) * Pn = a / 16 + b * 268435456) := by
  unfold W at ha hb
  have e1 : b * 268435456 % 340282366920938463463374607431768211456 = b * 268435456 := by omega
  have e2 : (a / 16 + b * 268435456) % 340282366920938463463374607431768211456 = a / 16 + b * 268435456 := by omega
  have hs : a / 16 + b * 268435456 < 9903520314283042199192993792 := by omega
  unfold mds_recombine mds_recombine_ok
  simp only [e1, e2, Bool.and_eq_true, decide_eq_true_eq, ge_iff_le]
  -- from here on only the high word `q` and the low word `l` of `s` matter
  generalize a / 16 + b * 268435456 = s at hs ⊢
  have hq : s / 18446744073709551616 < 536870912 := by omega
  have hl : s % 18446744073709551616 < 18446744073709551616 := Nat.mod_lt _ (by decide)
  have hsl : s = s % 18446744073709551616 + 18446744073709551616 * (s / 18446744073709551616) :=
    (Nat.mod_add_div _ _).symm
  unfold W
  generalize s / 18446744073709551616 = q at *
  generalize s % 18446744073709551616 = l at *
  clear e1 e2 ha hb hs
  have e3 : q % 18446744073709551616 = q := Nat.mod_eq_of_lt (by omega)
  have e4 : q * 4294967295 % 18446744073709551616 = q * 4294967295 := Nat.mod_eq_of_lt (by omega)
  rw [e3, e4]
  unfold Pn
  refine ⟨?_, ⟨by omega, by omega, ?_⟩, ?_⟩
  · split <;> omega
  · split
    · exact decide_eq_true (by omega)
    · rfl
  · split <;> omega

/-- the case used by the linear layer: `lo[r] = 16·A`, `hi[r] = 16·B` with `A, B < 2^52` -/
theorem mds_recombine_lin (A B : Nat) (hA : A < 4503599627370496) (hB : B < 4503599627370496) :
    mds_recombine (16 * A) (16 * B) < W ∧ mds_recombine_ok (16 * A) (16 * B) = true ∧
    (mds_recombine (16 * A) (16 * B) + (A + H * B) / W * Pn = A + H * B ∨
     mds_recombine (16 * A) (16 * B) + ((A + H * B) / W + 1) * Pn = A + H * B) := by
  have h := recombine_word (16 * A) (16 * B) (by unfold W; omega) (by unfold W; omega)
  have h1 : 16 * A / 16 = A := by omega
  have h2 : 16 * B * 268435456 = H * B := by unfold H; omega
  rwa [h1, h2] at h

theorem limbLo_toNat (w : Nat) : (limbLo w).toNat = w % H := by
  unfold limbLo H
  exact UInt64.toNat_ofNat_of_lt' (by unfold UInt64.size; omega)

theorem limbHi_toNat (w : Nat) (hw : w < W) : (limbHi w).toNat = w / H := by
  unfold limbHi H
  unfold W at hw
  exact UInt64.toNat_ofNat_of_lt' (by unfold UInt64.size; omega)

theorem forall_mem_toList {n : Nat} {p : Nat → Prop} (v : Vector Nat n) :
    (∀ x ∈ v.toList, p x) ↔ ∀ (i : Nat) (h : i < n), p v[i] := by
  constructor
  · intro hx i h
    apply hx
    rw [← Vector.getElem_toList (by simpa using h)]
    exact List.getElem_mem _
  · intro hi x hx
    obtain ⟨i, h, rfl⟩ := List.mem_iff_getElem.mp hx
    rw [Vector.getElem_toList]
    exact hi i (by simpa using h)

theorem mds_getElem (s : State) (i : Nat) (h : i < 16) :
    (mds_generated s)[i] =
      mds_recombine (genFn (s.map limbLo))[(⟨i, h⟩ : Fin 16)].toNat (genFn (s.map limbHi))[(⟨i, h⟩ : Fin 16)].toNat := by
  unfold mds_generated
  simp only [Vector.getElem_ofFn]

theorem mds_lane (s : State) (hs : ∀ (j : Nat) (h : j < 16), s[j] < W) (i : Nat) (h : i < 16) :
    (mds_generated s)[i] < W ∧
    mds_recombine_ok (genFn (s.map limbLo))[(⟨i, h⟩ : Fin 16)].toNat (genFn (s.map limbHi))[(⟨i, h⟩ : Fin 16)].toNat = true ∧
    (mds_generated s)[i] ≡ dot (mdsRow ⟨i, h⟩) s.toList [MOD Pn] := by
  have hs' := (forall_mem_toList (p := fun x => x < W) s).mpr hs
  have elo : (s.map limbLo).toList.map UInt64.toNat = s.toList.map (· % H) := by
    rw [Vector.toList_map, List.map_map]
    exact List.map_congr_left (fun x _ => limbLo_toNat x)
  have ehi : (s.map limbHi).toList.map UInt64.toNat = s.toList.map (· / H) := by
    rw [Vector.toList_map, List.map_map]
    exact List.map_congr_left (fun x hx => limbHi_toNat x (hs' x hx))
  have hlo := genFn_toNat (s.map limbLo) (by
    intro y hy
    rw [Vector.toList_map] at hy
    obtain ⟨z, _, rfl⟩ := List.mem_map.mp hy
    rw [limbLo_toNat]
    unfold H
    omega) ⟨i, h⟩
  have hhi := genFn_toNat (s.map limbHi) (by
    intro y hy
    rw [Vector.toList_map] at hy
    obtain ⟨z, hz, rfl⟩ := List.mem_map.mp hy
    rw [limbHi_toNat z (hs' z hz)]
    have := hs' z hz
    unfold H
    unfold W at this
    omega) ⟨i, h⟩
  rw [elo] at hlo
  rw [ehi] at hhi
  rw [mds_getElem s i h, hlo.1, hhi.1]
  obtain ⟨r1, r2, r3⟩ := mds_recombine_lin _ _ hlo.2 hhi.2
  rw [dot_split] at r3
  have key : ∀ k x y : Nat, x + k * Pn = y → x ≡ y [MOD Pn] := fun k x y e => by
    rw [← e]
    exact (Nat.add_mul_mod_self_right x k Pn).symm
  exact ⟨r1, r2, r3.elim (key _ _ _) (key _ _ _)⟩

/-- addition with a canonical right operand `c ≤ 2P − 2^64` and an *arbitrary 64-bit* left operand is still exact
    and canonical -/
theorem add_noncanonical_left (a c : Nat) (ha : a < W) (hc : c ≤ 18446744065119617026) :
    bfe_add a c = (a + c) % Pn ∧ bfe_add a c < Pn ∧ bfe_add_ok a c = true := by
  have hc' : c ≤ Pn := by unfold Pn; omega
  have h := add_mod a c ha hc' (by unfold W Pn at *; omega)
  exact ⟨h, h ▸ Nat.mod_lt _ (by decide), add_ok a c hc'⟩

theorem nsl_eq : NUM_SPLIT_AND_LOOKUP = 4 := rfl

theorem sbox_getElem (s : State) (i : Nat) (h : i < 16) :
    (sbox_layer s)[i] = if i < 4 then split_and_lookup s[i] else pow7 s[i] := by
  unfold sbox_layer
  simp only [Vector.getElem_ofFn, nsl_eq, Fin.getElem_fin]
  rfl

def CanonV {n : Nat} (v : Vector Nat n) : Prop := ∀ (j : Nat) (h : j < n), v[j] < Pn

theorem sbox_canon (s : State) (hs : CanonV s) : CanonV (sbox_layer s) := by
  intro i h
  rw [sbox_getElem s i h]
  split
  · exact split_and_lookup_canon _ (hs i h)
  · exact (pow7_spec _ (hs i h)).1

theorem spec_sbox_getElem (v : Vector Nat 16) (i : Nat) (h : i < 16) :
    (TF.Spec.Tip5.sbox v)[i] = if i < 4 then TF.Spec.Tip5.sboxL v[i] else TF.Spec.Tip5.sboxP v[i] := by
  unfold TF.Spec.Tip5.sbox
  rw [Vector.getElem_ofFn]
  rfl

theorem sbox_value (s : State) (hs : CanonV s) :
    (sbox_layer s).map bfe_value = TF.Spec.Tip5.sbox (s.map bfe_value) := by
  apply Vector.ext
  intro i h
  rw [Vector.getElem_map, spec_sbox_getElem, Vector.getElem_map, sbox_getElem s i h]
  split
  · exact split_and_lookup_value _ (hs i h)
  · rw [(pow7_spec _ (hs i h)).2]
    unfold TF.Spec.Tip5.sboxP
    rw [P_eq]

theorem dot_mul_mod (w : Nat) : ∀ cs us : List Nat,
    dot cs (us.map fun u => u * w % Pn) ≡ dot cs us * w [MOD Pn]
  | [], _ => by simp [dot]; rfl
  | _ :: _, [] => by simp [dot]; rfl
  | c :: cs, u :: us => by
    have ih := dot_mul_mod w cs us
    simp only [List.map_cons, dot]
    have h1 : c * (u * w % Pn) ≡ c * u * w [MOD Pn] := by
      rw [Nat.mul_assoc]
      exact (Nat.ModEq.refl c).mul (Nat.mod_modEq _ _)
    rw [Nat.add_mul]
    exact h1.add ih

theorem map_value_eq (us : List Nat) (hus : ∀ u ∈ us, u < W) :
    us.map bfe_value = us.map fun u => u * Winv % Pn :=
  List.map_congr_left (fun u hu => value_eq u (hus u hu))

/-- the value of `(m + c) mod P` for a lane `m` of the linear layer that is only congruent to `row · us` (it may lie in
    `[P, 2^64)`), `c` a round constant with value `rcv`: values are taken by `· * Winv % P` (`value_eq`), which respects
    congruence, sums and the dot product (`dot_mul_mod`) -/
theorem lane_value (m c rcv : Nat) (row us : List Nat) (hm : m ≡ dot row us [MOD Pn])
    (hus : ∀ u ∈ us, u < W) (hc : c * Winv % Pn = rcv) :
    ((m + c) % Pn * Winv) % Pn = (dot row (us.map bfe_value) + rcv) % Pn := by
  rw [map_value_eq us hus]
  have h1 : (m + c) % Pn * Winv ≡ (m + c) * Winv [MOD Pn] := (Nat.mod_modEq _ _).mul_right _
  have h2 : (m + c) * Winv ≡ (dot row us + c) * Winv [MOD Pn] := (hm.add_right c).mul_right _
  have h3 : (dot row us + c) * Winv = dot row us * Winv + c * Winv := Nat.add_mul _ _ _
  have h4 : dot row us * Winv + c * Winv ≡ dot row (us.map fun u => u * Winv % Pn) + rcv [MOD Pn] := by
    apply Nat.ModEq.add (dot_mul_mod Winv row us).symm
    rw [← hc]
    exact (Nat.mod_modEq _ _).symm
  rw [h3] at h2
  exact (h1.trans h2).trans h4

theorem round_getElem (r : Fin 5) (s : State) (i : Nat) (h : i < 16) :
    (round r s)[i] = bfe_add (mds_generated (sbox_layer s))[i] (roundConstant r ⟨i, h⟩) := by
  unfold round
  simp only [Vector.getElem_ofFn, Fin.getElem_fin]

theorem round_lane (r : Fin 5) (s : State) (hs : CanonV s) (i : Nat) (h : i < 16) :
    (round r s)[i] < Pn ∧
    bfe_value (round r s)[i] =
      (dot (mdsRow ⟨i, h⟩) ((sbox_layer s).toList.map bfe_value) + TF.Spec.Tip5.roundConstant r ⟨i, h⟩) % Pn := by
  have hu : ∀ (j : Nat) (h : j < 16), (sbox_layer s)[j] < W :=
    fun j hj => Nat.lt_trans (sbox_canon s hs j hj) Pn_lt_W
  obtain ⟨m1, _, m2⟩ := mds_lane (sbox_layer s) hu i h
  obtain ⟨k1, k2, k3⟩ := round_constants_all r ⟨i, h⟩
  obtain ⟨a1, a2, _⟩ := add_noncanonical_left _ _ m1 k1
  rw [round_getElem r s i h]
  refine ⟨a2, ?_⟩
  rw [value_eq _ (Nat.lt_trans a2 Pn_lt_W), a1]
  apply lane_value (row := mdsRow ⟨i, h⟩) (hm := m2) (hus := (forall_mem_toList (p := fun x => x < W) _).mpr hu)
  rw [← k3, value_eq _ (by unfold W; omega)]

theorem round_canon (r : Fin 5) (s : State) (hs : CanonV s) : CanonV (round r s) :=
  fun j h => (round_lane r s hs j h).1

theorem round_refines (r : Fin 5) (s : State) (hs : CanonV s) :
    (round r s).map bfe_value = TF.Spec.Tip5.round r (s.map bfe_value) := by
  apply Vector.ext
  intro i h
  rw [Vector.getElem_map, (round_lane r s hs i h).2]
  unfold TF.Spec.Tip5.round
  simp only [Vector.getElem_ofFn]
  rw [← sbox_value s hs, Vector.toList_map]
  rfl

theorem fold_refines (rs : List (Fin 5)) (s : State) (hs : CanonV s) :
    CanonV (rs.foldl (fun s r => round r s) s) ∧
    (rs.foldl (fun s r => round r s) s).map bfe_value =
      rs.foldl (fun v r => TF.Spec.Tip5.round r v) (s.map bfe_value) := by
  induction rs generalizing s with
  | nil => exact ⟨hs, rfl⟩
  | cons r rs ih =>
    simp only [List.foldl_cons]
    rw [← round_refines r s hs]
    exact ih (round r s) (round_canon r s hs)

theorem traceFrom_refines (rs : List (Fin 5)) (s : State) (hs : CanonV s) :
    (∀ t ∈ traceFrom rs s, CanonV t) ∧
    (traceFrom rs s).map (fun t => t.map bfe_value) = TF.Spec.Tip5.traceFrom rs (s.map bfe_value) := by
  induction rs generalizing s with
  | nil => exact ⟨fun t ht => by simp [traceFrom] at ht, rfl⟩
  | cons r rs ih =>
    obtain ⟨i1, i2⟩ := ih (round r s) (round_canon r s hs)
    constructor
    · intro t ht
      simp only [traceFrom, List.mem_cons] at ht
      rcases ht with rfl | ht
      · exact round_canon r s hs
      · exact i1 t ht
    · simp only [traceFrom, TF.Spec.Tip5.traceFrom, List.map_cons]
      rw [i2, round_refines r s hs]

theorem traceFrom_last (rs : List (Fin 5)) (s : State) :
    (s :: traceFrom rs s).getLast (List.cons_ne_nil _ _) = rs.foldl (fun s r => round r s) s := by
  induction rs generalizing s with
  | nil => rfl
  | cons r rs ih =>
    simp only [traceFrom, List.foldl_cons]
    rw [List.getLast_cons (List.cons_ne_nil _ _)]
    exact ih (round r s)

theorem traceFrom_length (rs : List (Fin 5)) (s : State) : (traceFrom rs s).length = rs.length := by
  induction rs generalizing s with
  | nil => rfl
  | cons r rs ih => simp only [traceFrom, List.length_cons, ih]

theorem fixedLengthState_canon (input : Vector Nat 10) (hi : CanonV input) : CanonV (fixedLengthState input) := by
  intro j h
  unfold fixedLengthState
  rw [Vector.getElem_ofFn]
  split
  · exact hi j _
  · exact (new_spec 1 (by decide)).1

theorem fixedLengthState_value (input : Vector Nat 10) :
    (fixedLengthState input).map bfe_value =
      Vector.ofFn fun i : Fin 16 => if h : i.val < 10 then (input.map bfe_value)[i.val] else 1 := by
  apply Vector.ext
  intro j h
  unfold fixedLengthState
  rw [Vector.getElem_map, Vector.getElem_ofFn, Vector.getElem_ofFn]
  split
  · rw [Vector.getElem_map]
  · exact value_new 1 (by decide)

theorem hash_10_refines (input : Vector Nat 10) (hi : CanonV input) :
    CanonV (hash_10 input) ∧ (hash_10 input).map bfe_value = TF.Spec.Tip5.hash10 (input.map bfe_value) := by
  obtain ⟨c, v⟩ := fold_refines (List.finRange 5) (fixedLengthState input) (fixedLengthState_canon input hi)
  constructor
  · intro j h
    unfold hash_10
    simp only [Vector.getElem_ofFn]
    exact c j (by omega)
  · unfold hash_10 TF.Spec.Tip5.hash10 permutation TF.Spec.Tip5.permutation
    rw [← fixedLengthState_value, ← v]
    apply Vector.ext
    intro j h
    rw [Vector.getElem_map, Vector.getElem_ofFn, Vector.getElem_ofFn, Vector.getElem_map]

/-- `left ++ right` as the ten inputs of `hash_10` -/
def pairInput (l r : Vector Nat 5) : Vector Nat 10 :=
  Vector.ofFn fun i : Fin 10 => if h : i.val < 5 then l[i.val] else r[i.val - 5]

theorem hash_pair_eq (l r : Vector Nat 5) : hash_pair l r = hash_10 (pairInput l r) := rfl
theorem spec_hashPair_eq (l r : Vector Nat 5) : TF.Spec.Tip5.hashPair l r = TF.Spec.Tip5.hash10 (pairInput l r) := rfl

theorem pairInput_canon (l r : Vector Nat 5) (hl : CanonV l) (hr : CanonV r) : CanonV (pairInput l r) := by
  intro j h
  unfold pairInput
  rw [Vector.getElem_ofFn]
  split
  · exact hl j _
  · exact hr _ _

theorem pairInput_value (l r : Vector Nat 5) :
    (pairInput l r).map bfe_value = pairInput (l.map bfe_value) (r.map bfe_value) := by
  apply Vector.ext
  intro j h
  unfold pairInput
  rw [Vector.getElem_map, Vector.getElem_ofFn, Vector.getElem_ofFn]
  split <;> rw [Vector.getElem_map]

theorem hash_pair_refines (l r : Vector Nat 5) (hl : CanonV l) (hr : CanonV r) :
    CanonV (hash_pair l r) ∧
    (hash_pair l r).map bfe_value = TF.Spec.Tip5.hashPair (l.map bfe_value) (r.map bfe_value) := by
  rw [hash_pair_eq, spec_hashPair_eq, ← pairInput_value]
  exact hash_10_refines _ (pairInput_canon l r hl hr)

theorem zeros_canon : CanonV (Vector.replicate 5 zero) := by
  intro j h
  rw [Vector.getElem_replicate]
  exact (new_spec 0 (by decide)).1

theorem zeros_value : (Vector.replicate 5 zero).map bfe_value = Vector.replicate 5 0 := by
  apply Vector.ext
  intro j h
  rw [Vector.getElem_map, Vector.getElem_replicate, Vector.getElem_replicate]
  exact value_new 0 (by decide)

theorem digest_hash_refines (d : Vector Nat 5) (hd : CanonV d) :
    CanonV (digest_hash d) ∧
    (digest_hash d).map bfe_value = TF.Spec.Tip5.hashPair (d.map bfe_value) (Vector.replicate 5 0) := by
  unfold digest_hash
  rw [← zeros_value]
  exact hash_pair_refines d _ hd zeros_canon

theorem new_canon {x : Nat} (h : x < Pn) : bfe_new x < Pn := (new_spec x (Nat.lt_trans h Pn_lt_W)).1

/-- entering the model with `BFieldElement::new` of canonical values -/
theorem new_canonV {n : Nat} (v : Vector Nat n) (hv : CanonV v) :
    CanonV (v.map bfe_new) ∧ (v.map bfe_new).map bfe_value = v := by
  constructor
  · intro j h
    rw [Vector.getElem_map]
    exact new_canon (hv j h)
  · apply Vector.ext
    intro j h
    rw [Vector.getElem_map, Vector.getElem_map]
    exact value_new _ (hv j h)

end TF.Tip5P
