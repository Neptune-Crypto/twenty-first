import TF.Model.PolyNtt
import TF.Proofs.PolySpecNtt
import TF.Proofs.NttFinal
/-!
Bridge between property C06 (the executable model of the Rust in-place NTT, `TF/Model/Ntt.lean`) and property C07 (NTT-based
products, correct for every transform with `TransformSpec`): the model NTT over any field with a `RootOK` table satisfies
`TransformSpec` (`nttTransform_spec`); the translated table `PRIMITIVE_ROOTS` is `RootOK` in `ZMod P` (`zRoot_ok`); the
transform the driver runs on canonical values corresponds to the one over `ZMod P` under `Nat.cast` (`bNtt_transMap`).
-/
open Polynomial Finset

namespace TF.Model.Poly
open TF.Model.Ntt TF.NttFn TF.NttProofs TF.Gen TF.Model.Poly.Hom

section Generic
variable {K : Type} [Field K]

/-- what the transforms need from `inverse` / `inverse_or_zero`; `L ≤ 31` because `ntt` rejects lengths above `u32::MAX` -/
structure InvOK (inv : K → Option K) (inv0 : K → K) : Prop where
  inv_mul : ∀ a b, inv a = some b → b * a = 1
  inv0_mul : ∀ L, L ≤ 31 → inv0 ((2^L : ℕ) : K) * ((2^L : ℕ) : K) = 1

variable (inv : K → Option K) (inv0 : K → K) (root : Nat → Option K)

theorem toFn_toArray (xs : List K) (i : Nat) : toFn xs.toArray i = xs.getD i 0 := by
  simp [toFn, Array.getD_eq_getD_getElem?, List.getD_eq_getElem?_getD]

theorem dft_eq_eval (xs : List K) (ω : K) (i : Nat) :
    dft xs.length ω (toFn xs.toArray) i = (denote xs).eval (ω ^ i) := by
  rw [eval_denote_eq_dft]
  exact dft_congr _ ω _ _ (fun j _ => toFn_toArray xs j) i

theorem ntt_empty {σ α : Type} (ops : Ops σ α) (rt : Nat → Option σ) :
    TF.Model.Ntt.ntt ops rt #[] = (rt 0).map (fun _ => #[]) := by
  cases h : rt 0 <;> simp [TF.Model.Ntt.ntt, h, nttUnchecked, bitrevPermute, swapLoop, stagesLoop]

theorem intt_empty_some {σ α : Type} (ops : Ops σ α) (rt : Nat → Option σ) (z : Array α)
    (h : TF.Model.Ntt.intt ops rt #[] = some z) : z = #[] := by
  cases hr : rt 0 with
  | none => simp [TF.Model.Ntt.intt, hr] at h
  | some w =>
    cases hi : ops.sinv w with
    | none => simp [TF.Model.Ntt.intt, hr, hi] at h
    | some wi =>
      simp [TF.Model.Ntt.intt, hr, hi, nttUnchecked, bitrevPermute, swapLoop, stagesLoop] at h
      exact h

theorem intt_some_inv {σ α : Type} (ops : Ops σ α) (rt : Nat → Option σ) (x y : Array α) (L : Nat) (hL : L ≤ 31)
    (hx : x.size = 2^L) (ω : σ) (hr : rt (2^L) = some ω) (h : TF.Model.Ntt.intt ops rt x = some y) :
    ∃ ωi, ops.sinv ω = some ωi := by
  cases hi : ops.sinv ω with
  | some wi => exact ⟨wi, rfl⟩
  | none =>
    exfalso
    have hlt : ¬ 2^32 ≤ x.size := by
      rw [hx]
      have := Nat.pow_le_pow_right (by norm_num : 0 < 2) hL
      omega
    unfold TF.Model.Ntt.intt at h
    rw [if_neg hlt] at h
    simp only [hx, isPow2_two_pow, hr, hi] at h
    simp at h

theorem modelNtt_some (hroot : RootOK root) (x y : Array K)
    (h : TF.Model.Ntt.ntt (ringOps K inv inv0) root x = some y) :
    (x = #[] ∧ y = #[]) ∨
    ∃ L ω, L ≤ 31 ∧ x.size = 2^L ∧ root (2^L) = some ω ∧ (0 < L → ω^(2^(L-1)) = -1) ∧ y.size = 2^L ∧
      ∀ i, i < 2^L → toFn y i = dft (2^L) ω (toFn x) i := by
  by_cases hs : x.size = 0 ∨ ∃ k, k ≤ 31 ∧ x.size = 2^k
  · rcases hs with h0 | ⟨L, hL, hx⟩
    · left
      have hx : x = #[] := Array.eq_empty_of_size_eq_zero h0
      subst hx
      rw [ntt_empty] at h
      cases hr : root 0 with
      | none => simp [hr] at h
      | some w => simp [hr] at h; exact ⟨rfl, h⟩
    · right
      cases hr : root (2^L) with
      | none =>
        exfalso
        have hlt : ¬ 2^32 ≤ x.size := by
          rw [hx]
          have := Nat.pow_le_pow_right (by norm_num : 0 < 2) hL
          omega
        unfold TF.Model.Ntt.ntt at h
        rw [if_neg hlt] at h
        simp only [hx, isPow2_two_pow, hr] at h
        simp at h
      | some ω =>
        have hω : 0 < L → ω^(2^(L-1)) = -1 := RootOK.pow_half root hroot L ω hr
        obtain ⟨y', hy', hys, hyi⟩ := ntt_eq_dft_model inv inv0 root L hL ω hr hω x hx
        rw [hy'] at h
        cases h
        exact ⟨L, ω, hL, hx, hr, hω, hys, hyi⟩
  · rw [(ntt_rejects _ root x hs).1] at h; cases h

theorem toList_eq_map_range (y : Array K) (n : Nat) (hn : y.size = n) (g : Nat → K)
    (h : ∀ i, i < n → toFn y i = g i) : y.toList = (List.range n).map g := by
  apply List.ext_getElem
  · simp [hn]
  · intro i h1 h2
    have hi : i < n := by simpa [hn] using h1
    have := h i hi
    simp only [toFn, Array.getD_eq_getD_getElem?] at this
    rw [Array.getElem?_eq_getElem (by omega)] at this
    simpa using this

/-- **the model of the Rust in-place NTT, run with the operations of a field, is an evaluation / interpolation pair**
    at the powers of the tabulated roots -/
theorem nttTransform_spec (hI : InvOK inv inv0) (hroot : RootOK root) :
    TransformSpec (nttTransform (ringOps K inv inv0) root) (rootPts root) where
  ntt_eval := by
    intro xs ys h
    obtain ⟨y, hy, rfl⟩ := Option.map_eq_some_iff.1 h
    rcases modelNtt_some inv inv0 root hroot _ y hy with ⟨hx, rfl⟩ | ⟨L, ω, hL, hx, hr, hω, hys, hyi⟩
    · have : xs = [] := by simpa using hx
      subst this; simp
    · have hlen : xs.length = 2^L := by simpa using hx
      rw [toList_eq_map_range y (2^L) hys _ hyi, hlen]
      apply List.map_congr_left
      intro i _
      rw [← hlen, dft_eq_eval xs, rootPts, hlen, hr]
  ntt_some_of_length := by
    intro xs ys xs' h hl
    obtain ⟨y, hy, rfl⟩ := Option.map_eq_some_iff.1 h
    rcases modelNtt_some inv inv0 root hroot _ y hy with ⟨hx, rfl⟩ | ⟨L, ω, hL, hx, hr, hω, hys, hyi⟩
    · have : xs = [] := by simpa using hx
      subst this
      have : xs' = [] := List.length_eq_zero_iff.1 (by simpa using hl)
      subst this
      exact ⟨_, h⟩
    · have hlen : xs'.toArray.size = 2^L := by
        have : xs.length = 2^L := by simpa using hx
        simp [hl, this]
      obtain ⟨y', hy', _, _⟩ := ntt_eq_dft_model inv inv0 root L hL ω hr hω xs'.toArray hlen
      exact ⟨y'.toList, by simp [nttTransform, hy']⟩
  intt_ntt := by
    intro xs ys zs h hz
    obtain ⟨y, hy, rfl⟩ := Option.map_eq_some_iff.1 h
    obtain ⟨z, hz', rfl⟩ := Option.map_eq_some_iff.1 hz
    simp only [Array.toArray_toList] at hz'
    rcases modelNtt_some inv inv0 root hroot _ y hy with ⟨hx, rfl⟩ | ⟨L, ω, hL, hx, hr, hω, hys, hyi⟩
    · have : xs = [] := by simpa using hx
      subst this
      rw [intt_empty_some _ _ z hz']
    · obtain ⟨ωi, hi⟩ := intt_some_inv _ root y z L hL hys ω hr hz'
      obtain ⟨y', hy', hz''⟩ := intt_ntt_model inv inv0 root L hL ω ωi hr hi (hI.inv_mul _ _ hi)
        (hI.inv0_mul L hL) hω xs.toArray hx
      rw [hy] at hy'
      cases hy'
      rw [hz'] at hz''
      cases hz''
      simp

theorem nttTransform_definedAt (hroot : RootOK root) (L : Nat) (hL : L ≤ 31) (ω ωi : K)
    (hr : root (2^L) = some ω) (hi : inv ω = some ωi) (hinv : ωi * ω = 1) :
    DefinedAt (nttTransform (ringOps K inv inv0) root) (2^L) := by
  have hω : 0 < L → ω^(2^(L-1)) = -1 := RootOK.pow_half root hroot L ω hr
  constructor
  · intro xs hx
    obtain ⟨y, hy, hys, _⟩ := ntt_eq_dft_model inv inv0 root L hL ω hr hω xs.toArray (by simpa using hx)
    exact ⟨y.toList, by simp [nttTransform, hy], by simpa using hys⟩
  · intro xs hx
    obtain ⟨y, hy, hys, _⟩ := intt_eq_dft_model inv inv0 root L hL ω ωi hr hi hinv hω xs.toArray (by simpa using hx)
    exact ⟨y.toList, by simp [nttTransform, hy], by simpa using hys⟩

end Generic

section Base

/-- **`RootOK` for the translated table**: the root `TF.Model.Ntt.primitiveRoot` returns for a length `2^(k+1)`,
    read in `ZMod P`, has `2^k`-th power `-1` (from C06's `table_entries`, decided over the whole table) -/
theorem zRoot_ok : RootOK zRoot := by
  intro k w h
  simp only [zRoot, Option.map_eq_some_iff] at h
  obtain ⟨r, hr, rfl⟩ := h
  rcases table_entries _ r (primitiveRoot_mem _ r hr) with ⟨h0, _⟩ | ⟨j, _, hj, _, hp⟩
  · exact absurd h0 (by positivity)
  · have hjk : k + 1 = j := Nat.pow_right_injective (le_refl 2) hj
    subst hjk
    simp only [Nat.add_eq_zero_iff, one_ne_zero, and_false, if_false, Nat.add_sub_cancel] at hp
    exact cast_pow_eq_neg_one r _ hp

theorem rootTable_eq_find (l : List (Nat × Nat)) (n : Nat) :
    rootTable l n = (l.find? (fun e => e.1 == n)).map (·.2) := by
  induction l with
  | nil => rfl
  | cons hd tl ih =>
    obtain ⟨k, v⟩ := hd
    simp only [rootTable, List.find?_cons]
    by_cases hk : (k == n) = true
    · simp [hk]
    · simp only [hk, if_false]; rw [ih]; simp [hk]

/-- `primitiveRoot` answers `none` from `2^64` on without consulting the table -/
theorem table_keys_small : ∀ e ∈ PRIMITIVE_ROOTS, e.1 < 2^64 := by decide

/-- the two look-up functions of the models (C06: `primitiveRoot`, C07: `bfieldOps.rootOfUnity`) agree -/
theorem bfieldRoot_eq (n : Nat) : TF.bfieldOps.rootOfUnity n = primitiveRoot n := by
  show (PRIMITIVE_ROOTS.find? (fun e => e.1 == n)).map (·.2) = primitiveRoot n
  unfold primitiveRoot
  split
  · next hbig =>
    have : PRIMITIVE_ROOTS.find? (fun e => e.1 == n) = none := by
      rw [List.find?_eq_none]
      intro e he
      have := table_keys_small e he
      simp only [beq_iff_eq]
      omega
    rw [this]; rfl
  · exact (rootTable_eq_find _ _).symm

theorem bfieldRoot_ok : RootOK (fun n => (TF.bfieldOps.rootOfUnity n).map (fun r : Nat => (r : ZMod P))) := by
  have : (fun n => (TF.bfieldOps.rootOfUnity n).map (fun r : Nat => (r : ZMod P))) = zRoot := by
    funext n
    rw [bfieldRoot_eq]
    rfl
  rw [this]; exact zRoot_ok

theorem zInvOK : InvOK zinv zinv0 where
  inv_mul := by
    intro a b h
    unfold zinv at h
    split at h
    · cases h
    · next hne => cases h; exact inv_mul_cancel₀ hne
  inv0_mul := fun L hL => inv_mul_cancel₀ (two_pow_cast_ne_zero L (by omega))

/-- the model NTT over `ZMod P` with the translated root table -/
noncomputable def zNtt : Transform (ZMod P) := nttTransform zOps zRoot

/-- **`TransformSpec` for the model of the Rust NTT over the base field**, evaluation points `pts n i = ω_n^i` with
    `ω_n` the tabulated primitive root — no hypothesis left -/
theorem zNtt_spec : TransformSpec zNtt (rootPts zRoot) := nttTransform_spec zinv zinv0 zRoot zInvOK zRoot_ok

/-- a homomorphism of NTT operation records makes the wrapped transforms correspond -/
theorem nttTransform_map {σ α σ' α' : Type} {o : Ops σ α} {o' : Ops σ' α'} {fs : σ → σ'} {fa : α → α'}
    (h : OpsHom o o' fs fa) (root : Nat → Option σ) (xs : List α) :
    ((nttTransform o root).ntt xs).map (List.map fa)
      = (nttTransform o' (fun n => (root n).map fs)).ntt (xs.map fa) ∧
    ((nttTransform o root).intt xs).map (List.map fa)
      = (nttTransform o' (fun n => (root n).map fs)).intt (xs.map fa) := by
  have h1 := ntt_map h root xs.toArray
  have h2 := intt_map h root xs.toArray
  constructor
  · simp only [nttTransform, ← List.map_toArray, ← h1, Option.map_map]
    congr 1
    funext y
    simp
  · simp only [nttTransform, ← List.map_toArray, ← h2, Option.map_map]
    congr 1
    funext y
    simp

/-- the transform on canonical values (what the driver runs) commutes with `Nat.cast : ℕ → ZMod P` -/
theorem bNtt_cast (xs : List Nat) :
    (bNtt.ntt xs).map (List.map (fun n : Nat => (n : ZMod P))) = zNtt.ntt (xs.map (fun n : Nat => (n : ZMod P))) ∧
    (bNtt.intt xs).map (List.map (fun n : Nat => (n : ZMod P))) = zNtt.intt (xs.map (fun n : Nat => (n : ZMod P))) :=
  nttTransform_map castHom primitiveRoot xs

theorem bNtt_intt_canon (xs ys : List Nat) (h : bNtt.intt xs = some ys) : ∀ y ∈ ys, y < P := by
  obtain ⟨z, hz, rfl⟩ := Option.map_eq_some_iff.1 h
  obtain ⟨c, w, rfl⟩ := intt_some_form _ _ _ _ hz
  intro y hy
  simp only [Array.toList_map, List.mem_map] at hy
  obtain ⟨a, _, rfl⟩ := hy
  exact Nat.mod_lt _ P_pos

noncomputable def zc : Nat → ZMod P := fun n => (n : ZMod P)

/-- the operation record of `ZMod P` (root look-up = the translated table) -/
noncomputable abbrev FZ : FieldOps (ZMod P) := FieldOps.ofField (ZMod P) zRoot

/-- `bfieldOps` (integer arithmetic modulo `P` on naturals) corresponds to the field operations of `ZMod P` -/
theorem bfield_opsMap : OpsMap TF.bfieldOps FZ zc (fun a => a < P) where
  zero := by simp [zc, FZ, TF.bfieldOps]
  one := by simp [zc, FZ, TF.bfieldOps]
  add := fun a b => by simp [zc, FZ, TF.bfieldOps, cast_fadd]
  sub := fun a b => by simp [zc, FZ, TF.bfieldOps, cast_fsub]
  mul := fun a b => by simp [zc, FZ, TF.bfieldOps, cast_fmul]
  isZero := by
    intro a ha
    rw [Bool.eq_iff_iff, FZ, FieldOps.ofField_isZero]
    simp only [TF.bfieldOps, beq_iff_eq, zc]
    rw [cast_eq_zero_iff, Nat.mod_eq_of_lt ha]
  ok_zero := P_pos
  ok_one := by decide
  ok_add := fun a b => Nat.mod_lt _ P_pos
  ok_sub := fun a b => Nat.mod_lt _ P_pos
  ok_mul := fun a b => Nat.mod_lt _ P_pos

theorem bNtt_transMap : TransMap bNtt zNtt zc (fun a => a < P) where
  ntt := fun xs => (bNtt_cast xs).1
  intt := fun xs => (bNtt_cast xs).2
  ok_intt := bNtt_intt_canon

/-- the transform on canonical values is defined on every length `2^L`, `L ≤ 31` (`ntt_b_eq_dft`, `intt_b_eq_dft`
    of `TF/Proofs/NttFinal.lean`), and preserves the length -/
theorem bNtt_definedAt (L : Nat) (hL : L ≤ 31) : DefinedAt bNtt (2^L) := by
  constructor
  · intro xs hx
    obtain ⟨r, y, _, hy, hys, _⟩ := ntt_b_eq_dft L hL xs.toArray (by simpa using hx)
    exact ⟨y.toList, by simp [bNtt, nttTransform, hy], by simpa using hys⟩
  · intro xs hx
    obtain ⟨r, y, _, hy, hys, _⟩ := intt_b_eq_dft L hL xs.toArray (by simpa using hx)
    exact ⟨y.toList, by simp [bNtt, nttTransform, hy], by simpa using hys⟩

theorem nextPowerOfTwo_le_pow (n L : Nat) (h : nextPowerOfTwo n ≤ 2^L) : ∃ k, k ≤ L ∧ nextPowerOfTwo n = 2^k := by
  obtain ⟨k, hk⟩ := nextPowerOfTwo_isPow n
  refine ⟨k, ?_, hk⟩
  rw [hk] at h
  exact (Nat.pow_le_pow_iff_right (by norm_num)).1 h

end Base

end TF.Model.Poly
