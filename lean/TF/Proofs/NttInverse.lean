import TF.Proofs.NttDft
/-!
Orthogonality of the powers of a root `ω` with `ω^(n/2) = -1`, `n = 2^L`, in an arbitrary commutative ring, and
`dft n ω⁻¹ (dft n ω f) = n • f` on `[0, n)`.  No domain/field hypothesis is needed: the geometric sum
`Σ_{k<2^L} z^k = Π_{t<L} (1 + z^(2^t))` has a vanishing factor for every `z = ω^d`, `0 < d < n`.
-/
namespace TF.NttFn
open Finset

variable {R : Type} [CommRing R]

theorem geom_sum_zero (L : Nat) : ∀ (d : Nat) (η : R), η^(2^L) = -1 → 0 < d → d < 2^(L+1) →
    ∑ k ∈ range (2^(L+1)), (η^d)^k = 0 := by
  induction L with
  | zero =>
    intro d η hη hd0 hd
    have : d = 1 := by simp at hd; omega
    subst this
    simp only [pow_zero, pow_one] at hη
    simp [sum_range_succ, hη]
  | succ L ih =>
    intro d η hη hd0 hd
    set m := 2^(L+1) with hm
    rw [show 2^(L+1+1) = m + m by rw [hm, pow_succ 2 (L+1)]; ring, sum_range_add]
    have hzm : (η^d)^m = (-1)^d := by rw [← pow_mul, mul_comm, pow_mul, hη]
    have hshift : ∑ k ∈ range m, (η^d)^(m + k) = (-1)^d * ∑ k ∈ range m, (η^d)^k := by
      rw [mul_sum]; apply sum_congr rfl; intro k _; rw [pow_add, hzm]
    rw [hshift]
    rcases Nat.even_or_odd d with ⟨d', hd'⟩ | hodd
    · have hz : η^d = (η^2)^d' := by rw [← pow_mul, hd']; congr 1; ring
      have := ih d' (η^2) (by rw [← pow_mul, ← pow_succ']; exact hη) (by omega)
        (by rw [hm] at *; rw [pow_succ 2 (L+1)] at hd; omega)
      rw [hz, this]; ring
    · rw [hodd.neg_one_pow]; ring

theorem inv_pow_half (L : Nat) (ω ωi : R) (hω : ω^(2^(L-1)) = -1) (hinv : ωi * ω = 1) : ωi^(2^(L-1)) = -1 := by
  have h1 : (ωi * ω)^(2^(L-1)) = 1 := by rw [hinv, one_pow]
  rw [mul_pow, hω] at h1
  have : ωi^(2^(L-1)) = -(ωi^(2^(L-1)) * -1) := by ring
  rw [this, h1]

theorem pow_mul_pow_of_mul_eq_one {a b : R} (h : a * b = 1) {j i : Nat} (hji : j ≤ i) : b^j * a^i = a^(i-j) := by
  have : a^i = a^(i-j) * a^j := by rw [← pow_add, Nat.sub_add_cancel hji]
  rw [this, mul_left_comm, ← mul_pow, mul_comm b a, h, one_pow, mul_one]

/-- orthogonality: `Σ_{k<n} ω^(j·k)·ωi^(k·i) = n·[j = i]` -/
theorem orthogonality (L : Nat) (ω ωi : R) (hω : 0 < L → ω^(2^(L-1)) = -1) (hinv : ωi * ω = 1) (i j : Nat)
    (hi : i < 2^L) (hj : j < 2^L) :
    ∑ k ∈ range (2^L), ω^(j*k) * ωi^(k*i) = if j = i then ((2^L : ℕ) : R) else 0 := by
  have hterm : ∀ k, ω^(j*k) * ωi^(k*i) = (ω^j * ωi^i)^k := by
    intro k; rw [mul_pow, ← pow_mul, ← pow_mul, mul_comm k i]
  simp only [hterm]
  by_cases hji : j = i
  · subst hji
    rw [if_pos rfl, ← mul_pow, mul_comm ω ωi, hinv]
    simp
  · rw [if_neg hji]
    have hL : L ≠ 0 := by
      rintro rfl
      exact hji ((Nat.lt_one_iff.1 hj).trans (Nat.lt_one_iff.1 hi).symm)
    obtain ⟨M, rfl⟩ : ∃ M, L = M + 1 := ⟨L - 1, by omega⟩
    have hω := hω (by omega)
    rw [Nat.add_sub_cancel] at hω
    have hωi := inv_pow_half (M+1) ω ωi hω hinv
    rw [Nat.add_sub_cancel] at hωi
    rcases Nat.lt_or_gt_of_ne hji with hlt | hgt
    · rw [pow_mul_pow_of_mul_eq_one hinv (Nat.le_of_lt hlt)]
      exact geom_sum_zero M (i-j) ωi hωi (by omega) (by omega)
    · rw [mul_comm, pow_mul_pow_of_mul_eq_one ((mul_comm ω ωi).trans hinv) (Nat.le_of_lt hgt)]
      exact geom_sum_zero M (j-i) ω hω (by omega) (by omega)

/-- the inverse transform undoes the forward transform up to the factor `n` (any commutative ring) -/
theorem dft_inv (L : Nat) (ω ωi : R) (hω : 0 < L → ω^(2^(L-1)) = -1) (hinv : ωi * ω = 1) (f : Nat → R) (i : Nat)
    (hi : i < 2^L) : dft (2^L) ωi (dft (2^L) ω f) i = ((2^L : ℕ) : R) * f i := by
  unfold dft
  simp only [sum_mul]
  rw [sum_comm]
  have : ∀ j ∈ range (2^L), ∑ k ∈ range (2^L), f j * ω^(j*k) * ωi^(k*i)
      = f j * (if j = i then ((2^L : ℕ) : R) else 0) := by
    intro j hj
    rw [← orthogonality L ω ωi hω hinv i j hi (mem_range.1 hj), mul_sum]
    apply sum_congr rfl; intro k _; ring
  rw [sum_congr rfl this]
  simp only [mul_ite, mul_zero]
  rw [sum_ite_eq' , if_pos (mem_range.2 hi)]
  ring

end TF.NttFn
