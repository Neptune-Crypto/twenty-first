import TF.Gen.CodecGeneric
import TF.Proofs.GenBridgeCodec
/-!
Bridge between the **generic** decoders regenerated from source (`TF/Gen/CodecGeneric.lean`, written by
`tools/rs2lean_codec.py`) and the list / composite cases of the hand model `TF/Model/Codec.lean`.  Core Lean only.

The regenerated definitions take the trait methods of the type parameter as parameter functions; every bridge below is
stated for **all** item functions: `Item T_decode toVal dec` says that the item decoder `T_decode` (on raw words, into `Res`)
is observed as the model decoder `dec` (on canonical values, into `Outcome`).  Error *kinds* are not compared (the Rust
code wraps the item's error into `InnerDecodingFailure`, the model keeps the kind): `Obs` is `ok v | err | panic`.
-/
namespace TF.GenBridge.CodecG
open TF.Gen TF.Gen.Loops TF.Codec TF.RustStd TF.GenBridge.Codec

/-- what is observed of a decoder: the value, *an* error, or a panic -/
inductive Obs (α : Type) where
  | ok (a : α) | err | panic

def obsM {α : Type} : Outcome α → Obs α
  | .ok a => .ok a
  | .err _ => .err
  | .panic => .panic

def obsR {ε α β : Type} (f : α → β) : Res ε α → Obs β
  | .ok a => .ok (f a)
  | .err _ => .err
  | .panic => .panic

theorem obs_cases {ε α β : Type} {f : α → β} {L : Res ε α} {M : Outcome β} (h : obsR f L = obsM M) :
    (∃ a, L = .ok a ∧ M = .ok (f a)) ∨ (∃ e k, L = .err e ∧ M = .err k) ∨ (L = .panic ∧ M = .panic) := by
  cases L <;> cases M <;> simp only [obsR, obsM, Obs.ok.injEq, reduceCtorEq] at h
  · exact .inl ⟨_, rfl, by rw [h]⟩
  · exact .inr (.inl ⟨_, _, rfl, rfl⟩)
  · exact .inr (.inr ⟨rfl, rfl⟩)

/-- every element is a `u64` word (what a `BFieldElement` is).
    Constants: `18446744073709551616` is `2^64` (`TF.BF.W`); `TF.Gen.P`, `TF.BF.Pn` and `TF.Codec.P` are one number,
    `2^64 - 2^32 + 1` (the generated code, the field proofs and the codec model each bring their name; all are definitionally
    equal).  Bounds are written as the decimal literal because that is how they stand in the regenerated definitions, so
    that `rw [if_pos h]` finds the test it is about. -/
def Words (r : List Nat) : Prop := ∀ x ∈ r, x < 18446744073709551616

theorem Words_take (k : Nat) (r : List Nat) (h : Words r) : Words (r.take k) := fun x hx => h x (List.mem_of_mem_take hx)
theorem Words_drop (k : Nat) (r : List Nat) (h : Words r) : Words (r.drop k) := fun x hx => h x (List.mem_of_mem_drop hx)
theorem Words_tail (x : Nat) (r : List Nat) (h : Words (x :: r)) : x < 18446744073709551616 ∧ Words r :=
  ⟨h x List.mem_cons_self, fun y hy => h y (List.mem_cons_of_mem _ hy)⟩

theorem vals_nil : vals [] = [] := rfl

theorem vals_cons (x : Nat) (r : List Nat) : vals (x :: r) = bfe_value x :: vals r := rfl

theorem vals_length (r : List Nat) : (vals r).length = r.length := by simp [vals]
theorem vals_take (k : Nat) (r : List Nat) : vals (r.take k) = (vals r).take k := by simp [vals, List.map_take]
theorem vals_drop (k : Nat) (r : List Nat) : vals (r.drop k) = (vals r).drop k := by simp [vals, List.map_drop]
theorem vals_append (a b : List Nat) : vals (a ++ b) = vals a ++ vals b := by simp [vals]
theorem vals_isEmpty (r : List Nat) : (vals r).isEmpty = r.isEmpty := by
  cases r with
  | nil => rfl
  | cons x xs => simp only [vals_cons, List.isEmpty_cons]

theorem vals_ZERO : vals [bfe_ZERO] = [0] := by
  simp only [vals, List.map_cons, List.map_nil, bfe_ZERO]
  rw [TF.BF.value_new 0 (by decide)]

theorem vals_ONE : vals [bfe_ONE] = [1] := by
  simp only [vals, List.map_cons, List.map_nil, bfe_ONE]
  rw [TF.BF.value_new 1 (by decide)]

theorem canon_vals (r : List Nat) (hw : Words r) : Canon (vals r) := by
  intro x hx
  simp only [vals, List.mem_map] at hx
  obtain ⟨y, hy, rfl⟩ := hx
  exact TF.BF.value_lt y (hw y hy)

/-- the item decoder `T_decode` (on sequences of raw `u64` words) is observed as the model's item decoder `dec` (on their
    canonical values) -/
def Item {ε α : Type} (T_decode : List Nat → Res ε α) (toVal : α → Val) (dec : List Nat → Outcome Val) : Prop :=
  ∀ r, Words r → obsR toVal (T_decode r) = obsM (dec (vals r))

theorem tryQ_ok {ε ε' α β : Type} (a : α) (conv : ε → ε') (k : α → Res ε' β) : Res.tryQ (.ok a) conv k = k a := rfl
theorem tryQ_error {ε ε' α β : Type} (e : ε) (conv : ε → ε') (k : α → Res ε' β) :
    Res.tryQ (.error e) conv k = .err (conv e) := rfl
theorem unwrapO_some {ε α β : Type} (a : α) (k : α → Res ε β) : Res.unwrapO (some a) k = k a := rfl
theorem unwrapO_none {ε α β : Type} (k : α → Res ε β) : Res.unwrapO none k = .panic := rfl
theorem call_ok {ε ε' α β : Type} (a : α) (k : Except ε α → Res ε' β) : Res.call (Res.ok a) k = k (.ok a) := rfl
theorem call_err {ε ε' α β : Type} (e : ε) (k : Except ε α → Res ε' β) : Res.call (Res.err e : Res ε α) k = k (.error e) := rfl
theorem call_panic {ε ε' α β : Type} (k : Except ε α → Res ε' β) : Res.call (Res.panic : Res ε α) k = .panic := rfl
theorem need_true {ε α : Type} (k : Res ε α) : Res.need true k = k := rfl
theorem need_false {ε α : Type} (k : Res ε α) : Res.need false k = .panic := rfl
theorem need_decide {ε α : Type} (p : Prop) [Decidable p] (k : Res ε α) (h : p) : Res.need (decide p) k = k := by
  simp [Res.need, h]
theorem need_decide_not {ε α : Type} (p : Prop) [Decidable p] (k : Res ε α) (h : ¬ p) : Res.need (decide p) k = .panic := by
  simp [Res.need, h]

/-- `f(..)?` followed by `Ok(v)` returns what `f` returned -/
theorem call_tryQ_ok {ε α : Type} (L : Res ε α) : Res.call L (fun r => Res.tryQ r id (fun t => Res.ok t)) = L := by
  cases L <;> rfl

theorem forIn_ok {ε β σ : Type} (l : List β) (s : σ) (f : β → σ → Res ε σ) : Res.forIn l s f Res.ok = Res.loop f l s := by
  unfold Res.forIn; cases Res.loop f l s <;> rfl

theorem try_from_word (x : Nat) (hx : x < 18446744073709551616) :
    codec_usize_try_from_bfe x = .ok (bfe_value x) ∧ codec_usize_try_from_bfe_ok x = true := by
  refine ⟨?_, TF.BF.value_ok x⟩
  have hv : bfe_value x < 18446744073709551616 := Nat.lt_trans (TF.BF.value_lt x hx) TF.BF.Pn_lt_W
  unfold codec_usize_try_from_bfe TF.RustStd.int_try_from
  generalize bfe_value x = v at hv ⊢
  rw [if_pos hv]

/-- one iteration of the `for raw_item in sequence.chunks_exact(item_length)` loop -/
def stepS {ε α : Type} (T_decode : List Nat → Res ε α) (raw : List Nat) (acc : List α) : Res String (List α) :=
  match T_decode raw with
  | .ok v => .ok (acc ++ [v])
  | .err _ => .err "InnerDecodingFailure"
  | .panic => .panic

/-- one iteration of the `for _ in 0..num_items` loop on the state `(sequence_index, vec)`; `lenOf` is `BFieldElement::value`
    (a parameter so that `simp` never looks into the Montgomery arithmetic) -/
def stepD {ε α : Type} (lenOf : Nat → Nat) (T_decode : List Nat → Res ε α) (seq : List Nat) (st : Nat × List α) : Res String (Nat × List α) :=
  match seq[st.1]? with
  | none => .err "MissingLengthIndicator"
  | some x =>
    if lenOf x < 18446744073709551616 then
      if st.1 + 1 < 18446744073709551616 then
        if st.1 + 1 + lenOf x < 18446744073709551616 then
          if seq.length < st.1 + 1 + lenOf x then .err "SequenceTooShort"
          else match T_decode ((seq.drop (st.1 + 1)).take (lenOf x)) with
            | .ok v => .ok (st.1 + 1 + lenOf x, st.2 ++ [v])
            | .err _ => .err "InnerDecodingFailure"
            | .panic => .panic
        else .panic
      else .panic
    else .err "TryFromIntError"

/-- the loop state against the model's `(items, rest)` -/
def relD {α : Type} (toVal : α → Val) (seq : List Nat) (acc : List α) :
    Res String (Nat × List α) → Outcome (List Val × List Nat) → Prop
  | .ok (i, a), .ok (vs, rest) => a.map toVal = acc.map toVal ++ vs ∧ rest = (vals seq).drop i ∧ i ≤ seq.length
  | .err _, .err _ => True
  | .panic, .panic => True
  | _, _ => False

theorem relD_cases {α : Type} {toVal : α → Val} {seq : List Nat} {acc : List α} {L : Res String (Nat × List α)}
    {M : Outcome (List Val × List Nat)} (h : relD toVal seq acc L M) :
    (∃ i a vs rest, L = .ok (i, a) ∧ M = .ok (vs, rest) ∧
      a.map toVal = acc.map toVal ++ vs ∧ rest = (vals seq).drop i ∧ i ≤ seq.length) ∨
    (∃ e k, L = .err e ∧ M = .err k) ∨ (L = .panic ∧ M = .panic) := by
  cases L <;> cases M <;> simp only [relD] at h
  · exact .inl ⟨_, _, _, _, rfl, rfl, h⟩
  · exact .inr (.inl ⟨_, _, rfl, rfl⟩)
  · exact .inr (.inr ⟨rfl, rfl⟩)

theorem relD_cons {α : Type} {toVal : α → Val} {seq : List Nat} {acc : List α} (v : α) {L : Res String (Nat × List α)}
    {M : Outcome (List Val × List Nat)} (h : relD toVal seq (acc ++ [v]) L M) :
    relD toVal seq acc L (match (generalizing := false) M with
      | .ok (vs, rest) => .ok (toVal v :: vs, rest)
      | .err k => .err k
      | .panic => .panic) := by
  rcases relD_cases h with ⟨i, a, vs, rest, rfl, rfl, h1, h2, h3⟩ | ⟨e, k, rfl, rfl⟩ | ⟨rfl, rfl⟩
  · exact ⟨by simpa using h1, h2, h3⟩
  · trivial
  · trivial

section
variable {ε α : Type} (T_decode : List Nat → Res ε α) (into : ε → DynErr) (toVal : α → Val) (dec : List Nat → Outcome Val)
  (h : Item T_decode toVal dec)
include h

/-- `f` is the fuel of `chunksAux` (`chunks_exact` passes `r.length`) -/
theorem static_loop (body : List Nat → List α → Res String (List α))
    (hb : ∀ raw acc, body raw acc = stepS T_decode raw acc) (w : Nat) (hw : w ≠ 0) :
    ∀ (n f : Nat) (r : List Nat) (acc : List α), Words r → r.length = n * w → n ≤ f →
      obsR (List.map toVal) (Res.loop body (chunksAux w f r) acc) =
        (match decodeChunks dec w n (vals r) with
         | .ok vs => Obs.ok (acc.map toVal ++ vs)
         | .err _ => Obs.err
         | .panic => Obs.panic) := by
  intro n
  induction n with
  | zero =>
    intro f r acc _ hl _
    have : r = [] := List.eq_nil_of_length_eq_zero (by simpa using hl)
    subst this
    have hw' : 0 < w ∨ w = 0 := by omega
    cases f <;> simp [chunksAux, Res.loop, decodeChunks, obsR, hw']
  | succ n ih =>
    intro f r acc hwr hl hf
    obtain ⟨f, rfl⟩ : ∃ f', f = f' + 1 := ⟨f - 1, by omega⟩
    have hlen : w ≤ r.length := by rw [hl, Nat.succ_mul]; omega
    have hnot : ¬ (r.length < w ∨ w = 0) := by omega
    simp only [chunksAux, if_neg hnot, Res.loop, decodeChunks, hb, stepS]
    have hi := h (r.take w) (Words_take w r hwr)
    rw [vals_take] at hi
    have hl' : (r.drop w).length = n * w := by rw [List.length_drop, hl, Nat.succ_mul]; omega
    rcases obs_cases hi with ⟨v, hd, hm⟩ | ⟨e, k, hd, hm⟩ | ⟨hd, hm⟩
    · simp only [hd, hm]
      rw [ih f (r.drop w) (acc ++ [v]) (Words_drop w r hwr) hl' (by omega), vals_drop]
      cases decodeChunks dec w n (List.drop w (vals r)) <;> simp
    · simp only [hd, hm]
      rfl
    · simp only [hd, hm]
      rfl

/-- **static list decoder**, regenerated = hand model, for every item decoder and every static width (including width
    `0`: both panic in `chunks_exact(0)` -- finding F10), every count and every sequence: `checked_mul` overflow, the two
    comparisons with the remaining length, the chunk loop with its early exit -/
theorem gen_decode_list_static (w n : Nat) (r : List Nat) (hwr : Words r) :
    obsR (List.map toVal) (codec_decode_list_static (some w) T_decode into n r) = obsM (decodeList dec (some w) n (vals r)) := by
  simp only [codec_decode_list_static, Res.unwrapO, TF.RustStd.checked_mul, decodeList, vals_length]
  by_cases h1 : n * w < 18446744073709551616
  · have h1' : ¬ n * w ≥ 2 ^ 64 := by omega
    rw [if_pos h1, if_neg h1']
    simp only [decide_eq_true_eq]
    by_cases h2 : r.length < n * w
    · rw [if_pos h2, if_pos h2]; rfl
    · rw [if_neg h2, if_neg h2]
      by_cases h3 : r.length > n * w
      · rw [if_pos h3, if_pos h3]; rfl
      · rw [if_neg h3, if_neg h3]
        by_cases h4 : w = 0
        · subst h4; simp [Res.need, obsR, obsM]
        · have h4' : (w != 0) = true := by simp [h4]
          rw [if_neg h4]
          simp only [Res.need, h4', if_true, TF.RustStd.chunks_exact]
          have hl : r.length = n * w := by omega
          have hn : n ≤ r.length := by
            rw [hl]; exact Nat.le_mul_of_pos_right n (Nat.pos_of_ne_zero h4)
          rw [forIn_ok]
          refine (static_loop T_decode toVal dec h _ (fun raw acc => ?_) w h4 n r.length r [] hwr hl hn).trans ?_
          · simp only [stepS, Res.call]; cases T_decode raw <;> rfl
          · cases decodeChunks dec w n (vals r) <;> rfl
  · have h1' : n * w ≥ 2 ^ 64 := by omega
    rw [if_neg h1, if_pos h1']; rfl

theorem dyn_loop (seq : List Nat) (hw : Words seq) (lenOf : Nat → Nat) (hlen : ∀ x, lenOf x = bfe_value x)
    (body : Nat → Nat × List α → Res String (Nat × List α))
    (hb : ∀ i st, body i st = stepD lenOf T_decode seq st) :
    ∀ (n i0 : Nat) (idx : Nat) (acc : List α), idx ≤ seq.length →
      relD toVal seq acc (Res.loopRange body n i0 (idx, acc)) (decodeDyn dec n idx ((vals seq).drop idx)) := by
  intro n
  induction n with
  | zero => intro i0 idx acc hi; exact ⟨(List.append_nil _).symm, rfl, hi⟩
  | succ n ih =>
    intro i0 idx acc hi
    simp only [Res.loopRange, hb, stepD, decodeDyn]
    by_cases hlt : idx < seq.length
    · have hv : idx < (vals seq).length := by rw [vals_length]; exact hlt
      rw [List.drop_eq_getElem_cons hv, List.getElem?_eq_getElem hlt]
      have hx : (vals seq)[idx] = lenOf seq[idx] := by rw [hlen]; simp only [vals, List.getElem_map]
      have hxw : seq[idx] < 18446744073709551616 := hw _ (List.getElem_mem hlt)
      have hvl : lenOf seq[idx] < 18446744073709551616 := by
        rw [hlen]; exact Nat.lt_trans (TF.BF.value_lt seq[idx] hxw) TF.BF.Pn_lt_W
      rw [hx]
      simp only []
      generalize lenOf seq[idx] = len at hvl ⊢
      rw [if_pos hvl]
      by_cases h1 : idx + 1 + len ≥ 2 ^ 64
      · rw [if_pos h1]
        by_cases h0 : idx + 1 < 18446744073709551616
        · rw [if_pos h0, if_neg (by omega)]; trivial
        · rw [if_neg h0]; trivial
      · rw [if_neg h1, if_pos (by omega), if_pos (by omega)]
        simp only [List.length_drop, vals_length]
        by_cases h2 : seq.length < idx + 1 + len
        · rw [if_pos h2, if_pos (by omega)]; trivial
        · rw [if_neg h2, if_neg (by omega)]
          have hit := h ((seq.drop (idx + 1)).take len) (Words_take _ _ (Words_drop _ _ hw))
          rw [vals_take, vals_drop] at hit
          rw [List.drop_drop]
          rcases obs_cases hit with ⟨v, hd, hm⟩ | ⟨e, k, hd, hm⟩ | ⟨hd, hm⟩
          · simp only [hd, hm]
            exact relD_cons v (ih (i0 + 1) (idx + 1 + len) (acc ++ [v]) (by omega))
          · simp only [hd, hm]
            trivial
          · simp only [hd, hm]
            trivial
    · have hge : seq.length ≤ idx := by omega
      have hd : (vals seq).drop idx = [] := List.drop_eq_nil_of_le (by rw [vals_length]; exact hge)
      rw [hd, List.getElem?_eq_none hge]
      trivial

theorem dyn_final (r : List Nat) (hw : Words r) (n : Nat)
    (lenOf : Nat → Nat) (hlen : ∀ x, lenOf x = bfe_value x)
    (body : Nat → Nat × List α → Res String (Nat × List α)) (hb : ∀ i st, body i st = stepD lenOf T_decode r st) :
    obsR (List.map toVal)
      (Res.forRange 0 n (0, ([] : List α)) body
        (fun s' => (if (r.length != s'.1) then (Res.err "SequenceTooLong") else (Res.ok s'.2)))) =
    obsM (match decodeDyn dec n 0 (vals r) with
      | .ok (vs, []) => .ok vs
      | .ok (_, _ :: _) => .err .tooLong
      | .err k => .err k
      | .panic => .panic) := by
  have key := dyn_loop T_decode toVal dec h r hw lenOf hlen body hb n 0 0 [] (Nat.zero_le _)
  rw [List.drop_zero] at key
  unfold Res.forRange
  rw [Nat.sub_zero]
  rcases relD_cases key with ⟨i, a, vs, rest, hL, hM, k1, k2, k3⟩ | ⟨e, k, hL, hM⟩ | ⟨hL, hM⟩
  · rw [hL, hM]
    by_cases hi : r.length = i
    · have : rest = [] := by rw [k2]; exact List.drop_eq_nil_of_le (by rw [vals_length]; omega)
      subst this
      simp [hi, obsR, obsM, k1]
    · have hne : (r.length != i) = true := by simp [hi]
      cases rest with
      | nil =>
        have := congrArg List.length k2
        simp only [List.length_nil, List.length_drop, vals_length] at this
        omega
      | cons _ _ =>
        simp only [hne, if_true]
        rfl
  · rw [hL, hM]
    rfl
  · rw [hL, hM]
    rfl

end

/-- **dynamic list decoder**, regenerated = hand model, for every item decoder, count and sequence of words: the per-item
    length prefix (`get` / `usize::try_from`), `sequence_index + item_length` (overflow = panic), the comparison with the
    remaining length, the item slice, the early exits, the final "nothing left" check -/
theorem gen_decode_list_dynamic {ε α : Type} (T_decode : List Nat → Res ε α) (into : ε → DynErr) (toVal : α → Val)
    (dec : List Nat → Outcome Val) (h : Item T_decode toVal dec) (n : Nat) (r : List Nat) (hw : Words r) :
    obsR (List.map toVal) (codec_decode_list_dynamic T_decode into n r) = obsM (decodeList dec none n (vals r)) := by
  simp only [codec_decode_list_dynamic, decodeList]
  obtain ⟨lenOf, hlen⟩ : ∃ f : Nat → Nat, ∀ x, f x = bfe_value x := ⟨bfe_value, fun _ => rfl⟩
  have e1 : ∀ y, codec_usize_try_from_bfe y = int_try_from 18446744073709551616 (lenOf y) := fun y => by rw [hlen]; rfl
  have e2 : ∀ y, codec_usize_try_from_bfe_ok y = true := fun y => TF.BF.value_ok y
  refine dyn_final T_decode toVal dec h r hw n lenOf hlen _ ?_
  intro i st
  obtain ⟨idx, acc⟩ := st
  show _ = stepD lenOf T_decode r (idx, acc)
  unfold stepD
  cases hget : r[idx]? with
  | none => rfl
  | some x =>
    simp only [okOr]
    rw [tryQ_ok, e2, need_true, e1]
    unfold int_try_from
    generalize lenOf x = len
    by_cases h0 : len < 18446744073709551616
    · rw [if_pos h0, if_pos h0, tryQ_ok]
      by_cases h1 : idx + 1 < 18446744073709551616
      · rw [if_pos h1, need_decide _ _ h1]
        by_cases h2 : idx + 1 + len < 18446744073709551616
        · rw [if_pos h2, need_decide _ _ h2]
          by_cases h3 : r.length < idx + 1 + len
          · rw [if_pos h3, if_pos (by simpa using h3)]
          · rw [if_neg h3, if_neg (by simpa using h3), need_decide _ _ h2]
            have h4 : (decide (idx + 1 ≤ idx + 1 + len) && decide (idx + 1 + len ≤ r.length)) = true := by
              simp only [Bool.and_eq_true, decide_eq_true_eq]; omega
            rw [h4, need_true, Nat.add_sub_cancel_left]
            unfold Res.call
            cases T_decode (List.take len (List.drop (idx + 1) r)) with
            | ok v => simp only [Except.mapError]; rw [tryQ_ok, need_decide _ _ h2]
            | err e => rfl
            | panic => rfl
        · rw [if_neg h2, need_decide_not _ _ h2]
      · rw [if_neg h1, need_decide_not _ _ h1]
    · rw [if_neg h0, if_neg h0, tryQ_error]

/-- **list decoder**, regenerated = hand model `decodeList`, for every item decoder and static length -/
theorem gen_decode_list {ε α : Type} (sl : Option Nat) (T_decode : List Nat → Res ε α) (into : ε → DynErr) (toVal : α → Val)
    (dec : List Nat → Outcome Val) (h : Item T_decode toVal dec) (n : Nat) (r : List Nat) (hw : Words r) :
    obsR (List.map toVal) (codec_decode_list sl T_decode into n r) = obsM (decodeList dec sl n (vals r)) := by
  cases sl with
  | some w =>
    rw [← gen_decode_list_static T_decode into toVal dec h w n r hw]
    exact congrArg _ (call_tryQ_ok _)
  | none =>
    rw [← gen_decode_list_dynamic T_decode into toVal dec h n r hw]
    exact congrArg _ (call_tryQ_ok _)

/-! ### model equations: the `vec` / `array` / `option` / `poly` cases of `decode` with the item decoder as a parameter (facts about `TF.Codec` only) -/

/-- the model's `[T; N]` decoder body -/
def decodeArrayM (dec : List Nat → Outcome Val) (sl : Option Nat) (n : Nat) (s : List Nat) : Outcome (List Val) :=
  if n > 0 ∧ s.isEmpty then .err .empty else decodeList dec sl n s

/-- the model's `Option<T>` decoder body -/
def decodeOptionM (dec : List Nat → Outcome Val) (s : List Nat) : Outcome Val :=
  match s with
  | [] => .err .empty
  | tag :: rest =>
    if tag = 0 then (match rest with
      | [] => .ok (.opt none)
      | _ :: _ => .err .tooLong)
    else if tag = 1 then (match dec rest with
      | .ok v => .ok (.opt (some v))
      | .err k => .err k
      | .panic => .panic)
    else .err .range

/-- the model's `Polynomial<T>` decoder body -/
def decodePolyM (dec : List Nat → Outcome Val) (sl : Option Nat) (s : List Nat) : Outcome Val :=
  match s with
  | [] => .err .empty
  | ind :: rest =>
    if s.length < ind + 1 then .err .tooShort
    else if s.length > ind + 1 then .err .tooLong
    else match decodeVec dec sl rest with
      | .ok cs => if lastIsZero cs then .err .trailingZeros else .ok (.list cs)
      | .err k => .err k
      | .panic => .panic

theorem lastIsZero_map {α : Type} (toVal : α → Val) (isz : α → Bool) (hz : ∀ a, isz a = valIsZero (toVal a)) (l : List α) :
    lastIsZero (l.map toVal) = Option.any (fun c => isz c) l.getLast? := by
  unfold lastIsZero
  rw [List.getLast?_map]
  cases l.getLast? with
  | none => rfl
  | some c => simp only [Option.map_some, Option.any_some, hz]

theorem decode_vec (t : Ty) (s : List Nat) : decode (.vec t) s = (decodeVec (decode t) (staticLength t) s).map .list := by
  simp only [decode]

theorem decode_array (n : Nat) (t : Ty) (s : List Nat) :
    decode (.array n t) s = (decodeArrayM (decode t) (staticLength t) n s).map .list := by
  simp only [decode, decodeArrayM]; split <;> rfl

theorem decode_option (t : Ty) (s : List Nat) : decode (.option t) s = decodeOptionM (decode t) s := by
  simp only [decode]; rfl

theorem decode_poly (t : Ty) (s : List Nat) : decode (.poly t) s = decodePolyM (decode t) (staticLength t) s := by
  simp only [decode]; rfl

theorem bool_word (x : Nat) : ∃ v, bfe_value x = v ∧ codec_bool_decode_ok [x] = true ∧
    codec_bool_decode [x] = (if v = 0 then .ok false else if v = 1 then .ok true else .error "ElementOutOfRange") := by
  refine ⟨bfe_value x, rfl, (gen_bool_decode [x]).2, ?_⟩
  rw [(gen_bool_decode [x]).1]
  have hv : vals [x] = [bfe_value x] := rfl
  rw [hv]
  generalize bfe_value x = v
  match v with
  | 0 => rfl
  | 1 => rfl
  | n + 2 =>
    have h : decode .bool [n + 2] = .err .range := by
      simp only [decode, decodeSmall]; rw [if_neg (by omega)]
    rw [h, if_neg (by omega), if_neg (by omega)]; rfl

section
variable {ε α : Type} (T_decode : List Nat → Res ε α) (into : ε → DynErr) (toVal : α → Val) (dec : List Nat → Outcome Val)
  (h : Item T_decode toVal dec)
include h

/-- **`Vec<T>`**: regenerated `decode` = `decodeVec` of the hand model, for every item codec -/
theorem gen_vec_decode (sl : Option Nat) (r : List Nat) (hw : Words r) :
    obsR (List.map toVal) (codec_vec_decode sl T_decode into r) = obsM (decodeVec dec sl (vals r)) := by
  cases r with
  | nil => rfl
  | cons x rest =>
    obtain ⟨hx, hr⟩ := Words_tail x rest hw
    have key := gen_decode_list sl T_decode into toVal dec h (bfe_value x) rest hr
    rw [vals_cons]
    unfold codec_vec_decode decodeVec
    simp only [List.isEmpty_cons, Bool.false_eq_true, if_false, List.getElem?_cons_zero, List.length_cons,
      List.drop_succ_cons, List.drop_zero]
    rw [unwrapO_some, (try_from_word x hx).1, (try_from_word x hx).2, need_true, tryQ_ok, need_decide _ _ (by omega), ← key]
    exact congrArg _ (call_tryQ_ok _)

/-- **`[T; N]`**: regenerated `decode` = the model's array case, for every item codec (the final `try_into` never fails:
    the list decoder returns exactly `N` items) -/
theorem gen_array_decode (N : Nat) (sl : Option Nat) (r : List Nat) (hw : Words r) :
    obsR (List.map toVal) (codec_array_decode N sl T_decode into r) = obsM (decodeArrayM dec sl N (vals r)) := by
  have key := gen_decode_list sl T_decode into toVal dec h N r hw
  unfold codec_array_decode decodeArrayM
  rw [vals_isEmpty]
  by_cases hc : N > 0 ∧ r.isEmpty = true
  · rw [if_pos hc, if_pos (by simp [hc.1, hc.2])]; rfl
  · rw [if_neg hc, if_neg (by simpa using hc)]
    rcases obs_cases key with ⟨l, hL, hM⟩ | ⟨e, k, hL, hM⟩ | ⟨hL, hM⟩
    · -- the final `try_into` cannot fail: the list decoder returned exactly `N` items
      have hl : l.length = N := by
        simpa using (decodeList_induct (M := fun _ _ => True) trivial (fun _ _ _ _ _ _ _ => trivial) hM).2
      have hv : vec_try_into_array N l = .ok l := by simp [vec_try_into_array, hl]
      rw [hL, hM, call_ok, tryQ_ok]
      show obsR (List.map toVal) (Res.tryQ (Except.mapError (fun _ => "InnerDecodingFailure") (vec_try_into_array N l)) id
        fun t_3 => Res.ok t_3) = _
      rw [hv]
      rfl
    · rw [hL, hM]
      rfl
    · rw [hL, hM]
      rfl

/-- **`Option<T>`**: regenerated `decode` = the model's option case, for every item codec: the tag through `bool::decode`,
    `Some` hands the rest to the item decoder, `None` requires that nothing follows the tag -/
theorem gen_option_decode (r : List Nat) (hw : Words r) :
    obsR (fun o => Val.opt (Option.map toVal o)) (codec_option_decode T_decode into r) = obsM (decodeOptionM dec (vals r)) := by
  cases r with
  | nil => unfold codec_option_decode decodeOptionM; rfl
  | cons x rest =>
    obtain ⟨hx, hr⟩ := Words_tail x rest hw
    have hi := h rest hr
    obtain ⟨v, hv, hok, hdec⟩ := bool_word x
    rw [vals_cons, hv]
    unfold codec_option_decode decodeOptionM
    simp only [List.isEmpty_cons, Bool.false_eq_true, if_false, List.length_cons, List.take_succ_cons, List.take_zero,
      List.drop_succ_cons, List.drop_zero]
    rw [show (decide (0 ≤ 1) && decide (1 ≤ rest.length + 1)) = true by simp, need_true, hok, need_true, hdec]
    match v with
    | 0 =>
      rw [if_pos rfl, if_pos rfl, tryQ_ok, need_decide _ _ (by omega)]
      cases rest with
      | nil => rfl
      | cons a b => rw [vals_cons]; rfl
    | 1 =>
      rw [if_neg (by omega), if_pos rfl, if_neg (by omega), if_pos rfl, tryQ_ok, need_decide _ _ (by omega), if_pos rfl]
      rcases obs_cases hi with ⟨a, hL, hM⟩ | ⟨e, k, hL, hM⟩ | ⟨hL, hM⟩
      all_goals
        rw [hL, hM]
        rfl
    | n + 2 =>
      rw [if_neg (by omega), if_neg (by omega), if_neg (by omega), if_neg (by omega), tryQ_error]; rfl

/-- **`Polynomial<T>`**: regenerated `decode` = the model's polynomial case, for every coefficient codec: the length
    indicator against the sequence length, `Vec<T>::decode` of the rest, rejection of a trailing zero coefficient -/
theorem gen_poly_decode (sl : Option Nat) (isz : α → Bool) (hz : ∀ a, isz a = valIsZero (toVal a)) (r : List Nat) (hw : Words r) :
    obsR (fun l => Val.list (l.map toVal)) (codec_poly_decode sl T_decode into isz r) = obsM (decodePolyM dec sl (vals r)) := by
  cases r with
  | nil => unfold codec_poly_decode decodePolyM; rfl
  | cons x rest =>
    obtain ⟨hx, hr⟩ := Words_tail x rest hw
    have key := gen_vec_decode T_decode into toVal dec h sl rest hr
    have hv : bfe_value x < 18446744069414584321 := TF.BF.value_lt x hx
    rw [vals_cons]
    have hint : TF.RustStd.int_try_from 18446744073709551616 (conv_bfe_value x) = .ok (bfe_value x) := (try_from_word x hx).1
    have hok : conv_bfe_value_ok x = true := TF.BF.value_ok x
    unfold codec_poly_decode decodePolyM
    simp only [List.isEmpty_cons, Bool.false_eq_true, if_false, List.getElem?_cons_zero, List.length_cons,
      List.drop_succ_cons, List.drop_zero, vals_length]
    rw [unwrapO_some, hok, need_true, hint]
    generalize bfe_value x = v at hv ⊢
    simp only []
    rw [need_decide _ _ (by omega)]
    generalize codec_vec_decode sl T_decode into rest = L at key ⊢
    generalize decodeVec dec sl (vals rest) = M at key ⊢
    rcases Nat.lt_trichotomy (rest.length + 1) (v + 1) with hlt | heq | hgt
    · rw [if_pos hlt, Nat.compare_eq_lt.2 hlt]; rfl
    · rw [if_neg (by omega), if_neg (by omega), Nat.compare_eq_eq.2 heq]
      simp only []
      rw [need_decide _ _ (by omega)]
      rcases obs_cases key with ⟨l, hL, hM⟩ | ⟨e, k, hL, hM⟩ | ⟨hL, hM⟩
      · rw [hL, hM, call_ok, tryQ_ok]
        simp only []
        rw [lastIsZero_map toVal isz hz l]
        cases Option.any (fun c => isz c) l.getLast? <;> rfl
      · rw [hL, hM]
        rfl
      · rw [hL, hM]
        rfl
    · rw [if_neg (by omega), if_pos hgt, Nat.compare_eq_gt.2 hgt]; rfl

end

theorem obsR_comp {ε α β γ : Type} (f : α → β) (g : β → γ) (L : Res ε α) (M : Outcome β)
    (h : obsR f L = obsM M) : obsR (fun a => g (f a)) L = obsM (M.map g) := by
  rcases obs_cases h with ⟨a, rfl, rfl⟩ | ⟨e, k, rfl, rfl⟩ | ⟨rfl, rfl⟩ <;> rfl

theorem vec_item {ε α : Type} (t : Ty) (T_decode : List Nat → Res ε α) (into : ε → DynErr) (toVal : α → Val)
    (h : Item T_decode toVal (decode t)) :
    Item (codec_vec_decode (staticLength t) T_decode into) (fun l => Val.list (l.map toVal)) (decode (.vec t)) := by
  intro r hw
  rw [decode_vec]
  exact obsR_comp (List.map toVal) Val.list _ _ (gen_vec_decode T_decode into toVal (decode t) h (staticLength t) r hw)

theorem array_item {ε α : Type} (n : Nat) (t : Ty) (T_decode : List Nat → Res ε α) (into : ε → DynErr) (toVal : α → Val)
    (h : Item T_decode toVal (decode t)) :
    Item (codec_array_decode n (staticLength t) T_decode into) (fun l => Val.list (l.map toVal)) (decode (.array n t)) := by
  intro r hw
  rw [decode_array]
  exact obsR_comp (List.map toVal) Val.list _ _ (gen_array_decode T_decode into toVal (decode t) h n (staticLength t) r hw)

theorem option_item {ε α : Type} (t : Ty) (T_decode : List Nat → Res ε α) (into : ε → DynErr) (toVal : α → Val)
    (h : Item T_decode toVal (decode t)) :
    Item (codec_option_decode T_decode into) (fun o => Val.opt (Option.map toVal o)) (decode (.option t)) := by
  intro r hw
  rw [decode_option]
  exact gen_option_decode T_decode into toVal (decode t) h r hw

theorem box_item {ε α : Type} (t : Ty) (T_decode : List Nat → Res ε α) (toVal : α → Val)
    (h : Item T_decode toVal (decode t)) : Item (codec_box_decode T_decode) toVal (decode (.box t)) := by
  intro r hw
  have := h r hw
  simp only [decode]
  rw [← this]
  unfold codec_box_decode
  cases T_decode r <;> rfl

theorem phantom_item : Item codec_phantom_decode (fun _ => Val.unit) (decode .phantom) := by
  intro r hw
  cases r with
  | nil => rfl
  | cons x xs =>
    rw [vals_cons]
    unfold codec_phantom_decode
    simp only [decode]
    rfl

theorem poly_item {ε α : Type} (t : Ty) (T_decode : List Nat → Res ε α) (into : ε → DynErr) (isz : α → Bool) (toVal : α → Val)
    (h : Item T_decode toVal (decode t)) (hz : ∀ a, isz a = valIsZero (toVal a)) :
    Item (codec_poly_decode (staticLength t) T_decode into isz) (fun l => Val.list (l.map toVal)) (decode (.poly t)) := by
  intro r hw
  rw [decode_poly]
  exact gen_poly_decode T_decode into toVal (decode t) h (staticLength t) isz hz r hw

theorem item_ok {ε α : Type} {G : List Nat → Res ε α} {toVal : α → Val} {dec : List Nat → Outcome Val} (h : Item G toVal dec)
    (r : List Nat) (hw : Words r) (a : α) (hg : G r = .ok a) : dec (vals r) = .ok (toVal a) := by
  rcases obs_cases (h r hw) with ⟨a', hL, hM⟩ | ⟨e, k, hL, hM⟩ | ⟨hL, hM⟩
  · rw [hg] at hL
    cases hL
    exact hM
  · rw [hg] at hL
    cases hL
  · rw [hg] at hL
    cases hL

theorem item_rejects {ε α : Type} {G : List Nat → Res ε α} {toVal : α → Val} {dec : List Nat → Outcome Val} (h : Item G toVal dec)
    (r : List Nat) (hw : Words r) (k : Err) (hm : dec (vals r) = .err k) : ∃ e, G r = .err e := by
  rcases obs_cases (h r hw) with ⟨a, hL, hM⟩ | ⟨e, k', hL, hM⟩ | ⟨hL, hM⟩
  · rw [hm] at hM; cases hM
  · exact ⟨e, hL⟩
  · rw [hm] at hM; cases hM

theorem item_noPanic {ε α : Type} {G : List Nat → Res ε α} {toVal : α → Val} {dec : List Nat → Outcome Val} (h : Item G toVal dec)
    (r : List Nat) (hw : Words r) (hm : dec (vals r) ≠ .panic) : (G r).noPanic = true := by
  rcases obs_cases (h r hw) with ⟨a, hL, hM⟩ | ⟨e, k, hL, hM⟩ | ⟨hL, hM⟩
  · rw [hL]; rfl
  · rw [hL]; rfl
  · exact absurd hM hm

theorem item_panics {ε α : Type} {G : List Nat → Res ε α} {toVal : α → Val} {dec : List Nat → Outcome Val} (h : Item G toVal dec)
    (r : List Nat) (hw : Words r) (hm : dec (vals r) = .panic) : (G r).noPanic = false := by
  rcases obs_cases (h r hw) with ⟨a, hL, hM⟩ | ⟨e, k, hL, hM⟩ | ⟨hL, hM⟩
  · rw [hm] at hM; cases hM
  · rw [hm] at hM; cases hM
  · rw [hL]; rfl

end TF.GenBridge.CodecG
