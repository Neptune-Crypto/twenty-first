import TF.Proofs.PolyNttBridge
import TF.Proofs.Shah
import Mathlib.RingTheory.AdjoinRoot
import Mathlib.Tactic.LinearCombination
/-!
Extension-field part of the bridge C06 → C07.  `ntt::<FF>` over a field extension `K` of the base field multiplies by
base-field twiddles (`FF: MulAssign<BFieldElement>`): `algOps K`, and `algNtt_spec` is `TransformSpec` for every such `K`.
`XK = (ZMod P)[X]/(X³ − X + 1)` (a field by `shah_irreducible`, property C01), `xc : X3 → XK` the element a triple of naturals
stands for; `xfieldOps` and the transform the driver runs on triples correspond to the field `XK` (`xfield_opsMap`,
`xNtt_transMap`).
-/
open Polynomial

namespace TF.Model.Poly
open TF.Model.Ntt TF.NttFn TF.NttProofs TF.Gen TF.Model.Poly.Hom TF.Spec

section Alg
variable (K : Type) [Field K] [Algebra (ZMod P) K]
open Classical

noncomputable def kinv (a : K) : Option K := if a = 0 then none else some a⁻¹
noncomputable def kinv0 (a : K) : K := a⁻¹

/-- operations of `ntt::<FF>` for an extension `K` of the base field: scalars (twiddles, `n⁻¹`) in `ZMod P` -/
noncomputable def algOps : Ops (ZMod P) K where
  szero := 0
  sone := 1
  smul := (· * ·)
  spow := (· ^ ·)
  sinv := zinv
  sinv0 := zinv0
  sofNat := fun n => (n : ZMod P)
  zero := 0
  add := (· + ·)
  sub := (· - ·)
  scale := fun c a => algebraMap (ZMod P) K c * a

/-- the root table seen in `K` -/
noncomputable def algRoot : Nat → Option K := fun n => (zRoot n).map (algebraMap (ZMod P) K)

theorem algHom : OpsHom (algOps K) (ringOps K (kinv K) (kinv0 K)) (algebraMap (ZMod P) K) id where
  szero := RingHom.map_zero _
  sone := RingHom.map_one _
  smul := fun a b => RingHom.map_mul _ a b
  spow := fun a e => RingHom.map_pow _ a e
  sinv := fun a => by
    simp only [algOps, ringOps, zinv, kinv]
    by_cases h : a = 0
    · subst h; simp
    · have h' : algebraMap (ZMod P) K a ≠ 0 := (_root_.map_ne_zero _).2 h
      simp [h, h']
  sinv0 := fun a => map_inv₀ (algebraMap (ZMod P) K) a
  sofNat := fun n => map_natCast (algebraMap (ZMod P) K) n
  zero := rfl
  add := fun _ _ => rfl
  sub := fun _ _ => rfl
  scale := fun _ _ => rfl

theorem algRoot_ok : RootOK (algRoot K) := by
  intro k w h
  obtain ⟨z, hz, rfl⟩ := Option.map_eq_some_iff.1 h
  rw [← RingHom.map_pow, zRoot_ok k z hz, RingHom.map_neg, RingHom.map_one]

theorem kInvOK : InvOK (kinv K) (kinv0 K) where
  inv_mul := by
    intro a b h
    unfold kinv at h
    split at h
    · cases h
    · next hne => cases h; exact inv_mul_cancel₀ hne
  inv0_mul := fun L hL => by
    have : ((2^L : ℕ) : K) ≠ 0 := by
      rw [← map_natCast (algebraMap (ZMod P) K)]
      exact (_root_.map_ne_zero _).2 (two_pow_cast_ne_zero L (by omega))
    exact inv_mul_cancel₀ this

theorem algTransform_eq :
    nttTransform (algOps K) zRoot = nttTransform (ringOps K (kinv K) (kinv0 K)) (algRoot K) := by
  have h1 := fun x => ntt_map (algHom K) zRoot x
  have h2 := fun x => intt_map (algHom K) zRoot x
  simp only [Array.map_id_fun, id_eq, Option.map_id_fun] at h1 h2
  unfold nttTransform algRoot
  congr 1 <;> funext xs
  · rw [← h1]
  · rw [← h2]

/-- **`TransformSpec` for the model of the Rust NTT over every field extension `K` of the base field** (twiddles in
    the base field, as in `ntt::<XFieldElement>`), at the points `algebraMap (ω_n^i)` -/
theorem algNtt_spec : TransformSpec (nttTransform (algOps K) zRoot) (rootPts (algRoot K)) := by
  rw [algTransform_eq]
  exact nttTransform_spec _ _ _ (kInvOK K) (algRoot_ok K)

end Alg

section XField

noncomputable def shah : (ZMod P)[X] := X^3 - X + 1

instance shah_fact : Fact (Irreducible shah) := ⟨TF.Shah.shah_irreducible⟩

/-- the field `XFieldElement` lives in -/
abbrev XK := AdjoinRoot shah

noncomputable def θ : XK := AdjoinRoot.root shah

theorem θ_rel : θ^3 - θ + 1 = 0 := TF.XK.θ_rel

def Canon3 (a : X3) : Prop := a.1 < P ∧ a.2.1 < P ∧ a.2.2 < P

noncomputable def φ : ZMod P →+* XK := algebraMap (ZMod P) XK

/-- the element of `XK` a triple stands for: `c0 + c1·θ + c2·θ²` -/
noncomputable def xc (a : X3) : XK := φ (a.1 : ZMod P) + φ (a.2.1 : ZMod P) * θ + φ (a.2.2 : ZMod P) * θ^2

/-- `shah`, `XK`, `θ`, `φ`, `xc`, `Canon3` are `shahP`, `K`, `θ`, `ι`, `φv`, `canon3` of `TF/Proofs/Shah.lean` under the names
    the statements of C07 use; what is proved there about `φv` is taken over -/
theorem xc_eq_φv (a : X3) : xc a = TF.XK.φv a := rfl

theorem xc_zero : xc xzero = 0 := TF.XK.φv_xzero
theorem xc_one : xc xone = 1 := TF.XK.φv_xone
theorem xc_mul (x y : X3) : xc (xmul x y) = xc x * xc y := TF.XK.φv_xmul x y
theorem xc_eq_zero_iff (a : X3) (ha : Canon3 a) : xc a = 0 ↔ a = xzero := TF.XK.φv_eq_zero a ha

theorem xc_add (a b : X3) : xc (xadd a b) = xc a + xc b := by
  simp only [xc, xadd, cast_fadd, RingHom.map_add]; ring

theorem xc_sub (a b : X3) : xc (xsub a b) = xc a - xc b := by
  simp only [xc, xsub, cast_fsub, RingHom.map_sub]; ring

theorem xc_scale (c : Nat) (a : X3) : xc (xscale c a) = φ (c : ZMod P) * xc a := by
  simp only [xc, xscale, cast_fmul, RingHom.map_mul]; ring

noncomputable abbrev FX : FieldOps XK := FieldOps.ofField XK (algRoot XK)

theorem canon3_mod (a b c : Nat) : Canon3 (a % P, b % P, c % P) :=
  ⟨Nat.mod_lt _ P_pos, Nat.mod_lt _ P_pos, Nat.mod_lt _ P_pos⟩

/-- `xfieldOps` (triples of naturals, product reduced with `X³ = X − 1`) corresponds to the field operations of `XK` -/
theorem xfield_opsMap : OpsMap TF.xfieldOps FX xc Canon3 where
  zero := xc_zero
  one := xc_one
  add := xc_add
  sub := xc_sub
  mul := xc_mul
  isZero := by
    intro a ha
    rw [Bool.eq_iff_iff, FX, FieldOps.ofField_isZero, xc_eq_zero_iff a ha]
    simp [TF.xfieldOps]
  ok_zero := ⟨P_pos, P_pos, P_pos⟩
  ok_one := TF.Shah.xone_canon
  ok_add := fun a b => canon3_mod _ _ _
  ok_sub := fun a b => canon3_mod _ _ _
  ok_mul := TF.Shah.xmul_canon

/-- `Nat.cast` on the twiddles and `xc` on the elements commute with every operation of the instance `xOps` -/
theorem xHom : OpsHom xOps (algOps XK) (fun n : Nat => (n : ZMod P)) xc where
  szero := castHom.szero
  sone := castHom.sone
  smul := castHom.smul
  spow := castHom.spow
  sinv := castHom.sinv
  sinv0 := castHom.sinv0
  sofNat := castHom.sofNat
  zero := xc_zero
  add := xc_add
  sub := xc_sub
  scale := xc_scale

/-- the model NTT over `XK` (twiddles in `ZMod P`) -/
noncomputable def xkNtt : Transform XK := nttTransform (algOps XK) zRoot

theorem xkNtt_spec : TransformSpec xkNtt (rootPts (algRoot XK)) := algNtt_spec XK

theorem xNtt_transMap : TransMap xNtt xkNtt xc Canon3 where
  ntt := fun xs => (nttTransform_map xHom primitiveRoot xs).1
  intt := fun xs => (nttTransform_map xHom primitiveRoot xs).2
  ok_intt := by
    intro xs ys h
    obtain ⟨z, hz, rfl⟩ := Option.map_eq_some_iff.1 h
    obtain ⟨c, w, rfl⟩ := intt_some_form _ _ _ _ hz
    intro y hy
    simp only [Array.toList_map, List.mem_map] at hy
    obtain ⟨a, _, rfl⟩ := hy
    exact canon3_mod _ _ _

theorem xNtt_definedAt (L : Nat) (hL : L ≤ 31) : DefinedAt xNtt (2^L) := by
  apply DefinedAt.of_transMap xNtt_transMap
  obtain ⟨r, hr, h0, hlt, _⟩ := root_zmod L (by omega)
  have hne : φ ((r : ℕ) : ZMod P) ≠ 0 := (_root_.map_ne_zero _).2 (cast_ne_zero_of_lt r h0 hlt)
  have hrK : algRoot XK (2^L) = some (φ ((r : ℕ) : ZMod P)) := by simp [algRoot, zRoot, hr, φ]
  have := nttTransform_definedAt (kinv XK) (kinv0 XK) (algRoot XK) (algRoot_ok XK) L hL _ _ hrK
    (by rw [kinv, if_neg hne]) (inv_mul_cancel₀ hne)
  rw [xkNtt, algTransform_eq]
  exact this

/-- the embedding `ZMod P → XK` commutes with the operations of the model NTT (base-field twiddles on both sides) -/
theorem zToXHom : OpsHom zOps (algOps XK) id φ where
  szero := rfl
  sone := rfl
  smul := fun _ _ => rfl
  spow := fun _ _ => rfl
  sinv := fun a => by simp [algOps, ringOps]
  sinv0 := fun _ => rfl
  sofNat := fun _ => rfl
  zero := φ.map_zero
  add := φ.map_add
  sub := φ.map_sub
  scale := φ.map_mul

theorem zNtt_to_xk (xs : List (ZMod P)) : (zNtt.ntt xs).map (List.map φ) = xkNtt.ntt (xs.map φ) := by
  have h := (nttTransform_map zToXHom zRoot xs).1
  simp only [Option.map_id_fun, id_eq] at h
  exact h

theorem xkNtt_id (xs : List XK) :
    (xkNtt.ntt xs).map (List.map (RingHom.id XK)) = xkNtt.ntt (xs.map (RingHom.id XK)) := by
  simp

/-- `BFieldElement * XFieldElement` on canonical values / triples is the product in `XK` -/
theorem xc_mulBX (a : Nat) (b : X3) : xc (xscale a b) = φ (zc a) * (RingHom.id XK) (xc b) := by
  simp [xc_scale, zc]

theorem xc_mulXB (a : X3) (b : Nat) : xc (xscale b a) = (RingHom.id XK) (xc a) * φ (zc b) := by
  simp [xc_scale, zc, mul_comm]

end XField

end TF.Model.Poly
