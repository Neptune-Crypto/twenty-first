import TF.Model.Poly
import Mathlib.Algebra.Polynomial.Basic
import Mathlib.Algebra.Polynomial.Eval.Defs
import Mathlib.Algebra.Polynomial.Degree.Defs
import Mathlib.Algebra.Polynomial.Degree.Operations
import Mathlib.Algebra.Polynomial.Coeff
import Mathlib.Algebra.Polynomial.Eval.Coeff
import Mathlib.Algebra.Polynomial.Eval.Algebra
import Mathlib.Algebra.Polynomial.Derivative
/-!
Denotation of the polynomial core (`TF/Model/Poly.lean`) in Mathlib's `Polynomial K` for an arbitrary field `K`:
`FieldOps.ofField K root` (the operations record of a field), `denote : List K → K[X]`, and what every operation of the
core does to the denoted polynomial.  Two storages denote the same polynomial iff their normalisations are equal
(`denote_eq_iff`); properties C07, C08, C09, C17 build on this file.
-/
open Polynomial

namespace TF

/-- the operations record of a Mathlib field; `rootOfUnity` is a parameter -/
noncomputable def FieldOps.ofField (K : Type) [Field K] (root : Nat → Option K := fun _ => none) : FieldOps K :=
  by
    classical
    exact
      { zero := 0, one := 1, add := (· + ·), sub := (· - ·), mul := (· * ·), neg := fun a => -a,
        inv := fun a => a⁻¹, isZero := fun a => decide (a = 0), beq := fun a b => decide (a = b),
        ofNat := fun n => (n : K), rootOfUnity := root }

namespace FieldOps
variable {K : Type} [Field K] (root : Nat → Option K)
@[simp] theorem ofField_zero : (ofField K root).zero = 0 := rfl
@[simp] theorem ofField_one : (ofField K root).one = 1 := rfl
@[simp] theorem ofField_add (a b : K) : (ofField K root).add a b = a + b := rfl
@[simp] theorem ofField_sub (a b : K) : (ofField K root).sub a b = a - b := rfl
@[simp] theorem ofField_mul (a b : K) : (ofField K root).mul a b = a * b := rfl
@[simp] theorem ofField_neg (a : K) : (ofField K root).neg a = -a := rfl
@[simp] theorem ofField_inv (a : K) : (ofField K root).inv a = a⁻¹ := rfl
@[simp] theorem ofField_isZero (a : K) : (ofField K root).isZero a = true ↔ a = 0 := by
  simp [ofField]
@[simp] theorem ofField_isZero_false (a : K) : (ofField K root).isZero a = false ↔ a ≠ 0 := by
  simp [ofField]
@[simp] theorem ofField_beq (a b : K) : (ofField K root).beq a b = true ↔ a = b := by
  simp [ofField]
@[simp] theorem ofField_ofNat (n : Nat) : (ofField K root).ofNat n = (n : K) := rfl
@[simp] theorem ofField_rootOfUnity (n : Nat) : (ofField K root).rootOfUnity n = root n := rfl
theorem ofField_add_fn : (ofField K root).add = (· + ·) := rfl
theorem ofField_sub_fn : (ofField K root).sub = (· - ·) := rfl
theorem ofField_mul_fn : (ofField K root).mul = (· * ·) := rfl
@[simp] theorem ofField_pow (a : K) (n : Nat) : (ofField K root).pow a n = a ^ n := by
  induction n using Nat.strong_induction_on with
  | _ n ih =>
    cases n with
    | zero => simp [FieldOps.pow]
    | succ e =>
      rw [FieldOps.pow]
      simp only [ofField_mul]
      rw [ih ((e+1)/2) (by omega)]
      have h := Nat.div_add_mod (e+1) 2
      split
      · next h1 =>
        rw [← pow_add, ← pow_succ]
        congr 1
        omega
      · next h1 =>
        rw [← pow_add]
        congr 1
        omega
end FieldOps

namespace Model.Poly
variable {K : Type} [Field K]
open Classical

theorem getD_of_lt {β : Type} (l : List β) (i : Nat) (d : β) (h : i < l.length) : l.getD i d = l[i] := by
  simp [List.getD_eq_getElem?_getD, h]
theorem getD_of_ge {β : Type} (l : List β) (i : Nat) (d : β) (h : l.length ≤ i) : l.getD i d = d := by
  simp [List.getD_eq_getElem?_getD, h]

/-- the polynomial a coefficient storage stands for -/
noncomputable def denote : List K → K[X]
  | [] => 0
  | c :: cs => C c + X * denote cs

@[simp] theorem denote_nil : denote ([] : List K) = 0 := rfl
@[simp] theorem denote_cons (c : K) (cs : List K) : denote (c :: cs) = C c + X * denote cs := rfl

theorem denote_append (a b : List K) : denote (a ++ b) = denote a + X ^ a.length * denote b := by
  induction a with
  | nil => rw [List.nil_append, denote_nil, List.length_nil, pow_zero, one_mul, zero_add]
  | cons c cs ih => rw [List.cons_append, denote_cons, ih, denote_cons, List.length_cons, pow_succ]; ring

@[simp] theorem denote_replicate_zero (n : Nat) : denote (List.replicate n (0 : K)) = 0 := by
  induction n with
  | zero => rfl
  | succ n ih => simp [List.replicate_succ, ih]

theorem denote_append_zeros (a : List K) (n : Nat) : denote (a ++ List.replicate n 0) = denote a := by
  simp [denote_append]

theorem coeff_denote (p : List K) (i : Nat) : (denote p).coeff i = p.getD i 0 := by
  induction p generalizing i with
  | nil => rw [denote_nil, coeff_zero, List.getD_nil]
  | cons c cs ih =>
    cases i with
    | zero => simp only [denote_cons, coeff_add, coeff_C_zero, mul_coeff_zero, coeff_X_zero, zero_mul, add_zero,
        List.getD_cons_zero]
    | succ i => simp only [denote_cons, coeff_add, coeff_C_succ, coeff_X_mul, ih, zero_add, List.getD_cons_succ]

theorem degree_denote_lt (l : List K) : (denote l).degree < l.length := by
  rw [Polynomial.degree_lt_iff_coeff_zero]
  intro m hm
  rw [coeff_denote, getD_of_ge _ _ _ hm]

theorem denote_ne_zero_of_getD {l : List K} (i : Nat) (h : l.getD i 0 ≠ 0) : denote l ≠ 0 :=
  fun h0 => h (by rw [← coeff_denote, h0, coeff_zero])

theorem denote_eq_take_add_drop (a : List K) (n : Nat) (hn : n ≤ a.length) :
    denote a = denote (a.take n) + X ^ n * denote (a.drop n) := by
  conv_lhs => rw [← List.take_append_drop n a]
  rw [denote_append, List.length_take, Nat.min_eq_left hn]

theorem coeff_denote_take (p : List K) (n i : Nat) :
    (denote (p.take n)).coeff i = if i < n then (denote p).coeff i else 0 := by
  rw [coeff_denote, coeff_denote, List.getD_eq_getElem?_getD, List.getD_eq_getElem?_getD, List.getElem?_take]
  split <;> rfl

theorem denote_take_of_coeff (z : List K) (n : Nat) (h : ∀ i, n ≤ i → (denote z).coeff i = 0) :
    denote (z.take n) = denote z := by
  ext i
  rw [coeff_denote_take]
  split
  · rfl
  · exact (h i (by omega)).symm

theorem denote_take_of_degree_lt (p : List K) (n : Nat) (h : (denote p).degree < n) :
    denote (p.take n) = denote p :=
  denote_take_of_coeff p n (fun i hi => coeff_eq_zero_of_degree_lt (h.trans_le (Nat.cast_le.2 hi)))

/-- `Vec::resize(n, ZERO)` of a storage whose polynomial has no coefficient from `n` on -/
theorem denote_take_append_zeros (p : List K) (n k : Nat) (h : ∀ i, n ≤ i → (denote p).coeff i = 0) :
    denote (p.take n ++ List.replicate k 0) = denote p :=
  (denote_append_zeros (p.take n) k).trans (denote_take_of_coeff p n h)

theorem length_take_append_replicate {α : Type} (p : List α) (n : Nat) (z : α) :
    (p.take n ++ List.replicate (n - p.length) z).length = n := by
  rw [List.length_append, List.length_take, List.length_replicate]; omega

variable (root : Nat → Option K)
local notation "FK" => FieldOps.ofField K root

theorem normalize_append_ne_zero (p : List K) (c : K) (hc : c ≠ 0) :
    normalize FK (p ++ [c]) = p ++ [c] := by
  simp [normalize, hc]

theorem normalize_append_zero (p : List K) : normalize FK (p ++ [0]) = normalize FK p := by
  simp [normalize]

theorem normalize_nil : normalize FK ([] : List K) = [] := rfl

/-- a storage is normalised when it is empty or its last element is non-zero -/
def Normal (p : List K) : Prop := ∀ c ∈ p.getLast?, c ≠ 0

theorem normal_normalize (p : List K) : Normal (normalize FK p) := by
  induction p using List.reverseRecOn with
  | nil => simp [normalize, Normal]
  | append_singleton p c ih =>
    by_cases hc : c = 0
    · subst hc; rw [normalize_append_zero]; exact ih
    · rw [normalize_append_ne_zero root p c hc]; simp [Normal, hc]

theorem normalize_of_normal {p : List K} (h : Normal p) : normalize FK p = p := by
  induction p using List.reverseRecOn with
  | nil => rfl
  | append_singleton p c _ =>
    have hc : c ≠ 0 := h c (by simp)
    exact normalize_append_ne_zero root p c hc

theorem normalize_idem (p : List K) : normalize FK (normalize FK p) = normalize FK p :=
  normalize_of_normal root (normal_normalize root p)

theorem exists_zeros (p : List K) : ∃ k, p = normalize FK p ++ List.replicate k 0 := by
  induction p using List.reverseRecOn with
  | nil => exact ⟨0, rfl⟩
  | append_singleton p c ih =>
    by_cases hc : c = 0
    · subst hc
      obtain ⟨k, hk⟩ := ih
      refine ⟨k+1, ?_⟩
      rw [normalize_append_zero]
      conv_lhs => rw [hk]
      simp [List.replicate_succ', List.append_assoc]
    · exact ⟨0, by rw [normalize_append_ne_zero root p c hc]; simp⟩

theorem normalize_append_zeros (p : List K) (k : Nat) :
    normalize FK (p ++ List.replicate k 0) = normalize FK p := by
  induction k with
  | zero => simp
  | succ k ih =>
    rw [List.replicate_succ', ← List.append_assoc, normalize_append_zero, ih]

@[simp] theorem denote_normalize (p : List K) : denote (normalize FK p) = denote p := by
  obtain ⟨k, hk⟩ := exists_zeros root p
  conv_rhs => rw [hk]
  rw [denote_append_zeros]

theorem denote_eq_zero_of_normal {p : List K} (h : Normal p) (h0 : denote p = 0) : p = [] := by
  induction p using List.reverseRecOn with
  | nil => rfl
  | append_singleton p c _ =>
    exfalso
    have hc : c ≠ 0 := h c (by simp)
    have := congrArg (fun q => q.coeff p.length) h0
    simp [coeff_denote] at this
    exact hc this

theorem natDegree_denote_lt (p : List K) (hp : p ≠ []) : (denote p).natDegree < p.length := by
  have := degree_denote_lt p
  cases p with
  | nil => exact absurd rfl hp
  | cons c cs =>
    by_cases h0 : denote (c :: cs) = 0
    · rw [h0]; simp
    · exact (Polynomial.natDegree_lt_iff_degree_lt h0).2 this

theorem length_of_normal {r : List K} (hr : Normal r) (hne : r ≠ []) : r.length = (denote r).natDegree + 1 := by
  have h1 := natDegree_denote_lt r hne
  have h2 : (denote r).coeff (r.length - 1) ≠ 0 := by
    rw [coeff_denote, getD_of_lt _ _ _ (by have := List.length_pos_of_ne_nil hne; omega), ← List.getLast_eq_getElem hne]
    exact hr _ (List.getLast?_eq_some_getLast hne ▸ rfl)
  have h3 := Polynomial.le_natDegree_of_ne_zero h2
  omega

theorem normal_ext {p q : List K} (hp : Normal p) (hq : Normal q) (h : denote p = denote q) : p = q := by
  by_cases hpe : p = []
  · subst hpe
    exact (denote_eq_zero_of_normal hq (by rw [← h]; rfl)).symm
  by_cases hqe : q = []
  · subst hqe
    exact denote_eq_zero_of_normal hp (by rw [h]; rfl)
  -- coefficientwise equal, and both lengths are `natDegree + 1`
  apply List.ext_getElem
  · rw [length_of_normal hp hpe, length_of_normal hq hqe, h]
  · intro i h1 h2
    have := congrArg (fun r => r.coeff i) h
    simp only [coeff_denote] at this
    rwa [getD_of_lt _ _ _ h1, getD_of_lt _ _ _ h2] at this

/-- **value semantics of storage**: two storages denote the same polynomial iff their normalisations coincide -/
theorem denote_eq_iff (p q : List K) : denote p = denote q ↔ normalize FK p = normalize FK q := by
  constructor
  · intro h
    apply normal_ext (normal_normalize root p) (normal_normalize root q)
    simpa using h
  · intro h
    rw [← denote_normalize root p, ← denote_normalize root q, h]

theorem normalize_eq_nil_iff (p : List K) : normalize FK p = [] ↔ denote p = 0 := by
  constructor
  · intro h
    rw [← denote_normalize root p, h]
    rfl
  · intro h
    exact denote_eq_zero_of_normal (normal_normalize root p) (by rw [denote_normalize]; exact h)

theorem length_normalize (p : List K) (h : denote p ≠ 0) :
    (normalize FK p).length = (denote p).natDegree + 1 := by
  rw [length_of_normal (normal_normalize root p) (fun h' => h ((normalize_eq_nil_iff root p).1 h')), denote_normalize]

theorem length_normalize_le (p : List K) : (normalize FK p).length ≤ p.length := by
  obtain ⟨k, hk⟩ := exists_zeros root p
  have := congrArg List.length hk
  rw [List.length_append] at this
  omega

/-- `degree()` is Mathlib's degree: −1 for zero, else `natDegree` -/
theorem degree_spec (p : List K) :
    degree FK p = if denote p = 0 then -1 else ((denote p).natDegree : Int) := by
  unfold degree
  split
  · next h => rw [(normalize_eq_nil_iff root p).2 h]; rfl
  · next h => rw [length_normalize root p h]; simp

theorem degree_eq_neg_one_iff (p : List K) : degree FK p = -1 ↔ denote p = 0 := by
  rw [degree_spec]
  split
  · next h => exact ⟨fun _ => h, fun _ => rfl⟩
  · next h => exact ⟨fun hd => absurd hd (by omega), fun h0 => absurd h0 h⟩

theorem degree_neg_iff (p : List K) : degree FK p < 0 ↔ denote p = 0 := by
  rw [degree_spec]
  split
  · next h => exact ⟨fun _ => h, fun _ => by decide⟩
  · next h => exact ⟨fun hd => absurd hd (by omega), fun h0 => absurd h0 h⟩

theorem isZero_iff (p : List K) : isZero FK p = true ↔ denote p = 0 := by
  unfold isZero
  rw [List.isEmpty_iff, normalize_eq_nil_iff]

/-- `leading_coefficient()` is `none` exactly for zero, else Mathlib's `leadingCoeff` (never zero) -/
theorem leadingCoefficient_spec (p : List K) :
    leadingCoefficient FK p = if denote p = 0 then none else some (denote p).leadingCoeff := by
  unfold leadingCoefficient
  split
  · next h => rw [(normalize_eq_nil_iff root p).2 h]; rfl
  · next h =>
    have hne : normalize FK p ≠ [] := fun h' => h ((normalize_eq_nil_iff root p).1 h')
    rw [List.getLast?_eq_some_getLast hne]
    congr 1
    rw [Polynomial.leadingCoeff, ← denote_normalize root p, coeff_denote, denote_normalize,
      List.getLast_eq_getElem]
    have := length_normalize root p h
    rw [getD_of_lt _ _ _ (by omega)]
    congr 1; omega

theorem coefficients_spec (p : List K) :
    denote (coefficients FK p) = denote p ∧ Normal (coefficients FK p) :=
  ⟨denote_normalize root p, normal_normalize root p⟩

theorem zip_all_iff (a b : List K) :
    (a.zip b).all (fun xy => (FK).beq xy.1 xy.2) = true ↔ ∀ i, i < a.length → i < b.length → a.getD i 0 = b.getD i 0 := by
  simp only [List.all_eq_true, FieldOps.ofField_beq, List.mem_iff_getElem, List.length_zip, lt_min_iff]
  constructor
  · intro h i h1 h2
    have := h _ ⟨i, ⟨h1, h2⟩, rfl⟩
    rwa [List.getElem_zip, ← getD_of_lt a i 0 h1, ← getD_of_lt b i 0 h2] at this
  · rintro h _ ⟨i, ⟨h1, h2⟩, rfl⟩
    rw [List.getElem_zip, ← getD_of_lt a i 0 h1, ← getD_of_lt b i 0 h2]
    exact h i h1 h2

theorem getD_eq_zero_of_ge (p : List K) (i : Nat) (h : (normalize FK p).length ≤ i) : p.getD i 0 = 0 := by
  obtain ⟨k, hk⟩ := exists_zeros root p
  rw [hk]
  by_cases h2 : i < (normalize FK p ++ List.replicate k 0).length
  · rw [getD_of_lt _ _ _ h2, List.getElem_append_right h]; simp
  · rw [getD_of_ge _ _ _ (by omega)]

/-- `==` decides equality of the denoted polynomials -/
theorem eq_iff_denote (a b : List K) : eq FK a b = true ↔ denote a = denote b := by
  unfold eq
  rw [Bool.and_eq_true, zip_all_iff, beq_iff_eq]
  constructor
  · rintro ⟨hd, hz⟩
    -- below the common degree the zipped storages agree, above it both are zero
    have hl : (normalize FK a).length = (normalize FK b).length := by unfold degree at hd; omega
    have ha := length_normalize_le root a
    have hb := length_normalize_le root b
    ext i
    rw [coeff_denote, coeff_denote]
    by_cases hi : i < (normalize FK a).length
    · exact hz i (by omega) (by omega)
    · rw [getD_eq_zero_of_ge root a i (by omega), getD_eq_zero_of_ge root b i (by omega)]
  · intro h
    refine ⟨?_, fun i _ _ => ?_⟩
    · rw [degree_spec, degree_spec, h]
    · rw [← coeff_denote, ← coeff_denote, h]

theorem denote_zipLongestWith (f : K → K → K) (g : K → K) (a b : List K)
    (hf : ∀ x y, f x y = x + g y) :
    denote (zipLongestWith f g a b) = denote a + denote (b.map g) := by
  induction a generalizing b with
  | nil => simp [zipLongestWith]
  | cons x xs ih =>
    cases b with
    | nil => simp [zipLongestWith]
    | cons y ys =>
      simp only [zipLongestWith, denote_cons, ih, hf, List.map_cons, C_add]
      ring

theorem denote_map_id (p : List K) : denote (p.map id) = denote p := by simp

theorem denote_map_mul_right (p : List K) (s : K) : denote (p.map (fun c => c * s)) = denote p * C s := by
  induction p with
  | nil => simp
  | cons c cs ih => simp only [List.map_cons, denote_cons, ih, C_mul]; ring

theorem denote_map_mul_left (p : List K) (s : K) : denote (p.map (fun c => s * c)) = C s * denote p := by
  rw [mul_comm, ← denote_map_mul_right]
  exact congrArg denote (List.map_congr_left fun c _ => mul_comm s c)

theorem denote_map_neg (p : List K) : denote (p.map (fun c => 0 - c)) = - denote p := by
  rw [← mul_neg_one, ← C_1, ← C_neg, ← denote_map_mul_right]
  exact congrArg denote (List.map_congr_left fun c _ => by rw [zero_sub, mul_neg_one])

@[simp] theorem denote_add (a b : List K) : denote (add FK a b) = denote a + denote b := by
  unfold add
  rw [FieldOps.ofField_add_fn, denote_zipLongestWith (· + ·) id a b (fun _ _ => rfl)]
  simp

@[simp] theorem denote_sub (a b : List K) : denote (sub FK a b) = denote a - denote b := by
  unfold sub
  show denote (zipLongestWith (· - ·) (fun r => 0 - r) a b) = _
  rw [denote_zipLongestWith (· - ·) (fun r => 0 - r) a b (fun x y => by simp [sub_eq_add_neg]), denote_map_neg]
  ring

@[simp] theorem denote_scalarMul (p : List K) (s : K) : denote (scalarMul FK p s) = denote p * C s := by
  unfold scalarMul scalarMulG
  simp only [FieldOps.ofField_mul]
  exact denote_map_mul_right p s

@[simp] theorem denote_neg (p : List K) : denote (neg FK p) = - denote p := by
  unfold neg; rw [denote_scalarMul, FieldOps.ofField_neg, FieldOps.ofField_one, C_neg, C_1, mul_neg_one]

@[simp] theorem denote_shiftCoefficients (p : List K) (n : Nat) :
    denote (shiftCoefficients FK p n) = X ^ n * denote p := by
  unfold shiftCoefficients
  simp [denote_append]

theorem denote_scaleAux (p : List K) (alpha pw : K) :
    denote (scaleAux (· * ·) (· * ·) alpha pw p) = C pw * (denote p).comp (C alpha * X) := by
  induction p generalizing pw with
  | nil => simp [scaleAux]
  | cons c cs ih =>
    simp only [scaleAux, denote_cons, ih, C_mul, add_comp, C_comp, mul_comp, X_comp]
    ring

/-- `scale(α)` is composition with `αX`: `P(X) ↦ P(αX)` -/
@[simp] theorem denote_scale (p : List K) (alpha : K) :
    denote (scale FK p alpha) = (denote p).comp (C alpha * X) := by
  unfold scale scaleG
  rw [FieldOps.ofField_mul_fn, denote_scaleAux]
  simp

@[simp] theorem denote_one : denote (one FK) = 1 := by simp [one]
@[simp] theorem denote_zero : denote (zero : List K) = 0 := rfl
@[simp] theorem denote_fromConstant (c : K) : denote (fromConstant c) = C c := by simp [fromConstant]
@[simp] theorem denote_xToThe (n : Nat) : denote (xToThe FK n) = X ^ n := by
  simp [xToThe, denote_append]

theorem denote_mulRows (a b : List K) :
    denote (mulRows FK (· * ·) a b) = denote a * denote b := by
  induction a with
  | nil => simp [mulRows]
  | cons a0 as ih =>
    cases as with
    | nil => simp [mulRows, denote_map_mul_left]
    | cons a1 as =>
      rw [mulRows, FieldOps.ofField_add_fn, denote_zipLongestWith (· + ·) id _ _ (fun _ _ => rfl)]
      simp only [List.map_id, denote_cons, FieldOps.ofField_zero, map_zero, zero_add, denote_map_mul_left] at ih ⊢
      rw [ih]; ring

/-- `naive_multiply` returns the ring product, for any storage of the operands -/
@[simp] theorem denote_naiveMultiply (a b : List K) :
    denote (naiveMultiply FK a b) = denote a * denote b := by
  unfold naiveMultiply naiveMultiplyG
  split
  · next h => rw [(normalize_eq_nil_iff root a).1 h]; simp
  · have h : normalize FK b = [] := by assumption
    rw [(normalize_eq_nil_iff root b).1 h]; simp
  · next h1 h2 =>
    rw [FieldOps.ofField_mul_fn, denote_mulRows root _ _, denote_normalize, denote_normalize]

@[simp] theorem denote_mul (a b : List K) : denote (mul FK a b) = denote a * denote b :=
  denote_naiveMultiply root a b

/-- Horner evaluation over the raw storage is `Polynomial.eval` -/
theorem eval_denote (p : List K) (x : K) : evaluate FK p x = (denote p).eval x := by
  unfold evaluate evaluateG
  induction p with
  | nil => simp
  | cons c cs ih =>
    simp only [List.foldr_cons, FieldOps.ofField_add, FieldOps.ofField_mul, denote_cons, eval_add, eval_C,
      eval_mul, eval_X] at ih ⊢
    rw [ih]; ring

/-- generalised over the running index `i`: the loop multiplies coefficient `j` by `i + j` -/
theorem denote_formalDerivativeAux (p : List K) (i : Nat) :
    denote (formalDerivativeAux FK i p) = X * derivative (denote p) + C (i : K) * denote p := by
  induction p generalizing i with
  | nil => simp [formalDerivativeAux]
  | cons c cs ih =>
    simp only [formalDerivativeAux, denote_cons, ih, FieldOps.ofField_mul, FieldOps.ofField_ofNat, C_mul,
      derivative_add, derivative_C, derivative_mul, derivative_X, Nat.cast_add, Nat.cast_one, C_add, C_1]
    ring

end Model.Poly
end TF
