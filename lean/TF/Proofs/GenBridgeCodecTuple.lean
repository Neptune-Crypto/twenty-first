import TF.Proofs.GenBridgeCodecGeneric
/-!
Bridge between the regenerated tuple decoders and static lengths of arity 2..12 (`impl_bfield_codec_for_tuple!`,
`TF/Gen/CodecGeneric.lean`) and the `tuple` case of the hand model.  Every arity expands to the same per-component code, applied
to the type parameters from the last to the first (`compStep` in `decode`, one `match` in `static_length`); one lemma per step
(`compStep_chain`, `tuple_static_length`) is applied once per parameter in `TF/Props/C03.lean`.  Component codecs are
hypotheses (`Item`).  The encoder step is in `GenBridgeCodecEnc.lean`.
-/
namespace TF.GenBridge.CodecG
open TF.Gen TF.Gen.Loops TF.Codec TF.RustStd TF.GenBridge.Codec

/-! ### model equations (facts about `TF.Codec` only) -/

theorem decodeItem_none_cons (decM : List Nat → Outcome Val) (len : Nat) (r : List Nat) :
    decodeItem decM none (len :: r) = decodeItem decM (some len) r := rfl

theorem decodeFields_nil (s : List Nat) : decodeFields [] s = .ok ([], s) := by simp only [decodeFields]

theorem decode_tuple (ts : List Ty) (s : List Nat) :
    decode (.tuple ts) s = (finishFields (decodeFields ts s)).map .list := by simp only [decode]

theorem staticLength_tuple (ts : List Ty) : staticLength (.tuple ts) = staticLengthSum ts := by simp only [staticLength]

theorem staticLengthSum_nil : staticLengthSum [] = some 0 := by simp only [staticLengthSum]

theorem staticLengthSum_cons (t : Ty) (ts : List Ty) :
    staticLengthSum (t :: ts) = (match staticLength t, staticLengthSum ts with
      | some a, some b => some (a + b)
      | _, _ => none) := by simp only [staticLengthSum]; rfl

set_option linter.unusedVariables false in
/-- the code the macro `impl_bfield_codec_for_tuple!` emits for one type parameter.  `rest` is the remainder of the function body
    as a function of the λ-bound variables in scope where it starts: the pair handed to the closure `k_3`, the converted length
    and the decoded component.  (The remaining sequence is a `let`-bound name there, which unification expands; with it as
    argument the remainder of an unfolded `codec_tupleN_decode` would not be a pattern and `compStep_chain` could not be applied.)
    The two conversions the source calls (`usize::try_from(BFieldElement)` and its no-panic flag) are parameters, so that no
    `rfl` below ever evaluates Montgomery arithmetic on an open term. -/
def compStepG {ε α β : Type} (tf : Nat → Except String Nat) (tfok : Nat → Bool) (sl : Option Nat) (dec : List Nat → Res ε α) (into : ε → DynErr) (sequence : List Nat)
    (rest : Except String Nat × List Nat → Nat → α → Res String β) : Res String β :=
  (if (sl.isNone && sequence.head?.isNone) then
  (TF.RustStd.Res.err "MissingLengthIndicator")
  else
  (let k_3 := (fun (j_4 : ((Except String Nat) × (List Nat))) =>
  (let p_6 := j_4
  let length : (Except String Nat) := p_6.1
  let sequence : (List Nat) := p_6.2
  (TF.RustStd.Res.tryQ length (fun _ => "TryFromIntError")
  (fun t_7 =>
  (let length : Nat := t_7
  (if (decide (sequence.length < length)) then
  (TF.RustStd.Res.err "SequenceTooShort")
  else
  (TF.RustStd.Res.need (decide (length ≤ sequence.length))
  (let p_8 := (sequence.take length, sequence.drop length)
  let sequence_for_ty : (List Nat) := p_8.1
  let sequence : (List Nat) := p_8.2
  (TF.RustStd.Res.call (dec sequence_for_ty)
  (fun r_9 =>
  (TF.RustStd.Res.tryQ (Except.mapError (fun err => (into err)) r_9) (fun _ => "InnerDecodingFailure")
  (fun t_10 => rest j_4 t_7 t_10))))))))))))
  (match (Option.map (fun length => ((Except.ok length : (Except String Nat)), sequence)) sl) with
  | some u_2 =>
  (k_3 u_2)
  | none =>
  (TF.RustStd.Res.unwrapO (sequence[0]?)
  (fun x_5 =>
  (TF.RustStd.Res.need (tfok x_5)
  (TF.RustStd.Res.need (decide (1 ≤ sequence.length))
  (k_3 ((tf x_5), (sequence.drop 1))))))))))

abbrev compStep {ε α β : Type} (sl : Option Nat) (dec : List Nat → Res ε α) (into : ε → DynErr) (sequence : List Nat)
    (rest : Except String Nat × List Nat → Nat → α → Res String β) : Res String β :=
  compStepG codec_usize_try_from_bfe codec_usize_try_from_bfe_ok sl dec into sequence rest

/-- the step once the length is known: `SequenceTooShort` test, `split_at`, the component's `decode`, `?` -/
def cutStep {ε α β : Type} (dec : List Nat → Res ε α) (into : ε → DynErr) (len : Nat) (s : List Nat) (rest : α → Res String β) :
    Res String β :=
  if decide (s.length < len) then .err "SequenceTooShort"
  else Res.need (decide (len ≤ s.length)) (Res.call (dec (s.take len)) (fun r_9 =>
    Res.tryQ (Except.mapError (fun err => into err) r_9) (fun _ => "InnerDecodingFailure") rest))

section
variable {ε α β : Type} (tf : Nat → Except String Nat) (tfok : Nat → Bool) (dec : List Nat → Res ε α) (into : ε → DynErr)
  (rest : Except String Nat × List Nat → Nat → α → Res String β)

theorem compStep_some (w : Nat) (seq : List Nat) :
    compStepG tf tfok (some w) dec into seq rest = cutStep dec into w seq (rest (.ok w, seq) w) := rfl

theorem compStep_none_nil : compStepG tf tfok none dec into [] rest = .err "MissingLengthIndicator" := rfl

theorem compStep_none_cons (x : Nat) (r : List Nat) :
    compStepG tf tfok none dec into (x :: r) rest =
      Res.need (tfok x) (Res.need (decide (1 ≤ r.length + 1))
        (Res.tryQ (tf x) (fun _ => "TryFromIntError") (fun len => cutStep dec into len r (rest (tf x, r) len)))) := rfl

end

/-- `cutStep` = `decodeItem` of the hand model at a known length: same value, error for error, panic for panic -/
theorem cutStep_spec {ε α β : Type} {dec : List Nat → Res ε α} (into : ε → DynErr) {toVal : α → Val}
    {decM : List Nat → Outcome Val} (h : Item dec toVal decM) (len : Nat) (s : List Nat) (hs : Words s)
    (rest : α → Res String β) :
    (∃ a, decodeItem decM (some len) (vals s) = .ok (toVal a, vals (s.drop len)) ∧ cutStep dec into len s rest = rest a) ∨
    (∃ k e, decodeItem decM (some len) (vals s) = .err k ∧ cutStep dec into len s rest = .err e) ∨
    (decodeItem decM (some len) (vals s) = .panic ∧ cutStep dec into len s rest = .panic) := by
  unfold cutStep
  rw [TF.Codec.decodeItem_some, vals_length]
  by_cases hlt : s.length < len
  · exact .inr (.inl ⟨_, _, by rw [if_pos hlt], by rw [decide_eq_true hlt, if_pos rfl]⟩)
  · have hit := h (s.take len) (Words_take len s hs)
    rw [vals_take] at hit
    rw [if_neg hlt, decide_eq_false hlt, if_neg Bool.false_ne_true, need_decide _ _ (Nat.le_of_not_lt hlt)]
    rcases obs_cases hit with ⟨a, hd, hm⟩ | ⟨e, k, hd, hm⟩ | ⟨hd, hm⟩
    · rw [hd, hm]
      exact .inl ⟨a, by rw [vals_drop]; rfl, rfl⟩
    · rw [hd, hm]
      exact .inr (.inl ⟨k, _, rfl, rfl⟩)
    · rw [hd, hm]
      exact .inr (.inr ⟨rfl, rfl⟩)

/-- one component step = `decodeItem` of the hand model: the continuation is entered with the component and the words after it,
    or both sides fail alike.  The words after the component are written as the emitted code writes them (`p_8.2`), which is
    how they occur in the continuation of an unfolded `codec_tupleN_decode`. -/
theorem compStep_spec {ε α β : Type} (sl : Option Nat) {dec : List Nat → Res ε α} (into : ε → DynErr) {toVal : α → Val}
    {decM : List Nat → Outcome Val} (h : Item dec toVal decM) (seq : List Nat) (hw : Words seq)
    (rest : Except String Nat × List Nat → Nat → α → Res String β) :
    (∃ a j n, Words (j.2.take n, j.2.drop n).2 ∧
        decodeItem decM sl (vals seq) = .ok (toVal a, vals (j.2.take n, j.2.drop n).2) ∧
        compStep sl dec into seq rest = rest j n a) ∨
    (∃ k e, decodeItem decM sl (vals seq) = .err k ∧ compStep sl dec into seq rest = .err e) ∨
    (decodeItem decM sl (vals seq) = .panic ∧ compStep sl dec into seq rest = .panic) := by
  cases sl with
  | some w =>
    rw [compStep, compStep_some]
    rcases cutStep_spec into h w seq hw (rest (.ok w, seq) w) with ⟨a, hm, hg⟩ | h'
    · exact .inl ⟨a, (.ok w, seq), w, Words_drop w seq hw, hm, hg⟩
    · exact .inr h'
  | none =>
    cases seq with
    | nil => exact .inr (.inl ⟨Err.missingLen, _, rfl, compStep_none_nil _ _ dec into rest⟩)
    | cons x r =>
      obtain ⟨hx, hr⟩ := Words_tail x r hw
      rw [vals_cons, compStep, compStep_none_cons, decodeItem_none_cons, (try_from_word x hx).2, need_true,
        need_decide _ _ (Nat.le_add_left 1 _), (try_from_word x hx).1, tryQ_ok]
      generalize bfe_value x = n
      rcases cutStep_spec into h n r hr (rest (.ok n, r) n) with ⟨a, hm, hg⟩ | h'
      · exact .inl ⟨a, (.ok n, r), n, Words_drop n r hr, hm, hg⟩
      · exact .inr h'

/-- `decodeFields` in the order it runs (the last type parameter is decoded first): the types still to come, the values
    decoded so far and the words left -/
def decodeRev : List Ty → List Val × List Nat → Outcome (List Val × List Nat)
  | [], acc => .ok acc
  | t :: rs, (vs, s) => match decodeItem (decode t) (staticLength t) s with
    | .ok (v, r) => decodeRev rs (v :: vs, r)
    | .err k => .err k
    | .panic => .panic

theorem decodeRev_snoc (t : Ty) (rs : List Ty) (acc : List Val × List Nat) :
    decodeRev (rs ++ [t]) acc = (decodeRev rs acc).bind fun p =>
      (decodeItem (decode t) (staticLength t) p.2).map fun q => (q.1 :: p.1, q.2) := by
  induction rs generalizing acc with
  | nil =>
    obtain ⟨vs, s⟩ := acc
    simp only [List.nil_append, decodeRev, Outcome.bind]
    cases decodeItem (decode t) (staticLength t) s <;> rfl
  | cons u rs ih =>
    obtain ⟨vs, s⟩ := acc
    simp only [List.cons_append, decodeRev]
    cases decodeItem (decode u) (staticLength u) s with
    | ok p => exact ih _
    | err k => rfl
    | panic => rfl

theorem decodeFields_eq_decodeRev (ts : List Ty) (s : List Nat) : decodeFields ts s = decodeRev ts.reverse ([], s) := by
  induction ts with
  | nil =>
    rw [decodeFields_nil]
    rfl
  | cons t ts ih => rw [List.reverse_cons, decodeRev_snoc, ← ih, TF.Codec.decodeFields_cons]

theorem tuple_item {β : Type} {G : List Nat → Res String β} {F : β → Val} {ts : List Ty}
    (h : ∀ r, Words r → obsR F (G r) = obsM ((finishFields (decodeRev ts.reverse ([], vals r))).map .list)) :
    Item G F (decode (.tuple ts)) := by
  intro r hw
  rw [decode_tuple, decodeFields_eq_decodeRev]
  exact h r hw

/-- **one step of a regenerated tuple decoder against the model**: `t` is the type parameter decoded next, `rs` those after
    it, `vs` the values so far.  If the continuation agrees with the model on whatever the step delivers, the step does. -/
theorem compStep_chain {ε α β : Type} {F : β → Val} {t : Ty} {rs : List Ty} {vs : List Val} {seq : List Nat}
    {dec : List Nat → Res ε α} {into : ε → DynErr} {toVal : α → Val} (h : Item dec toVal (decode t))
    {rest : Except String Nat × List Nat → Nat → α → Res String β}
    (hok : ∀ j n a, Words (j.2.take n, j.2.drop n).2 → obsR F (rest j n a) =
      obsM ((finishFields (decodeRev rs (toVal a :: vs, vals (j.2.take n, j.2.drop n).2))).map .list))
    (hw : Words seq) :
    obsR F (compStep (staticLength t) dec into seq rest) =
      obsM ((finishFields (decodeRev (t :: rs) (vs, vals seq))).map .list) := by
  rw [decodeRev]
  rcases compStep_spec (staticLength t) into h seq hw rest with ⟨a, j, n, hw', hm, hg⟩ | ⟨k, e, hm, hg⟩ | ⟨hm, hg⟩
  · rw [hg, hm]
    exact hok j n a hw'
  · rw [hg, hm]
    rfl
  · rw [hg, hm]
    rfl

/-- the last test of a regenerated tuple decoder (`SequenceTooLong` unless everything is consumed) = `finishFields` -/
theorem tuple_finish {β : Type} {F : β → Val} {vs : List Val} {seq : List Nat} {x : β} (hx : F x = Val.list vs) :
    obsR F (if (!seq.isEmpty) then (Res.err "SequenceTooLong" : Res String β) else Res.ok x) =
      obsM ((finishFields (decodeRev [] (vs, vals seq))).map .list) := by
  cases seq <;> simp [decodeRev, finishFields, vals, Outcome.map, obsR, obsM, hx]

/-- the nested `match` the macro emits in `static_length` for the type parameters after the first, `c` the sum so far
    (the emitted sum ends in `+ 0`) -/
def slFrom (c : Nat) : List Ty → Option Nat
  | [] => some (c + 0)
  | t :: ts => match staticLength t with
    | some a => slFrom (c + a) ts
    | none => none

theorem slFrom_eq (c : Nat) (ts : List Ty) : slFrom c ts = (staticLengthSum ts).map (c + ·) := by
  induction ts generalizing c with
  | nil =>
    rw [staticLengthSum_nil]
    rfl
  | cons t ts ih =>
    rw [staticLengthSum_cons, slFrom]
    cases staticLength t with
    | none => rfl
    | some a =>
      simp only [ih]
      cases staticLengthSum ts <;> simp only [Option.map_some, Option.map_none, Nat.add_assoc]

/-- regenerated `static_length` of a tuple = `staticLength (.tuple ..)`: each `codec_tupleN_static_length` unfolds to the left side -/
theorem tuple_static_length (t : Ty) (ts : List Ty) :
    (match staticLength t with
      | some a => slFrom a ts
      | none => none) = staticLength (.tuple (t :: ts)) := by
  rw [staticLength_tuple, staticLengthSum_cons]
  cases staticLength t with
  | none => rfl
  | some a =>
    simp only [slFrom_eq]
    cases staticLengthSum ts <;> rfl

end TF.GenBridge.CodecG
