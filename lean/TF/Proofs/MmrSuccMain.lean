import TF.Proofs.MapM
import TF.Proofs.MmrSuccFill
import TF.Proofs.MmrSuccGen
/-!
C12, `new_from_batch_append`: the replay of the appends and the main theorems.  `replay_inv`: the loop
`for &new_leaf in new_leafs` keeps the fill-in invariant and sees every node created by the appends (except the top
node of each append, which is seen as a peak in the next round) and every peak of every intermediate accumulator.
`gen_spec`: the generated proof consists, per old peak, of the digests of the sibling blocks up to the new peak.
`gen_verifies`: it is accepted.  `mkDg`: a digest assignment for an arbitrary consistent old accumulator.
-/
namespace TF.MmrE
open TF TF.Gen TF.Model.Mmr TF.Model.MmrE TF.Spec.MmrE TF.Spec.Mmr

variable {D : Type} (H : D → D → D)

/-- the `scan` of `new_from_batch_append`: from the new leaf up its chain of right-child ancestors -/
theorem scanNodes_dg (dg : Nat → Nat → D) (c : Nat) (hne : NodeEq H dg c) : ∀ (t l j : Nat),
    (∀ r < t, j / 2 ^ r % 2 = 1) → c < bend l j →
    scanNodes H (dg l j) (dgs dg (sibBlks l j t)) = (List.range t).map (fun r => dg (l + r) (j / 2 ^ r)) := by
  intro t
  induction t with
  | zero => intro l j _ _; simp [sibBlks_zero, dgs, scanNodes]
  | succ t ih =>
    intro l j hodd hc
    have h0 := hodd 0 (by omega)
    simp only [Nat.pow_zero, Nat.div_one] at h0
    have hpar : c < bend (l + 1) (j / 2) := by have := bend_le_parent l j; omega
    have hstep := step_dg H dg c hne l j hpar
    rw [if_neg (by omega)] at hstep
    rw [sibBlks_succ]
    simp only [dgs, List.map_cons, scanNodes]
    rw [hstep]
    have := ih (l + 1) (j / 2) (fun r hr => by
      have := hodd (r + 1) (by omega)
      rw [Nat.div_div_eq_div_mul, ← Nat.pow_succ']; exact this) hpar
    simp only [dgs] at this
    rw [this, map_range_succ_up (fun l' x => dg l' x) l j t]

theorem dpeaks_getElem_locate (dg : Nat → Nat → D) (n i : Nat) (h : i < n) :
    (dpeaks dg n)[(locate n i).2.2]? = some (dg (locate n i).1 (i / 2 ^ (locate n i).1)) := by
  unfold dpeaks dgs
  rw [List.getElem?_map, peakBlk_getElem_locate n i h]
  rfl

/-- the blocks whose digests become known in the round that appends leaf `c` -/
def stepBlks (c : Nat) : List (Nat × Nat) :=
  (List.range (TF.trailingOnes c)).map (fun r => (r, c / 2 ^ r)) ++ peakBlk c

def itemsOf (dg : Nat → Nat → D) (bs : List (Nat × Nat)) : List (Nat × D) :=
  bs.map (fun b => (nodeIdx b.1 b.2, dg b.1 b.2))

theorem zip_map_range_succ {β γ : Type} (f : Nat → β) (g : Nat → γ) (t : Nat) :
    ((List.range (t + 1)).map f).zip ((List.range t).map g) = (List.range t).map (fun r => (f r, g r)) := by
  rw [List.range_succ, List.map_append]
  have := List.zip_append (l₁ := (List.range t).map f) (r₁ := [f t]) (l₂ := (List.range t).map g) (r₂ := [])
    (by simp)
  rw [List.append_nil] at this
  rw [List.map_cons, List.map_nil, this, List.zip_map']
  simp

/-- the end of every block on the right-child chain of the new leaf `c` is `c + 1` -/
theorem bend_chain (c : Nat) : ∀ r, r ≤ TF.trailingOnes c → bend r (c / 2 ^ r) = c + 1 := by
  intro r
  induction r with
  | zero => intro _; simp [bend]
  | succ r ih =>
    intro h
    have hbit := UpdAppend.trailingOnes_bit_lt r c (by omega)
    have := bend_odd r (c / 2 ^ r) hbit
    rw [Nat.div_div_eq_div_mul, ← Nat.pow_succ] at this
    rw [← this, ih (by omega)]

theorem stepBlks_bend (c : Nat) (b : Nat × Nat) (hb : b ∈ stepBlks c) : bend b.1 b.2 ≤ c + 1 := by
  unfold stepBlks at hb
  rcases List.mem_append.mp hb with hb | hb
  · obtain ⟨r, hr, rfl⟩ := List.mem_map.mp hb
    have := bend_chain c r (by have := List.mem_range.mp hr; omega)
    simp only; omega
  · have := mem_peakBlk_bend c b.1 b.2 hb
    omega

theorem round_items (dg : Nat → Nat → D) (c : Nat) (hne : NodeEq H dg c) :
    ((List.range (TF.trailingOnes c + 1)).map (fun r => nodeIdx r (c / 2 ^ r))).zip
        (scanNodes H (dg 0 c) (dgs dg (sibBlks 0 c (TF.trailingOnes c)))) ++ (peakIdx c).zip (dpeaks dg c)
      = itemsOf dg (stepBlks c) := by
  rw [scanNodes_dg H dg c hne (TF.trailingOnes c) 0 c (fun r hr => UpdAppend.trailingOnes_bit_lt r c hr) (by unfold bend; omega)]
  unfold itemsOf stepBlks peakIdx dpeaks dgs
  rw [zip_map_range_succ, List.zip_map', List.map_append, List.map_map]
  simp [Function.comp_def]

/-- **the `for &new_leaf in new_leafs` loop** keeps the fill-in invariant and sees every block of `stepBlks c'` for
    every round `c'` -/
theorem replay_inv (dg : Nat → Nat → D) (val : Nat → D) (m n : Nat) (hn : n < 2 ^ 63) (hne : NodeEq H dg m)
    (hval : ∀ l b, bend l b ≤ n → val (nodeIdx l b) = dg l b) (tgs : List (List Nat)) :
    ∀ (xs : List D) (c : Nat) (S : Nat → Prop) (ps : List (List D)) (nds : List (List (Option (Nat × Nat)))),
      m ≤ c → c + xs.length = n → (∀ i x, xs[i]? = some x → dg 0 (c + i) = x) → InvAll val S tgs ps nds →
      ∃ ps' nds' S', replayAppends H xs (dpeaks dg c) (peakIdx c) c ps nds = some ps' ∧ InvAll val S' tgs ps' nds' ∧
        (∀ y, S y → S' y) ∧ (∀ c', c ≤ c' → c' < n → ∀ b ∈ stepBlks c', S' (nodeIdx b.1 b.2)) := by
  intro xs
  induction xs with
  | nil =>
    intro c S ps nds _ hcn _ hinv
    refine ⟨ps, nds, S, replayAppends_nil H _ _ _ _ _, hinv, fun _ h => h, ?_⟩
    intro c' h1 h2
    simp at hcn; omega
  | cons x xs ih =>
    intro c S ps nds hmc hcn hx hinv
    simp only [List.length_cons] at hcn
    have hx0 : dg 0 c = x := hx 0 x (by simp)
    have h63 : (2:Nat) ^ 63 < 2 ^ 64 := by decide
    have hadd := add64_succ c (by omega)
    have hnec := hne.mono H hmc
    rw [replayAppends_cons, UpdAppend.added_nodeIdx c (by omega), ← hx0, calcAppend_dg H c dg hnec (by omega), hadd,
      peaksIdx_spec (c + 1) (by omega)]
    simp only [Option.bind_some]
    have hitems := round_items H dg c hnec
    rw [hitems]
    obtain ⟨ps1, nds1, h1, h2⟩ := fillMany_inv val (itemsOf dg (stepBlks c)) S (fun it hit => by
      obtain ⟨b, hb, rfl⟩ := List.mem_map.mp hit
      have := stepBlks_bend c b hb
      exact (hval b.1 b.2 (by omega)).symm) hinv
    rw [h1]
    simp only [Option.bind_some]
    obtain ⟨ps', nds', S', h3, h4, h5, h6⟩ := ih (c + 1) _ ps1 nds1 (by omega) (by omega) (fun i y hy => by
      have := hx (i + 1) y (by simpa using hy)
      rw [← this]; congr 1; omega) h2
    refine ⟨ps', nds', S', h3, h4, fun y hy => h5 y (Or.inl hy), ?_⟩
    intro c' hc1 hc2 b hb
    by_cases hcc : c' = c
    · subst hcc
      exact h5 _ (Or.inr ⟨(nodeIdx b.1 b.2, dg b.1 b.2), List.mem_map.mpr ⟨b, hb, rfl⟩, rfl⟩)
    · exact h6 c' (by omega) hc2 b hb

/-- digest of a node index under a digest assignment (the inverse of `nodeIdx`, chosen classically) -/
noncomputable def valOf (dg : Nat → Nat → D) (dflt : D) (x : Nat) : D :=
  open Classical in
  if h : ∃ lb : Nat × Nat, nodeIdx lb.1 lb.2 = x then dg h.choose.1 h.choose.2 else dflt

theorem valOf_nodeIdx (dg : Nat → Nat → D) (dflt : D) (l b : Nat) (hlt : nodeIdx l b < 2 ^ 64) :
    valOf dg dflt (nodeIdx l b) = dg l b := by
  unfold valOf
  have hex : ∃ lb : Nat × Nat, nodeIdx lb.1 lb.2 = nodeIdx l b := ⟨(l, b), rfl⟩
  rw [dif_pos hex]
  have hs := hex.choose_spec
  obtain ⟨h1, h2⟩ := nodeIdx_inj l b _ _ hlt hs.symm
  rw [← h1, ← h2]

theorem mapM_some_map {α β : Type} (g : α → Option β) (f : α → β) : ∀ (l : List α), (∀ a ∈ l, g a = some (f a)) →
    l.mapM g = some (l.map f) := by
  intro l h
  simpa using TF.MapM.mapM_map_some id g f l h

theorem bend_sibBlk_le (l b : Nat) : bend l (sibBlk b) ≤ bend (l + 1) (b / 2) := by
  have := bend_le_parent l (sibBlk b)
  rw [sibBlk_half] at this
  exact this

theorem chain_bend (n h j : Nat) (hb : bend h j ≤ n) (t : Nat) (ht : t ≤ upLen n h j) : bend (h + t) (j / 2 ^ t) ≤ n := by
  obtain ⟨_, h2, _⟩ := chain_facts n h j hb
  have htop := mem_peakBlk_bend n _ _ h2
  have := bend_le_anc (h + t) (j / 2 ^ t) (upLen n h j - t)
  have e1 : h + t + (upLen n h j - t) = h + upLen n h j := by omega
  have e2 : j / 2 ^ t / 2 ^ (upLen n h j - t) = j / 2 ^ upLen n h j := by
    rw [Nat.div_div_eq_div_mul, ← Nat.pow_add]; congr 2; omega
  rw [e1, e2] at this
  omega

/-- every needed sibling block is seen in some round of the replay: a left sibling is itself an old peak (seen in the
    first round), a right sibling `(l, b)` is completed by the append of leaf `bend l b − 1`, below the top of that append -/
theorem sibling_seen (m n h j t : Nat) (hp : (h, j) ∈ peakBlk m) (hmn : m ≤ n) (ht : t < upLen n h j) :
    ∃ c', m ≤ c' ∧ c' < n ∧ (h + t, sibBlk (j / 2 ^ t)) ∈ stepBlks c' := by
  have hbm := mem_peakBlk_bend m h j hp
  have hlt : m < n := by
    rcases Nat.lt_or_ge m n with h1 | h1
    · exact h1
    · have : m = n := by omega
      subst this
      have := locate_of_mem_peakBlk h m (j * 2 ^ h) (by
        rw [Nat.mul_div_cancel _ (Nat.pow_pos (by omega))]; exact hp)
      unfold upLen at ht; omega
  by_cases hodd : j / 2 ^ t % 2 = 1
  · refine ⟨m, Nat.le_refl _, hlt, ?_⟩
    have hs : sibBlk (j / 2 ^ t) = j / 2 ^ t - 1 := sibBlk_odd hodd
    rw [hs]
    unfold stepBlks
    exact List.mem_append_right _ (oldPeak_left_sibling m h j hp t hodd)
  · have hs : sibBlk (j / 2 ^ t) = j / 2 ^ t + 1 := sibBlk_even (by omega)
    rw [hs]
    have hbodd : (j / 2 ^ t + 1) % 2 = 1 := by omega
    have hbe := bend_odd (h + t) (j / 2 ^ t + 1) hbodd
    have e : (j / 2 ^ t + 1) / 2 = j / 2 ^ (t + 1) := by
      rw [Nat.pow_succ, ← Nat.div_div_eq_div_mul]; omega
    rw [e] at hbe
    have hgt := oldPeak_anc_gt m h j hp t
    have hle := chain_bend n h j (by omega) (t + 1) (by omega)
    have e' : h + (t + 1) = h + t + 1 := by omega
    rw [e'] at hle
    refine ⟨bend (h + t) (j / 2 ^ t + 1) - 1, by omega, by omega, ?_⟩
    unfold stepBlks
    apply List.mem_append_left
    rw [List.mem_map]
    refine ⟨h + t, ?_, ?_⟩
    · rw [List.mem_range, trailingOnes_bend]
      have := (trailingOnes_ne_zero_iff (j / 2 ^ t + 1)).mpr hbodd
      omega
    · rw [bend_sub_one_div]

/-- **`new_from_batch_append`** on the accumulator `⟨m, dpeaks dg m⟩` and leaves `xs`: per old peak `(h, j)` the digests
    of the sibling blocks `(h + t, sibBlk (j / 2^t))`, `t < height of the new peak above − h`, lowest first, old peaks
    in order -/
theorem gen_spec (dflt : D) (dg : Nat → Nat → D) (m : Nat) (xs : List D) (hn : m + xs.length < 2 ^ 63)
    (hne : NodeEq H dg m) (hleaf : ∀ i x, xs[i]? = some x → dg 0 (m + i) = x) :
    newFromBatchAppend H dflt ⟨m, dpeaks dg m⟩ xs
      = some (((peakBlk m).map (fun b => dgs dg (sibBlks b.1 b.2 (upLen (m + xs.length) b.1 b.2)))).flatten) := by
  generalize hnn : m + xs.length = n at hn ⊢
  have h63 : (2:Nat) ^ 63 < 2 ^ 64 := by decide
  have hadd : add64 m xs.length = n := by unfold add64 W64; omega
  have hmn : m ≤ n := by omega
  rw [newFromBatchAppend_def]
  simp only
  rw [peaksIdx_spec m (by omega), hadd, peaksIdx_spec n hn]
  simp only [Option.bind_some]
  rw [show (peakIdx m).zip ((peakBlk m).map fun x => x.1) = (peakBlk m).map fun b => (nodeIdx b.1 b.2, b.1) by
    unfold peakIdx; rw [List.zip_map']]
  have hneeded := TF.MapM.mapM_map_some (fun b : Nat × Nat => (nodeIdx b.1 b.2, b.1))
    (fun ih : Nat × Nat => neededLoop (peakIdx n) (2 * descentFuel) ih.1 ih.2 [])
    (fun b => (sibBlks b.1 b.2 (upLen n b.1 b.2)).map (fun b => nodeIdx b.1 b.2)) (peakBlk m) (fun b hb => by
      have := mem_peakBlk_bend m b.1 b.2 hb
      exact needed_spec n b.1 b.2 (by omega) hn)
  rw [hneeded]
  simp only [Option.bind_some]
  generalize htgs : (peakBlk m).map (fun b => (sibBlks b.1 b.2 (upLen n b.1 b.2)).map (fun b => nodeIdx b.1 b.2)) = tgs
  have hsibbend : ∀ b ∈ peakBlk m, ∀ t, t < upLen n b.1 b.2 → bend (b.1 + t) (sibBlk (b.2 / 2 ^ t)) ≤ n := by
    intro b hb t ht
    have h1 := bend_sibBlk_le (b.1 + t) (b.2 / 2 ^ t)
    have h2 := chain_bend n b.1 b.2 (by have := mem_peakBlk_bend m b.1 b.2 hb; omega) (t + 1) (by omega)
    have e2 : b.2 / 2 ^ t / 2 = b.2 / 2 ^ (t + 1) := by rw [Nat.div_div_eq_div_mul, Nat.pow_succ]
    have e : b.1 + (t + 1) = b.1 + t + 1 := by omega
    rw [e2] at h1
    rw [e] at h2
    omega
  have hval : ∀ l b, bend l b ≤ n → valOf dg dflt (nodeIdx l b) = dg l b :=
    fun l b hb => valOf_nodeIdx dg dflt l b (nodeIdx_lt_of_block l b n hb hn)
  have hinit := InvAll_init (valOf dg dflt) dflt tgs (by
    intro tg htg i i' y hi hi'
    rw [← htgs] at htg
    obtain ⟨b, hb, rfl⟩ := List.mem_map.mp htg
    rw [List.getElem?_map, sibBlks_getElem?] at hi hi'
    by_cases h1 : i < upLen n b.1 b.2
    · by_cases h2 : i' < upLen n b.1 b.2
      · rw [if_pos h1] at hi
        rw [if_pos h2] at hi'
        simp only [Option.map_some, Option.some.injEq] at hi hi'
        have hlt := nodeIdx_lt_of_block _ _ n (hsibbend b hb i h1) hn
        have := (nodeIdx_inj _ _ _ _ hlt (hi.trans hi'.symm)).1
        omega
      · rw [if_neg h2] at hi'; simp at hi'
    · rw [if_neg h1] at hi; simp at hi)
  obtain ⟨ps', nds', S', h3, h4, _, h6⟩ := replay_inv H dg (valOf dg dflt) m n hn hne hval tgs xs m (fun _ => False)
    _ _ (Nat.le_refl _) hnn hleaf hinit
  show (replayAppends H xs (dpeaks dg m) (peakIdx m) m _ _).bind _ = _
  rw [h3]
  simp only [Option.bind_some]
  have hfinal := InvAll_final (valOf dg dflt) S' h4 (by
    intro tg htg y hy
    rw [← htgs] at htg
    obtain ⟨b, hb, rfl⟩ := List.mem_map.mp htg
    obtain ⟨sb, hsb, rfl⟩ := List.mem_map.mp hy
    obtain ⟨t, ht, hget⟩ := (mem_sibBlks _ _ _ _).mp hsb
    subst hget
    obtain ⟨c', hc1, hc2, hc3⟩ := sibling_seen m n b.1 b.2 t hb hmn ht
    exact h6 c' hc1 hc2 _ hc3)
  rw [hfinal, ← htgs, List.map_map]
  congr 2
  apply List.map_congr_left
  intro b hb
  simp only [Function.comp, dgs, List.map_map]
  apply List.map_congr_left
  intro sb hsb
  obtain ⟨t, ht, hget⟩ := (mem_sibBlks _ _ _ _).mp hsb
  subst hget
  exact hval _ _ (hsibbend b hb t ht)

/-- the generated proof is accepted: per old peak `(h, j)` the segment is `dgs dg (sibBlks h j …)`, and folding the
    block `(h, j)` along the digests of its sibling blocks gives the peak block above it (`foldBlk_dg`) -/
theorem gen_verifies [DecidableEq D] (dflt : D) (dg : Nat → Nat → D) (m : Nat) (xs : List D)
    (hn : m + xs.length < 2 ^ 63) (hne : NodeEq H dg m) (hleaf : ∀ i x, xs[i]? = some x → dg 0 (m + i) = x) :
    ∃ paths, newFromBatchAppend H dflt ⟨m, dpeaks dg m⟩ xs = some paths ∧
      verify H dflt paths ⟨m, dpeaks dg m⟩ ⟨m + xs.length, dpeaks dg (m + xs.length)⟩ = some true := by
  refine ⟨_, gen_spec H dflt dg m xs hn hne hleaf, ?_⟩
  generalize hnn : m + xs.length = n at hn ⊢
  have h63 : (2:Nat) ^ 63 < 2 ^ 64 := by decide
  have hmn : m ≤ n := by omega
  have hl : (dpeaks dg n).length < 2 ^ 32 := by
    rw [dpeaks_length]
    have := TF.Mmr.popCount_le_bits 64 n (by omega)
    omega
  rw [verify_eq_spec H dflt _ _ _ (by simp only; omega) (by simp only; omega) hl]
  simp only [succVerify, hmn, dpeaks_length, decide_true, Bool.true_and, Option.some.injEq]
  have hsegs : (peakBlk m).map (fun b => dgs dg (sibBlks b.1 b.2 (upLen n b.1 b.2)))
      = (peakPos m).map (fun q => dgs dg (sibBlks q.1 (q.2 / 2 ^ q.1) (upLen n q.1 (q.2 / 2 ^ q.1)))) := by
    unfold peakBlk; rw [List.map_map]; rfl
  have hops : dpeaks dg m = (peakPos m).map (fun q => dg q.1 (q.2 / 2 ^ q.1)) := by
    unfold dpeaks dgs peakBlk; rw [List.map_map]; rfl
  rw [hsegs, hops]
  apply succGo_complete H n (dpeaks dg n) (peakPos m) _ _ (by simp) (by simp)
  intro i p q seg hp hq hseg
  rw [List.getElem?_map, hq] at hp hseg
  simp only [Option.map_some, Option.some.injEq] at hp hseg
  subst hp hseg
  obtain ⟨h, s⟩ := q
  have hqmem : (h, s) ∈ peakPos m := List.mem_of_getElem? hq
  obtain ⟨hdvd, hle⟩ := peakPos_mem m (h, s) hqmem
  simp only at hdvd hle ⊢
  have hpos : 0 < 2 ^ h := Nat.pow_pos (by omega)
  have hs : s / 2 ^ h * 2 ^ h = s := Nat.div_mul_cancel hdvd
  generalize hj : s / 2 ^ h = j at *
  have hpb : (h, j) ∈ peakBlk m := by
    unfold peakBlk
    exact List.mem_map.mpr ⟨(h, s), hqmem, by simp [hj]⟩
  have hb : bend h j ≤ n := by rw [bend_eq]; omega
  obtain ⟨hc1, hc2, hc3⟩ := chain_facts n h j hb
  rw [hs] at hc3
  have hup : upLen n h j = (locate n s).1 - h := by unfold upLen; rw [hs]
  refine ⟨by omega, by simp [dgs, sibBlks_length, hup], ?_⟩
  rw [dpeaks_getElem_locate dg n s (by omega)]
  congr 1
  rw [foldBlk_dg H dg m hne (upLen n h j) h j (fun _ => by
    have := oldPeak_anc_gt m h j hpb 0
    simpa using this)]
  have hbd := blk_div h j (upLen n h j)
  rw [hs, hc3] at hbd
  rw [hc3, hbd]

/-- a digest assignment for the accumulator `⟨m, ps⟩` and the leaves `xs` to be appended: blocks inside the old leaves
    carry the old peak of their tree (only the old peak blocks themselves matter), new leaves carry `xs`, every other
    block is the hash of its halves -/
def mkDg (dflt : D) (m : Nat) (ps xs : List D) : Nat → Nat → D
  | 0, j => if j + 1 ≤ m then (ps[(locate m j).2.2]?).getD dflt else (xs[j - m]?).getD dflt
  | l + 1, j =>
    if bend (l + 1) j ≤ m then (ps[(locate m (j * 2 ^ (l + 1))).2.2]?).getD dflt
    else H (mkDg dflt m ps xs l (2 * j)) (mkDg dflt m ps xs l (2 * j + 1))

theorem mkDg_old (dflt : D) (m : Nat) (ps xs : List D) (l j : Nat) (h : bend l j ≤ m) :
    mkDg H dflt m ps xs l j = (ps[(locate m (j * 2 ^ l)).2.2]?).getD dflt := by
  cases l with
  | zero =>
    rw [mkDg, if_pos (by unfold bend at h; omega)]
    simp
  | succ l => rw [mkDg, if_pos h]

theorem mkDg_nodeEq (dflt : D) (m : Nat) (ps xs : List D) : NodeEq H (mkDg H dflt m ps xs) m := by
  intro l j hlt
  conv => lhs; rw [mkDg]
  rw [if_neg (by omega)]

theorem mkDg_leaf (dflt : D) (m : Nat) (ps xs : List D) (i : Nat) (x : D) (hx : xs[i]? = some x) :
    mkDg H dflt m ps xs 0 (m + i) = x := by
  rw [mkDg, if_neg (by omega)]
  have e : m + i - m = i := by omega
  rw [e, hx]; rfl

theorem mkDg_dpeaks (dflt : D) (m : Nat) (ps xs : List D) (hlen : TF.popCount m = ps.length) :
    dpeaks (mkDg H dflt m ps xs) m = ps := by
  apply List.ext_getElem?
  intro i
  unfold dpeaks dgs peakBlk
  rw [List.map_map, List.getElem?_map]
  cases hq : (peakPos m)[i]? with
  | none =>
    have := List.getElem?_eq_none_iff.mp hq
    rw [peakPos_length] at this
    rw [List.getElem?_eq_none (by omega)]
    rfl
  | some q =>
    obtain ⟨h, s⟩ := q
    have hmem := peakPos_mem m (h, s) (List.mem_of_getElem? hq)
    simp only at hmem
    have hi : i < ps.length := by
      have := (List.getElem?_eq_some_iff.mp hq).1
      rw [peakPos_length] at this; omega
    have hs : s / 2 ^ h * 2 ^ h = s := Nat.div_mul_cancel hmem.1
    have hb : bend h (s / 2 ^ h) ≤ m := by rw [bend_eq]; omega
    simp only [Option.map_some, Function.comp]
    rw [mkDg_old H dflt m ps xs h (s / 2 ^ h) hb, hs, locate_peakPos m i h s hq, List.getElem?_eq_getElem hi]
    rfl

theorem newFromBatchAppend_verifies [DecidableEq D] (dflt : D) (old : Acc D) (leafs : List D)
    (hc : TF.popCount old.count = old.peaks.length) (hn : old.count + leafs.length < 2 ^ 63) :
    ∃ new paths, Acc.appendAll H leafs old = some new ∧ newFromBatchAppend H dflt old leafs = some paths ∧
      verify H dflt paths old new = some true := by
  obtain ⟨m, ps⟩ := old
  simp only at hc hn
  have h63 : (2:Nat) ^ 63 < 2 ^ 64 := by decide
  have hps := mkDg_dpeaks H dflt m ps leafs hc
  have hne := mkDg_nodeEq H dflt m ps leafs
  have hleaf := mkDg_leaf H dflt m ps leafs
  obtain ⟨paths, h1, h2⟩ := gen_verifies H dflt (mkDg H dflt m ps leafs) m leafs hn hne hleaf
  have h3 := appendAll_dg H (mkDg H dflt m ps leafs) leafs m hne (by omega) hleaf
  rw [hps] at h1 h2 h3
  exact ⟨_, paths, h3, h1, h2⟩

theorem gen_eq_honest (dflt : D) (g : Nat → D) (m k : Nat) (hn : m + k < 2 ^ 63) :
    newFromBatchAppend H dflt ⟨m, peaks H m g⟩ ((List.range k).map (fun i => g (m + i)))
      = some (succPathsOf H g m (m + k)) := by
  have hlen : ((List.range k).map (fun i => g (m + i))).length = k := by simp
  have hps := dpeaks_sub H g m
  have := gen_spec H dflt (fun l j => sub H g l j) m ((List.range k).map (fun i => g (m + i)))
    (by rw [hlen]; exact hn) (nodeEq_sub H g m) (fun i x hx => by
      rw [List.getElem?_map] at hx
      by_cases hi : i < k
      · rw [List.getElem?_range hi] at hx
        simp only [Option.map_some, Option.some.injEq] at hx
        rw [← hx]; rfl
      · rw [List.getElem?_eq_none (by simp; omega)] at hx; cases hx)
  rw [hps, hlen] at this
  rw [this]
  congr 1
  unfold succPathsOf peakBlk
  rw [List.map_map]
  congr 1
  apply List.map_congr_left
  intro p hp
  have hd := (peakPos_mem m p hp).1
  simp only [Function.comp]
  rw [dgs_sub_sibBlks]
  congr 1
  unfold upLen
  rw [Nat.div_mul_cancel hd]

end TF.MmrE
