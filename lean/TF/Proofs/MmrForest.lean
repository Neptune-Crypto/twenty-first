import Mathlib.Data.Nat.Bitwise
import TF.Proofs.MmrTree
/-!
S0 = S1: the explicit forest consists of S1 trees, one aligned block per set bit of the leaf count, and
every MMR below `2^63` leaves is a prefix of `tree 0 0 63`.  `forest_row_block` describes every row of the table of
the forest in node coordinates; what the index functions do on the forest is read off from it.
-/
namespace TF.Mmr
open TF TF.Gen TF.Spec.Mmr TF.Model.Mmr
open TF.MmrE (nodeIdx anc sibsUp)
open TF.Spec.MmrE (sibBlk)

/-- the trees (most recent = lowest first) of the MMR with `q * 2^h` leaves: one S1 tree of height `h + j` for
    every set bit `j` of `q`, placed after the nodes / leaves of the trees for the higher bits -/
def highTrees : (h : Nat) → (q : Nat) → List TF.Spec.Mmr.Tree
  | _, 0 => []
  | h, q+1 =>
    (if (q+1) % 2 = 1 then [tree (nodesOf (q * 2^h)) (q * 2^h) h] else []) ++ highTrees (h+1) ((q+1)/2)
decreasing_by omega

theorem highTrees_zero (h : Nat) : highTrees h 0 = [] := by unfold highTrees; rfl

theorem highTrees_odd (h a : Nat) :
    highTrees h (2*a+1) = tree (nodesOf (2*a * 2^h)) (2*a * 2^h) h :: highTrees (h+1) a := by
  rw [highTrees]
  have e1 : (2*a+1) % 2 = 1 := by omega
  have e2 : (2*a+1)/2 = a := by omega
  simp only [e1, e2, if_true, List.singleton_append]

theorem highTrees_even (h a : Nat) (ha : 0 < a) : highTrees h (2*a) = highTrees (h+1) a := by
  obtain ⟨b, rfl⟩ : ∃ b, a = b + 1 := ⟨a - 1, by omega⟩
  have e : 2 * (b+1) = (2*b+1) + 1 := by ring
  rw [e, highTrees]
  have e1 : ¬ ((2*b+1+1) % 2 = 1) := by omega
  have e2 : (2*b+1+1)/2 = b+1 := by omega
  simp only [e1, e2, if_false, List.nil_append]

theorem highTrees_height (q : Nat) : ∀ h, ∀ t ∈ highTrees h q, h ≤ t.height := by
  induction q using Nat.strongRecOn with
  | _ q ih =>
    intro h t ht
    rcases Nat.even_or_odd' q with ⟨a, rfl | rfl⟩
    · by_cases ha : a = 0
      · subst ha; exact absurd ht (by simp [highTrees_zero])
      · rw [highTrees_even h a (by omega)] at ht
        have := ih a (by omega) (h+1) t ht; omega
    · rw [highTrees_odd] at ht
      rcases List.mem_cons.mp ht with rfl | ht
      · rw [tree_height]
      · have := ih a (by omega) (h+1) t ht; omega

/-- appending the block `(h, q)` after `q * 2^h` leaves and merging (the carry chain of `q + 1`): the running node count
    is the index of the node created last -/
theorem mergeInto_highTrees (q : Nat) : ∀ h,
    mergeInto (tree (nodesOf (q * 2^h)) (q * 2^h) h) (nodeIdx h q) (highTrees h q)
      = (highTrees h (q+1), nodesOf ((q+1) * 2^h)) := by
  induction q using Nat.strongRecOn with
  | _ q ih =>
    intro h
    rcases Nat.even_or_odd' q with ⟨a, rfl | rfl⟩
    · -- even: no merge
      have hn : nodesOf ((2*a+1) * 2^h) = nodeIdx h (2*a) := by
        rw [nodesOf_odd, nodeIdx_eq_nodesOf]
      rw [highTrees_odd, hn]
      by_cases ha : a = 0
      · subst ha; rw [highTrees_zero, highTrees_zero]; rfl
      · rw [highTrees_even h a (by omega)]
        cases hl : highTrees (h+1) a with
        | nil => rfl
        | cons t1 rest =>
          have hh := highTrees_height a (h+1) t1 (by rw [hl]; exact List.mem_cons_self)
          unfold mergeInto
          rw [tree_height, if_neg (by omega)]
    · -- odd: merge with the block `(h, 2a)` into the block `(h+1, a)`, continue one level up
      have e4 : (a+1) * 2^(h+1) = (2*a+1+1) * 2^h := by rw [Nat.pow_succ]; ring
      have e3 : 2*a+1+1 = 2*(a+1) := by ring
      rw [highTrees_odd]
      unfold mergeInto
      rw [tree_height, tree_height, if_pos rfl, ← TF.MmrE.nodeIdx_right, ← tree_block_succ, ih a (by omega) (h+1), e4,
        e3, highTrees_even h (a+1) (by omega)]

/-- **S0 = S1**: the forest built by appending `n` leaves and merging equal heights consists of the S1 trees for the
    set bits of `n`; it has `2n − popcount n` nodes -/
theorem forest_eq (n : Nat) : forest n = { trees := highTrees 0 n, nodes := nodesOf n, leafs := n } := by
  induction n with
  | zero => simp [forest, highTrees_zero, nodesOf, popCount_zero]
  | succ n ih =>
    have hm := mergeInto_highTrees n 0
    have hi := nodeIdx_eq_nodesOf 0 n
    simp only [Nat.pow_zero, Nat.mul_one, Nat.zero_add, Nat.pow_one] at hm hi
    have e : nodesOf n + 2 - 1 = nodesOf n + 1 := by omega
    rw [hi, e] at hm
    rw [forest, ih]
    unfold Forest.append
    simp only
    have ht : TF.Spec.Mmr.Tree.leaf (nodesOf n + 1) n = tree (nodesOf n) n 0 := rfl
    rw [ht, hm]

theorem pow_lt_pow_imp (a b : Nat) (h : 2^a < 2^b) : a < b := (Nat.pow_lt_pow_iff_right (by decide)).mp h

theorem nodesOf_two_pow_add (H m : Nat) (hm : m < 2^H) : nodesOf (2^H + m) = 2^(H+1) - 1 + nodesOf m := by
  unfold nodesOf
  rw [popCount_two_pow_add H m hm]
  have := popCount_le m
  have := two_pow_succ' H
  have := Nat.two_pow_pos H
  omega

theorem nodesOf_succ (c : Nat) : nodesOf (c + 1) = nodesOf c + 1 + trailingOnes c := by
  unfold nodesOf
  have := popCount_succ_add_trailingOnes c
  have := popCount_le c
  have := popCount_le (c+1)
  omega

theorem nodesOf_le (m : Nat) : nodesOf m ≤ 2 * m := by unfold nodesOf; omega

theorem nodesOf_mono {m m' : Nat} (h : m ≤ m') : nodesOf m ≤ nodesOf m' := by
  induction h with
  | refl => exact Nat.le_refl _
  | step _ ih => rw [nodesOf_succ]; omega

theorem nodesOf_two_pow (a : Nat) : nodesOf (2^a) = 2^(a+1) - 1 := by
  have := nodesOf_two_pow_add a 0 (Nat.two_pow_pos a)
  rw [Nat.add_zero, nodesOf_zero, Nat.add_zero] at this
  exact this

theorem bitsBelow_succ (K n : Nat) :
    bitsBelow (K+1) n = if n / 2^K % 2 = 1 then K :: bitsBelow K n else bitsBelow K n := rfl

theorem bitsBelow_of_lt (n : Nat) : ∀ K d, n < 2^K → bitsBelow (K + d) n = bitsBelow K n := by
  intro K d hn
  induction d with
  | zero => rfl
  | succ d ih =>
    have : n / 2^(K+d) = 0 := Nat.div_eq_of_lt (Nat.lt_of_lt_of_le hn (Nat.pow_le_pow_right (by decide) (by omega)))
    show bitsBelow (K + d + 1) n = _
    rw [bitsBelow_succ, this]
    simp only [Nat.zero_mod, Nat.zero_ne_one, if_false]
    exact ih

theorem bitsBelow_low (K : Nat) : ∀ q,
    bitsBelow (K+1) q = (bitsBelow K (q/2)).map (· + 1) ++ (if q % 2 = 1 then [0] else []) := by
  induction K with
  | zero =>
    intro q
    rw [bitsBelow_succ]
    simp [bitsBelow]
  | succ K ih =>
    intro q
    rw [bitsBelow_succ, ih q, bitsBelow_succ]
    have e := div_two_pow_succ_low q K
    rw [e]
    by_cases hb : q / 2 / 2^K % 2 = 1
    · simp [hb]
    · simp [hb]

theorem bitsBelow_zero_n (K : Nat) : bitsBelow K 0 = [] := by
  induction K with
  | zero => rfl
  | succ K ih => rw [bitsBelow_succ]; simp [ih]

theorem bitsBelow_length : ∀ K q, q < 2^K → (bitsBelow K q).length = popCount q := by
  intro K
  induction K with
  | zero =>
    intro q hq
    have : q = 0 := by simpa using hq
    subst this
    simp [bitsBelow, popCount_zero]
  | succ K ih =>
    intro q hq
    have hq2 : q / 2 < 2^K := by rw [Nat.pow_succ] at hq; omega
    rw [bitsBelow_low, List.length_append, List.length_map, ih _ hq2, popCount_eq q]
    by_cases h : q % 2 = 1
    · rw [if_pos h, h]; simp; omega
    · have : q % 2 = 0 := by omega
      rw [if_neg h, this]; simp

theorem bitsBelow_getElem : ∀ K q k b, q < 2^K → (bitsBelow K q)[k]? = some b →
    q / 2^b % 2 = 1 ∧ k = popCount (q / 2^(b+1)) := by
  intro K
  induction K with
  | zero => intro q k b _ h; simp [bitsBelow] at h
  | succ K ih =>
    intro q k b hq h
    have hq2 : q / 2 < 2^K := by rw [Nat.pow_succ] at hq; omega
    rw [bitsBelow_low, List.getElem?_append] at h
    split at h
    · rw [List.getElem?_map] at h
      cases hb : (bitsBelow K (q / 2))[k]? with
      | none => rw [hb] at h; simp at h
      | some b' =>
        rw [hb] at h
        simp only [Option.map_some, Option.some.injEq] at h
        subst h
        obtain ⟨i1, i2⟩ := ih (q / 2) k b' hq2 hb
        rw [div_two_pow_succ_low q b', div_two_pow_succ_low q (b'+1)]
        exact ⟨i1, i2⟩
    · rename_i hlen
      rw [List.length_map, bitsBelow_length K _ hq2] at hlen h
      by_cases hodd : q % 2 = 1
      · rw [if_pos hodd] at h
        have hk : k - popCount (q / 2) = 0 := by
          by_contra hc
          rw [List.getElem?_eq_none (by simp; omega)] at h
          simp at h
        rw [hk] at h
        simp only [List.getElem?_cons_zero, Option.some.injEq] at h
        subst h
        simp only [Nat.pow_zero, Nat.div_one, Nat.zero_add, Nat.pow_one]
        exact ⟨hodd, by omega⟩
      · rw [if_neg hodd] at h
        simp at h

/-- the trees of the forest, highest first: one aligned S1 block per set bit `b` of the leaf count -/
theorem highTrees_rev (q : Nat) : ∀ h K, q < 2^K →
    (highTrees h q).reverse = (bitsBelow K q).map fun b =>
      tree (nodesOf (2 * (q / 2^(b+1)) * 2^(b+h))) (2 * (q / 2^(b+1)) * 2^(b+h)) (b+h) := by
  induction q using Nat.strongRecOn with
  | _ q ih =>
    intro h K hq
    cases K with
    | zero =>
      have : q = 0 := by simpa using hq
      subst this; simp [highTrees_zero, bitsBelow]
    | succ K =>
      have hq2 : q / 2 < 2^K := by rw [Nat.pow_succ] at hq; omega
      rw [bitsBelow_low]
      have hshift : ∀ b, q / 2^(b+1+1) = q / 2 / 2^(b+1) := fun b => div_two_pow_succ_low q (b+1)
      rcases Nat.even_or_odd' q with ⟨a, rfl | rfl⟩
      · by_cases ha : a = 0
        · subst ha; simp [highTrees_zero, bitsBelow_zero_n]
        · have e1 : 2 * a / 2 = a := by omega
          have e2 : ¬ (2 * a % 2 = 1) := by omega
          rw [highTrees_even h a (by omega), if_neg e2, ih a (by omega) (h+1) K (by omega)]
          simp only [List.append_nil, List.map_map, e1]
          apply List.map_congr_left
          intro b _
          simp only [Function.comp]
          have e : b + (h+1) = b + 1 + h := by omega
          rw [hshift b, e1, e]
      · have e1 : (2 * a + 1) / 2 = a := by omega
        have e2 : (2 * a + 1) % 2 = 1 := by omega
        rw [highTrees_odd, if_pos e2]
        simp only [List.reverse_cons, List.map_append, List.map_map, e1]
        rw [ih a (by omega) (h+1) K (by omega)]
        congr 1
        · apply List.map_congr_left
          intro b _
          simp only [Function.comp]
          have e : b + (h+1) = b + 1 + h := by omega
          rw [hshift b, e1, e]
        · simp only [List.map_cons, List.map_nil, Nat.zero_add, Nat.pow_one, e1]

/-- `k0 ≤ k` is what lets the induction step from `k - k0` to `k - (k0 + 1)` -/
theorem mem_forest_rows_go : ∀ (ts : List TF.Spec.Mmr.Tree) (k0 k : Nat) (r : Row),
    (k, r) ∈ Forest.rows.go ts k0 → ∃ t, k0 ≤ k ∧ ts[k - k0]? = some t ∧ r ∈ t.rootRows := by
  intro ts
  induction ts with
  | nil => intro k0 k r h; simp [Forest.rows.go] at h
  | cons t ts ih =>
    intro k0 k r h
    unfold Forest.rows.go at h
    rcases List.mem_append.mp h with h | h
    · obtain ⟨r', hr', he⟩ := List.mem_map.mp h
      have h1 : r' = r := by simpa using congrArg Prod.snd he
      have h2 : k0 = k := by simpa using congrArg Prod.fst he
      subst h1 h2
      exact ⟨t, Nat.le_refl _, by simp, hr'⟩
    · obtain ⟨t', hle, ht', hr'⟩ := ih _ _ _ h
      refine ⟨t', by omega, ?_, hr'⟩
      have e : k - k0 = (k - (k0 + 1)) + 1 := by omega
      rw [e, List.getElem?_cons_succ]
      exact ht'

/-- the set bit `b` of `n`: the block `2·(n / 2^(b+1))` of `2^b` leaves lies inside the MMR -/
theorem block_le (n b : Nat) (hb : n / 2^b % 2 = 1) : (2 * (n / 2^(b+1)) + 1) * 2^b ≤ n := by
  have h1 := Nat.div_add_mod n (2^(b+1))
  have h2 := mod_two_pow_succ n b
  rw [hb, Nat.mul_one] at h2
  have e : (2 * (n / 2^(b+1)) + 1) * 2^b = 2^(b+1) * (n / 2^(b+1)) + 2^b := by rw [Nat.pow_succ]; ring
  omega

theorem bit_of_mem_bitsBelow (n : Nat) : ∀ K b, b ∈ bitsBelow K n → n / 2^b % 2 = 1 := by
  intro K
  induction K with
  | zero => intro b h; simp [bitsBelow] at h
  | succ K ih =>
    intro b h
    rw [bitsBelow_succ] at h
    split at h
    · rcases List.mem_cons.mp h with rfl | h
      · assumption
      · exact ih b h
    · exact ih b h

theorem bit_lt (n b K : Nat) (hb : n / 2^b % 2 = 1) (hn : n < 2^K) : b < K := by
  have := block_le n b hb
  have : 2^b ≤ (2 * (n / 2^(b+1)) + 1) * 2^b := Nat.le_mul_of_pos_left _ (by omega)
  exact pow_lt_pow_imp b K (by omega)

/-- the peak for the set bit `b` of `n` is a node of the forest -/
theorem peak_le_nodes (n b : Nat) (hb : n / 2^b % 2 = 1) : nodeIdx b (2 * (n / 2^(b+1))) ≤ nodesOf n := by
  have hodd := nodesOf_odd (n / 2^(b+1)) b
  have hm := nodesOf_mono (block_le n b hb)
  rw [nodeIdx_eq_nodesOf]
  omega

/-- **the trees of the explicit forest**, oldest first: the aligned block `(b, 2·(n / 2^(b+1)))` for every set bit `b` of
    `n`, highest first -/
theorem forest_peaks_eq (n : Nat) (hn : n < 2^64) :
    (forest n).peaks = (bitsBelow 64 n).map fun b =>
      tree (nodesOf (2 * (n / 2^(b+1)) * 2^b)) (2 * (n / 2^(b+1)) * 2^b) b := by
  rw [forest_eq]
  exact highTrees_rev n 0 64 hn

theorem forest_peak_idxs (n : Nat) (hn : n < 2^64) :
    (forest n).peaks.map TF.Spec.Mmr.Tree.idx = (bitsBelow 64 n).map fun b => nodeIdx b (2 * (n / 2^(b+1))) := by
  rw [forest_peaks_eq n hn, List.map_map]
  apply List.map_congr_left
  intro b _
  simp only [Function.comp, tree_idx, nodeIdx_eq_nodesOf]

theorem forest_nodes_lt (n : Nat) (hn : n < 2^63) : (forest n).nodes < 2^64 - 1 := by
  have := nodesOf_le n
  rw [forest_eq]
  show nodesOf n < _
  omega

/-- **the table of the explicit forest in coordinates**: a row with peak index `k` of the forest with `n < 2^63` leaves
    belongs to a set bit `b` of `n` with `k` set bits above it; it is the row of a node `(l, j)` below the aligned block
    `(b, 2·(n / 2^(b+1)))`, whose root — the `k`-th peak — has no parent and lies inside the forest -/
theorem forest_row_block (n : Nat) (hn : n < 2^63) (k : Nat) (r : Row) (hr : (k, r) ∈ (forest n).rows) :
    ∃ b l j, n / 2^b % 2 = 1 ∧ k = popCount (n / 2^(b+1)) ∧ b < 63 ∧ l ≤ b ∧ j / 2^(b - l) = 2 * (n / 2^(b+1)) ∧
      r = rowAt b 0 0 1 [] l j ∧
      ((forest n).peaks.map TF.Spec.Mmr.Tree.idx)[k]? = some (anc l j (b - l)) ∧
      anc l j (b - l) ≤ (forest n).nodes := by
  have hn64 : n < 2^64 := Nat.lt_trans hn (by decide)
  unfold Forest.rows at hr
  obtain ⟨t, _, ht, hrt⟩ := mem_forest_rows_go _ _ _ _ hr
  rw [Nat.sub_zero, forest_peaks_eq n hn64, List.getElem?_map] at ht
  cases hb : (bitsBelow 64 n)[k]? with
  | none => rw [hb] at ht; simp at ht
  | some b =>
    rw [hb] at ht
    simp only [Option.map_some, Option.some.injEq] at ht
    subst ht
    obtain ⟨i1, i2⟩ := bitsBelow_getElem 64 n k b hn64 hb
    obtain ⟨l, j, hl, hj, rfl⟩ :=
      (mem_rows_block b _ 0 0 false 0 1 [] r (by rw [trailingOnes_even _ (by omega)]; rfl)).mp hrt
    have hanc : anc l j (b - l) = nodeIdx b (2 * (n / 2^(b+1))) := by
      unfold TF.MmrE.anc
      rw [hj, Nat.add_sub_cancel' hl]
    refine ⟨b, l, j, i1, i2, bit_lt n b 63 i1 hn, hl, hj, rfl, ?_, ?_⟩
    · rw [hanc, forest_peak_idxs n hn64, List.getElem?_map, hb]; rfl
    · rw [hanc, forest_eq]; exact peak_le_nodes n b i1

theorem forest_row_lt {n b l j : Nat} (hn : n < 2^63) (h : anc l j (b - l) ≤ (forest n).nodes) : nodeIdx l j < 2^64 := by
  have := forest_nodes_lt n hn
  have := TF.MmrE.anc_mono l j (Nat.zero_le (b - l))
  rw [TF.MmrE.anc_zero] at this
  omega

/-- same node: index, height, right-lineage length, children, leaf index; parent and sibling unless it is the node `R` -/
structure CoreEq (R : Nat) (r r' : Row) : Prop where
  idx : r.idx = r'.idx
  height : r.height = r'.height
  rll : r.rll = r'.rll
  left : r.left = r'.left
  right : r.right = r'.right
  leaf : r.leaf = r'.leaf
  up : r.idx ≠ R → r.parent = r'.parent ∧ r.sibling = r'.sibling

theorem CoreEq.trans {R : Nat} {a b c : Row} (h1 : CoreEq R a b) (h2 : CoreEq 0 b c) (hb : 0 < b.idx) : CoreEq R a c :=
  ⟨h1.idx.trans h2.idx, h1.height.trans h2.height, h1.rll.trans h2.rll, h1.left.trans h2.left,
   h1.right.trans h2.right, h1.leaf.trans h2.leaf,
   fun hne => ⟨(h1.up hne).1.trans (h2.up (by omega)).1, (h1.up hne).2.trans (h2.up (by omega)).2⟩⟩

/-- **S0 is a prefix of S1**: every row of the explicit forest with `n < 2^63` leaves is a row of `tree 0 0 63`, except for
    parent and sibling of the peaks of the forest (recorded as `0`) -/
theorem forest_row_in_s1 (n : Nat) (hn : n < 2^63) (k : Nat) (r : Row) (hr : (k, r) ∈ (forest n).rows) :
    ∃ r' ∈ (tree 0 0 63).rootRows,
      r.idx = r'.idx ∧ r.height = r'.height ∧ r.rll = r'.rll ∧ r.left = r'.left ∧ r.right = r'.right ∧
      r.leaf = r'.leaf ∧ (r.parent ≠ 0 → r.parent = r'.parent ∧ r.sibling = r'.sibling) := by
  obtain ⟨b, l, j, _, _, hb, hl, _, rfl, _, hle⟩ := forest_row_block n hn k r hr
  obtain ⟨hl63, hj63⟩ := TF.MmrE.coords_of_lt l j (forest_row_lt hn hle)
  refine ⟨rowAt 63 0 0 1 [] l j, (mem_rootRows 63 _).mpr ⟨l, j, hl63, hj63, rfl⟩, rfl, rfl, rfl, rfl, rfl, rfl,
    fun hp => ?_⟩
  have hlb : l ≠ b := fun e => hp (if_pos e)
  simp only [rowAt, if_neg hlb, if_neg (show l ≠ 63 by omega)]
  exact ⟨trivial, trivial⟩

/-- the node-level functions on a row of the forest: what `rll_own_rows` … `children_rows` say, carried over by
    `forest_row_in_s1` -/
theorem forest_node_functions (n : Nat) (hn : n < 2^63) (k : Nat) (r : Row) (hr : (k, r) ∈ (forest n).rows) :
    right_lineage_length_and_own_height r.idx = some (r.rll, r.height) ∧
    node_index_to_leaf_index r.idx = some r.leaf ∧
    (r.parent ≠ 0 → parent r.idx = some r.parent ∧
      (r.rll ≠ 0 → left_sibling r.idx r.height = r.sibling ∧ left_sibling_ok r.idx r.height = true) ∧
      (r.rll = 0 → right_sibling r.idx r.height = r.sibling ∧ right_sibling_ok r.idx r.height = true)) ∧
    (0 < r.height → left_child r.idx r.height = r.left ∧ left_child_ok r.idx r.height = true ∧
      right_child r.idx = r.right ∧ right_child_ok r.idx = true) := by
  obtain ⟨r', hr', e1, e2, e3, e4, e5, e6, e7⟩ := forest_row_in_s1 n hn k r hr
  refine ⟨?_, ?_, ?_, ?_⟩
  · rw [e1, e2, e3]; exact rll_own_rows r' hr'
  · rw [e1, e6]; exact n2l_rows r' hr'
  · intro hp
    obtain ⟨e8, e9⟩ := e7 hp
    have hp' : r'.parent ≠ 0 := by rw [← e8]; exact hp
    have hs := sibling_rows r' hr' hp'
    rw [e1, e2, e3, e8, e9]
    exact ⟨parent_rows r' hr' hp', hs.1, hs.2⟩
  · intro hh
    rw [e1, e2, e4, e5]
    exact children_rows r' hr' (by omega)

theorem leaf_rows (r : Row) (hr : r ∈ (tree 0 0 63).rootRows) (li : Nat) (hl : r.leaf = some li) :
    li < 2^63 ∧ leaf_index_to_node_index li = r.idx ∧ right_lineage_length_from_leaf_index li = r.rll := by
  obtain ⟨l, j, _, hj, rfl⟩ := (mem_rootRows 63 r).mp hr
  obtain ⟨rfl, rfl⟩ := rowAt_leaf hl
  have h63 : (2:Nat)^63 < 2^64 := by decide
  exact ⟨hj, TF.MmrE.l2n_eq_nodeIdx li hj, (rll_leaf_spec li (by omega)).1⟩

theorem forest_leaf_functions (n : Nat) (hn : n < 2^63) (k : Nat) (r : Row) (hr : (k, r) ∈ (forest n).rows)
    (li : Nat) (hl : r.leaf = some li) :
    leaf_index_to_node_index li = r.idx ∧ right_lineage_length_from_leaf_index li = r.rll := by
  obtain ⟨r', hr', e1, _, e3, _, _, e6, _⟩ := forest_row_in_s1 n hn k r hr
  obtain ⟨_, h1, h2⟩ := leaf_rows r' hr' li (by rw [← e6]; exact hl)
  rw [e1, e3]; exact ⟨h1, h2⟩

theorem two_pow_and_ne_zero (b n : Nat) : ((2^b &&& n) != 0) = decide (n / 2^b % 2 = 1) := by
  rw [Nat.two_pow_and, Nat.testBit_eq_decide_div_mod_eq]
  by_cases h : n / 2^b % 2 = 1
  · simp [h]
  · simp [h]

theorem filter_range_bits (n : Nat) : ∀ K,
    ((List.range K).filter fun b => (2^b &&& n) != 0).reverse = bitsBelow K n := by
  intro K
  induction K with
  | zero => rfl
  | succ K ih =>
    rw [List.range_succ, List.filter_append, List.reverse_append, ih, bitsBelow_succ]
    simp only [List.filter_cons, List.filter_nil, two_pow_and_ne_zero]
    by_cases h : n / 2^K % 2 = 1
    · simp [h]
    · simp [h]

/-- **`get_peak_heights`**: the positions of the set bits of the leaf count, highest first — for every `u64` -/
theorem get_peak_heights_spec (n : Nat) (hn : n < 2^64) : get_peak_heights n = bitsBelow 64 n := by
  unfold get_peak_heights
  by_cases h0 : n = 0
  · subst h0; rw [if_pos rfl]; decide
  · rw [if_neg h0, filter_range_bits]
    have hk := log2_lt_64 n (by omega) hn
    have hlt := lt_two_pow_log2_succ n
    have := bitsBelow_of_lt n (Nat.log2 n + 1) (64 - (Nat.log2 n + 1)) hlt
    have e : Nat.log2 n + 1 + (64 - (Nat.log2 n + 1)) = 64 := by omega
    rw [e] at this
    exact this.symm

/-- node count, leaf count and peak heights of the explicit forest -/
theorem forest_shape (n : Nat) (hn : n < 2^64) :
    (forest n).nodes = 2 * n - popCount n ∧ (forest n).leafs = n ∧
    (forest n).peaks.map TF.Spec.Mmr.Tree.height = bitsBelow 64 n := by
  refine ⟨by rw [forest_eq]; rfl, by rw [forest_eq], ?_⟩
  rw [forest_peaks_eq n hn, List.map_map]
  simp [Function.comp_def, tree_height]

theorem forest_rll_node (n : Nat) (hn : n < 2^63) (k : Nat) (r : Row) (hr : (k, r) ∈ (forest n).rows) :
    right_lineage_length_from_node_index r.idx = some r.rll := by
  obtain ⟨r', hr', e1, _, e3, _⟩ := forest_row_in_s1 n hn k r hr
  rw [e1, e3]; exact rll_node_rows r' hr'

/-- the two calls are named, not rewritten in place: rewriting under the `Option.map` makes Lean evaluate `% 2^64` on open
    terms (see the model) -/
theorem added_of (c x t : Nat) (h1 : leaf_index_to_node_index c = x)
    (h2 : right_lineage_length_from_node_index x = some t) :
    node_indices_added_by_append c = some ((List.range (t + 1)).map fun k => add64 x k) := by
  unfold node_indices_added_by_append
  rewrite [h1, h2]
  rfl

/-- **`node_indices_added_by_append`**: the new leaf `2c − popcount c + 1` and the `trailing_ones c` parents created
    with it, consecutive node indices -/
theorem added_spec (c : Nat) (hc : c < 2^63) :
    node_indices_added_by_append c
      = some ((List.range (trailingOnes c + 1)).map fun k => nodesOf c + 1 + k) := by
  have hlt := TF.MmrE.nodeIdx_lt_of_coords 0 c (by omega) hc
  have hidx : nodeIdx 0 c = nodesOf c + 1 := by
    have := nodeIdx_eq_nodesOf 0 c
    rw [Nat.pow_zero, Nat.mul_one] at this
    omega
  rw [added_of c _ _ (TF.MmrE.l2n_eq_nodeIdx c hc) (TF.MmrE.rllFromNode_spec 0 c hlt), hidx]
  -- the last new node is the last node of the forest with `c + 1` leaves: nothing wraps
  have := nodesOf_succ c
  have := popCount_pos (c + 1) (by omega)
  have : nodesOf (c + 1) = 2 * (c + 1) - popCount (c + 1) := rfl
  apply congrArg some
  apply List.map_congr_left
  intro k hk
  have := List.mem_range.mp hk
  exact add64_of_lt _ _ (by omega)

theorem forest_added (c : Nat) (hc : c < 2^63) :
    node_indices_added_by_append c
      = some ((List.range ((forest (c+1)).nodes - (forest c).nodes)).map fun k => (forest c).nodes + 1 + k) := by
  rw [added_spec c hc, forest_eq, forest_eq]
  simp only
  have := nodesOf_succ c
  have e : nodesOf (c + 1) - nodesOf c = trailingOnes c + 1 := by omega
  rw [e]

/-- node indices of the peaks for the bits of `m` below `h`, highest first, placed after `o` nodes -/
def peakIdxScan : (h : Nat) → (m o : Nat) → List Nat
  | 0, _, _ => []
  | h+1, m, o =>
    if m / 2^h % 2 = 1 then (o + 2^(h+1) - 1) :: peakIdxScan h m (o + 2^(h+1) - 1) else peakIdxScan h m o

theorem peakIdxScan_succ (h m o : Nat) :
    peakIdxScan (h+1) m o =
      if m / 2^h % 2 = 1 then (o + 2^(h+1) - 1) :: peakIdxScan h m (o + 2^(h+1) - 1) else peakIdxScan h m o := rfl

theorem peaksLoop_succ (nc h cand : Nat) (hs is : List Nat) :
    peaksLoop nc (h+1) cand hs is =
      if cand > nc then
        if left_child cand (h+1) ≤ nc then
          peaksLoop nc h (right_sibling (left_child cand (h+1)) h) (hs ++ [h]) (is ++ [left_child cand (h+1)])
        else peaksLoop nc h (left_child cand (h+1)) hs is
      else none := rfl

/-- one round of the two nested loops at a candidate that is not in the MMR, the root of the S1 tree of height `h + 1`
    at offset `o`: its left child is a peak iff it is in the MMR; the next candidate is that peak's right sibling, or the
    left child itself -/
theorem peaksLoop_round (nc h o : Nat) (hs is : List Nat) (ho : o + 2^(h+2) ≤ 2^64) (hh : h + 1 ≤ 63)
    (hnc : nc < o + 2^(h+2) - 1) :
    peaksLoop nc (h+1) (o + 2^(h+2) - 1) hs is =
      if o + 2^(h+1) - 1 ≤ nc then
        peaksLoop nc h (o + 2^(h+1) - 1 + 2^(h+1) - 1) (hs ++ [h]) (is ++ [o + 2^(h+1) - 1])
      else peaksLoop nc h (o + 2^(h+1) - 1) hs is := by
  have hp2 : 2^(h+2) = 2 * 2^(h+1) := two_pow_succ' (h+1)
  have hpos := Nat.two_pow_pos (h+1)
  have hlc := (left_child_spec (o + 2^(h+2) - 1) (h+1) (by omega) (by omega) (by omega)).1
  have e : o + 2^(h+2) - 1 - 2^(h+1) = o + 2^(h+1) - 1 := by omega
  have hrs := (right_sibling_spec (o + 2^(h+1) - 1) h (by omega) (by omega)).1
  rw [peaksLoop_succ, if_pos hnc, hlc, e, hrs]

/-- the two nested loops scan the bits of the remaining leaf count from the top.  Invariant: the candidate is the root of the
    S1 tree of height `h` at offset `o` (the nodes of the higher peaks), and it is not in the MMR, whose node count is `o`
    plus the nodes for the bits of `m` below `h` -/
theorem peaksLoop_scan : ∀ (h m o : Nat) (hs is : List Nat), o + 2^(h+1) ≤ 2^64 → h ≤ 63 →
    peaksLoop (o + nodesOf (m % 2^h)) h (o + 2^(h+1) - 1) hs is
      = some (hs ++ bitsBelow h m, is ++ peakIdxScan h m o) := by
  intro h
  induction h with
  | zero => intro m o hs is _ _; simp [peaksLoop, bitsBelow, peakIdxScan]
  | succ h ih =>
    intro m o hs is ho hh
    have hp := two_pow_succ' h
    have hp2 : 2^(h+2) = 2 * 2^(h+1) := two_pow_succ' (h+1)
    have hr := mod_two_pow_succ m h
    have hrlt : m % 2^h < 2^h := Nat.mod_lt _ (Nat.two_pow_pos h)
    have hnle := nodesOf_le (m % 2^(h+1))
    have hnle' := nodesOf_le (m % 2^h)
    rw [peaksLoop_round _ h o hs is ho hh (by omega), bitsBelow_succ, peakIdxScan_succ]
    by_cases hb : m / 2^h % 2 = 1
    · rw [hb, Nat.mul_one] at hr
      have hno := nodesOf_two_pow_add h _ hrlt
      rw [← hr] at hno
      have enc : o + nodesOf (m % 2^(h+1)) = (o + 2^(h+1) - 1) + nodesOf (m % 2^h) := by omega
      rw [if_pos (by omega), if_pos hb, if_pos hb, enc,
        ih m (o + 2^(h+1) - 1) (hs ++ [h]) (is ++ [o + 2^(h+1) - 1]) (by omega) (by omega)]
      simp
    · have hb0 : m / 2^h % 2 = 0 := by omega
      rw [hb0, Nat.mul_zero, Nat.zero_add] at hr
      rw [hr] at hnle ⊢
      rw [if_neg (by omega), if_neg hb, if_neg hb]
      exact ih m o hs is (by omega) (by omega)

/-- the first peak and its height as `get_peak_heights_and_peak_node_indices` finds them: the leftmost ancestor of the last
    leaf, or its left child if that ancestor is beyond the MMR -/
def topPeak (n : Nat) : Nat × Nat :=
  if (leftmost_ancestor (leaf_index_to_node_index (n - 1))).1 > num_leafs_to_num_nodes n then
    (left_child (leftmost_ancestor (leaf_index_to_node_index (n - 1))).1
      (leftmost_ancestor (leaf_index_to_node_index (n - 1))).2,
     dec32 (leftmost_ancestor (leaf_index_to_node_index (n - 1))).2)
  else leftmost_ancestor (leaf_index_to_node_index (n - 1))

/-- the topmost peak: root `2^(a+1) − 1`, height `a = log2 n`.  The leftmost ancestor of the last leaf is that root if
    `n` is a power of two (the last leaf ends its right spine), and the root one level higher otherwise. -/
theorem top_peak (n a : Nat) (hlo : 2^a ≤ n) (hhi : n < 2^(a+1)) (ha : a < 63) :
    topPeak n = (2^(a + 1) - 1, a) := by
  unfold topPeak
  have h63 : 2^(a+1) ≤ 2^63 := Nat.pow_le_pow_right (by decide) (by omega)
  have hpos := Nat.two_pow_pos a
  have hp := two_pow_succ' a
  have hnc : num_leafs_to_num_nodes n = nodesOf n := (num_nodes_spec n (by omega)).1
  have hlt := TF.MmrE.nodeIdx_lt_of_coords 0 (n - 1) (by omega) (show n - 1 < 2^(63 - 0) by omega)
  have hla := (leftmost_ancestor_spec _ (TF.MmrE.nodeIdx_pos 0 (n - 1)) hlt).1
  rw [TF.MmrE.l2n_eq_nodeIdx (n - 1) (by omega), hnc, hla]
  by_cases hpow : n = 2^a
  · have hk := TF.MmrE.log2_nodeIdx_spine 0 a
    rw [Nat.zero_add] at hk
    rw [hpow, hk, nodesOf_two_pow, if_neg (Nat.lt_irrefl _)]
  · have hk := TF.MmrE.log2_nodeIdx_top 0 a (n - 1) (by omega) (by omega)
    have hnle := nodesOf_le n
    have hp2 := two_pow_succ' (a + 1)
    have hW : 2^(a+1+1) ≤ 2^64 := Nat.pow_le_pow_right (by decide) (by omega)
    have hlc := (left_child_spec (2^(a+1+1) - 1) (a+1) (by omega) (by omega) (by omega)).1
    rw [Nat.zero_add] at hk
    rw [hk]
    simp only
    rw [if_pos (by omega), hlc, dec32_succ a (by omega)]
    congr 1; omega

theorem peakIdxScan_of_lt (m : Nat) : ∀ K d o, m < 2^K → peakIdxScan (K + d) m o = peakIdxScan K m o := by
  intro K d o hm
  induction d with
  | zero => rfl
  | succ d ih =>
    have : m / 2^(K+d) = 0 := Nat.div_eq_of_lt (Nat.lt_of_lt_of_le hm (Nat.pow_le_pow_right (by decide) (by omega)))
    show peakIdxScan (K + d + 1) m o = _
    rw [peakIdxScan_succ, this]
    simp only [Nat.zero_mod, Nat.zero_ne_one, if_false]
    exact ih

theorem get_peaks_unfold (n : Nat) (hn0 : n ≠ 0) :
    get_peak_heights_and_peak_node_indices n
      = peaksLoop (num_leafs_to_num_nodes n) (topPeak n).2 (right_sibling (topPeak n).1 (topPeak n).2)
          [(topPeak n).2] [(topPeak n).1] := by
  unfold get_peak_heights_and_peak_node_indices
  rewrite [if_neg hn0]
  rfl

/-- **`get_peak_heights_and_peak_node_indices`** terminates for every leaf count below `2^63` and returns the heights
    (set bits, highest first) and the node indices (running totals of the tree sizes) of the peaks -/
theorem get_peaks_spec (n : Nat) (hn : n < 2^63) :
    get_peak_heights_and_peak_node_indices n = some (bitsBelow 64 n, peakIdxScan 64 n 0) := by
  by_cases hn0 : n = 0
  · subst hn0
    have e1 : bitsBelow 64 0 = [] := bitsBelow_zero_n 64
    have e2 : peakIdxScan 64 0 0 = [] := by decide
    rw [e1, e2]; rfl
  · have ha_lo := Nat.log2_self_le hn0
    have ha_hi := lt_two_pow_log2_succ n
    have ha : Nat.log2 n < 63 := pow_lt_pow_imp _ _ (by omega)
    generalize Nat.log2 n = a at *
    have hW : 2^(a+1) ≤ 2^63 := Nat.pow_le_pow_right (by decide) (by omega)
    have hp := two_pow_succ' a
    have hpos := Nat.two_pow_pos a
    have hnc : num_leafs_to_num_nodes n = nodesOf n := (num_nodes_spec n hn).1
    rw [get_peaks_unfold n hn0, top_peak n a ha_lo ha_hi ha, hnc]
    show peaksLoop (nodesOf n) a (right_sibling (2^(a+1) - 1) a) [a] [2^(a+1) - 1] = _
    rw [(right_sibling_spec (2^(a+1) - 1) a ha (by omega)).1]
    -- bit `a` is the top bit of `n`: the first peak; the loop scans the bits below it
    have hmod : n % 2^a = n - 2^a := by
      rw [Nat.mod_eq_sub_mod ha_lo, Nat.mod_eq_of_lt (by omega)]
    have hno : nodesOf n = (2^(a+1) - 1) + nodesOf (n % 2^a) := by
      have := nodesOf_two_pow_add a (n - 2^a) (by omega)
      rwa [Nat.add_sub_cancel' ha_lo, ← hmod] at this
    have hscan := peaksLoop_scan a n (2^(a+1) - 1) [a] [2^(a+1) - 1] (by omega) (by omega)
    rw [← hno] at hscan
    have hbit : n / 2^a % 2 = 1 := by
      rw [Nat.div_eq_of_lt_le (k := 1) (by omega) (by omega)]
    have hb := bitsBelow_of_lt n (a+1) (64 - (a+1)) ha_hi
    have hq := peakIdxScan_of_lt n (a+1) (64 - (a+1)) 0 ha_hi
    rw [Nat.add_sub_cancel' (show a + 1 ≤ 64 by omega)] at hb hq
    rw [hscan, hb, hq, bitsBelow_succ, peakIdxScan_succ, if_pos hbit, if_pos hbit, Nat.zero_add]
    rfl

theorem peakIdxScan_closed (n : Nat) : ∀ h,
    peakIdxScan h n (nodesOf ((n / 2^h) * 2^h)) = (bitsBelow h n).map fun j => nodesOf ((n / 2^j) * 2^j) := by
  intro h
  induction h with
  | zero => rfl
  | succ h ih =>
    have hdiv := div_two_pow_succ n h
    have hm := Nat.div_add_mod (n / 2^h) 2
    rw [peakIdxScan_succ, bitsBelow_succ]
    by_cases hb : n / 2^h % 2 = 1
    · have e : n / 2^h = 2 * (n / 2^(h+1)) + 1 := by omega
      have hodd := nodesOf_odd (n / 2^(h+1)) h
      rw [← e] at hodd
      have e2 : 2 * (n / 2^(h+1)) * 2^h = n / 2^(h+1) * 2^(h+1) := by rw [Nat.pow_succ]; ring
      rw [e2] at hodd
      rw [if_pos hb, if_pos hb, ← hodd, ih]
      rfl
    · have e : n / 2^h = 2 * (n / 2^(h+1)) := by omega
      have e2 : n / 2^(h+1) * 2^(h+1) = n / 2^h * 2^h := by
        generalize n / 2^(h+1) = b at *
        rw [e, Nat.pow_succ]; ring
      rw [if_neg hb, if_neg hb, e2, ih]

theorem forest_peaks (n : Nat) (hn : n < 2^63) :
    get_peak_heights_and_peak_node_indices n
      = some ((forest n).peaks.map TF.Spec.Mmr.Tree.height, (forest n).peaks.map TF.Spec.Mmr.Tree.idx) := by
  have h64 : n < 2^64 := Nat.lt_trans hn (by decide)
  have hscan := peakIdxScan_closed n 64
  rw [Nat.div_eq_of_lt h64, Nat.zero_mul, nodesOf_zero] at hscan
  rw [get_peaks_spec n hn, (forest_shape n h64).2.2, forest_peak_idxs n h64, hscan]
  congr 2
  apply List.map_congr_left
  intro b hb
  -- the peak for the set bit `b` closes the block that ends where the bits of `n` from `b` upwards end
  have hbit := bit_of_mem_bitsBelow n 64 b hb
  have e : n / 2^b = 2 * (n / 2^(b+1)) + 1 := by
    have := div_two_pow_succ n b
    omega
  have hodd := nodesOf_odd (n / 2^(b+1)) b
  have := Nat.two_pow_pos (b+1)
  rw [e, hodd, nodeIdx_eq_nodesOf]

end TF.Mmr
