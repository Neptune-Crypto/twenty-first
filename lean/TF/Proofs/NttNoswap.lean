import TF.Proofs.NttDft
/-!
`ntt_noswap`: Cooley–Tukey butterflies with bit-reversed twiddles, natural order in, bit-reversed order out.
Functional form of the stages and the invariant: after `s` stages, block `i` (of size `B = 2^(L-s)`) holds the
coefficients of `f mod (X^B - c_i)` with `c_i = ω^(B·bitrev s i)`:

  y_s[i·B + p] = Σ_{q<2^s} x[p + q·B] · c_i^q .
-/
namespace TF.NttFn
open Finset

variable {R : Type} [CommRing R]

theorem bitrev_zero (l : Nat) : bitrev l 0 = 0 := by
  induction l with
  | zero => rfl
  | succ l ih => simp [bitrev, ih]

/-- reversing `i < 2^s` in `s + d` bits shifts the `s`-bit reversal left by `d` -/
theorem bitrev_shift (d : Nat) : ∀ s i, i < 2^s → bitrev (s + d) i = 2^d * bitrev s i := by
  intro s
  induction s with
  | zero =>
    intro i hi
    obtain rfl : i = 0 := Nat.lt_one_iff.1 hi
    simp [bitrev_zero, bitrev]
  | succ s ih =>
    intro i hi
    rw [show s + 1 + d = (s + d) + 1 by omega, bitrev, bitrev, ih (i/2) (by rw [pow_succ] at hi; omega), pow_add]
    ring

/-- one stage of `ntt_noswap` with half-block `t`, block `i` using `ζ i` -/
def stageNs (t : Nat) (ζ : Nat → R) (x : Nat → R) : Nat → R := fun idx =>
  if idx % (2*t) < t then x idx + ζ (idx / (2*t)) * x (idx + t)
  else x (idx - t) - ζ (idx / (2*t)) * x idx

/-- `s` stages of the length-`2^L` transform (stage `s` has half-block `2^(L-s-1)`; block `i` uses
    `ω^(bitrev (L-1) i)`) -/
def nsStages (L : Nat) (ω : R) : Nat → (Nat → R) → (Nat → R)
  | 0, y => y
  | s+1, y => stageNs (2^(L-s-1)) (fun i => ω^(bitrev (L-1) i)) (nsStages L ω s y)

theorem stageNs_add (t : Nat) (ζ : Nat → R) (x : Nat → R) (i p : Nat) (hp : p < t) :
    stageNs t ζ x (i*(2*t) + p) = x (i*(2*t) + p) + ζ i * x (i*(2*t) + (p + t)) := by
  have h1 : (i*(2*t) + p) % (2*t) = p := Nat.mul_add_mod_of_lt (by omega)
  have h2 : (i*(2*t) + p) / (2*t) = i := by
    rw [Nat.add_comm, Nat.add_mul_div_right _ _ (by omega), Nat.div_eq_of_lt (by omega), Nat.zero_add]
  rw [stageNs, h1, h2, if_pos hp, Nat.add_assoc]

theorem stageNs_sub (t : Nat) (ζ : Nat → R) (x : Nat → R) (i p : Nat) (hp : p < t) :
    stageNs t ζ x (i*(2*t) + (p + t)) = x (i*(2*t) + p) - ζ i * x (i*(2*t) + (p + t)) := by
  have h1 : (i*(2*t) + (p + t)) % (2*t) = p + t := Nat.mul_add_mod_of_lt (by omega)
  have h2 : (i*(2*t) + (p + t)) / (2*t) = i := by
    rw [Nat.add_comm, Nat.add_mul_div_right _ _ (by omega), Nat.div_eq_of_lt (by omega), Nat.zero_add]
  rw [stageNs, h1, h2, if_neg (by omega), ← Nat.add_assoc, Nat.add_sub_cancel]

theorem ns_invariant (L : Nat) (ω : R) (hω : 0 < L → ω^(2^(L-1)) = -1) (x : Nat → R) :
    ∀ s r, s + r = L → ∀ i p, i < 2^s → p < 2^r →
      nsStages L ω s x (i * 2^r + p) = ∑ q ∈ range (2^s), x (p + q * 2^r) * (ω^(2^r * bitrev s i))^q := by
  intro s
  induction s with
  | zero =>
    intro r _ i p hi hp
    obtain rfl : i = 0 := Nat.lt_one_iff.1 hi
    simp [nsStages]
  | succ s ih =>
    intro r hs i' p hi' hp
    have ih := ih (r + 1) (by omega)
    rw [pow_succ 2 r, Nat.mul_comm (2^r) 2] at ih
    rw [pow_succ 2 s, Nat.mul_comm (2^s) 2] at hi'
    rw [nsStages, show L - s - 1 = r by omega, pow_succ 2 s, Nat.mul_comm (2^s) 2]
    have hζ : ∀ i, i < 2^s → ω^(bitrev (L-1) i) = ω^(2^r * bitrev s i) := fun i hi => by
      rw [show L - 1 = s + r by omega, bitrev_shift r s i hi]
    have hneg : ω^(2^r * 2^s) = -1 := by rw [← pow_add, show r + s = L - 1 by omega]; exact hω (by omega)
    generalize 2^r = t at *
    have he : ∀ q, p + 2*q*t = p + q*(2*t) := fun q => by rw [Nat.mul_right_comm, Nat.mul_comm q]
    have ho : ∀ q, p + (2*q+1)*t = p + t + q*(2*t) := fun q => by have := he q; rw [Nat.add_mul, Nat.one_mul]; omega
    -- block `i'` of size `t` is the lower or the upper half of block `i = i'/2` of size `2t`
    obtain ⟨i, rfl | rfl⟩ := Nat.even_or_odd' i'
    · have hi : i < 2^s := by omega
      rw [show 2*i*t + p = i*(2*t) + p by ring, stageNs_add t _ _ i p hp, ih i p hi (by omega), ih i (p + t) hi (by omega),
        bitrev_even, hζ i hi]
      refine (sum_even_odd_pow (2^s) (fun q => x (p + q*t)) _ _ _ _ ?_ (fun q => congrArg x (he q))
        (fun q => congrArg x (ho q))).symm
      rw [← pow_mul, Nat.mul_right_comm, Nat.mul_comm 2]
    · have hi : i < 2^s := by omega
      rw [show (2*i+1)*t + p = i*(2*t) + (p + t) by ring, stageNs_sub t _ _ i p hp, ih i p hi (by omega),
        ih i (p + t) hi (by omega), bitrev_odd, hζ i hi, Nat.mul_add, pow_add, hneg, neg_one_mul, sub_eq_add_neg, ← neg_mul]
      refine (sum_even_odd_pow (2^s) (fun q => x (p + q*t)) _ _ _ _ ?_ (fun q => congrArg x (he q))
        (fun q => congrArg x (ho q))).symm
      rw [neg_sq, ← pow_mul, Nat.mul_right_comm, Nat.mul_comm 2]

/-- `ntt_noswap` computes the DFT in bit-reversed order -/
theorem ns_eq_dft (L : Nat) (ω : R) (hω : 0 < L → ω^(2^(L-1)) = -1) (x : Nat → R) (i : Nat) (hi : i < 2^L) :
    nsStages L ω L x i = dft (2^L) ω x (bitrev L i) := by
  have := ns_invariant L ω hω x L 0 rfl i 0 hi Nat.one_pos
  simp only [pow_zero, Nat.mul_one, Nat.add_zero, Nat.zero_add, Nat.one_mul] at this
  rw [this]
  unfold dft
  apply sum_congr rfl; intro q _
  rw [← pow_mul, Nat.mul_comm]

end TF.NttFn
