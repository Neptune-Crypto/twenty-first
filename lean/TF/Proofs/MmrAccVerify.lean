import TF.Proofs.MmrAccBatch
/-!
# C11: `verify_batch_update` accepts exactly the from-scratch peaks

`verify_batch_update` applies the mutations one by one with `calculate_new_peaks_from_leaf_mutation`, repairing the
proofs of the remaining mutations after every step with `MmrMembershipProof::batch_update_from_leaf_mutation`
(which replaces, in every path, the first digest whose node index lies on the mutated leaf's direct path), then
applies the appends.  Invariant of the mutation loop: the remaining mutations carry their from-scratch paths in the
current leaf list and the running peaks are the from-scratch peaks of the current leaf list.
-/
namespace TF.MmrAccVerify
open TF TF.Gen TF.Model.Mmr TF.Model.MmrAcc TF.MmrE TF.MmrBM TF.Spec.MmrE TF.MmrAccBatch TF.MmrAccP

section
variable {D : Type} (H : D → D → D)

theorem deducibleClimb_sim (il : Bool) : ∀ (ap : List D) (ni : Nat) (acc : D) (m : Model.MmrE.AMap D),
    deducibleClimb H ap ni acc (toD m) = (Model.MmrE.deducible H none true false il ap ni acc m).map fun r => toD r.1 := by
  intro ap
  induction ap with
  | nil => intro ni acc m; rfl
  | cons hash rest ih =>
    intro ni acc m
    cases rest with
    | nil => rfl
    | cons h2 rest2 =>
      show (siblingAndParent ni).bind _ = _
      rw [Model.MmrE.deducible]
      simp only [reduceCtorEq, if_false, List.isEmpty_cons, Bool.and_false, Bool.false_and, Bool.false_eq_true]
      cases siblingAndParent ni with
      | none => rfl
      | some sp =>
        obtain ⟨isR, sib, par⟩ := sp
        simp only [Option.bind_some, toD_insert]
        exact ih _ _ _

theorem replaceFirst_sim [BEq D] [LawfulBEq D] [DecidableEq D] (m : Model.MmrE.AMap D) : ∀ (ap : List D) (idxs : List Nat),
    replaceFirst (toD m) ap idxs = (Model.MmrE.replaceFromMap m true true ap idxs).1 := by
  intro ap
  induction ap with
  | nil => intro idxs; cases idxs <;> rfl
  | cons d ds ih =>
    intro idxs
    cases idxs with
    | nil => rfl
    | cons k ks =>
      rw [replaceFirst, Model.MmrE.replaceFromMap, ih ks]
      show (match m.get? k with | some d' => _ | none => _) = _
      cases m.get? k with
      | none => rfl
      | some v => by_cases h : d = v <;> simp [h]

theorem mapM_replaceFirst_sim [BEq D] [LawfulBEq D] [DecidableEq D] (m : Model.MmrE.AMap D) :
    ∀ (proofs : List (List D × Nat)) (i : Nat),
    (proofs.mapM fun p => (get_node_indices p.2 p.1.length).map fun idxs => (replaceFirst (toD m) p.1 idxs, p.2))
      = (Model.MmrE.batchReplaceLoop m true (proofs.map (·.1)) (proofs.map (·.2)) i).map fun r =>
          r.1.zip (proofs.map (·.2)) := by
  intro proofs
  induction proofs with
  | nil => intro i; rfl
  | cons p rest ih =>
    intro i
    rw [List.mapM_cons, ih (i + 1), List.map_cons, List.map_cons, Model.MmrE.batchReplaceLoop]
    cases get_node_indices p.2 p.1.length with
    | none => rfl
    | some idxs =>
      simp only [Option.map_some, Option.bind_some, Option.bind_eq_bind, replaceFirst_sim]
      cases Model.MmrE.batchReplaceLoop m true (rest.map (·.1)) (rest.map (·.2)) (i + 1) <;> rfl

theorem batch_update_sim [BEq D] [LawfulBEq D] [DecidableEq D] (proofs : List (List D × Nat)) (mu : LeafMutation D) :
    batch_update_from_leaf_mutation H proofs mu
      = (Model.MmrE.batchUpdateFromLeafMutation H (proofs.map (·.1)) (proofs.map (·.2)) (conv mu)).map fun r =>
          r.1.zip (proofs.map (·.2)) := by
  unfold batch_update_from_leaf_mutation Model.MmrE.batchUpdateFromLeafMutation
  rw [toD_nil, toD_insert, deducibleClimb_sim H true, if_neg (by simp)]
  simp only [conv, Option.bind_eq_bind]
  cases Model.MmrE.deducible H none true false true mu.auth (leaf_index_to_node_index mu.leaf_index) mu.new_leaf
      (Model.MmrE.AMap.insert [] (leaf_index_to_node_index mu.leaf_index) mu.new_leaf) with
  | none => rfl
  | some r => exact mapM_replaceFirst_sim r.1 proofs 0

theorem zip_map_self (P : Nat → List D) (lis : List Nat) : (lis.map P).zip lis = lis.map fun t => (P t, t) := by
  simpa using List.zip_map' (f := P) (g := id) (l := lis)

/-- **`MmrMembershipProof::batch_update_from_leaf_mutation`** (as called by `verify_batch_update`): from-scratch
    paths of any in-range leafs become the from-scratch paths after the mutation -/
theorem batch_update_from_leaf_mutation_spec [BEq D] [LawfulBEq D] (g : Nat → D) (n j : Nat) (d : D) (hj : j < n)
    (hn : n < 2 ^ 63) (lis : List Nat) (hlis : ∀ t ∈ lis, t < n) :
    batch_update_from_leaf_mutation H (lis.map fun t => (authPathOf H g n t, t))
        { leaf_index := j, new_leaf := d, auth := authPathOf H g n j }
      = some (lis.map fun t => (authPathOf H (Function.update g j d) n t, t)) := by
  have : DecidableEq D := fun a b => decidable_of_iff _ beq_iff_eq
  have h1 : (lis.map fun t => (authPathOf H g n t, t)).map (·.1) = lis.map (authPathOf H g n) := by
    rw [List.map_map]; rfl
  have h2 : (lis.map fun t => (authPathOf H g n t, t)).map (·.2) = lis := by
    rw [List.map_map]; exact List.map_id' _
  rw [batch_update_sim, h1, h2]
  show (Model.MmrE.batchUpdateFromLeafMutation H _ lis ⟨j, d, authPathOf H g n j⟩).map _ = _
  rw [batchUpdateFromLeafMutation_spec H g n j d lis hlis hj hn, Option.map_some, zip_map_self]

/-- the batch of mutations as `verify_batch_update` sees it, with the paths valid in `g` -/
def mkV (g : Nat → D) (n : Nat) (ms : List (Nat × D)) : List (LeafMutation D) :=
  ms.map fun m => { leaf_index := m.1, new_leaf := m.2, auth := authPathOf H g n m.1 }

theorem zip_repair (g g' : Nat → D) (n : Nat) : ∀ ms : List (Nat × D),
    ((mkV H g n ms).zip ((ms.map (·.1)).map fun t => (authPathOf H g' n t, t))).map
        (fun ru => ({ ru.1 with auth := ru.2.1 } : LeafMutation D)) = mkV H g' n ms := by
  intro ms
  induction ms with
  | nil => rfl
  | cons p rest ih =>
    unfold mkV at ih ⊢
    simp only [List.map_cons, List.zip_cons_cons, ih]

theorem verifyMutLoop_spec [BEq D] [LawfulBEq D] (n : Nat) (hn : n < 2 ^ 63) : ∀ (ms : List (Nat × D)) (fuel : Nat)
    (g : Nat → D), ms.length ≤ fuel → (∀ m ∈ ms, m.1 < n) →
    verifyMutLoop H n fuel (mkV H g n ms) (peaks H n g) = some (peaks H n (applyL g ms)) := by
  intro ms
  induction ms with
  | nil => intro fuel g _ _; cases fuel <;> rfl
  | cons p rest ih =>
    intro fuel g hf hms
    obtain ⟨fuel', rfl⟩ : ∃ f', fuel = f' + 1 := ⟨fuel - 1, by simp at hf; omega⟩
    have hp : p.1 < n := hms p (by simp)
    have hrest : ∀ m ∈ rest, m.1 < n := fun m hm => hms m (by simp [hm])
    have hmk : mkV H g n (p :: rest)
        = { leaf_index := p.1, new_leaf := p.2, auth := authPathOf H g n p.1 } :: mkV H g n rest := rfl
    have hproofs : (mkV H g n rest).map (fun r => (r.auth, r.leaf_index))
        = (rest.map (·.1)).map fun t => (authPathOf H g n t, t) := by
      unfold mkV; simp [List.map_map, Function.comp]
    rw [hmk, verifyMutLoop]
    simp only
    rw [calc_mutation_spec H g n p.1 p.2 hp (by omega), hproofs,
      batch_update_from_leaf_mutation_spec H g n p.1 p.2 hp hn (rest.map (·.1)) (by
        intro t ht
        obtain ⟨m, hm, rfl⟩ := List.mem_map.mp ht
        exact hrest m hm)]
    simp only [Option.bind_some]
    rw [zip_repair]
    exact ih fuel' (Function.update g p.1 p.2) (by simp at hf; omega) hrest

theorem verifyAppendLoop_spec : ∀ (apps : List D) (n : Nat) (f : Nat → D), n + apps.length < 2 ^ 64 →
    verifyAppendLoop H apps n (Spec.MmrAcc.peaks H n f)
      = some (Spec.MmrAcc.peaks H (n + apps.length)
          (applyUpdates f ((apps.zipIdx n).map fun xk => (xk.2, xk.1)))) := by
  intro apps
  induction apps with
  | nil => intro n f _; rfl
  | cons x xs ih =>
    intro n f hlen
    simp only [List.length_cons] at hlen
    have h1 : Spec.MmrAcc.peaks H n f = Spec.MmrAcc.peaks H n (Spec.MmrAcc.update f n x) :=
      MmrAccP.peaks_congr H n f _ (fun m hm => by unfold Spec.MmrAcc.update; rw [if_neg (by omega)])
    have h2 : Spec.MmrAcc.update f n x n = x := by unfold Spec.MmrAcc.update; rw [if_pos rfl]
    obtain ⟨ap, hc⟩ := MmrAccP.calc_append_refines H n (by omega) (Spec.MmrAcc.update f n x)
    rw [← h1, h2] at hc
    rw [verifyAppendLoop, hc]
    simp only [Option.bind_some]
    rw [MmrE.add64_succ n (by omega), ih (n + 1) _ (by omega), List.zipIdx_cons, List.map_cons, applyUpdates,
      List.length_cons, show n + 1 + xs.length = n + (xs.length + 1) by omega]

theorem allUnique_of_nodup : ∀ l : List Nat, l.Nodup → allUnique l = true := by
  intro l
  induction l with
  | nil => intro _; rfl
  | cons a r ih =>
    intro h
    simp only [List.nodup_cons] at h
    simp [allUnique, h.1, ih h.2]

theorem verify_batch_update_iff_model [BEq D] [LawfulBEq D] (n : Nat) (f : Nat → D) (ms : List (Nat × D))
    (apps np : List D) (hn : n + apps.length < 2 ^ 63) (hnd : (ms.map Prod.fst).Nodup) (hms : ∀ m ∈ ms, m.1 < n) :
    verify_batch_update H { leaf_count := n, peaks := Spec.MmrAcc.peaks H n f } np apps
        (ms.map fun m => { leaf_index := m.1, new_leaf := m.2, auth := (Spec.MmrAcc.authPath H n f m.1).getD [] })
      = some (Spec.MmrAcc.peaks H (n + apps.length)
          (applyUpdates (applyUpdates f ms) (apps.zipIdx.map fun (x, k) => (n + k, x))) == np) := by
  have hmuts : (ms.map fun m => (⟨m.1, m.2, (Spec.MmrAcc.authPath H n f m.1).getD []⟩ : LeafMutation D))
      = mkV H f n ms := by
    unfold mkV
    exact List.map_congr_left fun m hm => by rw [authPath_eq H f n m.1 (hms m hm)]; rfl
  have hidx : (mkV H f n ms).map (·.leaf_index) = ms.map Prod.fst := by
    unfold mkV; simp [List.map_map, Function.comp]
  have hzip : (apps.zipIdx n).map (fun xk => (xk.2, xk.1)) = apps.zipIdx.map fun (x, k) => (n + k, x) := by
    rw [List.zipIdx_eq_map_add, List.map_map]
    rfl
  have hguard : ((({ leaf_count := n, peaks := Spec.MmrAcc.peaks H n f } : Acc D).is_empty
        && !(ms.map Prod.fst).isEmpty) ||
      (!(ms.map Prod.fst).isEmpty && (ms.map Prod.fst).any (· ≥ n))) = false := by
    cases ms with
    | nil => simp
    | cons p rest =>
      have hp := hms p (by simp)
      have hne : (n == 0) = false := by simp; omega
      have hany : (List.map Prod.fst (p :: rest)).any (· ≥ n) = false := by
        rw [List.any_eq_false]
        intro x hx
        obtain ⟨m, hm, rfl⟩ := List.mem_map.mp hx
        have := hms m hm
        simp; omega
      simp only [Acc.is_empty, hne, Bool.false_and, hany, Bool.and_false, Bool.or_false]
  unfold verify_batch_update
  rw [hmuts, hidx, allUnique_of_nodup _ hnd]
  simp only [Bool.not_true, Bool.false_eq_true, if_false, hguard]
  rw [peaks_eq, verifyMutLoop_spec H n (by omega) ms _ f (by unfold mkV; simp) hms]
  simp only [Option.bind_some]
  rw [← peaks_eq, ← applyUpdates_eq, verifyAppendLoop_spec H apps n _ (by omega), hzip]
  rfl

end
end TF.MmrAccVerify
