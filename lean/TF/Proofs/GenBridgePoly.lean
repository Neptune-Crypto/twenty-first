import TF.Gen.PolyLoops
import TF.Model.Poly
import TF.Model.PolyMul
import TF.Model.PolyDiv
import Mathlib.Data.List.Basic
import Mathlib.Data.List.Induction
/-!
Bridge: the core functions of `polynomial.rs` regenerated from source (`TF/Gen/PolyLoops.lean`, tools/rs2lean_poly.py) are the
hand models of `TF/Model/Poly.lean`, `PolyMul.lean`, `PolyDiv.lean` — for every record of field operations
`F : FieldOps α` (no field law is used: these are statements about list manipulation), every storage (stored leading zeros
included).  `gen = some model` also says that the regenerated function does not panic and that the fuel of its `while`
loops suffices.  `add_assign`, `mod_x_to_the_n`, `truncate` are stated with the bodies of their hand models
(`TF/Model/PolyVal.lean`, `PolyApi.lean`): importing those here would make `truncate`/`modXToTheN` ambiguous in C09, which
opens `TF.Model.Poly` and `TF.Model.PolyD`.
-/
namespace TF.GenBridge.Poly
open TF TF.Model.Poly TF.PolyStd

variable {α β γ σ : Type} (F : FieldOps α)

theorem normalize_snoc (p : List α) (c : α) :
    normalize F (p ++ [c]) = if F.isZero c then normalize F p else p ++ [c] := by
  unfold normalize
  simp only [List.reverse_append, List.reverse_cons, List.reverse_nil, List.nil_append, List.singleton_append,
    List.dropWhile_cons]
  split <;> simp

theorem degree_loop_eq (p : List α) : ∀ (n k : Nat), n ≤ p.length →
    TF.Gen.Poly.degree_loop F p (n + 1 + k) ((n : Int) - 1) = some (((normalize F (p.take n)).length : Int) - 1) := by
  intro n
  induction n with
  | zero =>
    intro k _
    rw [show 0 + 1 + k = k + 1 by omega, TF.Gen.Poly.degree_loop]
    simp [normalize]
  | succ n ih =>
    intro k hn
    have hlt : n < p.length := by omega
    have h1 : ((n + 1 : Nat) : Int) - 1 = (n : Int) := by omega
    rw [h1, show n + 1 + 1 + k = (n + 1 + k) + 1 by omega, TF.Gen.Poly.degree_loop]
    have h2 : decide ((n : Int) ≥ 0) = true := by simp
    simp only [h2, if_true, toUsize?, Int.natCast_nonneg, Int.toNat_natCast, Option.bind_some,
      List.getElem?_eq_getElem hlt]
    rw [List.take_succ_eq_append_getElem hlt, normalize_snoc]
    by_cases hz : F.isZero p[n] = true
    · simp only [hz, if_true]
      exact ih k (by omega)
    · simp only [hz]
      simp
      omega

/-- regenerated `degree` = hand model (never panics, the fuel `len + 1` suffices) -/
theorem degree_eq (p : List α) : TF.Gen.Poly.degree F p = some (degree F p) := by
  unfold TF.Gen.Poly.degree
  have := degree_loop_eq F p p.length 0 (Nat.le_refl _)
  simp only [Nat.add_zero, List.take_length] at this
  simp only [Int.ofNat_eq_natCast, this, Option.bind_some, degree]

theorem rposition_snoc (f : α → Bool) (q : List α) (c : α) :
    rposition f (q ++ [c]) = if f c then some q.length else rposition f q := by
  induction q with
  | nil => simp [rposition]
  | cons x q ih =>
    simp only [List.cons_append, rposition, ih, List.length_cons]
    by_cases hc : f c = true
    · simp [hc]
    · simp only [hc]
      cases rposition f q <;> simp

theorem coefficients_aux (p : List α) :
    (match rposition (fun c => !F.isZero c) p with
      | none => some []
      | some i => (sliceIncl? p 0 i).bind fun t => some t) = some (normalize F p) := by
  induction p using List.reverseRecOn with
  | nil => simp [rposition, normalize]
  | append_singleton q c ih =>
    rw [rposition_snoc, normalize_snoc]
    by_cases hz : F.isZero c = true
    · simp only [hz, Bool.not_true, Bool.false_eq_true, if_false, if_true]
      cases h : rposition (fun c => !F.isZero c) q with
      | none => simpa [h] using ih
      | some i =>
        rw [h] at ih
        simp only [sliceIncl?] at ih ⊢
        by_cases hi : 0 ≤ i + 1 ∧ i < q.length
        · have hi' : 0 ≤ i + 1 ∧ i < (q ++ [c]).length := ⟨hi.1, by simp; omega⟩
          simp only [hi, hi', and_self, if_true, Option.bind_some, List.drop_zero] at ih ⊢
          rw [← ih, List.take_append_of_le_length (by omega)]
        · exact absurd ⟨Nat.zero_le _, (by simpa [hi] using ih : i < q.length ∧ _).1⟩ hi
    · simp only [hz, Bool.not_false, if_true, sliceIncl?]
      have : List.take (q.length + 1) (q ++ [c]) = q ++ [c] := List.take_of_length_le (by simp)
      simp [this]

/-- regenerated `coefficients()` = hand model (`normalize`), never panics -/
theorem coefficients_eq (p : List α) : TF.Gen.Poly.coefficients F p = some (coefficients F p) := by
  unfold TF.Gen.Poly.coefficients coefficients
  exact coefficients_aux F p

theorem normalize_loop_eq (p : List α) : ∀ fuel, p.length + 1 ≤ fuel →
    TF.Gen.Poly.normalize_loop F fuel p = some (normalize F p) := by
  induction p using List.reverseRecOn with
  | nil =>
    intro fuel h
    obtain ⟨f, rfl⟩ : ∃ f, fuel = f + 1 := ⟨fuel - 1, by simp at h; omega⟩
    simp [TF.Gen.Poly.normalize_loop, normalize]
  | append_singleton q c ih =>
    intro fuel h
    obtain ⟨f, rfl⟩ : ∃ f, fuel = f + 1 := ⟨fuel - 1, by omega⟩
    rw [TF.Gen.Poly.normalize_loop, normalize_snoc]
    simp only [List.getLast?_append, List.getLast?_singleton, Option.some_or, Option.any_some, List.dropLast_concat]
    by_cases hz : F.isZero c = true
    · simp only [hz, if_true]
      exact ih f (by simp at h; omega)
    · simp [hz]

/-- regenerated `normalize` = hand model (the fuel `len + 1` suffices) -/
theorem normalize_eq (p : List α) : TF.Gen.Poly.normalize F p = some (normalize F p) := by
  unfold TF.Gen.Poly.normalize
  simp [normalize_loop_eq F p _ (Nat.le_refl _)]

theorem into_coefficients_eq (p : List α) : TF.Gen.Poly.into_coefficients F p = some (intoCoefficients F p) := by
  simp [TF.Gen.Poly.into_coefficients, normalize_eq, intoCoefficients]

/-- the normalised storage is a prefix of the storage; what follows it is the stored leading zeros -/
theorem normalize_isPrefix (p : List α) : ∃ t, p = normalize F p ++ t := by
  induction p using List.reverseRecOn with
  | nil => exact ⟨[], rfl⟩
  | append_singleton q c ih =>
    rw [normalize_snoc]
    split
    · obtain ⟨t, ht⟩ := ih
      exact ⟨t ++ [c], by rw [← List.append_assoc, ← ht]⟩
    · exact ⟨[], (List.append_nil _).symm⟩

theorem toUsize?_sub_one (n : Nat) : toUsize? (((n + 1 : Nat) : Int) - 1) = some n := by
  rw [toUsize?, if_pos (by omega)]; exact congrArg some (by omega)

theorem leading_coefficient_eq (p : List α) :
    TF.Gen.Poly.leading_coefficient F p = some (leadingCoefficient F p) := by
  obtain ⟨t, ht⟩ := normalize_isPrefix F p
  simp only [TF.Gen.Poly.leading_coefficient, degree_eq, Option.bind_some, leadingCoefficient, degree]
  generalize normalize F p = q at ht ⊢
  subst ht
  induction q using List.reverseRecOn with
  | nil => rfl
  | append_singleton q c _ =>
    rw [if_neg (by simp only [List.length_append, List.length_cons, List.length_nil, beq_iff_eq]; omega)]
    simp only [List.length_append, List.length_cons, List.length_nil, toUsize?_sub_one, Option.bind_some,
      List.append_assoc, List.getElem?_append_right (Nat.le_refl _), Nat.sub_self, List.getLast?_append,
      List.getLast?_singleton]
    rfl

theorem zip_all_eq (a b : List α) :
    (List.zip a b).all (fun (x, y) => F.beq x y) = (List.zip a b).all (fun xy => F.beq xy.1 xy.2) := rfl

theorem eq_eq (a b : List α) : TF.Gen.Poly.eq F a b = some (eq F a b) := by
  simp only [TF.Gen.Poly.eq, degree_eq, Option.bind_some, eq]
  by_cases h : degree F a = degree F b
  · simp [h]
  · simp [h]

/-- regenerated `is_zero` (`*self == Self::zero()`) = hand model -/
theorem is_zero_eq (p : List α) : TF.Gen.Poly.is_zero F p = some (isZero F p) := by
  simp only [TF.Gen.Poly.is_zero, eq_eq, Option.bind_some, eq, TF.Gen.Poly.zero, TF.Gen.Poly.new, isZero, degree]
  simp only [normalize, List.zip_nil_right, List.all_nil, Bool.and_true, List.reverse_nil, List.dropWhile_nil,
    List.length_nil, List.length_reverse, Option.some.injEq]
  cases h : List.dropWhile F.isZero p.reverse with
  | nil => simp
  | cons x xs =>
    have : ((xs.length : Int) == -1) = false := by
      rw [beq_eq_false_iff_ne]; omega
    simp [this]

theorem is_one_eq (p : List α) : TF.Gen.Poly.is_one F p = some (isOne F p) := by
  obtain ⟨t, ht⟩ := normalize_isPrefix F p
  simp only [TF.Gen.Poly.is_one, degree_eq, Option.bind_some, isOne, degree]
  generalize normalize F p = q at ht ⊢
  subst ht
  rcases q with _ | ⟨c0, _ | ⟨c1, q⟩⟩
  · rfl
  · rfl
  · rw [if_neg (by simp only [List.length_cons, beq_iff_eq]; omega)]; rfl

theorem is_x_eq (p : List α) : TF.Gen.Poly.is_x F p = some (isX F p) := by
  obtain ⟨t, ht⟩ := normalize_isPrefix F p
  simp only [TF.Gen.Poly.is_x, degree_eq, Option.bind_some, isX, degree]
  generalize normalize F p = q at ht ⊢
  subst ht
  rcases q with _ | ⟨c0, _ | ⟨c1, _ | ⟨c2, q⟩⟩⟩
  · rfl
  · rfl
  · cases h : F.isZero c0 <;> simp [h]
  · rw [if_neg (by simp only [List.length_cons, beq_iff_eq]; omega)]; rfl

theorem new_eq (c : List α) : TF.Gen.Poly.new c = c := rfl
theorem zero_eq : (TF.Gen.Poly.zero : List α) = zero := rfl
theorem one_eq : TF.Gen.Poly.one F = one F := rfl
theorem from_constant_eq (c : α) : TF.Gen.Poly.from_constant c = fromConstant c := rfl
theorem into_owned_eq (p : List α) : TF.Gen.Poly.into_owned p = p := rfl

theorem scalar_mul_eq (mul : α → σ → γ) (p : List α) (s : σ) :
    TF.Gen.Poly.scalar_mul F mul p s = scalarMulG mul p s := rfl

theorem scalar_mul_mut_eq (mul : α → σ → α) (p : List α) (s : σ) :
    TF.Gen.Poly.scalar_mul_mut F mul p s = scalarMulG mul p s := rfl

theorem neg_eq (p : List α) : TF.Gen.Poly.neg F p = neg F p := rfl

theorem shift_coefficients_eq (p : List α) (n : Nat) :
    TF.Gen.Poly.shift_coefficients F p n = shiftCoefficients F p n := rfl

theorem scale_for_eq (oneS : σ) (mulS : σ → σ → σ) (mul : α → σ → γ) (alpha : σ) (l : List α) :
    ∀ (acc : List γ) (pw : σ),
      (TF.Gen.Poly.scale_for F oneS mulS mul alpha l acc pw).1 = acc ++ scaleAux mulS mul alpha pw l := by
  induction l with
  | nil => intro acc pw; simp [TF.Gen.Poly.scale_for, scaleAux]
  | cons c l ih => intro acc pw; simp [TF.Gen.Poly.scale_for, scaleAux, ih]

/-- regenerated `scale` (the `push` loop with the running power) = hand model, any scalar type -/
theorem scale_eq (oneS : σ) (mulS : σ → σ → σ) (mul : α → σ → γ) (p : List α) (alpha : σ) :
    TF.Gen.Poly.scale F oneS mulS mul p alpha = scaleG oneS mulS mul p alpha := by
  have := scale_for_eq F oneS mulS mul alpha p [] oneS
  simpa [TF.Gen.Poly.scale, TF.Gen.Poly.new, scaleG] using this

theorem zipLongestMap_eq (f : α → α → α) (g : α → α) (a b : List α) :
    zipLongestMap f (fun c => c) g a b = zipLongestWith f g a b := by
  induction a generalizing b with
  | nil => cases b <;> simp [zipLongestMap, zipLongestWith]
  | cons x a ih => cases b <;> simp [zipLongestMap, zipLongestWith, ih]

/-- regenerated `Add::add` / `Sub::sub` (`zip_longest` + `match`) = hand models -/
theorem add_eq (a b : List α) : TF.Gen.Poly.add F a b = add F a b := by
  simp only [TF.Gen.Poly.add, TF.Gen.Poly.new, add]
  exact zipLongestMap_eq F.add (fun c => c) a b

theorem sub_eq (a b : List α) : TF.Gen.Poly.sub F a b = sub F a b := by
  simp only [TF.Gen.Poly.sub, TF.Gen.Poly.new, sub]
  exact zipLongestMap_eq F.sub _ a b

theorem zipMutWith_eq (f : α → α → α) (a b : List α) :
    zipMutWith f a b = List.zipWith f a b ++ a.drop b.length := by
  induction a generalizing b with
  | nil => simp [zipMutWith]
  | cons x a ih => cases b <;> simp [zipMutWith, ih]

/-- regenerated `AddAssign::add_assign` = hand model (the slice `rhs[self_len..]` is in range) -/
theorem add_assign_eq (a b : List α) :
    TF.Gen.Poly.add_assign F a b = some (List.zipWith F.add a b ++ a.drop b.length ++ b.drop a.length) := by
  simp only [TF.Gen.Poly.add_assign, zipMutWith_eq, sliceFrom?]
  by_cases h : b.length > a.length
  · have h' : a.length ≤ b.length := by omega
    simp [h, h']
  · have : List.drop a.length b = [] := List.drop_eq_nil_of_le (by omega)
    simp [h, this]

theorem evaluate_for_eq {ι ε : Type} (zeroE : ε) (mulX : ε → ι → ε) (addC : ε → α → ε) (x : ι) (l : List α) :
    ∀ acc, TF.Gen.Poly.evaluate_for F zeroE mulX addC x l acc = l.foldl (fun acc c => addC (mulX acc x) c) acc := by
  induction l with
  | nil => intro acc; rfl
  | cons c l ih => intro acc; simp [TF.Gen.Poly.evaluate_for, ih]

/-- regenerated `evaluate` (Horner loop over `iter().rev()`) = hand model, any indeterminate / result type -/
theorem evaluate_eq {ι ε : Type} (zeroE : ε) (mulX : ε → ι → ε) (addC : ε → α → ε) (p : List α) (x : ι) :
    TF.Gen.Poly.evaluate F zeroE mulX addC p x = evaluateG zeroE mulX addC p x := by
  simp [TF.Gen.Poly.evaluate, evaluate_for_eq, evaluateG, List.foldl_reverse]

theorem enumFrom_map_eq (n : Nat) (l : List α) :
    (enumFrom n l).map (fun (i, c) => F.mul (F.ofNat i) c) = formalDerivativeAux F n l := by
  induction l generalizing n with
  | nil => rfl
  | cons c l ih => simp [enumFrom, formalDerivativeAux, ih]

/-- regenerated `formal_derivative` (`(0..).zip(..).map(..).skip(1)`) = hand model -/
theorem formal_derivative_eq (p : List α) : TF.Gen.Poly.formal_derivative F p = formalDerivative F p := by
  simp only [TF.Gen.Poly.formal_derivative, TF.Gen.Poly.new, formalDerivative, enumerate]
  rw [enumFrom_map_eq]

/-- regenerated `reverse` (`take(degree + 1)` of the raw storage, reversed) = hand model -/
theorem reverse_eq (p : List α) : TF.Gen.Poly.reverse F p = some (reverse F p) := by
  obtain ⟨t, ht⟩ := normalize_isPrefix F p
  simp only [TF.Gen.Poly.reverse, degree_eq, Option.bind_some, reverse, degree, TF.Gen.Poly.new]
  generalize normalize F p = q at ht ⊢
  subst ht
  rw [Int.sub_add_cancel, toUsize?, if_pos (Int.natCast_nonneg _), Option.bind_some, Int.toNat_natCast, List.take_left]

/-- regenerated `truncate` (`coefficients().rev().take(k.saturating_add(1)).rev()`): it reads the NORMALISED coefficients and
    saturates `k + 1` at `usize::MAX = 18446744073709551615`.  Stated in the regenerated shape, because the two hand models
    `truncateUsize` (`TF/Model/PolyApi.lean`, `PolyApiD.lean`) unfold it differently (C17, C09). -/
theorem truncate_eq (p : List α) (k : Nat) :
    TF.Gen.Poly.truncate F p k =
      some (((normalize F p).reverse.take (min (k + 1) 18446744073709551615)).reverse) := by
  simp only [TF.Gen.Poly.truncate, coefficients_eq, Option.bind_some, coefficients, TF.Gen.Poly.new]

/-- regenerated `mod_x_to_the_n` (the slice `[..min(n, len)]` is in range) = hand model -/
theorem mod_x_to_the_n_eq (p : List α) (n : Nat) : TF.Gen.Poly.mod_x_to_the_n F p n = some (p.take n) := by
  simp only [TF.Gen.Poly.mod_x_to_the_n, sliceTo?, TF.Gen.Poly.new]
  have h : Nat.min n p.length ≤ p.length := Nat.min_le_right _ _
  simp only [h, if_true, Option.bind_some, Option.some.injEq]
  by_cases hn : n ≤ p.length
  · rw [show Nat.min n p.length = n from Nat.min_eq_left hn]
  · rw [show Nat.min n p.length = p.length from Nat.min_eq_right (by omega), List.take_of_length_le (Nat.le_refl _),
      List.take_of_length_le (by omega)]

theorem mul_eq_naive (F2 : FieldOps β) (F3 : FieldOps γ) (mul : α → β → γ) (a : List α) (b : List β) :
    TF.Gen.Poly.mul F F2 F3 mul a b = TF.Gen.Poly.naive_multiply F F2 F3 mul a b := by
  simp [TF.Gen.Poly.mul]

theorem divide_eq_naive (a d : List α) : TF.Gen.Poly.divide F a d = TF.Gen.Poly.naive_divide F a d := by
  simp [TF.Gen.Poly.divide]

theorem div_eq_naive (a d : List α) : TF.Gen.Poly.div F a d = (TF.Gen.Poly.naive_divide F a d).map (·.1) := by
  simp only [TF.Gen.Poly.div]
  cases TF.Gen.Poly.naive_divide F a d <;> rfl

theorem rem_eq_naive (a d : List α) : TF.Gen.Poly.rem F a d = (TF.Gen.Poly.naive_divide F a d).map (·.2) := by
  simp only [TF.Gen.Poly.rem]
  cases TF.Gen.Poly.naive_divide F a d <;> rfl

theorem reduce_long_division_eq_naive (a d : List α) :
    TF.Gen.Poly.reduce_long_division F a d = (TF.Gen.Poly.naive_divide F a d).map (·.2) := by
  simp only [TF.Gen.Poly.reduce_long_division, divide_eq_naive]
  cases TF.Gen.Poly.naive_divide F a d <;> rfl

/-- regenerated dispatcher `multiply`: the `isize` comparison of the degree sum against the regenerated threshold -/
theorem multiply_dispatch (F2 : FieldOps β) (F3 : FieldOps γ) (mul : α → β → γ)
    (fm : List α → List β → Option (List γ)) (a : List α) (b : List β) :
    TF.Gen.Poly.multiply F F2 F3 mul fm a b =
      if degree F a + degree F2 b < (TF.Gen.FAST_MULTIPLY_CUTOFF_THRESHOLD : Int)
      then TF.Gen.Poly.naive_multiply F F2 F3 mul a b else fm a b := by
  simp only [TF.Gen.Poly.multiply, degree_eq, Option.bind_some, Int.ofNat_eq_natCast, decide_eq_true_eq,
    Option.bind_fun_some]

/-- regenerated dispatcher `reduce`: the four-way dispatch on the degrees (`FAST_REDUCE_MAKES_SENSE_MULTIPLE = 4`) -/
theorem reduce_dispatch (fr : List α → List α → Option (List α)) (a m : List α) :
    TF.Gen.Poly.reduce F fr a m =
      if degree F m < 0 then none
      else if degree F m = 0 then some []
      else if degree F a < degree F m then some a
      else if degree F a > 4 * degree F m then fr a m
      else (TF.Gen.Poly.naive_divide F a m).map (·.2) := by
  simp only [TF.Gen.Poly.reduce, degree_eq, Option.bind_some, reduce_long_division_eq_naive, TF.Gen.Poly.zero,
    TF.Gen.Poly.new, TF.Gen.Poly.into_owned, beq_iff_eq, decide_eq_true_eq, Option.bind_fun_some]

theorem square_for2_eq (fs : List α → Option (List α)) (two : α) (c : List α) (i : Nat) (ci : α) (l : List Nat) :
    ∀ sq, TF.Gen.Poly.square_for2 F fs two c i ci l sq = TF.Gen.Poly.slow_square_for2 F two c i ci l sq := by
  induction l with
  | nil => intro sq; rfl
  | cons j l ih => intro sq; simp only [TF.Gen.Poly.square_for2, TF.Gen.Poly.slow_square_for2, ih]

theorem square_for_eq (fs : List α → Option (List α)) (two : α) (c : List α) (l : List Nat) :
    ∀ sq, TF.Gen.Poly.square_for F fs two c l sq = TF.Gen.Poly.slow_square_for F two c l sq := by
  induction l with
  | nil => intro sq; rfl
  | cons j l ih => intro sq; simp only [TF.Gen.Poly.square_for, TF.Gen.Poly.slow_square_for, ih, square_for2_eq]

/-- regenerated dispatcher `square`: zero first, `fast_square` when `2·deg + 1 > 64`, else the same double loop as
    `slow_square` -/
theorem square_dispatch (fs : List α → Option (List α)) (p : List α) :
    TF.Gen.Poly.square F fs p =
      if degree F p = -1 then some []
      else if 2 * (degree F p).toNat + 1 > 64 then fs p else TF.Gen.Poly.slow_square F p := by
  obtain ⟨n, hd⟩ : ∃ n : Nat, degree F p = (n : Int) - 1 := ⟨_, rfl⟩
  simp only [TF.Gen.Poly.square, TF.Gen.Poly.slow_square, degree_eq, Option.bind_some, beq_iff_eq, TF.Gen.Poly.zero,
    TF.Gen.Poly.new, hd, square_for_eq]
  cases n with
  | zero => simp
  | succ n =>
    have h1 : ((n + 1 : Nat) : Int) - 1 = (n : Int) := by omega
    have h2 : ¬ ((n : Int) = -1) := by omega
    simp only [h1, h2, if_false, toUsize?, Int.natCast_nonneg, if_true, Int.toNat_natCast, Option.bind_some,
      decide_eq_true_eq, Nat.mul_comm n 2]
    split
    · cases fs p <;> rfl
    · rfl

theorem fast_multiply_eq (F2 : FieldOps β) (F3 : FieldOps γ) (mul : α → β → γ)
    (T1 : Transform α) (T2 : Transform β) (T3 : Transform γ) (a : List α) (b : List β) :
    TF.Gen.Poly.fast_multiply F F2 F3 mul T1.ntt T2.ntt T3.intt a b = fastMultiplyG F F2 mul T1 T2 T3 a b := by
  simp only [TF.Gen.Poly.fast_multiply, degree_eq, Option.bind_some, fastMultiplyG, TF.Gen.Poly.zero, TF.Gen.Poly.new,
    toUsize?]
  by_cases h : 0 ≤ degree F a + degree F2 b
  · have h' : ¬ (degree F a + degree F2 b < 0) := by omega
    simp only [h, h', if_true, if_false]
    have hz : ∀ (l : List α) (r : List β), (List.zip l r).map (fun (l, r) => mul l r) = List.zipWith mul l r := by
      intro l r
      induction l generalizing r with
      | nil => simp
      | cons x l ih => cases r <;> simp [ih]
    simp only [hz]
    rfl
  · have h' : degree F a + degree F2 b < 0 := by omega
    simp [h, h']

theorem fast_square_eq (T : Transform α) (p : List α) :
    TF.Gen.Poly.fast_square F T.ntt T.intt p = fastSquare F T p := by
  obtain ⟨t, ht⟩ := normalize_isPrefix F p
  simp only [TF.Gen.Poly.fast_square, degree_eq, Option.bind_some, fastSquare, degree, TF.Gen.Poly.zero, TF.Gen.Poly.new,
    TF.Gen.Poly.from_constant]
  generalize hq : normalize F p = q at ht ⊢
  rcases q with _ | ⟨c0, _ | ⟨c1, q⟩⟩
  · rfl
  · subst ht; rfl
  · rw [if_neg (by simp only [List.length_cons, beq_iff_eq]; omega),
      if_neg (by simp only [List.length_cons, beq_iff_eq]; omega), List.length_cons, toUsize?_sub_one]
    rfl

open TF.Model.PolyD in
/-- inner loop of `naive_divide` (`remainder[remainder_degree - i] -= q * divisor_coeff` over `enumerate()`), on the remainder
    stored lowest degree first, = the hand model's `subScaled` on the reversed list (value and index panic) -/
theorem divide_for2_eq (qc : α) (tl : List α) : ∀ (pre suf : List α),
    TF.Gen.Poly.naive_divide_for2 F qc ((pre ++ suf).length - 1) (enumFrom pre.length tl) (pre ++ suf).reverse =
      (subScaled F qc tl suf).map (fun s => (pre ++ s).reverse) := by
  induction tl with
  | nil => intro pre suf; simp [enumFrom, TF.Gen.Poly.naive_divide_for2, subScaled]
  | cons t tl ih =>
    intro pre suf
    cases suf with
    | nil =>
      simp only [enumFrom, TF.Gen.Poly.naive_divide_for2, subScaled, List.append_nil, Option.map_none, usub?]
      by_cases h0 : pre.length ≤ pre.length - 1
      · have hp : pre = [] := by
          cases pre with
          | nil => rfl
          | cons x xs => simp at h0; omega
        subst hp
        simp
      · simp [h0]
    | cons r suf =>
      have hidx : (pre ++ r :: suf).length - 1 - pre.length = suf.length := by simp
      have hle : pre.length ≤ (pre ++ r :: suf).length - 1 := by simp
      have hget : (pre ++ r :: suf).reverse[suf.length]? = some r := by
        simp [List.reverse_append]
      have hset : (pre ++ r :: suf).reverse.set suf.length (F.sub r (F.mul qc t)) =
          ((pre ++ [F.sub r (F.mul qc t)]) ++ suf).reverse := by
        simp [List.reverse_append]
      have hlen : (pre ++ r :: suf).length = ((pre ++ [F.sub r (F.mul qc t)]) ++ suf).length := by simp
      have hpl : pre.length + 1 = (pre ++ [F.sub r (F.mul qc t)]).length := by simp
      simp only [enumFrom, TF.Gen.Poly.naive_divide_for2, usub?, hle, if_true, Option.bind_some, hidx, hget, hset, subScaled]
      rw [hlen, hpl, ih]
      cases subScaled F qc tl suf <;> simp

open TF.Model.PolyD in
/-- outer loop of `naive_divide` (`pop().unwrap()`, quotient coefficient, `continue` on zero, inner loop) = the hand model's
    `divLoop`; the remainder is stored lowest degree first in the regenerated code, highest first in the model -/
theorem divide_for_eq (lcInv lc : α) (tl : List α) : ∀ (n s : Nat) (rr q : List α),
    TF.Gen.Poly.naive_divide_for F lcInv (lc :: tl) (List.range' s n) rr.reverse q.reverse =
      (divLoop F lcInv tl n rr q).map (fun qr => (qr.2.reverse, qr.1.reverse)) := by
  intro n
  induction n with
  | zero => intro s rr q; simp [TF.Gen.Poly.naive_divide_for, divLoop]
  | succ n ih =>
    intro s rr q
    rw [List.range'_succ]
    cases rr with
    | nil => simp [TF.Gen.Poly.naive_divide_for, divLoop, pop?]
    | cons c rest =>
      have hpop : pop? (c :: rest).reverse = some (c, rest.reverse) := by simp [pop?]
      have hq : q.reverse ++ [F.mul c lcInv] = (F.mul c lcInv :: q).reverse := by simp
      simp only [TF.Gen.Poly.naive_divide_for, hpop, Option.bind_some, divLoop, hq]
      by_cases hz : F.isZero (F.mul c lcInv) = true
      · simp only [hz, if_true]
        exact ih (s + 1) rest _
      · have h2 := divide_for2_eq F (F.mul c lcInv) tl [] rest
        simp only [List.nil_append, List.length_nil] at h2
        simp only [hz, List.drop_succ_cons, List.drop_zero, enumerate, List.length_reverse, h2]
        cases subScaled F (F.mul c lcInv) tl rest with
        | none => simp
        | some rest' => simpa using ih (s + 1) rest' (F.mul c lcInv :: q)

theorem dropWhile_head_false (f : α → Bool) (l : List α) (x : α) (xs : List α) (h : l.dropWhile f = x :: xs) :
    f x = false := by
  induction l with
  | nil => simp at h
  | cons y l ih =>
    rw [List.dropWhile_cons] at h
    by_cases hy : f y = true
    · simp only [hy, if_true] at h; exact ih h
    · simp only [hy] at h
      simp only [Bool.false_eq_true, if_false, List.cons.injEq] at h
      rw [← h.1]; simpa using hy

/-- the number of quotient coefficients, as the regenerated code computes it from the two degrees -/
theorem quotient_len (m n : Nat) (h : n + 1 ≤ m) :
    ((m : Int) - 1 - (((n + 1 : Nat) : Int) - 1)).toNat + 1 - 0 = m - n := by omega

open TF.Model.PolyD in
/-- **regenerated `naive_divide` = hand model**, every record of field operations, every dividend and divisor storage:
    same quotient and remainder storage, panic exactly for the zero divisor (no index, `pop().unwrap()`, `usize` subtraction
    or `inverse()` panic otherwise) -/
theorem naive_divide_eq (a d : List α) : TF.Gen.Poly.naive_divide F a d = naiveDivide F a d := by
  have hda : degree F a = ((revNorm F a).length : Int) - 1 := by simp [degree, normalize, revNorm]
  have hdd : degree F d = ((revNorm F d).length : Int) - 1 := by simp [degree, normalize, revNorm]
  have hna : normalize F a = (revNorm F a).reverse := rfl
  have hlc : leadingCoefficient F d = (revNorm F d).head? := by
    simp [leadingCoefficient, normalize, revNorm, List.getLast?_reverse]
  have hrn : (d.reverse.dropWhile fun c => F.isZero c) = revNorm F d := rfl
  unfold TF.Gen.Poly.naive_divide naiveDivide
  simp only [leading_coefficient_eq, degree_eq, normalize_eq, Option.bind_some, hlc, hda, hdd, hna, hrn,
    TF.Gen.Poly.zero, TF.Gen.Poly.new, TF.Gen.Poly.into_owned]
  cases hrd : revNorm F d with
  | nil => simp
  | cons lc tl =>
    have hnz : F.isZero lc = false := dropWhile_head_false F.isZero d.reverse lc tl hrd
    simp only [List.head?_cons, Option.bind_some, inverse?, hnz, Bool.false_eq_true, if_false, List.length_cons, toUsize?]
    by_cases h : (revNorm F a).length < tl.length + 1
    · have h' : ¬ (0 ≤ ((revNorm F a).length : Int) - 1 - (((tl.length + 1 : Nat) : Int) - 1)) := by omega
      simp only [h, h', if_true, if_false]
    · have h' : (0 ≤ ((revNorm F a).length : Int) - 1 - (((tl.length + 1 : Nat) : Int) - 1)) := by omega
      have hq := quotient_len (revNorm F a).length tl.length (Nat.not_lt.1 h)
      have hge : decide (((revNorm F a).length : Int) - 1 ≥ 0) = true := by
        rw [decide_eq_true_eq]; omega
      have hfor := divide_for_eq F (F.inv lc) lc tl ((revNorm F a).length - tl.length) 0 (revNorm F a) []
      simp only [List.reverse_nil] at hfor
      simp only [h, h', if_true, if_false, hq, hge, assert?, Option.bind_some, hfor]
      cases divLoop F (F.inv lc) tl ((revNorm F a).length - tl.length) (revNorm F a) [] with
      | none => rfl
      | some qr => simp

end TF.GenBridge.Poly
