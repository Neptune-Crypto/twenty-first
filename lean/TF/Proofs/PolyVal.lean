import TF.Model.PolyVal
import TF.Proofs.PolyMul
/-!
Lemmas for C17 (value semantics): every operation of the polynomial models respects `denote`.
Operations that read their operands through `normalize`/`degree`/`resize` return *literally* the same result
(including the same panic behaviour) on two storages of the same polynomial; operations that copy raw storage
(`add`, `sub`, `scalar_mul`, …) return storages denoting the same polynomial.
-/
open Polynomial

namespace TF.Model.Poly
variable {K : Type} [Field K]
open Classical

variable (root : Nat → Option K)
local notation "FK" => FieldOps.ofField K root

theorem normalize_congr {a a' : List K} (h : denote a = denote a') : normalize FK a = normalize FK a' :=
  (denote_eq_iff root a a').1 h

theorem degree_congr {a a' : List K} (h : denote a = denote a') : degree FK a = degree FK a' := by
  unfold degree; rw [normalize_congr root h]

theorem resize_congr {a a' : List K} (h : denote a = denote a') (n : Nat) : resize a n 0 = resize a' n 0 := by
  rw [resize_eq_coeffList, resize_eq_coeffList, h]

theorem naiveMultiply_congr {a a' b b' : List K} (ha : denote a = denote a') (hb : denote b = denote b') :
    naiveMultiply FK a b = naiveMultiply FK a' b' := by
  unfold naiveMultiply naiveMultiplyG
  rw [normalize_congr root ha, normalize_congr root hb]

theorem slowSquare_congr {a a' : List K} (h : denote a = denote a') : slowSquare FK a = slowSquare FK a' := by
  unfold slowSquare; rw [normalize_congr root h]

theorem fastSquare_congr (T : Transform K) {a a' : List K} (h : denote a = denote a') :
    fastSquare FK T a = fastSquare FK T a' := by
  unfold fastSquare
  simp only [FieldOps.ofField_zero]
  rw [normalize_congr root h]
  simp only [resize_congr h]

theorem square_congr (cutoff : Nat) (T : Transform K) {a a' : List K} (h : denote a = denote a') :
    square FK cutoff T a = square FK cutoff T a' := by
  unfold square
  rw [normalize_congr root h, fastSquare_congr root T h]

theorem fastMultiply_congr (T : Transform K) {a a' b b' : List K} (ha : denote a = denote a')
    (hb : denote b = denote b') : fastMultiply FK T a b = fastMultiply FK T a' b' := by
  unfold fastMultiply fastMultiplyG
  simp only [FieldOps.ofField_zero]
  rw [degree_congr root ha, degree_congr root hb]
  simp only [resize_congr ha, resize_congr hb]

theorem multiply_congr (threshold : Int) (T : Transform K) {a a' b b' : List K} (ha : denote a = denote a')
    (hb : denote b = denote b') : multiply FK threshold T a b = multiply FK threshold T a' b' := by
  have h1 := fastMultiply_congr root T ha hb
  have h2 := naiveMultiply_congr root ha hb
  unfold multiply multiplyG
  unfold fastMultiply at h1
  unfold naiveMultiply at h2
  rw [degree_congr root ha, degree_congr root hb, h1, h2]

theorem powLoop_congr (sq m m' : List K → Option (List K)) (hm : ∀ acc, m acc = m' acc) (e bl n : Nat) (acc : List K) :
    powLoop sq m e bl n acc = powLoop sq m' e bl n acc := by
  have : m = m' := funext hm
  rw [this]

theorem pow_congr {a a' : List K} (h : denote a = denote a') (e : Nat) : pow FK a e = pow FK a' e := by
  unfold pow
  rw [degree_congr root h]
  have : (fun acc => some (mul FK acc a)) = (fun acc => some (mul FK acc a')) := by
    funext acc
    unfold mul
    rw [naiveMultiply_congr root rfl h]
  rw [this]

theorem fastPow_congr (sqCutoff : Nat) (threshold : Int) (T : Transform K) {a a' : List K}
    (h : denote a = denote a') (e : Nat) :
    fastPow FK sqCutoff threshold T a e = fastPow FK sqCutoff threshold T a' e := by
  unfold fastPow
  rw [degree_congr root h]
  have : (fun acc => multiply FK threshold T a acc) = (fun acc => multiply FK threshold T a' acc) := by
    funext acc; exact multiply_congr root threshold T h rfl
  rw [this]

theorem eq_congr {a a' b b' : List K} (ha : denote a = denote a') (hb : denote b = denote b') :
    eq FK a b = eq FK a' b' := by
  rw [Bool.eq_iff_iff, eq_iff_denote, eq_iff_denote, ha, hb]

theorem truncate_congr {a a' : List K} (h : denote a = denote a') (k : Nat) : truncate FK a k = truncate FK a' k := by
  unfold truncate; rw [normalize_congr root h]

theorem getD_drop' (l : List K) (m i : Nat) : (l.drop m).getD i 0 = l.getD (i + m) 0 := by
  simp [List.getD_eq_getElem?_getD, Nat.add_comm]

/-- `truncate(k)` keeps the `k+1` highest coefficients of the polynomial: coefficient `i` of the result is coefficient
    `i + (L − (k+1))` of the argument, `L` = number of coefficients up to the leading one -/
theorem coeff_truncate (p : List K) (k i : Nat) :
    (denote (truncate FK p k)).coeff i = (denote p).coeff (i + ((normalize FK p).length - (k + 1))) := by
  unfold truncate
  simp only
  rw [coeff_denote, getD_drop', ← coeff_denote, denote_normalize]

theorem coeff_modXToTheN (p : List K) (n i : Nat) :
    (denote (modXToTheN p n)).coeff i = if i < n then (denote p).coeff i else 0 :=
  coeff_denote_take p n i

theorem denote_modXToTheN_congr {a a' : List K} (h : denote a = denote a') (n : Nat) :
    denote (modXToTheN a n) = denote (modXToTheN a' n) := by
  ext i; rw [coeff_modXToTheN, coeff_modXToTheN, h]

theorem denote_addAssign (a b : List K) : denote (addAssign FK a b) = denote a + denote b := by
  unfold addAssign
  induction a generalizing b with
  | nil => simp
  | cons x xs ih =>
    cases b with
    | nil => simp
    | cons y ys =>
      have := ih ys
      simp only [List.zipWith_cons_cons, List.length_cons, List.drop_succ_cons, List.cons_append,
        denote_cons, FieldOps.ofField_add, C_add] at this ⊢
      rw [this]; ring

theorem denote_formalDerivative (p : List K) : denote (formalDerivative FK p) = derivative (denote p) := by
  unfold formalDerivative
  have h := denote_formalDerivativeAux root p 0
  cases p with
  | nil => simp [formalDerivativeAux]
  | cons c cs =>
    simp only [formalDerivativeAux, denote_cons, FieldOps.ofField_mul, FieldOps.ofField_ofNat, Nat.cast_zero,
      zero_mul, map_zero, zero_add] at h
    simp only [formalDerivativeAux, List.drop_succ_cons, List.drop_zero]
    exact mul_left_cancel₀ X_ne_zero (by rw [h]; simp)

/-- two polynomials-or-panic are related when both panic or both denote the same polynomial -/
def RelO (p q : Option (List K)) : Prop :=
  match p, q with
  | none, none => True
  | some a, some b => denote a = denote b
  | _, _ => False

theorem RelO.of_eq {p q : Option (List K)} (h : p = q) : RelO p q := by
  subst h; cases p <;> simp [RelO]

/-- a binary product that returns literally the same on storages of the same polynomials -/
def MulCongr (mulf : List K → List K → Option (List K)) : Prop :=
  ∀ a a' b b', denote a = denote a' → denote b = denote b' → mulf a b = mulf a' b'

theorem MulCongr.mulRel {mulf : List K → List K → Option (List K)} (hm : MulCongr mulf) : Hom.MulRel RelO mulf mulf := by
  intro p p' q q' h1 h2
  match p, p', h1, q, q', h2 with
  | none, none, _, _, _, _ => trivial
  | some a, some a', h1, none, none, _ => trivial
  | some a, some a', h1, some b, some b', h2 => exact RelO.of_eq (hm _ _ _ _ h1 h2)

theorem batchMultiplyWith_rel {mulf : List K → List K → Option (List K)} (hm : MulCongr mulf)
    {ps qs : List (Option (List K))} (h : List.Forall₂ RelO ps qs) :
    RelO (batchMultiplyWith FK mulf ps) (batchMultiplyWith FK mulf qs) :=
  Hom.batchMultiplyWith_rel hm.mulRel rfl h

theorem parBatchMultiplyWith_rel {mulf : List K → List K → Option (List K)} (hm : MulCongr mulf) (numThreads : Nat)
    {ps qs : List (Option (List K))} (h : List.Forall₂ RelO ps qs) :
    RelO (parBatchMultiplyWith FK mulf numThreads ps) (parBatchMultiplyWith FK mulf numThreads qs) :=
  Hom.parBatchMultiplyWith_rel hm.mulRel rfl numThreads h

theorem forall₂_map_some {fs gs : List (List K)} (h : List.Forall₂ (fun a b => denote a = denote b) fs gs) :
    List.Forall₂ RelO (fs.map some) (gs.map some) := by
  rw [List.forall₂_map_left_iff, List.forall₂_map_right_iff]
  exact h.imp (fun _ _ hab => hab)

end TF.Model.Poly
