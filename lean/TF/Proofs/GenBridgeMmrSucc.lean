import TF.Model.MmrSucc
import TF.Proofs.GenBridgeMmrProof
/-!
# Bridge: `MmrSuccessorProof::verify` *as regenerated from source* = the hand-written model (C12)

See `TF/Proofs/GenBridgeMmrProof.lean` for the conventions.  `MmrSuccessorProof` is its field `paths`; an accumulator is
the pair `(leaf_count, peaks)`; `dflt` = `Digest::default()`.  The regenerated `for old_peak in old_mmra.peaks()` loop
returns `Except Bool state` (`Except.error b` = the body executed `return b`).

The lemmas are stated over variables (the Merkle-tree index, the peak index, the fuel, the results of the inner loop) so
that no `rfl`/kernel check ever unfolds machine arithmetic or a fuel-indexed recursion on open terms.
-/
namespace TF.GenBridge.MmrSucc
open TF TF.Gen TF.Model.Mmr TF.Model.MmrE TF.GenBridge.MmrPeaks

variable {D : Type} [DecidableEq D] (H : D → D → D) (d0 dflt : D)

omit [DecidableEq D] in
theorem climb_succ (paths : List D) (f mt : Nat) (node : D) (ap : Nat) :
    climb H dflt paths (f + 1) mt node ap = if mt = 1 then some (node, ap) else
      climb H dflt paths f (mt / 2)
        (if mt % 2 = 0 then H node ((paths[ap]?).getD dflt) else H ((paths[ap]?).getD dflt) node) (ap + 1) := rfl

omit [DecidableEq D] in
/-- the regenerated inner loop (`paths.get(ap_index).copied().unwrap_or(Digest::default())`, `& 1`, `>>= 1`,
    `ap_index += 1`) = the hand model's `climb`, same fuel, as long as the counter cannot overflow -/
theorem climb_eq (paths : List D) : ∀ (f ap mt : Nat) (node : D), ap + f < 2 ^ 64 →
    outcome (Loops.mmrsp_verify_loop2_ok H d0 dflt paths f ap mt node) (Loops.mmrsp_verify_loop2 H d0 dflt paths f ap mt node)
      = (climb H dflt paths f mt node ap).map (fun r => (r.2, 1, r.1)) := by
  intro f
  induction f with
  | zero => intro ap mt node _; rfl
  | succ f ih =>
    intro ap mt node hb
    rw [Loops.mmrsp_verify_loop2, Loops.mmrsp_verify_loop2_ok, climb_succ]
    by_cases hm : mt = 1
    · subst hm
      rw [if_neg (by simp), if_neg (by simp), if_pos rfl]
      rfl
    · have hne : (mt != 1) = true := by rw [bne_iff_ne]; exact hm
      rw [if_pos hne, if_pos hne, if_neg hm]
      have hi1 : decide (ap + 1 < 18446744073709551616) = true := by
        simp only [decide_eq_true_eq]; omega
      have hmod : (ap + 1) % 18446744073709551616 = ap + 1 := Nat.mod_eq_of_lt (by omega)
      have hand : (mt &&& 1) = mt % 2 := Nat.and_one_is_mod _
      have hget : paths.getD ap dflt = (paths[ap]?).getD dflt := List.getD_eq_getElem?_getD
      have hacc : (if ((mt % 2) == 0) = true then H node ((paths[ap]?).getD dflt) else H ((paths[ap]?).getD dflt) node)
          = (if mt % 2 = 0 then H node ((paths[ap]?).getD dflt) else H ((paths[ap]?).getD dflt) node) := by
        by_cases hev : mt % 2 = 0 <;> simp [hev]
      simp only [hi1, hmod, hand, hget, Bool.true_and]
      rw [hacc]
      exact ih (ap + 1) (mt / 2) _ (by omega)

omit [DecidableEq D] in
theorem climb_ap_le (paths : List D) : ∀ (f mt : Nat) (node : D) (ap : Nat) (r : D × Nat),
    climb H dflt paths f mt node ap = some r → r.2 ≤ ap + f := by
  intro f
  induction f with
  | zero => intro mt node ap r h; cases h
  | succ f ih =>
    intro mt node ap r h
    rw [climb_succ] at h
    by_cases hm : mt = 1
    · rw [if_pos hm] at h
      cases h
      show ap ≤ ap + (f + 1)
      omega
    · rw [if_neg hm] at h
      have := ih _ _ _ _ h
      omega

/-- what follows the regenerated loop: leave with the returned value, or compare `ap_index` with `paths.len()` -/
def finish (plen : Nat) (t : Except Bool (Nat × Nat × Nat)) : Option Bool :=
  TF.RustCtl.flow t (fun b => some b) (fun s => some (s.1 == plen))

/-- the hand model's loop, one round unfolded, its `match`es written with `Option.bind` -/
theorem verifyPeaks_cons (paths : List D) (nc : Nat) (np : List D) (p : D) (rest : List D) (rem run ap : Nat) :
    verifyPeaks H dflt paths nc np (p :: rest) rem run ap =
      if rem = 0 then none else
      if !(decide (run < nc)) then none else
      (climb H dflt paths descentFuel ((leaf_index_to_mt_index_and_peak_index run nc).1 / 2 ^ Nat.log2 rem) p ap).bind
        fun r => (np[(leaf_index_to_mt_index_and_peak_index run nc).2]?).bind fun q =>
          if q ≠ r.1 then some false
          else verifyPeaks H dflt paths nc np rest (rem - 2 ^ Nat.log2 rem) (run + 2 ^ Nat.log2 rem) r.2 := by
  rw [verifyPeaks, verifyStep]
  by_cases h0 : rem = 0
  · rw [if_pos h0, if_pos h0]
  · rw [if_neg h0, if_neg h0]
    dsimp only
    generalize leaf_index_to_mt_index_and_peak_index run nc = mp
    by_cases hr : (!(decide (run < nc))) = true
    · rw [if_pos hr, if_pos hr]
    · rw [if_neg hr, if_neg hr]
      generalize climb H dflt paths descentFuel (mp.1 / 2 ^ Nat.log2 rem) p ap = c
      cases c with
      | none => rfl
      | some r =>
        obtain ⟨node, ap'⟩ := r
        generalize np[mp.2]? = q
        cases q with
        | none => rfl
        | some q =>
          by_cases hq : q ≠ node
          · simp only [Option.bind_some, if_pos hq]
          · simp only [Option.bind_some, if_neg hq]

omit [DecidableEq D] H d0 dflt in
/-- gluing the inner loop to what follows it, over variables only: `lok`/`l` the regenerated loop's flag and value, `c` the
    hand model's `climb`, `G`/`Gok` the regenerated continuation, `V` the hand model's -/
theorem step_glue {β : Type} (lok : Bool) (l : Option (Nat × Nat × D)) (c : Option (D × Nat))
    (hcl : outcome lok l = c.map (fun r => (r.2, 1, r.1)))
    (G : Nat × Nat × D → Option β) (Gok : Nat × Nat × D → Bool) (F : β → Option Bool) (V : D × Nat → Option Bool)
    (hrec : ∀ node ap', c = some (node, ap') → (outcome (Gok (ap', 1, node)) (G (ap', 1, node))).bind F = V (node, ap')) :
    (outcome (lok && l.elim true Gok) (l.bind G)).bind F = c.bind V := by
  cases c with
  | none =>
    cases lok with
    | false => rfl
    | true =>
      rw [outcome_true, Option.map_none] at hcl
      subst hcl
      rfl
  | some r =>
    obtain ⟨node, ap'⟩ := r
    cases lok with
    | false => cases hcl
    | true =>
      rw [outcome_true, Option.map_some] at hcl
      subst hcl
      exact hrec node ap' rfl

omit H d0 dflt in
/-- the end of one round (`new_peaks[new_peak_index] != current_node`), over variables only -/
theorem round_end {β : Type} (d0 : D) (np : List D) (pk : Nat) (node : D) (gok : Bool) (g : Option β) (F : β → Option Bool)
    (e : β) (hF : F e = some false) (v : Option Bool) (hrec : (outcome gok g).bind F = v) :
    (outcome (decide (pk < np.length) && if (np.getD pk d0 != node) = true then true else gok)
        (if (np.getD pk d0 != node) = true then some e else g)).bind F
      = (np[pk]?).bind fun q => if q ≠ node then some false else v := by
  by_cases hpk : pk < np.length
  · have hg : np.getD pk d0 = np[pk] := by
      rw [List.getD_eq_getElem?_getD, List.getElem?_eq_getElem hpk]; rfl
    rw [hg, List.getElem?_eq_getElem hpk]
    simp only [hpk, decide_true, Bool.true_and, Option.bind_some]
    by_cases hq : np[pk] ≠ node
    · have hbq : (np[pk] != node) = true := by rw [bne_iff_ne]; exact hq
      rw [if_pos hbq, if_pos hbq, if_pos hq, outcome_true]
      exact hF
    · have hbq : ¬ ((np[pk] != node) = true) := by rw [bne_iff_ne]; exact hq
      rw [if_neg hbq, if_neg hbq, if_neg hq]
      exact hrec
  · rw [List.getElem?_eq_none (Nat.le_of_not_lt hpk)]
    simp only [hpk, decide_false, Bool.false_and, outcome_false]
    rfl

/-- the regenerated `for old_peak` loop followed by the final `ap_index == self.paths.len()` = the hand model's
    `verifyPeaks`, for every list of old peaks, as long as the counters cannot overflow (invariants of the caller;
    65 = `descentFuel`: every round moves `ap` by at most the fuel of the inner loop) -/
theorem for_eq (paths : List D) (nc : Nat) (np : List D) (hnc : nc < 2 ^ 64) : ∀ (rest : List D) (rem run ap : Nat),
    run + rem < 2 ^ 64 → ap + 65 * rest.length < 2 ^ 64 →
    (outcome (Loops.mmrsp_verify_for_ok H d0 dflt paths (nc, np) rest ap run rem)
        (Loops.mmrsp_verify_for H d0 dflt paths (nc, np) rest ap run rem)).bind (finish paths.length)
      = verifyPeaks H dflt paths nc np rest rem run ap := by
  intro rest
  induction rest with
  | nil => intro rem run ap _ _; rfl
  | cons p rest ih =>
    intro rem run ap hrr hap
    rw [Loops.mmrsp_verify_for, Loops.mmrsp_verify_for_ok, verifyPeaks_cons]
    dsimp only [Loops.mmra_num_leafs, Loops.mmra_peaks, Loops.mmra_num_leafs_ok, Loops.mmra_peaks_ok]
    by_cases h0 : rem = 0
    · have hb : (rem != 0) = false := by rw [h0]; rfl
      rw [if_pos h0, hb]
      rfl
    · have hb : (rem != 0) = true := by rw [bne_iff_ne]; exact h0
      have hh : Nat.log2 rem < 64 := TF.Mmr.log2_lt_64 rem (by omega) (by omega)
      have hle : 2 ^ Nat.log2 rem ≤ rem := Nat.log2_self_le h0
      have hm64 : Nat.log2 rem % 64 = Nat.log2 rem := Nat.mod_eq_of_lt hh
      have hshl : 1 * 2 ^ (Nat.log2 rem % 64) % 18446744073709551616 = 2 ^ Nat.log2 rem := by
        rw [TF.GenBridge.shl_one, hm64]
      have hshl' : 1 * 2 ^ Nat.log2 rem % 18446744073709551616 = 2 ^ Nat.log2 rem := by
        rw [hm64] at hshl; exact hshl
      have hd1 : decide (Nat.log2 rem < 64) = true := decide_eq_true hh
      have hd2 : decide (2 ^ Nat.log2 rem ≤ rem) = true := decide_eq_true hle
      have hsub : (rem + 18446744073709551616 - 2 ^ Nat.log2 rem) % 18446744073709551616 = rem - 2 ^ Nat.log2 rem := by
        omega
      have hd3 : decide (run + 2 ^ Nat.log2 rem < 18446744073709551616) = true := by
        simp only [decide_eq_true_eq]; omega
      have hadd : (run + 2 ^ Nat.log2 rem) % 18446744073709551616 = run + 2 ^ Nat.log2 rem :=
        Nat.mod_eq_of_lt (by omega)
      rw [if_neg h0]
      simp only [hb, hm64, hshl', hd1, hd2, hsub, hd3, hadd, Bool.true_and, Bool.and_self]
      by_cases hrun : run < nc
      · have hio := (TF.Mmr.mt_spec run nc hrun hnc).2
        have hdr : (!(decide (run < nc))) = false := by simp [hrun]
        rw [hio, hdr]
        simp only [Bool.true_and, Bool.false_eq_true, if_false]
        generalize (leaf_index_to_mt_index_and_peak_index run nc).1 = mt1
        generalize (leaf_index_to_mt_index_and_peak_index run nc).2 = pk
        have hcl := climb_eq H d0 dflt paths 65 ap (mt1 / 2 ^ Nat.log2 rem) p (by simp only [List.length_cons] at hap; omega)
        have hle65 := climb_ap_le H dflt paths 65 (mt1 / 2 ^ Nat.log2 rem) p ap
        have hf : descentFuel = 65 := rfl
        rw [hf]
        generalize climb H dflt paths 65 (mt1 / 2 ^ Nat.log2 rem) p ap = c at hcl hle65
        generalize Loops.mmrsp_verify_loop2_ok H d0 dflt paths 65 ap (mt1 / 2 ^ Nat.log2 rem) p = lok at hcl
        generalize Loops.mmrsp_verify_loop2 H d0 dflt paths 65 ap (mt1 / 2 ^ Nat.log2 rem) p = l at hcl
        refine step_glue lok l c hcl _ _ (finish paths.length) _ ?_
        intro node ap' hc
        have hap' : ap' ≤ ap + 65 := hle65 (node, ap') hc
        exact round_end d0 np pk node _ _ (finish paths.length) (Except.error false) rfl _
          (ih (rem - 2 ^ Nat.log2 rem) (run + 2 ^ Nat.log2 rem) ap' (by omega)
            (by simp only [List.length_cons] at hap; omega))
      · have hio : leaf_index_to_mt_index_and_peak_index_ok run nc = false := by
          unfold leaf_index_to_mt_index_and_peak_index_ok
          have : decide (run < nc) = false := decide_eq_false hrun
          rw [this]; rfl
        have hdr : (!(decide (run < nc))) = true := by simp [hrun]
        rw [hio, hdr]
        rfl

omit [DecidableEq D] H d0 dflt in
/-- the checks in front of the loop, over variables only (`pcn`/`pco` the popcounts, `fok`/`f` the loop's flag and value) -/
theorem verify_head (oc nc pcn pco nplen oplen : Nat) (fok : Bool) (f : Option (Except Bool (Nat × Nat × Nat)))
    (plen : Nat) (v : Option Bool) (hrec : (outcome fok f).bind (finish plen) = v) :
    outcome (if decide (oc > nc) = true then true
        else decide (nplen < 4294967296) &&
          if (pcn != nplen % 4294967296) = true then true
          else if (pco != oplen) = true then true else fok)
      (if decide (oc > nc) = true then some false
        else if (pcn != nplen % 4294967296) = true then some false
        else if (pco != oplen) = true then some false
        else f.bind fun t => TF.RustCtl.flow t (fun r => some r) (fun s => some (s.1 == plen)))
      = if oc > nc then some false else
        if nplen ≥ 2 ^ 32 then none else
        if pcn ≠ nplen then some false else
        if pco ≠ oplen then some false else v := by
  by_cases h1 : oc > nc
  · have : decide (oc > nc) = true := decide_eq_true h1
    rw [if_pos this, if_pos this, if_pos h1]; rfl
  · have hd : ¬ (decide (oc > nc) = true) := by simpa using h1
    rw [if_neg hd, if_neg hd, if_neg h1]
    by_cases hlen : nplen ≥ 2 ^ 32
    · have : decide (nplen < 4294967296) = false := by
        simp only [decide_eq_false_iff_not]; omega
      rw [if_pos hlen, this]; rfl
    · have hl : decide (nplen < 4294967296) = true := by
        simp only [decide_eq_true_eq]; omega
      have hmod : nplen % 4294967296 = nplen := Nat.mod_eq_of_lt (by omega)
      rw [if_neg hlen, hl, hmod, Bool.true_and]
      by_cases hpn : pcn ≠ nplen
      · have : (pcn != nplen) = true := by rw [bne_iff_ne]; exact hpn
        rw [if_pos this, if_pos this, if_pos hpn]; rfl
      · have : ¬ ((pcn != nplen) = true) := by rw [bne_iff_ne]; exact hpn
        rw [if_neg this, if_neg this, if_neg hpn]
        by_cases hpo : pco ≠ oplen
        · have : (pco != oplen) = true := by rw [bne_iff_ne]; exact hpo
          rw [if_pos this, if_pos this, if_pos hpo]; rfl
        · have : ¬ ((pco != oplen) = true) := by rw [bne_iff_ne]; exact hpo
          rw [if_neg this, if_neg this, if_neg hpo]
          rw [← hrec]
          cases fok with
          | false => rfl
          | true =>
            cases f with
            | none => rfl
            | some t => rfl

/-- **`MmrSuccessorProof::verify`** regenerated from source = hand model (a panic is `none`): every `H`, every list of
    digests, every pair of accumulators with `u64` leaf counts (any peak lists) -/
theorem gen_succ_verify_eq (paths : List D) (oc : Nat) (op : List D) (nc : Nat) (np : List D)
    (hoc : oc < 2 ^ 64) (hnc : nc < 2 ^ 64) :
    outcome (Loops.mmrsp_verify_ok H d0 dflt paths (oc, op) (nc, np)) (Loops.mmrsp_verify H d0 dflt paths (oc, op) (nc, np))
      = verify H dflt paths ⟨oc, op⟩ ⟨nc, np⟩ := by
  unfold Loops.mmrsp_verify Loops.mmrsp_verify_ok verify
  simp only [Loops.mmra_num_leafs, Loops.mmra_peaks, Loops.mmra_num_leafs_ok, Loops.mmra_peaks_ok, Bool.true_and,
    Bool.and_self]
  by_cases hpo : TF.popCount oc = op.length
  · have hle := TF.Mmr.popCount_le_bits 64 oc hoc
    exact verify_head oc nc (TF.popCount nc) (TF.popCount oc) np.length op.length _ _ paths.length _
      (for_eq H d0 dflt paths nc np hnc op oc 0 0 (by omega) (by omega))
  · -- the old peak list has the wrong length: `verify` answers before the loop, whatever the loop would do
    have key := verify_head oc nc (TF.popCount nc) (TF.popCount oc) np.length op.length
      (Loops.mmrsp_verify_for_ok H d0 dflt paths (nc, np) op 0 0 oc)
      (Loops.mmrsp_verify_for H d0 dflt paths (nc, np) op 0 0 oc) paths.length _ rfl
    rw [if_pos hpo] at key
    rw [if_pos hpo]
    exact key

end TF.GenBridge.MmrSucc
