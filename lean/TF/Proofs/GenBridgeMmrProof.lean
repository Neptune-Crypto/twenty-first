import TF.Gen.MmrProofLoops
import TF.Model.MmrMember
import TF.Proofs.GenBridgeMmr
import TF.Proofs.GenBridgeMmrPeaks
/-!
# Bridge: the MMR proof machinery *as regenerated from source* = the hand-written models (C05, C11, C12)

`TF/Gen/MmrProofLoops.lean` is written by `tools/rs2lean_mmr.py` from the text of `mmr_membership_proof.rs`,
`mmr_accumulator.rs` and `mmr_successor_proof.rs` on every run: digests opaque (`D`), `Tip5::hash_pair` the parameter `H`,
`Digest::default()` the parameter `dflt`, `d0` the value read after a panic (index out of range: the `_ok` twin is false
there); `MmrMembershipProof` / `MmrSuccessorProof` are their single `Vec<Digest>` field, `MmrAccumulator` is the pair
`(leaf_count, peaks)`.  The index functions they call are the ones regenerated into `TF/Gen/MmrIndex.lean` /
`TF/Gen/MmrLoops.lean`, the peak calculations the ones in `TF/Gen/MmrPeaksLoops.lean`.

With `outcome ok v = if ok then v else none` (a panic of the Rust code is `none`, as in the hand models) the theorems say,
for **every** `H`, `d0` and input, `outcome (Loops.f_ok ..) (Loops.f ..) = Model.f ..`: every theorem of C05/C11/C12 about
the hand model is a theorem about the current source text, and a one-token change of a translated function changes the
left-hand sides — the proofs are re-checked or break.
-/
namespace TF.GenBridge.MmrProof
open TF TF.Gen TF.Model.Mmr TF.Model.MmrE TF.GenBridge.MmrPeaks

variable {D : Type} [DecidableEq D] (H : D → D → D) (d0 : D)

theorem two64 : (18446744073709551616 : Nat) = 2 ^ 64 := TF.GenBridge.W64_eq
theorem two32 : (4294967296 : Nat) = 2 ^ 32 := TF.GenBridge.W32_eq

omit [DecidableEq D] in
theorem foldMt_succ (f mt : Nat) (acc : D) (path : List D) :
    foldMt H (f + 1) mt acc path = if mt = 1 then some acc else
      match path with
      | [] => none
      | s :: ss => foldMt H f (mt / 2) (if mt % 2 = 0 then H acc s else H s acc) ss := rfl

omit [DecidableEq D] in
/-- the regenerated `while mt_index != 1` loop (indexing `authentication_path[i]`, `i += 1`) = the hand model's recursion
    over the rest of the path, with the same fuel: running out of the path is a panic on both sides -/
theorem verify_loop_eq (ap : List D) (hap : ap.length < 2 ^ 64) : ∀ (f mt : Nat) (acc : D) (i : Nat),
    (outcome (Loops.mmrmp_verify_loop_ok H d0 ap f mt i acc) (Loops.mmrmp_verify_loop H d0 ap f mt i acc)).map
        (fun t => t.2.2) = foldMt H f mt acc (ap.drop i) := by
  intro f
  induction f with
  | zero => intro mt acc i; rfl
  | succ f ih =>
    intro mt acc i
    rw [Loops.mmrmp_verify_loop, Loops.mmrmp_verify_loop_ok, foldMt_succ]
    by_cases hm : mt = 1
    · subst hm
      rw [if_neg (by simp), if_neg (by simp), if_pos rfl]
      rfl
    · have hne : (mt != 1) = true := by simpa using hm
      rw [if_pos hne, if_pos hne, if_neg hm]
      by_cases hi : i < ap.length
      · have hd : decide (i < ap.length) = true := by simpa using hi
        have hi1 : decide (i + 1 < 18446744073709551616) = true := by
          simp only [decide_eq_true_eq]; omega
        have hmod : (i + 1) % 18446744073709551616 = i + 1 := Nat.mod_eq_of_lt (by omega)
        have h2ne : ((2 : Nat) != 0) = true := rfl
        have hacc : (if (mt % 2 == 0) = true then H acc (ap.getD i d0) else H (ap.getD i d0) acc)
            = (if mt % 2 = 0 then H acc (ap.getD i d0) else H (ap.getD i d0) acc) := by
          by_cases hev : mt % 2 = 0 <;> simp [hev]
        simp only [hd, hi1, hmod, h2ne, Bool.true_and]
        rw [hacc, TF.drop_cons_getD ap d0 i hi]
        exact ih (mt / 2) _ (i + 1)
      · have hd : decide (i < ap.length) = false := by simpa using hi
        simp only [hd, Bool.false_and, outcome_false, Option.map_none]
        rw [List.drop_of_length_le (by omega)]

/-- the last two steps of `memberVerify` (`peaks[peak_index]`, comparison) in `Option.bind` form -/
def memberFinish (peaks : List D) (pk : Nat) (r : Option D) : Option Bool :=
  r.bind fun acc => (peaks[pk]?).bind fun p => some (p == acc)

/-- `memberVerify` with its two final `match`es written as `memberFinish` (so that the proofs below never compare two
    different auxiliary matchers) -/
theorem memberVerify_unfold (path : List D) (i : Nat) (leaf : D) (peaks : List D) (n : Nat) :
    memberVerify H path i leaf peaks n =
      if i ≥ n then some false else
      if peaks.length ≥ 2 ^ 32 then none else
      if TF.popCount n ≠ peaks.length then some false else
      if Nat.log2 (leaf_index_to_mt_index_and_peak_index i n).1 ≠ path.length then some false else
      memberFinish peaks (leaf_index_to_mt_index_and_peak_index i n).2
        (foldMt H descentFuel (leaf_index_to_mt_index_and_peak_index i n).1 leaf path) := by
  unfold memberVerify memberFinish
  dsimp only
  generalize leaf_index_to_mt_index_and_peak_index i n = mp
  generalize foldMt H descentFuel mp.1 leaf path = r
  generalize peaks[mp.2]? = q
  cases r with
  | none => rfl
  | some a => cases q <;> rfl

omit H in
theorem member_finish_eq (lok : Bool) (l : Option (Nat × Nat × D)) (peaks : List D) (pk : Nat) :
    outcome (lok && l.elim true fun _ => decide (pk < peaks.length))
        (l.bind fun t => some (peaks.getD pk d0 == t.2.2))
      = memberFinish peaks pk (Option.map (fun t => t.2.2) (outcome lok l)) := by
  unfold memberFinish
  cases lok with
  | false => rfl
  | true =>
    cases l with
    | none => rfl
    | some t =>
      by_cases hp : pk < peaks.length
      · have hd : decide (pk < peaks.length) = true := decide_eq_true hp
        rw [List.getD_eq_getElem?_getD, List.getElem?_eq_getElem hp]
        show outcome (true && decide (pk < peaks.length)) _ = _
        rw [hd]
        rfl
      · have hd : decide (pk < peaks.length) = false := decide_eq_false hp
        rw [List.getElem?_eq_none (Nat.le_of_not_lt hp)]
        show outcome (true && decide (pk < peaks.length)) _ = _
        rw [hd]
        rfl

/-- everything after the index computation, for an arbitrary Merkle-tree index `mt ≥ 1`, peak index, popcount and fuel -/
theorem member_core (fuel pc mt pk : Nat) (path : List D) (leaf : D) (peaks : List D) (hmt1 : 1 ≤ mt)
    (hap : path.length < 2 ^ 64) :
    outcome (decide (peaks.length < 4294967296) &&
        if (pc != peaks.length % 4294967296) = true then true
        else mt != 0 &&
          if (Nat.log2 mt != path.length) = true then true
          else Loops.mmrmp_verify_loop_ok H d0 path fuel mt 0 leaf &&
            (Loops.mmrmp_verify_loop H d0 path fuel mt 0 leaf).elim true fun _ => decide (pk < peaks.length))
      (if (pc != peaks.length % 4294967296) = true then some false
        else if (Nat.log2 mt != path.length) = true then some false
        else (Loops.mmrmp_verify_loop H d0 path fuel mt 0 leaf).bind fun a => some (peaks.getD pk d0 == a.2.2))
      = if peaks.length ≥ 2 ^ 32 then none else
        if pc ≠ peaks.length then some false else
        if Nat.log2 mt ≠ path.length then some false else
        memberFinish peaks pk (foldMt H fuel mt leaf path) := by
  by_cases hlen : peaks.length ≥ 2 ^ 32
  · have : decide (peaks.length < 4294967296) = false := by
      simp only [decide_eq_false_iff_not]; omega
    rw [if_pos hlen, this]; rfl
  · have hl : decide (peaks.length < 4294967296) = true := by
      simp only [decide_eq_true_eq]; omega
    have hmod : peaks.length % 4294967296 = peaks.length := Nat.mod_eq_of_lt (by omega)
    rw [if_neg hlen, hl, hmod, Bool.true_and]
    by_cases hpc : pc ≠ peaks.length
    · have : (pc != peaks.length) = true := by rw [bne_iff_ne]; exact hpc
      rw [if_pos this, if_pos this, if_pos hpc]; rfl
    · have : ¬ ((pc != peaks.length) = true) := by rw [bne_iff_ne]; exact hpc
      rw [if_neg this, if_neg this, if_neg hpc]
      have hmt0 : (mt != 0) = true := by rw [bne_iff_ne]; omega
      rw [hmt0, Bool.true_and]
      by_cases hlg : Nat.log2 mt ≠ path.length
      · have : (Nat.log2 mt != path.length) = true := by rw [bne_iff_ne]; exact hlg
        rw [if_pos this, if_pos this, if_pos hlg]; rfl
      · have : ¬ ((Nat.log2 mt != path.length) = true) := by rw [bne_iff_ne]; exact hlg
        rw [if_neg this, if_neg this, if_neg hlg]
        have hloop := verify_loop_eq H d0 path hap fuel mt leaf 0
        rw [List.drop_zero] at hloop
        rw [← hloop]
        exact member_finish_eq d0 _ _ peaks pk

/-- **`MmrMembershipProof::verify`** regenerated from source = hand model (a panic is `none`): every `H`, every path, leaf
    index, leaf, peak list and `u64` leaf count -/
theorem gen_member_verify_eq (path : List D) (i : Nat) (leaf : D) (peaks : List D) (n : Nat)
    (hn : n < 2 ^ 64) (hap : path.length < 2 ^ 64) :
    outcome (Loops.mmrmp_verify_ok H d0 path i leaf peaks n) (Loops.mmrmp_verify H d0 path i leaf peaks n)
      = memberVerify H path i leaf peaks n := by
  rw [memberVerify_unfold]
  unfold Loops.mmrmp_verify Loops.mmrmp_verify_ok
  by_cases hin : i ≥ n
  · have : decide (i ≥ n) = true := by simpa using hin
    rw [if_pos this, if_pos this, if_pos hin]; rfl
  · have hdec : ¬ (decide (i ≥ n) = true) := by simpa using hin
    have hspec := TF.Mmr.mt_spec i n (by omega) hn
    rw [if_neg hdec, if_neg hdec, if_neg hin]
    simp only [hspec.2, Bool.true_and]
    have hmt1 : 1 ≤ (leaf_index_to_mt_index_and_peak_index i n).1 := by
      rw [hspec.1]
      have := Nat.two_pow_pos (i ^^^ n).log2
      show 1 ≤ 2 ^ (i ^^^ n).log2 + i % 2 ^ (i ^^^ n).log2
      omega
    exact member_core H d0 65 (TF.popCount n) _ _ path leaf peaks hmt1 hap

/-! ### `get_node_indices`, `get_direct_path_indices`, `get_peak_index_and_height` (values; release arithmetic on both sides) -/

omit [DecidableEq D] in
theorem node_indices_for_eq : ∀ (k it ni : Nat) (acc : List Nat),
    (Loops.mmrmp_get_node_indices_for H d0 k it ni acc).map (fun t => t.2) = get_node_indices.go k ni acc := by
  intro k
  induction k with
  | zero => intro it ni acc; rfl
  | succ k ih =>
    intro it ni acc
    rw [Loops.mmrmp_get_node_indices_for, get_node_indices.go, siblingAndParent, TF.GenBridge.gen_rll_own_eq]
    cases right_lineage_length_and_own_height ni with
    | none => rfl
    | some p =>
      obtain ⟨a, b⟩ := p
      simp only [Option.bind_some]
      by_cases ha : a = 0
      · subst ha
        have h0 : ((0 : Nat) != 0) = false := rfl
        simp only [h0, Bool.false_eq_true, if_false, ne_eq, not_true_eq_false]
        rw [ih]
        simp only [add64, shl1, inc32, W64, W32, TF.GenBridge.shl_one]
      · have h1 : (a != 0) = true := by rw [bne_iff_ne]; exact ha
        simp only [h1, if_true, ne_eq, ha, not_false_eq_true]
        rw [ih]
        simp only [add64, W64]

omit [DecidableEq D] in
/-- **`get_node_indices`** regenerated from source = hand model, every input -/
theorem gen_get_node_indices_eq (path : List D) (li : Nat) :
    Loops.mmrmp_get_node_indices H d0 path li = get_node_indices li path.length := by
  unfold Loops.mmrmp_get_node_indices get_node_indices
  dsimp only
  rw [Nat.sub_zero, ← node_indices_for_eq H d0 path.length 0 (leaf_index_to_node_index li) []]
  cases Loops.mmrmp_get_node_indices_for H d0 path.length 0 (leaf_index_to_node_index li) [] <;> rfl

omit [DecidableEq D] in
theorem direct_path_for_eq : ∀ (k it ni : Nat) (acc : List Nat),
    (Loops.mmrmp_get_direct_path_indices_for H d0 k it ni acc).map (fun t => t.2)
      = get_direct_path_indices.go k ni acc := by
  intro k
  induction k with
  | zero => intro it ni acc; rfl
  | succ k ih =>
    intro it ni acc
    rw [Loops.mmrmp_get_direct_path_indices_for, get_direct_path_indices.go, TF.GenBridge.gen_parent_eq]
    cases parent ni with
    | none => rfl
    | some p =>
      simp only [Option.bind_some]
      exact ih _ _ _

omit [DecidableEq D] in
/-- **`get_direct_path_indices`** regenerated from source = hand model, every input -/
theorem gen_get_direct_path_indices_eq (path : List D) (li : Nat) :
    Loops.mmrmp_get_direct_path_indices H d0 path li = get_direct_path_indices li path.length := by
  unfold Loops.mmrmp_get_direct_path_indices get_direct_path_indices
  dsimp only
  rw [Nat.sub_zero, ← direct_path_for_eq H d0 path.length 0 (leaf_index_to_node_index li) [leaf_index_to_node_index li]]
  cases Loops.mmrmp_get_direct_path_indices_for H d0 path.length 0 (leaf_index_to_node_index li)
    [leaf_index_to_node_index li] <;> rfl

omit [DecidableEq D] in
/-- **`get_peak_index_and_height`** regenerated from source = hand model, every input; the one check of its own,
    `last().unwrap()` on an empty vector, is a panic = `none` (release arithmetic in the index functions on both sides) -/
theorem gen_get_peak_index_and_height_eq (path : List D) (li : Nat) :
    outcome ((Loops.mmrmp_get_direct_path_indices H d0 path li).elim true fun l => !l.isEmpty)
        (Loops.mmrmp_get_peak_index_and_height H d0 path li) = getPeakIndexAndHeight path li := by
  unfold Loops.mmrmp_get_peak_index_and_height getPeakIndexAndHeight
  rw [gen_get_direct_path_indices_eq]
  cases get_direct_path_indices li path.length with
  | none => rfl
  | some l =>
    cases l with
    | nil => rfl
    | cons a t =>
      simp only [Option.elim_some, List.isEmpty_cons, Bool.not_false, outcome_true, Option.bind_some, W32]
      rw [List.getLastD_eq_getLast?]
      have hne : (a :: t).getLast? ≠ none := by simp
      cases hq : (a :: t).getLast? with
      | none => exact absurd hq hne
      | some x => rfl

end TF.GenBridge.MmrProof
