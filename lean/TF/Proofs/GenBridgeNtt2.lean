import TF.Proofs.GenBridgeNtt
import TF.Proofs.OptionIte
/-!
The functions of `math/ntt.rs` as regenerated from source = the model (C06), assembled from the loops of
`GenBridgeNtt.lean`: `ntt_unchecked`, `intt_noswap`, `bitreverse_order`, `unscale`, the wrappers `ntt` / `intt`, `ntt_noswap`.
The statements have the form `(gen x).bind (fun r => if gen_ok x then some r else none) = (model x).map Array.toList`:
`none` on the left is fuel running out (never) or a panic (`_ok` false), on the right a panic of the model.  Core Lean only.
-/
namespace TF.GenBridge.Ntt
open TF TF.Gen TF.Model.Ntt

variable {σ α : Type}

theorem unchecked_loop3_eq (ops : Ops σ α) (m : Nat) (hm : 0 < m) (w_m : σ) (a : Array α) (B : Nat)
    (hlen : a.size = B*(2*m)) (hU : a.size < 4294967296) (fuel : Nat) (hf : B + 1 ≤ fuel) :
    Loops.ntt_unchecked_loop3 ops a.size m w_m fuel a.toList 0
      = some ((stage ops m (powers ops w_m m) a).toList, a.size) ∧
    Loops.ntt_unchecked_loop3_ok ops a.size m w_m fuel a.toList 0 = true :=
  blockLoop_stage ops 4294967296 m hm w_m a _ _ (fun k y => unchecked_for4_eq ops m w_m k m 0 y ops.sone) _ _
    (fun _ _ _ => rfl) (fun _ _ _ => rfl) B hlen hU fuel hf

theorem intt_loop3_eq (ops : Ops σ α) (root : Nat → Option σ) (m : Nat) (hm : 0 < m) (w_m : σ) (a : Array α) (B : Nat)
    (hlen : a.size = B*(2*m)) (hU : a.size < 18446744073709551616) (fuel : Nat) (hf : B + 1 ≤ fuel) :
    Loops.intt_noswap_loop3 ops root a.size m w_m fuel a.toList 0
      = some ((stage ops m (powers ops w_m m) a).toList, a.size) ∧
    Loops.intt_noswap_loop3_ok ops root a.size m w_m fuel a.toList 0 = true :=
  blockLoop_stage ops 18446744073709551616 m hm w_m a _ _ (fun k y => intt_noswap_for4_eq ops root m w_m k m 0 y ops.sone) _ _
    (fun _ _ _ => rfl) (fun _ _ _ => rfl) B hlen hU fuel hf

theorem unchecked_for2_eq (ops : Ops σ α) (omega : σ) (N : Nat) (hN : N < 4294967296) (n m it : Nat) (a : Array α)
    (hm : 0 < m) (hmN : m * 2^n = N) (ha : a.size = N) :
    Loops.ntt_unchecked_for2 ops omega N n it a.toList m = some ((stagesLoop ops omega N n m a).toList, m * 2^n) ∧
    Loops.ntt_unchecked_for2_ok ops omega N n it a.toList m = true :=
  stageLoop_eq ops 4294967296 1 N omega (Nat.le_refl 1) hN (Loops.ntt_unchecked_loop3 ops N) (Loops.ntt_unchecked_loop3_ok ops N)
    (fun m w_m a B fuel hm hlen ha hf => by subst ha; exact unchecked_loop3_eq ops m hm w_m a B hlen hN fuel hf)
    (fun m => decide (2*m < 4294967296) && ((2*m) % 4294967296 != 0))
    (fun m hm h2 => by
      have h : 2*m < 4294967296 := by omega
      rw [decide_eq_true h, Nat.mod_eq_of_lt h, Bool.true_and, bne_iff_ne]; omega)
    _ _ (fun _ _ _ => rfl) (fun _ _ _ _ => rfl) (fun _ _ _ => rfl) (fun _ _ _ _ => rfl) n m it a hm hmN ha

/-- the stage loop of `intt_noswap` = the model's `stagesLoop`; finishes, nothing overflows, the exponent of
    `mod_pow_u32` fits a `u32` (`len ≤ 2^32`) -/
theorem intt_for2_eq (ops : Ops σ α) (root : Nat → Option σ) (omega : σ) (N : Nat) (hN : N ≤ 4294967296) (n m it : Nat)
    (a : Array α) (hm : 0 < m) (hmN : m * 2^n = N) (ha : a.size = N) :
    Loops.intt_noswap_for2 ops root N omega n it a.toList m = some ((stagesLoop ops omega N n m a).toList, m * 2^n) ∧
    Loops.intt_noswap_for2_ok ops root N omega n it a.toList m = true :=
  stageLoop_eq ops 18446744073709551616 65 N omega (by decide) (by omega) (Loops.intt_noswap_loop3 ops root N)
    (Loops.intt_noswap_loop3_ok ops root N)
    (fun m w_m a B fuel hm hlen ha hf => by
      subst ha; exact intt_loop3_eq ops root m hm w_m a B hlen (by omega) fuel hf)
    (fun m => (decide (2*m < 18446744073709551616) && ((2*m) % 18446744073709551616 != 0)) &&
      decide (N / ((2*m) % 18446744073709551616) < 4294967296))
    (fun m hm h2 => by
      have h : 2*m < 18446744073709551616 := by omega
      rw [decide_eq_true h, Nat.mod_eq_of_lt h, decide_eq_true (Nat.div_lt_of_lt_mul (by omega)), Bool.true_and,
        Bool.and_true, bne_iff_ne]
      omega)
    _ _ (fun _ _ _ => rfl) (fun _ _ _ _ => rfl) (fun _ _ _ => rfl) (fun _ _ _ _ => rfl) n m it a hm hmN ha

theorem gen_ntt_unchecked_eq (ops : Ops σ α) (x : Array α) (omega : σ) (log : Nat) (hl : log ≤ 31) (hx : x.size = 2^log) :
    (Loops.ntt_unchecked ops x.toList omega log).bind
        (fun r => if Loops.ntt_unchecked_ok ops x.toList omega log then some r else none)
      = (nttUnchecked ops x omega log).map Array.toList := by
  have hle : (2:Nat)^log ≤ 2147483648 := Nat.pow_le_pow_right (by decide) hl
  have hsl : x.toList.length % 4294967296 = 2^log := by
    rw [Array.length_toList, hx]; exact Nat.mod_eq_of_lt (by omega)
  have hsw := unchecked_for_eq ops log (by omega) (2^log) 0 x
  simp only [Loops.ntt_unchecked, Loops.ntt_unchecked_ok, hsl, Nat.sub_zero, nttUnchecked, bitrevPermute, hx]
  cases hs : swapLoop log (2^log) 0 x with
  | none =>
    rw [hs] at hsw
    have hf := ite_some_none_eq_none hsw
    simp only [hf, Bool.false_and, Bool.false_eq_true, if_false, Option.map_none]
    cases Loops.ntt_unchecked_for2 ops omega (2 ^ log) log 0 (Loops.ntt_unchecked_for ops log (2 ^ log) 0 x.toList) 1 <;> rfl
  | some y =>
    rw [hs] at hsw
    obtain ⟨hok, hval⟩ := ite_some_none_eq_some hsw
    obtain ⟨e, ok⟩ := unchecked_for2_eq ops omega (2^log) (by omega) log 1 0 y (by decide) (Nat.one_mul _)
      ((NttProofs.swapLoop_size log _ _ _ _ hs).trans hx)
    simp only [hok, hval, e, ok, Bool.and_self, if_true, Option.bind_some, Option.map_some]

/-- the empty slice (`ntt`/`intt` call `ntt_unchecked(x, ω, 0)` on it): nothing happens on either side -/
theorem gen_ntt_unchecked_empty (ops : Ops σ α) (omega : σ) :
    Loops.ntt_unchecked ops ([] : List α) omega 0 = some [] ∧ Loops.ntt_unchecked_ok ops ([] : List α) omega 0 = true ∧
    nttUnchecked ops (#[] : Array α) omega 0 = some #[] := ⟨rfl, rfl, rfl⟩

theorem bind_none_fun {β γ : Type} (o : Option β) : o.bind (fun _ => (none : Option γ)) = none := by
  cases o <;> rfl

/-- `intt_noswap` regenerated from source = the model: same panics (root missing, `inverse` of zero), finishes within its
    fuel, same values.  `hx`: if the root look-up succeeds on the length of `x`, that length is `0` or `2^L`, `L ≤ 32`.  It holds
    for every `x` of such a length whatever `root` is, and for every `x` when `root` is defined only on such lengths. -/
theorem gen_intt_noswap_of (ops : Ops σ α) (root : Nat → Option σ) (x : Array α)
    (hx : (root x.size).isSome = true → x = #[] ∨ ∃ L, L ≤ 32 ∧ x.size = 2^L) :
    (Loops.intt_noswap ops root x.toList).bind
        (fun r => if Loops.intt_noswap_ok ops root x.toList then some r else none)
      = (inttNoswap ops root x).map Array.toList := by
  have hlen : x.toList.length = x.size := Array.length_toList
  cases hr : root x.size with
  | none =>
    simp only [Loops.intt_noswap_ok, inttNoswap, hlen, hr, Option.isSome_none, Bool.false_and, Bool.and_false,
      Bool.false_eq_true, if_false, bind_none_fun, Option.map_none]
  | some w =>
    cases hi : ops.sinv w with
    | none =>
      simp only [Loops.intt_noswap_ok, inttNoswap, hlen, hr, hi, Option.getD_some, Option.isSome_none,
        Bool.false_and, Bool.and_false, Bool.false_eq_true, if_false, bind_none_fun, Option.map_none]
    | some wi =>
      rcases hx (by rw [hr]; rfl) with rfl | ⟨L, hL, hx⟩
      · have hr0 : root 0 = some w := hr
        simp [Loops.intt_noswap, Loops.intt_noswap_ok, inttNoswap, hr0, hi, Loops.intt_noswap_loop,
          Loops.intt_noswap_loop_ok, Loops.intt_noswap_for2, Loops.intt_noswap_for2_ok, ceilLog2, ceilLog2Aux, stagesLoop]
      · have hle : (2:Nat)^L ≤ 4294967296 := Nat.pow_le_pow_right (by decide) hL
        rw [hx] at hr hlen
        obtain ⟨e, ok, _⟩ := lognLoop_eq x.toList.length (by rw [hlen]; omega) _ _
          (fun f l => (rfl : Loops.intt_noswap_loop ops root x.toList (f+1) l = _))
          (fun f l => (rfl : Loops.intt_noswap_loop_ok ops root x.toList (f+1) l = _)) (2^L + 65) (by omega)
        obtain ⟨e2, ok2⟩ := intt_for2_eq ops root wi (2^L) hle L 1 0 x (by decide) (Nat.one_mul _) hx
        rw [hlen, NttProofs.ceilLog2_two_pow] at e
        simp only [Loops.intt_noswap, Loops.intt_noswap_ok, inttNoswap, hx, hlen, hr, hi, Option.getD_some,
          Option.isSome_some, e, ok, Option.bind_some, Option.elim_some, Nat.sub_zero, e2, ok2,
          decide_eq_true (by omega : 2^L < 18446744073709551616), Bool.and_self, if_true, Option.map_some,
          NttProofs.ceilLog2_two_pow]

theorem gen_bitreverse_order_eq (ops : Ops σ α) (a : Array α) (ha : a.size ≤ 2^63) :
    (Loops.ntt_bitreverse_order ops a.toList).bind
        (fun r => if Loops.ntt_bitreverse_order_ok ops a.toList then some r else none)
      = (bitreverseOrder a).map Array.toList := by
  have hlen : a.toList.length = a.size := Array.length_toList
  obtain ⟨e, ok, hb⟩ := lognLoop_eq a.toList.length (hlen ▸ ha) _ _
    (fun f l => (rfl : Loops.ntt_bitreverse_order_loop ops a.toList (f+1) l = _))
    (fun f l => (rfl : Loops.ntt_bitreverse_order_loop_ok ops a.toList (f+1) l = _)) 65 (Nat.le_refl _)
  rw [hlen] at e hb
  simp only [Loops.ntt_bitreverse_order, Loops.ntt_bitreverse_order_ok, e, ok, Option.bind_some, Option.elim_some,
    Nat.sub_zero, hlen, Bool.true_and, bitreverseOrder, bitrevPermute]
  exact bitreverse_order_for2_eq ops (ceilLog2 a.size) (by omega) a.size 0 a

theorem unscale_for_eq (ops : Ops σ σ) (ninv : σ) : ∀ n i (l : List σ), i + n ≤ l.length →
    Loops.ntt_unscale_for ops ninv n i l = mapLoop (fun a => ops.smul a ninv) ops.szero n i l ∧
    Loops.ntt_unscale_for_ok ops ninv n i l = true :=
  mapLoop_eq _ _ _ _ (fun _ _ => rfl) (fun _ _ _ => rfl) (fun _ _ => rfl) (fun _ _ _ => rfl)

/-- `unscale` regenerated from source = the model for every array of `BFieldElement`s (`σ = α`): `*a *= ninv` is the
    multiplication of the scalar type, which the model writes as `scale ninv a` — they agree when multiplication
    commutes (`hc`; for the executable base-field instance `bOps` this is commutativity of `fmul`); the panic
    (`inverse` of zero for the empty array) is the same -/
theorem gen_unscale_eq (ops : Ops σ σ) (hc : ∀ a w, ops.smul a w = ops.scale w a) (a : Array σ) :
    (if Loops.ntt_unscale_ok ops a.toList then some (Loops.ntt_unscale ops a.toList) else none)
      = (unscale ops a).map Array.toList := by
  have hlen : a.toList.length = a.size := by simp
  cases hi : ops.sinv (ops.sofNat a.size) with
  | none => simp only [Loops.ntt_unscale_ok, unscale, hlen, hi, Option.isSome_none, Bool.false_and, Bool.false_eq_true,
      if_false, Option.map_none]
  | some ninv =>
    obtain ⟨e, ok⟩ := unscale_for_eq ops ninv a.toList.length 0 a.toList (by omega)
    rw [mapLoop_all] at e
    have hf : (fun a => ops.smul a ninv) = ops.scale ninv := funext fun a => hc a ninv
    rw [hlen] at e ok
    simp only [Loops.ntt_unscale_ok, Loops.ntt_unscale, unscale, hlen, hi, Option.isSome_some, Option.getD_some,
      Nat.sub_zero, e, ok, Bool.and_self, if_true, Option.map_some, hf, Array.toList_map]

theorem isPow2_two_pow' (k : Nat) : TF.isPow2 (2^k) = true := NttProofs.isPow2_two_pow k

theorem run_eq_some {β : Type} {o : Option β} {c : Bool} {v : β}
    (h : o.bind (fun r => if c = true then some r else none) = some v) : o = some v ∧ c = true := by
  cases o with
  | none => cases h
  | some r =>
    cases c
    · cases h
    · simp only [Option.bind_some, if_true, Option.some.injEq] at h; exact ⟨by rw [h], rfl⟩

theorem run_eq_none {β : Type} {o : Option β} {c : Bool}
    (h : o.bind (fun r => if c = true then some r else none) = none) (ho : o.isSome = true) : c = false := by
  cases o with
  | none => cases ho
  | some r =>
    cases c
    · rfl
    · cases h

/-- `ntt_unchecked` on the lengths the wrappers admit (`0` with `log = 0`, or `2^k` with `k ≤ 31`) -/
theorem gen_ntt_unchecked_wrapped (ops : Ops σ α) (x : Array α) (omega : σ)
    (hx : x.size = 0 ∨ ∃ k, k ≤ 31 ∧ x.size = 2^k) :
    (Loops.ntt_unchecked ops x.toList omega (if x.size == 0 then 0 else Nat.log2 x.size)).bind
        (fun r => if Loops.ntt_unchecked_ok ops x.toList omega (if x.size == 0 then 0 else Nat.log2 x.size) then some r
          else none)
      = (nttUnchecked ops x omega (if x.size == 0 then 0 else Nat.log2 x.size)).map Array.toList := by
  rcases hx with h0 | ⟨k, hk, hx⟩
  · have : x = #[] := Array.eq_empty_of_size_eq_zero h0
    subst this
    rfl
  · have hne : (x.size == 0) = false := by
      rw [hx]; have := Nat.two_pow_pos k; simp
    rw [hne]
    simp only [Bool.false_eq_true, if_false, hx, Nat.log2_two_pow]
    exact gen_ntt_unchecked_eq ops x omega k hk hx

theorem gen_ntt_eq (ops : Ops σ α) (root : Nat → Option σ) (x : Array α) :
    (Loops.ntt_ntt ops root x.toList).bind (fun r => if Loops.ntt_ntt_ok ops root x.toList then some r else none)
      = (ntt ops root x).map Array.toList := by
  have hlen : x.toList.length = x.size := by simp
  simp only [Loops.ntt_ntt, Loops.ntt_ntt_ok, ntt, hlen]
  by_cases h1 : x.size < 4294967296
  · have h1' : ¬ (2^32 ≤ x.size) := by omega
    rw [if_neg h1']
    cases h2 : (x.size == 0 || TF.isPow2 x.size) with
    | false =>
      simp only [Bool.false_and, Bool.and_false, Bool.false_eq_true, if_false, bind_none_fun, Bool.not_false, if_true,
        Option.map_none]
    | true =>
      have hadm := (NttProofs.admissible_iff x.size).1 ⟨h1', h2⟩
      cases hr : root x.size with
      | none =>
        simp only [Option.isSome_none, Bool.false_and, Bool.and_false, Bool.false_eq_true, if_false, bind_none_fun,
          Bool.not_true, Option.map_none]
      | some w =>
        have hb := gen_ntt_unchecked_wrapped ops x w hadm
        simp only [h1, decide_true, Bool.true_and, Option.isSome_some, Option.getD_some, Bool.not_true,
          Bool.false_eq_true, if_false]
        rw [← hb]
        cases Loops.ntt_unchecked ops x.toList w (if (x.size == 0) = true then 0 else x.size.log2) <;> rfl
  · have h1' : 2^32 ≤ x.size := by omega
    rw [if_pos h1']
    simp only [h1, decide_false, Bool.false_and, Bool.false_eq_true, if_false, bind_none_fun, Option.map_none]

theorem intt_for_eq (ops : Ops σ α) (root : Nat → Option σ) (c : σ) : ∀ n i (l : List α), i + n ≤ l.length →
    Loops.ntt_intt_for ops root c n i l = mapLoop (ops.scale c) ops.zero n i l ∧
    Loops.ntt_intt_for_ok ops root c n i l = true :=
  mapLoop_eq _ _ _ _ (fun _ _ => rfl) (fun _ _ _ => rfl) (fun _ _ => rfl) (fun _ _ _ => rfl)

/-- `intt` regenerated from source = the model, for every vector: the checks of `ntt`, `omega.inverse()`, the
    regenerated `ntt_unchecked`, then `*elem *= BFieldElement::from(len).inverse_or_zero()` for every element -/
theorem gen_intt_eq (ops : Ops σ α) (root : Nat → Option σ) (x : Array α) :
    (Loops.ntt_intt ops root x.toList).bind (fun r => if Loops.ntt_intt_ok ops root x.toList then some r else none)
      = (intt ops root x).map Array.toList := by
  have hlen : x.toList.length = x.size := by simp
  simp only [Loops.ntt_intt, Loops.ntt_intt_ok, intt, hlen]
  by_cases h1 : x.size < 4294967296
  · have h1' : ¬ (2^32 ≤ x.size) := by omega
    rw [if_neg h1']
    cases h2 : (x.size == 0 || TF.isPow2 x.size) with
    | false =>
      simp only [Bool.false_and, Bool.and_false, Bool.false_eq_true, if_false, bind_none_fun, Bool.not_false, if_true,
        Option.map_none]
    | true =>
      have hadm := (NttProofs.admissible_iff x.size).1 ⟨h1', h2⟩
      cases hr : root x.size with
      | none =>
        simp only [Option.isSome_none, Bool.false_and, Bool.and_false, Bool.false_eq_true, if_false, bind_none_fun,
          Bool.not_true, Option.map_none]
      | some w =>
        cases hi : ops.sinv w with
        | none =>
          simp only [Option.isSome_some, Option.getD_some, hi, Option.isSome_none, Bool.false_and, Bool.and_false,
            Bool.false_eq_true, if_false, bind_none_fun, Bool.not_true, Option.map_none]
        | some wi =>
          have hb := gen_ntt_unchecked_wrapped ops x wi hadm
          simp only [h1, hi, decide_true, Bool.true_and, Option.isSome_some, Option.getD_some, Bool.not_true,
            Bool.false_eq_true, if_false, Nat.sub_zero]
          generalize (if (x.size == 0) = true then 0 else x.size.log2) = lg at hb ⊢
          cases hm : nttUnchecked ops x wi lg with
          | none =>
            rw [hm] at hb
            cases hg : Loops.ntt_unchecked ops x.toList wi lg with
            | none => rfl
            | some r =>
              have hf := run_eq_none hb (by rw [hg]; rfl)
              simp only [hf, Bool.false_and, Bool.false_eq_true, if_false, Option.bind_some, Option.map_none]
          | some y =>
            rw [hm] at hb
            obtain ⟨hg, hok⟩ := run_eq_some hb
            have hys : y.toList.length = x.size := by
              rw [Array.length_toList]; exact NttProofs.nttUnchecked_size ops x y wi lg hm
            obtain ⟨e, ok⟩ := intt_for_eq ops root (ops.sinv0 (ops.sofNat x.size)) y.toList.length 0 y.toList (by omega)
            rw [mapLoop_all] at e
            rw [hys] at e ok
            simp only [hg, hok, Option.bind_some, Option.elim_some, hys, e, ok, Bool.and_self, if_true, Option.map_some,
              Array.toList_map]
  · have h1' : 2^32 ≤ x.size := by omega
    rw [if_pos h1']
    simp only [h1, decide_false, Bool.false_and, Bool.false_eq_true, if_false, bind_none_fun, Option.map_none]

/-- the inner loop of `ntt_noswap` (one `zeta` per block) is a pass with a constant twiddle -/
theorem noswap_for5_eq (ops : Ops σ α) (root : Nat → Option σ) (t : Nat) (zeta : σ) : ∀ n j (x : List α),
    j + n + t ≤ x.length → x.length < 18446744073709551616 →
    Loops.ntt_noswap_for5 ops root t zeta n j x
      = Bfly.pass (fun _ => bfAdd ops zeta) (fun _ => bfSub ops zeta) ops.zero t n j x ∧
    Loops.ntt_noswap_for5_ok ops root t zeta n j x = true := by
  intro n
  induction n with
  | zero => intros; exact ⟨rfl, rfl⟩
  | succ n ih =>
    intro j x hlen hU
    have h6 : j + t < x.length := by omega
    have h5 : j < x.length := Nat.lt_of_le_of_lt (Nat.le_add_right _ _) h6
    have h4 : j + t < 18446744073709551616 := Nat.lt_trans h6 hU
    have h2 : (j + t) % 18446744073709551616 = j + t := Nat.mod_eq_of_lt h4
    obtain ⟨e, ok⟩ := ih (j + 1) ((x.set j (bfAdd ops zeta (x.getD j ops.zero) (x.getD (j + t) ops.zero))).set (j + t)
      (bfSub ops zeta (x.getD j ops.zero) (x.getD (j + t) ops.zero))) (by simp only [List.length_set]; omega)
      (by simp only [List.length_set]; exact hU)
    constructor
    · simp only [Loops.ntt_noswap_for5, h2, Bfly.pass]; exact e
    · simp only [Loops.ntt_noswap_for5_ok, h2, h4, h5, h6, List.length_set, decide_true, Bool.and_self, Bool.true_and]
      exact ok

/-- the `enumerate().take(m)` block loop of `ntt_noswap` over `B` blocks of size `2t` = the model's `stageNoswap` -/
theorem noswap_for4_eq (ops : Ops σ α) (root : Nat → Option σ) (zetas : Array σ) (t : Nat) (a : Array α) (B : Nat)
    (hlen : a.size = B*(2*t)) (hU : a.size < 18446744073709551616) (hp : B ≤ zetas.size) :
    Loops.ntt_noswap_for4 ops root zetas.toList t B 0 a.toList = (stageNoswap ops t zetas a).toList ∧
    Loops.ntt_noswap_for4_ok ops root zetas.toList t B 0 a.toList = true := by
  have hl : a.toList.length = a.size := Array.length_toList
  generalize hF : (fun b => bfAdd ops (zetas.toList.getD b ops.szero)) = F
  generalize hG : (fun b => bfSub ops (zetas.toList.getD b ops.szero)) = G
  suffices h : ∀ r b (y : List α), b + r = B →
      Bfly.BlockInv (Bfly.perBlock t F) (Bfly.perBlock t G) ops.zero t a.toList y b →
      Loops.ntt_noswap_for4_ok ops root zetas.toList t r b y = true ∧
      Bfly.BlockInv (Bfly.perBlock t F) (Bfly.perBlock t G) ops.zero t a.toList
        (Loops.ntt_noswap_for4 ops root zetas.toList t r b y) B by
    obtain ⟨ok, inv⟩ := h B 0 a.toList (Nat.zero_add _) (Bfly.blockInv_zero _ _ _ _ _)
    refine ⟨Bfly.blockInv_full _ _ _ t a.toList _ B (hl.trans hlen) inv _
      (by rw [Array.length_toList, NttProofs.stageNoswap_size, hl])
      (fun idx hi => by rw [← hF, ← hG]; exact stageNoswap_toList ops t zetas a idx (hl ▸ hi)), ok⟩
  intro r
  induction r with
  | zero => intro b y hb inv; obtain rfl : b = B := hb; exact ⟨rfl, inv⟩
  | succ r ih =>
    intro b y hb inv
    have hk : b*(2*t) + 2*t ≤ a.toList.length := by rw [hl, hlen]; exact Blocks.blk_le b B t (by omega)
    -- `s = i * t * 2` on `usize`: nothing wraps
    have hs : b * t * 2 = b*(2*t) := by rw [Nat.mul_assoc, Nat.mul_comm t 2]
    have c3 : b*(2*t) + t < 18446744073709551616 := by omega
    have c2 : b * t * 2 < 18446744073709551616 := hs ▸ Nat.lt_of_le_of_lt (Nat.le_add_right _ _) c3
    have c1 : b * t < 18446744073709551616 := Nat.lt_of_le_of_lt (Nat.le_mul_of_pos_right _ (by decide)) c2
    have h1 : (b * t) % 18446744073709551616 = b * t := Nat.mod_eq_of_lt c1
    have h2 : (b * t * 2) % 18446744073709551616 = b*(2*t) := hs ▸ Nat.mod_eq_of_lt c2
    have h3 : (b*(2*t) + t) % 18446744073709551616 - b*(2*t) = t := by
      rw [Nat.mod_eq_of_lt c3, Nat.add_sub_cancel_left]
    obtain ⟨e, ok⟩ := noswap_for5_eq ops root t (zetas.toList.getD b ops.szero) t (b*(2*t)) y (by rw [inv.1]; omega)
      (by rw [inv.1, hl]; exact hU)
    have inv' := Bfly.blockInv_step _ _ _ t a.toList y b inv hk
    have e' : Loops.ntt_noswap_for5 ops root t (zetas.toList.getD b ops.szero) t (b*(2*t)) y
        = Bfly.pass (fun _ => F b) (fun _ => G b) ops.zero t t (b*(2*t)) y := by rw [e, ← hF, ← hG]
    rw [← Bfly.pass_block, ← e'] at inv'
    obtain ⟨iok, iinv⟩ := ih (b+1) _ (by omega) inv'
    constructor
    · simp only [Loops.ntt_noswap_for4_ok, h1, h2, h3, ok, iok, Array.length_toList,
        decide_eq_true (by omega : b < zetas.size), decide_eq_true c1, decide_eq_true c2, decide_eq_true c3, Bool.and_self]
    · simp only [Loops.ntt_noswap_for4, h1, h2, h3]; exact iinv

/-- with `m` blocks of size `2^r` left to split (`m·2^r = len`) the loop runs `r` more stages: the model's `noswapLoop` -/
theorem noswap_loop3_eq (ops : Ops σ α) (root : Nat → Option σ) (N : Nat) (hN : N < 18446744073709551616) (zetas : Array σ)
    (hz : N ≤ zetas.size) :
    ∀ r m (a : Array α) fuel f, 0 < m → m * 2^r = N → a.size = N → r + 1 ≤ fuel → r ≤ f →
    (∃ m' t', Loops.ntt_noswap_loop3 ops root N zetas.toList fuel a.toList m (2^r)
      = some ((noswapLoop ops zetas N f m (2^r) a).toList, m', t')) ∧
    Loops.ntt_noswap_loop3_ok ops root N zetas.toList fuel a.toList m (2^r) = true := by
  intro r
  induction r with
  | zero =>
    intro m a fuel f _ hmN _ hfu _
    obtain ⟨fu, rfl⟩ : ∃ fu, fuel = fu + 1 := ⟨fuel - 1, by omega⟩
    have hn : ¬ (m < N) := by omega
    constructor
    · refine ⟨m, 2^0, ?_⟩
      cases f <;> simp only [Loops.ntt_noswap_loop3, hn, decide_false, Bool.false_eq_true, if_false, noswapLoop]
    · simp only [Loops.ntt_noswap_loop3_ok, hn, decide_false, Bool.false_eq_true, if_false]
  | succ r ih =>
    intro m a fuel f hm hmN ha hfu hf
    obtain ⟨fu, rfl⟩ : ∃ fu, fuel = fu + 1 := ⟨fuel - 1, by omega⟩
    obtain ⟨f', rfl⟩ : ∃ f', f = f' + 1 := ⟨f - 1, by omega⟩
    have hsplit : N = m * (2 * 2^r) := by rw [← hmN, Nat.pow_succ, Nat.mul_comm 2]
    have h2 : m * 2 ≤ N := hsplit ▸ Nat.mul_le_mul_left m (Nat.le_mul_of_pos_right 2 (Nat.two_pow_pos r))
    have hlt : m < N := by omega
    have ht2 : 2^(r+1) / 2 = 2^r := by rw [Nat.pow_succ, Nat.mul_div_cancel _ (by decide)]
    have hmz : m ≤ zetas.size := Nat.le_trans (Nat.le_of_lt hlt) hz
    have hmin : Nat.min m zetas.toList.length = m := by rw [Array.length_toList]; exact Nat.min_eq_left hmz
    have c : m * 2 < 18446744073709551616 := by omega
    have hm2 : (m * 2) % 18446744073709551616 = 2 * m := (Nat.mod_eq_of_lt c).trans (Nat.mul_comm m 2)
    obtain ⟨e4, ok4⟩ := noswap_for4_eq ops root zetas (2^r) a m (ha.trans hsplit)
      (ha ▸ hN) hmz
    obtain ⟨⟨m', t', e⟩, ok⟩ := ih (2*m) (stageNoswap ops (2^r) zetas a) fu f' (Nat.mul_pos (by decide) hm)
      ((two_mul_mul_two_pow m r).trans hmN) (by rw [NttProofs.stageNoswap_size, ha]) (Nat.le_of_succ_le_succ hfu)
      (Nat.le_of_succ_le_succ hf)
    constructor
    · refine ⟨m', t', ?_⟩
      simp only [Loops.ntt_noswap_loop3, hlt, decide_true, if_true, ht2, hmin, Nat.sub_zero, e4, hm2, e, noswapLoop]
    · simp only [Loops.ntt_noswap_loop3_ok, hlt, decide_true, if_true, ht2, hmin, Nat.sub_zero, e4, ok4, hm2, ok,
        decide_eq_true c, Bool.and_self]

theorem noswap_for2_eq (ops : Ops σ α) (root : Nat → Option σ) (omega : σ) (logn : Nat) (hl : logn ≤ 64) (h1 : 1 ≤ logn) :
    ∀ n i (acc : Array σ) (cur : σ),
    (if Loops.ntt_noswap_for2_ok ops root omega logn n i acc.toList cur
      then some (Loops.ntt_noswap_for2 ops root omega logn n i acc.toList cur).1 else none)
      = (powersBitrevAux ops omega (logn - 1) n i cur acc).map Array.toList := by
  intro n
  induction n with
  | zero => intro i acc cur; rfl
  | succ n ih =>
    intro i acc cur
    have hsub : (logn + 18446744073709551616 - 1) % 18446744073709551616 = logn - 1 := by omega
    obtain ⟨e, ok⟩ := gen_bitreverse_usize_eq i (logn - 1) (by omega)
    simp only [Loops.ntt_noswap_for2, Loops.ntt_noswap_for2_ok, powersBitrevAux, hsub, e, ok, h1, decide_true,
      Bool.true_and, Array.length_toList]
    by_cases hb : bitreverse i (logn - 1) < acc.size
    · simp only [hb, decide_true, Bool.true_and, if_true]
      have := ih (i + 1) (acc.setIfInBounds (bitreverse i (logn - 1)) cur) (ops.smul cur omega)
      rw [Array.toList_setIfInBounds] at this
      exact this
    · simp only [hb, decide_false, Bool.false_and, Bool.false_eq_true, if_false, Option.map_none]

/-- `ntt_noswap` regenerated from source = the model (same panics, both loops finish within their fuel, same values); `hx` as
    in `gen_intt_noswap_of` -/
theorem gen_ntt_noswap_of (ops : Ops σ α) (root : Nat → Option σ) (x : Array α)
    (hx : (root x.size).isSome = true → x = #[] ∨ ∃ L, L ≤ 32 ∧ x.size = 2^L) :
    (Loops.ntt_noswap ops root x.toList).bind
        (fun r => if Loops.ntt_noswap_ok ops root x.toList then some r else none)
      = (nttNoswap ops root x).map Array.toList := by
  have hlen : x.toList.length = x.size := Array.length_toList
  cases hr : root x.size with
  | none =>
    simp only [Loops.ntt_noswap_ok, nttNoswap, hlen, hr, Option.isSome_none, Bool.false_and, Bool.and_false,
      Bool.false_eq_true, if_false, bind_none_fun, Option.map_none]
  | some w =>
    rcases hx (by rw [hr]; rfl) with rfl | ⟨L, hL, hx⟩
    · have hr0 : root 0 = some w := hr
      simp [Loops.ntt_noswap, Loops.ntt_noswap_ok, nttNoswap, hr0, Loops.ntt_noswap_loop, Loops.ntt_noswap_loop_ok,
        Loops.ntt_noswap_for2_ok, Loops.ntt_noswap_loop3, Loops.ntt_noswap_loop3_ok, ceilLog2,
        ceilLog2Aux, powersBitrev, powersBitrevAux, noswapLoop]
    · have hle : (2:Nat)^L ≤ 4294967296 := Nat.pow_le_pow_right (by decide) hL
      rw [hx] at hr hlen
      obtain ⟨e, ok, _⟩ := lognLoop_eq x.toList.length (by rw [hlen]; omega) _ _
        (fun f l => (rfl : Loops.ntt_noswap_loop ops root x.toList (f+1) l = _))
        (fun f l => (rfl : Loops.ntt_noswap_loop_ok ops root x.toList (f+1) l = _)) 65 (Nat.le_refl _)
      rw [hlen, NttProofs.ceilLog2_two_pow] at e
      simp only [Loops.ntt_noswap, Loops.ntt_noswap_ok, nttNoswap, hx, hlen, hr, Option.getD_some, Option.isSome_some, e,
        ok, Option.bind_some, Option.elim_some, Nat.sub_zero, decide_eq_true (by omega : 2^L < 18446744073709551616),
        Bool.true_and, NttProofs.ceilLog2_two_pow, powersBitrev]
      rw [show List.replicate (2^L) ops.szero = (Array.replicate (2^L) ops.szero).toList from Array.toList_replicate.symm]
      have hpow : (if Loops.ntt_noswap_for2_ok ops root w L (2^L / 2) 0 (Array.replicate (2^L) ops.szero).toList ops.sone
          then some (Loops.ntt_noswap_for2 ops root w L (2^L / 2) 0 (Array.replicate (2^L) ops.szero).toList ops.sone).1
          else none)
          = (powersBitrevAux ops w (L - 1) (2^L / 2) 0 ops.sone (Array.replicate (2^L) ops.szero)).map Array.toList := by
        rcases Nat.eq_zero_or_pos L with rfl | hpos
        · rfl
        · exact noswap_for2_eq ops root w L (by omega) hpos _ _ _ _
      have h2 : ((2:Nat) != 0) = true := rfl
      cases hm : powersBitrevAux ops w (L - 1) (2^L / 2) 0 ops.sone (Array.replicate (2^L) ops.szero) with
      | none =>
        rw [hm] at hpow
        simp only [ite_some_none_eq_none hpow, Bool.and_false, Bool.false_and, Bool.false_eq_true, if_false, bind_none_fun,
          Option.map_none]
      | some zetas =>
        rw [hm] at hpow
        obtain ⟨hok, hval⟩ := ite_some_none_eq_some hpow
        have hzs : zetas.size = 2^L := by
          rw [NttProofs.powersBitrevAux_size ops w _ _ _ _ _ _ hm, Array.size_replicate]
        obtain ⟨⟨m, t, e3⟩, ok3⟩ := noswap_loop3_eq ops root (2^L) (by omega) zetas (Nat.le_of_eq hzs.symm) L 1 x 65 (2^L)
          (by decide) (Nat.one_mul _) hx (by omega) (Nat.le_of_lt Nat.lt_two_pow_self)
        simp only [hok, hval, h2, e3, ok3, Bool.and_self, if_true, Option.bind_some, Option.map_some]

/-- reading a bridge equation at a value of the model: the regenerated function returns that value and does not panic -/
theorem run_transfer {β : Type} {g : Option (List β)} {c : Bool} {m : Option (Array β)} {y : Array β}
    (h : g.bind (fun r => if c = true then some r else none) = m.map Array.toList) (hm : m = some y) :
    g = some y.toList ∧ c = true := by
  rw [hm] at h; exact run_eq_some h

end TF.GenBridge.Ntt
