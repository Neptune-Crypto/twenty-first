import TF.Proofs.Prime
import TF.Proofs.XField
import TF.Spec.Field
import Mathlib.FieldTheory.Finite.Basic
import Mathlib.Algebra.Polynomial.SpecificDegree
import Mathlib.RingTheory.PrincipalIdealDomain
import Mathlib.Tactic.Ring
import Mathlib.Tactic.LinearCombination
import Mathlib.Tactic.ComputeDegree
import Mathlib.RingTheory.AdjoinRoot
/-!
The "shah polynomial" `X³ − X + 1` is irreducible over `F_p`, `p = 2^64 − 2^32 + 1`, so `K = F_p[X]/(X³ − X + 1)` is a
field; `(a, b, c) ↦ a + bθ + cθ²` is a bijection `F_p³ → K` that turns the product formula of `TF.XFp.mul_formula` into the
product of `K`.  Existence and uniqueness of inverses, absence of zero divisors, associativity of the specification
product `TF.Spec.xmul` are read off from `K`.

Route for the absence of roots: for a root `r`, evaluation `(c0,c1,c2) ↦ c0 + c1 r + c2 r²` is multiplicative for
`TF.Spec.xmul`, hence `ev r (xpow (0,1,0) n) = r^n`.  The kernel evaluates `xpow (0,1,0) P`; Fermat gives `r^P = r`,
a quadratic relation for `r`, and an explicit Bézout identity with `r³ − r + 1 = 0` yields `1 = 0`.
-/
namespace TF.Shah
open TF.Gen TF.Spec

abbrev F := ZMod 18446744069414584321

theorem P_cast : ((P : ℕ) : F) = 0 := ZMod.natCast_self 18446744069414584321

theorem P_num : (18446744069414584321 : F) = 0 := by
  exact_mod_cast ZMod.natCast_self 18446744069414584321

theorem cast_fadd (a b : ℕ) : ((fadd a b : ℕ) : F) = a + b := by
  unfold fadd; rw [P_val, ZMod.natCast_mod]; push_cast; rfl

theorem cast_fmul (a b : ℕ) : ((fmul a b : ℕ) : F) = a * b := by
  unfold fmul; rw [P_val, ZMod.natCast_mod]; push_cast; rfl

theorem cast_fsub (a b : ℕ) : ((fsub a b : ℕ) : F) = a - b := by
  unfold fsub
  have hb : b % P ≤ a + P := by
    have : b % P < P := Nat.mod_lt _ (by decide)
    omega
  rw [P_val] at *
  rw [ZMod.natCast_mod, Nat.cast_sub hb, Nat.cast_add, ZMod.natCast_mod, ZMod.natCast_self]
  ring

def ev (t : F) (x : X3) : F := (x.1 : F) + (x.2.1 : F) * t + (x.2.2 : F) * t^2

/-- the spec product is the polynomial product modulo `t³ − t + 1` -/
theorem ev_xmul (t : F) (x y : X3) :
    ev t x * ev t y = ev t (xmul x y)
      + (t^3 - t + 1) * (((x.2.2 : F) * y.2.1 + (x.2.1 : F) * y.2.2) + (x.2.2 : F) * y.2.2 * t) := by
  obtain ⟨c, b, a⟩ := x
  obtain ⟨f, e, d⟩ := y
  simp only [ev, xmul, cast_fadd, cast_fsub, cast_fmul]
  ring

theorem ev_xmul_root (r : F) (hr : r^3 - r + 1 = 0) (x y : X3) : ev r (xmul x y) = ev r x * ev r y := by
  rw [ev_xmul, hr, zero_mul, add_zero]

theorem ev_xone (t : F) : ev t xone = 1 := by simp [ev, xone]

theorem ev_xpow_root (r : F) (hr : r^3 - r + 1 = 0) (x : X3) (n : ℕ) : ev r (xpow x n) = (ev r x)^n := by
  induction n using Nat.strong_induction_on with
  | _ n ih =>
    cases n with
    | zero => rw [xpow, ev_xone, pow_zero]
    | succ e =>
      rw [xpow]
      have hlt : (e + 1) / 2 < e + 1 := by omega
      have hh := ih _ hlt
      have hs : ev r (xmul (xpow x ((e+1)/2)) (xpow x ((e+1)/2))) = (ev r x)^(2 * ((e+1)/2)) := by
        rw [ev_xmul_root r hr, hh, ← pow_add, two_mul]
      split
      · next h =>
        rw [ev_xmul_root r hr, hs, ← pow_succ]
        congr 1; omega
      · next h =>
        rw [hs]; congr 1; omega

/-- fuel-indexed structural copy of `xpow`, which the kernel can evaluate -/
def xpowF (a : X3) : ℕ → ℕ → X3
  | 0, _ => xone
  | f+1, n =>
    if n = 0 then xone else
    let h := xpowF a f (n / 2)
    let s := xmul h h
    if n % 2 = 1 then xmul s a else s

theorem xpow_eq_xpowF (a : X3) (f n : ℕ) (h : n < 2^f) : xpow a n = xpowF a f n := by
  induction f generalizing n with
  | zero =>
    have : n = 0 := by simpa using h
    subst this; rw [xpow, xpowF]
  | succ f ih =>
    cases n with
    | zero => rw [xpow, xpowF]; simp
    | succ e =>
      have hlt : (e + 1) / 2 < 2^f := by rw [pow_succ] at h; omega
      rw [xpow, xpowF, ih _ hlt]
      simp

/-- `X^p mod (X³ − X + 1)` -/
theorem xpow_X_P :
    xpow (0, 1, 0) P = (7831040667286096068, 10050274602728160328, 6700183068485440219) := by
  rw [xpow_eq_xpowF (0, 1, 0) 65 P (by decide)]
  decide +kernel

theorem shah_no_root : ∀ r : ZMod 18446744069414584321, r^3 - r + 1 ≠ 0 := by
  intro r hr
  have h1 : ev r (xpow (0, 1, 0) P) = r ^ P := by
    rw [ev_xpow_root r hr]; simp [ev]
  have hF : r ^ P = r := ZMod.pow_card r
  rw [xpow_X_P, hF] at h1
  simp only [ev] at h1
  push_cast at h1
  have hP := P_num
  have : (1 : F) = 0 := by
    -- cofactors of the extended gcd of `r³ − r + 1` and the quadratic `h1` over `F_p`, and of the multiple of `P`
    -- that is left; computed outside Lean, checked here
    linear_combination
      (15896837874617748425 + 12909963218832731643 * r) * hr
      + (17455428877415444409 + 15238614666038134874 * r + 7360253288463281919 * r^2) * h1
      - (7410205990259531116 + 15979300389275561833 * r + 17767106897924129658 * r^2
          + 9544994715852820864 * r^3 + 2673373917779464224 * r^4) * hP
  exact one_ne_zero this

open Polynomial

theorem shah_natDegree : (X^3 - X + 1 : F[X]).natDegree = 3 := by compute_degree!

theorem shah_monic : (X^3 - X + 1 : F[X]).Monic := by monicity!

theorem shah_degree : (X^3 - X + 1 : F[X]).degree = 3 := by
  rw [degree_eq_natDegree shah_monic.ne_zero, shah_natDegree]; rfl

theorem shah_irreducible : Irreducible (X^3 - X + 1 : Polynomial (ZMod 18446744069414584321)) := by
  apply irreducible_of_degree_le_three_of_not_isRoot
  · rw [shah_natDegree]; decide
  · intro x hx
    apply shah_no_root x
    simpa [IsRoot] using hx

theorem quad_coeff (a b c : F) : ∀ n, (C a + C b * X + C c * X^2 : F[X]).coeff n =
    match n with | 0 => a | 1 => b | 2 => c | _ => 0
  | 0 | 1 | 2 | _+3 => by simp

theorem quad_degree_lt (a b c : F) : (C a + C b * X + C c * X^2 : F[X]).degree < 3 := by
  have : (C a + C b * X + C c * X^2 : F[X]).degree ≤ 2 := by compute_degree
  exact lt_of_le_of_lt this (by decide)

/-- every polynomial of degree `< 3` is `a + b X + c X²` -/
theorem eq_quad_of_degree_lt (q : F[X]) (hq : q.degree < 3) :
    q = C (q.coeff 0) + C (q.coeff 1) * X + C (q.coeff 2) * X^2 := by
  ext n
  rw [quad_coeff]
  match n with
  | 0 | 1 | 2 => rfl
  | n+3 => exact coeff_eq_zero_of_degree_lt (lt_of_lt_of_le hq (by exact_mod_cast Nat.le_add_left 3 n))

/-- a multiple of the cubic of degree `< 3` vanishes -/
theorem quad_eq_zero_of_shah_dvd (a b c : F) (hd : (X^3 - X + 1 : F[X]) ∣ C a + C b * X + C c * X^2) :
    a = 0 ∧ b = 0 ∧ c = 0 := by
  have h := eq_zero_of_dvd_of_degree_lt hd (by rw [shah_degree]; exact quad_degree_lt a b c)
  have hc (n : ℕ) := (quad_coeff a b c n).symm.trans (by rw [h, coeff_zero])
  exact ⟨hc 0, hc 1, hc 2⟩

def canon3 (x : X3) : Prop := x.1 < P ∧ x.2.1 < P ∧ x.2.2 < P

theorem cast_inj_of_lt {n m : ℕ} (hn : n < P) (hm : m < P) (h : (n : F) = (m : F)) : n = m := by
  have := (ZMod.natCast_eq_natCast_iff' n m 18446744069414584321).1 h
  rw [P_val] at hn hm
  rwa [Nat.mod_eq_of_lt hn, Nat.mod_eq_of_lt hm] at this

theorem fadd_lt (a b : ℕ) : fadd a b < P := Nat.mod_lt _ (by decide)
theorem fsub_lt (a b : ℕ) : fsub a b < P := Nat.mod_lt _ (by decide)

theorem xmul_canon (x y : X3) : canon3 (xmul x y) := by
  obtain ⟨c, b, a⟩ := x
  obtain ⟨f, e, d⟩ := y
  exact ⟨fsub_lt _ _, fsub_lt _ _, fadd_lt _ _⟩

theorem xone_canon : canon3 xone := ⟨by decide, by decide, by decide⟩

/-- the coefficients of the spec product, in `F_p`, are those of the product formula -/
theorem cast_xmul (x y : X3) :
    ((xmul x y).1 : F) = (x.1 : F) * y.1 - (x.2.2 : F) * y.2.1 - (x.2.1 : F) * y.2.2 ∧
    ((xmul x y).2.1 : F) = (x.2.1 : F) * y.1 + (x.1 : F) * y.2.1 - (x.2.2 : F) * y.2.2
        + (x.2.2 : F) * y.2.1 + (x.2.1 : F) * y.2.2 ∧
    ((xmul x y).2.2 : F) = (x.2.2 : F) * y.1 + (x.2.1 : F) * y.2.1 + (x.1 : F) * y.2.2 + (x.2.2 : F) * y.2.2 := by
  obtain ⟨c, b, a⟩ := x
  obtain ⟨f, e, d⟩ := y
  simp only [xmul, cast_fadd, cast_fsub, cast_fmul]
  exact ⟨by ring, by ring, trivial⟩

end TF.Shah

namespace TF.XK
open TF TF.Gen TF.Spec TF.Shah Polynomial

noncomputable abbrev shahP : F[X] := X^3 - X + 1

instance shahFact : Fact (Irreducible shahP) := ⟨shah_irreducible⟩

/-- the extension field `F_p[X]/(X³ − X + 1)` -/
abbrev K := AdjoinRoot shahP

noncomputable instance : Field K := AdjoinRoot.instField

noncomputable def θ : K := AdjoinRoot.root shahP

theorem θ_rel : θ^3 - θ + 1 = 0 := by
  have h := AdjoinRoot.eval₂_root shahP
  rwa [eval₂_add, eval₂_sub, eval₂_pow, eval₂_X, eval₂_one] at h

noncomputable def ι : F →+* K := AdjoinRoot.of shahP

/-- `a + bθ + cθ²` -/
noncomputable def κ (a b c : F) : K := ι a + ι b * θ + ι c * θ^2

theorem κ_eq_mk (a b c : F) : κ a b c = AdjoinRoot.mk shahP (C a + C b * X + C c * X^2) := by
  simp only [κ, ι, θ, map_add, map_mul, map_pow, AdjoinRoot.mk_C, AdjoinRoot.mk_X]

/-- the product formula of `XFieldElement::mul` is the product of `K` -/
theorem κ_mul (a b c a' b' c' : F) : κ a b c * κ a' b' c' =
    κ (a * a' - c * b' - b * c') (b * a' + a * b' - c * c' + c * b' + b * c') (c * a' + b * b' + a * c' + c * c') := by
  have key := TF.XFp.mul_formula (ι a) (ι b) (ι c) (ι a') (ι b') (ι c') θ
  rw [θ_rel, zero_mul, add_zero] at key
  unfold κ
  rw [key]
  simp only [map_add, map_sub, map_mul]

theorem κ_one : κ 1 0 0 = 1 := by simp [κ]

theorem κ_eq_zero (a b c : F) : κ a b c = 0 ↔ a = 0 ∧ b = 0 ∧ c = 0 := by
  constructor
  · intro h
    rw [κ_eq_mk, AdjoinRoot.mk_eq_zero] at h
    exact quad_eq_zero_of_shah_dvd _ _ _ h
  · rintro ⟨rfl, rfl, rfl⟩; simp [κ]

theorem κ_inj {a b c a' b' c' : F} (h : κ a b c = κ a' b' c') : a = a' ∧ b = b' ∧ c = c' := by
  have hs : κ (a - a') (b - b') (c - c') = 0 := by
    rw [← sub_eq_zero] at h; rw [← h]; simp only [κ, map_sub]; ring
  obtain ⟨h0, h1, h2⟩ := (κ_eq_zero _ _ _).1 hs
  exact ⟨sub_eq_zero.1 h0, sub_eq_zero.1 h1, sub_eq_zero.1 h2⟩

theorem κ_surj (z : K) : ∃ a b c, κ a b c = z := by
  obtain ⟨p, rfl⟩ := AdjoinRoot.mk_surjective z
  have hdeg : (p %ₘ shahP).degree < 3 := by
    have := degree_modByMonic_lt p shah_monic
    rwa [shah_degree] at this
  refine ⟨(p %ₘ shahP).coeff 0, (p %ₘ shahP).coeff 1, (p %ₘ shahP).coeff 2, ?_⟩
  rw [κ_eq_mk, ← eq_quad_of_degree_lt _ hdeg, AdjoinRoot.mk_eq_mk]
  exact ⟨-(p /ₘ shahP), by linear_combination modByMonic_add_div p shahP⟩

/-- triple of naturals ↦ element of `K` -/
noncomputable def φv (v : Spec.X3) : K := ι (v.1 : F) + ι (v.2.1 : F) * θ + ι (v.2.2 : F) * θ^2

theorem φv_eq_κ (v : Spec.X3) : φv v = κ v.1 v.2.1 v.2.2 := rfl

theorem φv_xmul (a b : Spec.X3) : φv (xmul a b) = φv a * φv b := by
  obtain ⟨h0, h1, h2⟩ := cast_xmul a b
  rw [φv_eq_κ, φv_eq_κ, φv_eq_κ, κ_mul, h0, h1, h2]

theorem φv_xone : φv xone = 1 := by
  simp [φv, xone]

theorem φv_xzero : φv xzero = 0 := by
  simp [φv, xzero]

theorem φv_inj (u v : Spec.X3) (hu : Shah.canon3 u) (hv : Shah.canon3 v) (h : φv u = φv v) : u = v := by
  obtain ⟨e0, e1, e2⟩ := κ_inj h
  exact Prod.ext (cast_inj_of_lt hu.1 hv.1 e0)
    (Prod.ext (cast_inj_of_lt hu.2.1 hv.2.1 e1) (cast_inj_of_lt hu.2.2 hv.2.2 e2))

theorem φv_eq_zero (v : Spec.X3) (hv : Shah.canon3 v) : φv v = 0 ↔ v = xzero :=
  ⟨fun h => φv_inj v xzero hv ⟨by decide, by decide, by decide⟩ (h.trans φv_xzero.symm), fun h => h ▸ φv_xzero⟩

theorem φv_surj (z : K) : ∃ v, Shah.canon3 v ∧ φv v = z := by
  obtain ⟨a, b, c, h⟩ := κ_surj z
  have lt (v : F) : v.val < P := ZMod.val_lt v
  exact ⟨(a.val, b.val, c.val), ⟨lt _, lt _, lt _⟩, by rw [φv_eq_κ]; simpa only [ZMod.natCast_zmod_val] using h⟩

theorem xmul_eq_xone_iff (x y : Spec.X3) : xmul x y = xone ↔ φv x * φv y = 1 := by
  rw [← φv_xmul, ← φv_xone]
  exact ⟨fun h => by rw [h], φv_inj _ _ (xmul_canon x y) xone_canon⟩

end TF.XK

namespace TF.Shah
open TF.Gen TF.Spec TF.XK Polynomial

theorem xfe_coprime (a b c : ZMod 18446744069414584321) (h : ¬ (a = 0 ∧ b = 0 ∧ c = 0)) :
    IsCoprime (C a + C b * X + C c * X^2) (X^3 - X + 1 : Polynomial (ZMod 18446744069414584321)) :=
  (shah_irreducible.coprime_iff_not_dvd.2 fun hd => h (quad_eq_zero_of_shah_dvd a b c hd)).symm

/-- every non-zero triple has an inverse for the product formula -/
theorem xfe_inverse_triple_exists (a b c : F) (h : ¬ (a = 0 ∧ b = 0 ∧ c = 0)) :
    ∃ a' b' c' : F, a * a' - c * b' - b * c' = 1 ∧ b * a' + a * b' - c * c' + c * b' + b * c' = 0
      ∧ c * a' + b * b' + a * c' + c * c' = 0 := by
  obtain ⟨a', b', c', hi⟩ := κ_surj (κ a b c)⁻¹
  refine ⟨a', b', c', κ_inj ?_⟩
  rw [← κ_mul, hi, κ_one, mul_inv_cancel₀ fun h0 => h ((κ_eq_zero a b c).1 h0)]

/-- pointwise form: for every `t` the product of the two quadratics is `1` plus an explicit multiple of `t³ − t + 1` -/
theorem xfe_inverse_pointwise (a b c : F) (h : ¬ (a = 0 ∧ b = 0 ∧ c = 0)) :
    ∃ a' b' c' : F, ∀ t : F, (a + b * t + c * t^2) * (a' + b' * t + c' * t^2)
      = 1 + (t^3 - t + 1) * ((c * b' + b * c') + c * c' * t) := by
  obtain ⟨a', b', c', h0, h1, h2⟩ := xfe_inverse_triple_exists a b c h
  refine ⟨a', b', c', fun t => ?_⟩
  rw [TF.XFp.mul_formula, h0, h1, h2]
  ring

theorem xfe_no_zero_divisors (a b c a' b' c' : F)
    (h0 : a * a' - c * b' - b * c' = 0) (h1 : b * a' + a * b' - c * c' + c * b' + b * c' = 0)
    (h2 : c * a' + b * b' + a * c' + c * c' = 0) :
    (a = 0 ∧ b = 0 ∧ c = 0) ∨ (a' = 0 ∧ b' = 0 ∧ c' = 0) := by
  have h : κ a b c * κ a' b' c' = 0 := by rw [κ_mul, h0, h1, h2, (κ_eq_zero 0 0 0).2 ⟨rfl, rfl, rfl⟩]
  exact (mul_eq_zero.1 h).imp (κ_eq_zero a b c).1 (κ_eq_zero a' b' c').1

theorem cast_triple_ne_zero (x : X3) (hx : canon3 x) (hnz : x ≠ xzero) :
    ¬ ((x.1 : F) = 0 ∧ (x.2.1 : F) = 0 ∧ (x.2.2 : F) = 0) := fun h =>
  hnz ((φv_eq_zero x hx).1 ((κ_eq_zero _ _ _).2 h))

/-- every non-zero canonical triple has a canonical inverse for `TF.Spec.xmul` -/
theorem spec_inverse_exists (x : X3) (hx : canon3 x) (hnz : x ≠ xzero) :
    ∃ y : X3, canon3 y ∧ xmul x y = xone := by
  obtain ⟨y, hy, h⟩ := φv_surj (φv x)⁻¹
  exact ⟨y, hy, (xmul_eq_xone_iff x y).2 (by rw [h, mul_inv_cancel₀ fun h0 => hnz ((φv_eq_zero x hx).1 h0)])⟩

/-- the inverse for `TF.Spec.xmul` is unique among canonical triples -/
theorem spec_inverse_unique (x y₁ y₂ : X3) (hx : canon3 x) (hnz : x ≠ xzero) (h₁ : canon3 y₁) (h₂ : canon3 y₂)
    (e₁ : xmul x y₁ = xone) (e₂ : xmul x y₂ = xone) : y₁ = y₂ :=
  φv_inj y₁ y₂ h₁ h₂ (mul_left_cancel₀ (fun h0 => hnz ((φv_eq_zero x hx).1 h0))
    (((xmul_eq_xone_iff x y₁).1 e₁).trans ((xmul_eq_xone_iff x y₂).1 e₂).symm))

theorem xmul_comm (a b : X3) : xmul a b = xmul b a :=
  φv_inj _ _ (xmul_canon a b) (xmul_canon b a) (by rw [φv_xmul, φv_xmul, mul_comm])

theorem xmul_assoc (a b c : X3) : xmul (xmul a b) c = xmul a (xmul b c) :=
  φv_inj _ _ (xmul_canon _ c) (xmul_canon a _) (by rw [φv_xmul, φv_xmul, φv_xmul, φv_xmul, mul_assoc])

theorem xmul_xone (a : X3) (ha : canon3 a) : xmul a xone = a :=
  φv_inj _ _ (xmul_canon a xone) ha (by rw [φv_xmul, φv_xone, mul_one])

theorem xone_xmul (a : X3) (ha : canon3 a) : xmul xone a = a := by rw [xmul_comm, xmul_xone a ha]

theorem xmul_eq_xone_comm (x y : X3) (h : xmul x y = xone) : xmul y x = xone := by rw [xmul_comm, h]

end TF.Shah
