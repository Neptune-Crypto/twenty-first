import TF.Model.RustStdConv
import TF.Proofs.Codec
/-! arithmetic core of the regenerated `u64` / `u128` codecs (field elements already abstracted).  Core Lean only.
The decoder's wrapping sum of shifted limbs is treated once, for any number of limbs and any width that holds them
(`shifted_sum`). -/
namespace TF.GenBridge.CodecArith
open TF.Codec TF.RustStd

def H32 : Nat := 4294967296

theorem H32_eq : H32 = 2 ^ 32 := by decide

theorem limbs2 (x y : Nat) : limbsValue [x, y] = x + H32 * y := by
  simp only [limbsValue, H32]; omega

/-- `sum_ok` from the bound on the left fold; generic in the bound, so no `decide (_ < 2^64)` is ever reduced (the kernel
    would run `Nat.ble` on the literal) -/
theorem sum_ok_intro (M : Nat) (l : List Nat) (h : l.foldl (· + ·) 0 < M) : sum_ok M l = true := by
  unfold sum_ok; exact decide_eq_true h

/-- `sequence.iter().enumerate().map(|(i, s)| uN::from(s) << (i * 32)).sum()` on limbs below `2^32` that fit the integer type
    (`32 * k ≤ BITS`; `W` is the range of the `usize` shift amount): no shift amount wraps, no summand is cut, so the wrapping
    sum is the little-endian value, and the plain left fold (what a debug build computes) is the same number -/
theorem shifted_sum (BITS W : Nat) (hW : BITS ≤ W) (l : List Nat) : ∀ (i : Nat), (∀ x ∈ l, x < 2 ^ 32) →
    32 * (i + l.length) ≤ BITS →
    sum_w (2 ^ BITS) ((enumerateFrom i l).map fun p => p.2 * 2 ^ (p.1 * 32 % W % BITS) % 2 ^ BITS) =
      2 ^ (32 * i) * limbsValue l ∧
    ∀ a, ((enumerateFrom i l).map fun p => p.2 * 2 ^ (p.1 * 32 % W % BITS) % 2 ^ BITS).foldl (· + ·) a =
      a + 2 ^ (32 * i) * limbsValue l := by
  induction l with
  | nil => intro i _ _; exact ⟨rfl, fun a => rfl⟩
  | cons x xs ih =>
    intro i h hk
    rw [List.length_cons] at hk
    obtain ⟨ihs, ihf⟩ := ih (i + 1) (fun y hy => h y (List.mem_cons_of_mem _ hy)) (by omega)
    have hx := h x List.mem_cons_self
    -- the whole value, hence every summand, is below `2 ^ BITS`
    have hv : 2 ^ (32 * i) * limbsValue (x :: xs) < 2 ^ BITS := by
      have := Nat.mul_lt_mul_of_le_of_lt (Nat.le_refl (2 ^ (32 * i))) (limbsValue_lt (x :: xs) h) (Nat.two_pow_pos _)
      rw [← Nat.pow_add, List.length_cons, ← Nat.mul_add] at this
      exact Nat.lt_of_lt_of_le this (Nat.pow_le_pow_right (by decide) hk)
    have e1 : 2 ^ (32 * (i + 1)) = 2 ^ (32 * i) * 2 ^ 32 := by rw [Nat.mul_succ, Nat.pow_add]
    have e2 : 2 ^ (32 * i) * limbsValue (x :: xs) = x * 2 ^ (i * 32) + 2 ^ (32 * (i + 1)) * limbsValue xs := by
      rw [limbsValue, Nat.mul_add, e1, Nat.mul_assoc, Nat.mul_comm x, Nat.mul_comm i]
    have ht : x * 2 ^ (i * 32 % W % BITS) % 2 ^ BITS = x * 2 ^ (i * 32) := by
      rw [Nat.mod_eq_of_lt (by omega : i * 32 < W), Nat.mod_eq_of_lt (by omega : i * 32 < BITS)]
      exact Nat.mod_eq_of_lt (by omega)
    simp only [enumerateFrom, List.map_cons, sum_w, List.foldl_cons, ht, ihs, ihf]
    rw [e2]
    exact ⟨Nat.mod_eq_of_lt (by omega), fun a => by omega⟩

theorem mask32 (v : Nat) : v &&& 4294967295 = v % 2 ^ 32 := by
  have : (4294967295 : Nat) = 2 ^ 32 - 1 := by decide
  rw [this]; exact Nat.and_two_pow_sub_one_eq_mod v 32

theorem div_div_64 (n : Nat) : n / 18446744073709551616 = n / 2 ^ 64 := by
  have : (18446744073709551616 : Nat) = 2 ^ 64 := by decide
  rw [this]

end TF.GenBridge.CodecArith
