import TF.Proofs.MmrAcc
import TF.Proofs.MmrBatchMutate
/-!
# C11: `batch_mutate_leaf_and_update_mps` of `TF/Model/MmrAcc.lean`, histories with batch steps

The two models of the routine (`HashMap` as a function / as an association list) agree on every input (`batch_sim`), so
the theorems of `TF/Proofs/MmrBatchMutate.lean` carry over; the out-of-range panics are proved directly.
-/
namespace TF.MmrAccBatch
open TF TF.Gen TF.Model.Mmr TF.MmrAccP

section Sim
variable {D : Type} (H : D → D → D)
open TF.Model.MmrAcc

/-- an association-list map read as a function -/
def toD (m : Model.MmrE.AMap D) : DMap D := fun k => m.get? k

theorem toD_nil : (DMap.empty : DMap D) = toD [] := by
  funext k; rfl

theorem toD_insert (m : Model.MmrE.AMap D) (k : Nat) (v : D) :
    DMap.insert (toD m) k v = toD (Model.MmrE.AMap.insert m k v) := by
  funext k'
  unfold DMap.insert toD
  rw [MmrE.get?_insert]
  by_cases h : k' = k
  · subst h; simp
  · have : ¬ k = k' := fun e => h e.symm
    simp [h, this]

theorem batchClimb_sim : ∀ (ap : List D) (ni : Nat) (acc : D) (m : Model.MmrE.AMap D),
    batchClimb H ap ni acc (toD m)
      = (Model.MmrE.deducible H none false true false ap ni acc m).map fun r => (r.2, toD r.1) := by
  intro ap
  induction ap with
  | nil => intro ni acc m; simp [batchClimb, Model.MmrE.deducible]
  | cons hash rest ih =>
    intro ni acc m
    rw [batchClimb, Model.MmrE.deducible]
    simp only [reduceCtorEq, if_false, Bool.false_and, Bool.false_eq_true]
    cases hsp : siblingAndParent ni with
    | none => rfl
    | some sp =>
      obtain ⟨isR, sib, par⟩ := sp
      simp only [Option.bind_some, batchRound, if_true]
      have hm : (if rest.isEmpty = true then toD m
            else DMap.insert (toD m) par (if isR = true then H (((toD m) sib).getD hash) acc else H acc (((toD m) sib).getD hash)))
          = toD (if (rest.isEmpty && !false) = true then m
            else Model.MmrE.AMap.insert m par (if isR = true then H ((m.get? sib).getD hash) acc else H acc ((m.get? sib).getD hash))) := by
        cases rest.isEmpty
        · simp only [Bool.false_eq_true, if_false, Bool.false_and]
          rw [toD_insert]; rfl
        · simp
      rw [hm]
      exact ih _ _ _

/-- the two records of a leaf mutation -/
def conv (mu : LeafMutation D) : Model.MmrE.LeafMutation D := ⟨mu.leaf_index, mu.new_leaf, mu.auth⟩

theorem batchMutateLoop_sim (n : Nat) : ∀ (L : List (LeafMutation D)) (pks : List D) (m : Model.MmrE.AMap D),
    batchMutateLoop H n L pks (toD m)
      = (Model.MmrE.mutationsLoop H true n (L.map conv) m pks).map fun r => (r.2, toD r.1) := by
  intro L
  induction L with
  | nil => intro pks m; simp [batchMutateLoop, Model.MmrE.mutationsLoop]
  | cons mu rest ih =>
    intro pks m
    rw [batchMutateLoop, List.map_cons, Model.MmrE.mutationsLoop]
    simp only [Bool.not_true, if_true, conv]
    have h1 : (toD m) (leaf_index_to_node_index mu.leaf_index) = m.get? (leaf_index_to_node_index mu.leaf_index) := rfl
    rw [h1]
    by_cases hs : (m.get? (leaf_index_to_node_index mu.leaf_index)).isSome = true
    · simp [hs]
    · simp only [hs, if_false, Bool.false_eq_true]
      rw [toD_insert, batchClimb_sim]
      cases hd : Model.MmrE.deducible H none false true false mu.auth (leaf_index_to_node_index mu.leaf_index) mu.new_leaf
          (Model.MmrE.AMap.insert m (leaf_index_to_node_index mu.leaf_index) mu.new_leaf) with
      | none => rfl
      | some r =>
        simp only [Option.map_some, Option.bind_some, Option.bind_eq_bind]
        by_cases hlt : mu.leaf_index < n
        · simp only [hlt, if_true, decide_true, Bool.not_true, Bool.false_eq_true, if_false, setAt?]
          by_cases hpk : (leaf_index_to_mt_index_and_peak_index mu.leaf_index n).2 < pks.length
          · simp only [hpk, if_true, Option.bind_some]
            exact ih _ _
          · simp [hpk]
        · simp [hlt]


theorem get_node_indices_length (li len : Nat) (idxs : List Nat) (h : get_node_indices li len = some idxs) :
    idxs.length = len := by
  have go : ∀ (k ni : Nat) (acc r : List Nat), get_node_indices.go k ni acc = some r → r.length = acc.length + k := by
    intro k
    induction k with
    | zero =>
      intro ni acc r h
      cases h
      rfl
    | succ k ih =>
      intro ni acc r h
      rw [get_node_indices.go] at h
      split at h
      · cases h
      · rw [ih _ _ _ h, List.length_append]
        simp only [List.length_singleton]
        omega
  simpa using go len _ [] idxs h

/-- replacing in one proof; the two models compare digests with `!=` / `==` of different instances -/
theorem updateProof_sim [BEq D] [LawfulBEq D] [DecidableEq D] (m : Model.MmrE.AMap D) : ∀ (ap : List D) (idxs : List Nat),
    ap.length = idxs.length → updateProof (toD m) ap idxs = Model.MmrE.replaceFromMap m true false ap idxs := by
  intro ap
  induction ap with
  | nil => intro idxs _; cases idxs <;> rfl
  | cons d ds ih =>
    intro idxs hlen
    match idxs, hlen with
    | k :: ks, hlen =>
      have ih' := ih ks (by simpa using hlen)
      have hcons : updateProof (toD m) (d :: ds) (k :: ks)
          = (match toD m k with
              | some d' => if d != d' then (d' :: (updateProof (toD m) ds ks).1, true)
                           else (d :: (updateProof (toD m) ds ks).1, (updateProof (toD m) ds ks).2)
              | none => (d :: (updateProof (toD m) ds ks).1, (updateProof (toD m) ds ks).2)) := by
        unfold updateProof
        simp only [List.zip_cons_cons, List.map_cons, List.any_cons]
        cases toD m k with
        | none => simp
        | some d' => by_cases h : (d != d') = true <;> simp [h]
      rw [hcons, Model.MmrE.replaceFromMap, ih']
      show (match m.get? k with | some d' => _ | none => _) = _
      cases m.get? k with
      | none => rfl
      | some v => by_cases h : d = v <;> simp [h]

theorem updateProofs_sim [BEq D] [LawfulBEq D] [DecidableEq D] (m : Model.MmrE.AMap D) :
    ∀ (proofs : List (List D)) (lis : List Nat) (i : Nat),
    updateProofs (toD m) (proofs.zip lis) i = Model.MmrE.batchReplaceLoop m false proofs lis i := by
  intro proofs
  induction proofs with
  | nil => intro lis i; cases lis <;> rfl
  | cons ap rest ih =>
    intro lis i
    cases lis with
    | nil => rfl
    | cons li lis =>
      rw [List.zip_cons_cons, updateProofs, Model.MmrE.batchReplaceLoop, ih]
      cases hidx : get_node_indices li ap.length with
      | none => rfl
      | some idxs =>
        simp only [Option.bind_some, Option.bind_eq_bind,
          updateProof_sim m ap idxs (get_node_indices_length li _ idxs hidx).symm]
        cases Model.MmrE.batchReplaceLoop m false rest lis (i + 1) <;> rfl

/-- **the two models of `batch_mutate_leaf_and_update_mps` agree** on every input -/
theorem batch_sim [BEq D] [LawfulBEq D] [DecidableEq D] (a : Acc D) (proofs : List (List D)) (lis : List Nat)
    (muts : List (LeafMutation D)) :
    batch_mutate_leaf_and_update_mps H a proofs lis muts
      = (Model.MmrE.Acc.batchMutateLeafAndUpdateMps H ⟨a.leaf_count, a.peaks⟩ proofs lis (muts.map conv)).map
          fun r => ({ leaf_count := r.1.count, peaks := r.1.peaks }, r.2) := by
  unfold batch_mutate_leaf_and_update_mps Model.MmrE.Acc.batchMutateLeafAndUpdateMps
  split
  · rfl
  · split
    · rfl
    · rw [toD_nil, batchMutateLoop_sim, ← List.map_reverse]
      cases Model.MmrE.mutationsLoop H true a.leaf_count (muts.reverse.map conv) [] a.peaks with
      | none => rfl
      | some r =>
        simp only [Option.map_some, Option.bind_some, Option.bind_eq_bind, updateProofs_sim]
        cases Model.MmrE.batchReplaceLoop r.1 false proofs lis 0 <;> rfl

end Sim

section Batch
variable {D : Type} (H : D → D → D)
open TF.Model.MmrAcc TF.MmrE TF.MmrBM TF.Spec.MmrE

/-- apply `(index, value)` updates in order -/
def applyUpdates (f : Nat → D) : List (Nat × D) → Nat → D
  | [] => f
  | (i, x) :: rest => applyUpdates (Spec.MmrAcc.update f i x) rest

theorem applyUpdates_eq : ∀ (ms : List (Nat × D)) (f : Nat → D), applyUpdates f ms = applyL f ms := by
  intro ms
  induction ms with
  | nil => intro f; rfl
  | cons p rest ih =>
    intro f
    obtain ⟨i, x⟩ := p
    rw [applyUpdates, ih, update_eq]
    rfl

theorem batch_mutate_refines_model [BEq D] [LawfulBEq D] (n : Nat) (f : Nat → D) (ms : List (Nat × D))
    (tracked : List Nat) (hn : n < 2 ^ 63) (hnd : (ms.map Prod.fst).Nodup) (hms : ∀ m ∈ ms, m.1 < n)
    (htr : ∀ t ∈ tracked, t < n) :
    batch_mutate_leaf_and_update_mps H { leaf_count := n, peaks := Spec.MmrAcc.peaks H n f }
        (tracked.map fun t => (Spec.MmrAcc.authPath H n f t).getD []) tracked
        (ms.map fun m => { leaf_index := m.1, new_leaf := m.2, auth := (Spec.MmrAcc.authPath H n f m.1).getD [] })
      = some ({ leaf_count := n, peaks := Spec.MmrAcc.peaks H n (applyUpdates f ms) },
              tracked.map (fun t => (Spec.MmrAcc.authPath H n (applyUpdates f ms) t).getD []),
              (List.range tracked.length).filter fun k =>
                (Spec.MmrAcc.authPath H n f (tracked.getD k 0)).getD []
                  != (Spec.MmrAcc.authPath H n (applyUpdates f ms) (tracked.getD k 0)).getD []) := by
  have : DecidableEq D := fun a b => decidable_of_iff _ beq_iff_eq
  -- the from-scratch paths of `TF/Spec/MmrAcc.lean`, on in-range leafs, are those of `TF/Spec/MmrE.lean`
  have hpath : ∀ (g : Nat → D) (t : Nat), t < n → (Spec.MmrAcc.authPath H n g t).getD [] = authPathOf H g n t :=
    fun g t ht => by rw [authPath_eq H g n t ht]; rfl
  have hp1 : (tracked.map fun t => (Spec.MmrAcc.authPath H n f t).getD []) = tracked.map (authPathOf H f n) :=
    List.map_congr_left fun t ht => hpath f t (htr t ht)
  have hp2 : (tracked.map fun t => (Spec.MmrAcc.authPath H n (applyUpdates f ms) t).getD [])
      = tracked.map (authPathOf H (applyL f ms) n) :=
    List.map_congr_left fun t ht => by rw [hpath _ t (htr t ht), applyUpdates_eq]
  have hp3 : (ms.map fun m => ({ leaf_index := m.1, new_leaf := m.2, auth := (Spec.MmrAcc.authPath H n f m.1).getD [] } :
        LeafMutation D)).map conv = ms.map fun m => ⟨m.1, m.2, authPathOf H f n m.1⟩ := by
    rw [List.map_map]
    exact List.map_congr_left fun m hm => by simp only [Function.comp, conv, hpath f m.1 (hms m hm)]
  have hp4 : ((List.range tracked.length).filter fun k =>
        (Spec.MmrAcc.authPath H n f (tracked.getD k 0)).getD []
          != (Spec.MmrAcc.authPath H n (applyUpdates f ms) (tracked.getD k 0)).getD [])
      = (List.range tracked.length).filter fun k =>
        decide (authPathOf H (applyL f ms) n (tracked.getD k 0) ≠ authPathOf H f n (tracked.getD k 0)) := by
    apply List.filter_congr
    intro k hk
    have hk' : k < tracked.length := List.mem_range.mp hk
    have hmem : tracked.getD k 0 ∈ tracked := by
      rw [List.getD_eq_getElem _ _ hk']; exact List.getElem_mem hk'
    rw [hpath f _ (htr _ hmem), hpath _ _ (htr _ hmem), applyUpdates_eq]
    generalize authPathOf H f n (tracked.getD k 0) = x
    generalize authPathOf H (applyL f ms) n (tracked.getD k 0) = y
    by_cases he : x = y
    · rw [he]; simp
    · simp [he, Ne.symm he]
  rw [batch_sim, hp1, hp2, hp3, hp4, peaks_eq, peaks_eq, applyUpdates_eq,
    batchMutateLeafAndUpdateMps_spec H f n ms tracked htr hms hnd hn]
  rfl

/-- **a repeated leaf index in the batch panics** (`assert!(former_value.is_none())`), whatever else is passed -/
theorem batch_dup_panics [BEq D] (a : Acc D) (proofs : List (List D)) (idxs : List Nat) (muts : List (LeafMutation D))
    (h : ¬ (muts.map (·.leaf_index)).Nodup) : batch_mutate_leaf_and_update_mps H a proofs idxs muts = none := by
  unfold batch_mutate_leaf_and_update_mps
  split
  · rfl
  · split
    · rfl
    · rw [toD_nil, batchMutateLoop_sim, mutationsLoop_dup_panics H true _ _ _ _ (by
        rw [List.map_map]
        show ¬ (muts.reverse.map (·.leaf_index)).Nodup
        rw [List.map_reverse]
        exact fun hnd => h (by simpa using nodup_rev _ hnd))]
      rfl

end Batch

section Oob
variable {D : Type} (H : D → D → D)
open TF.Model.MmrAcc

theorem batchMutateLoop_oob (n : Nat) : ∀ (L : List (LeafMutation D)) (pks : List D) (m : DMap D),
    (∃ mu ∈ L, n ≤ mu.leaf_index) → batchMutateLoop H n L pks m = none := by
  intro L
  induction L with
  | nil =>
    intro pks m h
    obtain ⟨mu, hmu, _⟩ := h
    simp at hmu
  | cons mu rest ih =>
    intro pks m h
    rw [batchMutateLoop]
    split
    · rfl
    · cases hc : batchClimb H mu.auth (leaf_index_to_node_index mu.leaf_index) mu.new_leaf
          (m.insert (leaf_index_to_node_index mu.leaf_index) mu.new_leaf) with
      | none => rfl
      | some r =>
        simp only [Option.bind_some]
        by_cases hlt : mu.leaf_index < n
        · rw [if_pos hlt]
          cases hset : setAt? pks (leaf_index_to_mt_index_and_peak_index mu.leaf_index n).2 r.1 with
          | none => rfl
          | some pks' =>
            simp only [Option.bind_some]
            obtain ⟨mu', hmu', hoob⟩ := h
            rcases List.mem_cons.mp hmu' with e | e
            · subst e; omega
            · exact ih pks' r.2 ⟨mu', e, hoob⟩
        · rw [if_neg hlt]

/-- **an out-of-range index panics**: a mutated leaf index `≥ leaf_count` (`assert!` of
    `leaf_index_to_mt_index_and_peak_index`), a tracked leaf index `≥ leaf_count`, or lists of different lengths
    (the two `assert!`s at the top of the routine) -/
theorem batch_oob_panics [BEq D] (a : Acc D) (proofs : List (List D)) (idxs : List Nat) (muts : List (LeafMutation D))
    (h : (∃ mu ∈ muts, a.leaf_count ≤ mu.leaf_index) ∨ (∃ t ∈ idxs, a.leaf_count ≤ t) ∨ proofs.length ≠ idxs.length) :
    batch_mutate_leaf_and_update_mps H a proofs idxs muts = none := by
  unfold batch_mutate_leaf_and_update_mps
  split
  · rfl
  · rename_i hlen
    split
    · rfl
    · rename_i hall
      rcases h with ⟨mu, hmu, hoob⟩ | ⟨t, ht, hoob⟩ | hne
      · rw [batchMutateLoop_oob H a.leaf_count muts.reverse a.peaks DMap.empty ⟨mu, List.mem_reverse.mpr hmu, hoob⟩]
        rfl
      · exfalso
        apply hall
        simp only [Bool.not_eq_true', List.all_eq_false]
        exact ⟨t, ht, by simpa using hoob⟩
      · exact absurd hne hlen

end Oob

section Hist
variable {D : Type} (H : D → D → D)
open TF.Model.MmrAcc TF.Spec.MmrAcc

/-- operations of a history; a batch step mutates the leafs `ms` (index, new value) and hands over the proofs of the
    leafs `tracked` -/
inductive OpB (D : Type) where
  | append (x : D)
  | mutate (i : Nat) (x : D)
  | batch (ms : List (Nat × D)) (tracked : List Nat)

def specStepB (st : Nat × (Nat → D)) : OpB D → Nat × (Nat → D)
  | .append x => (st.1 + 1, update st.2 st.1 x)
  | .mutate i x => (st.1, update st.2 i x)
  | .batch ms _ => (st.1, applyUpdates st.2 ms)

def specRunB (st : Nat × (Nat → D)) (ops : List (OpB D)) : Nat × (Nat → D) := ops.foldl specStepB st

def opOkB (n : Nat) : OpB D → Prop
  | .append _ => n + 1 < 2^64
  | .mutate i _ => i < n ∧ n < 2^64
  | .batch ms tracked => n < 2^63 ∧ (ms.map Prod.fst).Nodup ∧ (∀ m ∈ ms, m.1 < n) ∧ (∀ t ∈ tracked, t < n)

def nextCountB (n : Nat) : OpB D → Nat
  | .append _ => n + 1
  | .mutate _ _ => n
  | .batch _ _ => n

def histOkB : (n : Nat) → List (OpB D) → Prop
  | _, [] => True
  | n, op :: rest => opOkB n op ∧ histOkB (nextCountB n op) rest

/-- one step of the accumulator; mutations are carried out with the from-scratch membership proofs of the moment
    (which exist for the in-range leafs, `authPath_isSome`) -/
def modelStepB [BEq D] (st : Nat × (Nat → D)) (a : Acc D) : OpB D → Option (Acc D)
  | .append x => (append H a x).map Prod.fst
  | .mutate i x =>
    match authPath H st.1 st.2 i with
    | some ap => mutate_leaf H a { leaf_index := i, new_leaf := x, auth := ap }
    | none => none
  | .batch ms tracked =>
    (batch_mutate_leaf_and_update_mps H a (tracked.map fun t => (authPath H st.1 st.2 t).getD []) tracked
      (ms.map fun m => { leaf_index := m.1, new_leaf := m.2, auth := (authPath H st.1 st.2 m.1).getD [] })).map (·.1)

def modelRunB [BEq D] : (st : Nat × (Nat → D)) → (a : Acc D) → List (OpB D) → Option (Acc D)
  | _, a, [] => some a
  | st, a, op :: rest =>
    match modelStepB H st a op with
    | some a' => modelRunB (specStepB st op) a' rest
    | none => none

theorem specStepB_count (n : Nat) (f : Nat → D) (op : OpB D) : (specStepB (n, f) op).1 = nextCountB n op := by
  cases op <;> rfl

theorem modelStepB_refines [BEq D] [LawfulBEq D] (n : Nat) (f : Nat → D) (op : OpB D) (hok : opOkB n op) :
    modelStepB H (n, f) { leaf_count := n, peaks := peaks H n f } op
      = some { leaf_count := (specStepB (n, f) op).1,
               peaks := peaks H (specStepB (n, f) op).1 (specStepB (n, f) op).2 } := by
  cases op with
  | append x => exact MmrAccP.modelStep_refines H n f (.append x) hok
  | mutate i x => exact MmrAccP.modelStep_refines H n f (.mutate i x) hok
  | batch ms tracked =>
    obtain ⟨hn, hnd, hms, htr⟩ := hok
    show (batch_mutate_leaf_and_update_mps H _ _ _ _).map (·.1) = _
    rw [batch_mutate_refines_model H n f ms tracked hn hnd hms htr]
    rfl

theorem historyB_refines_model [BEq D] [LawfulBEq D] : ∀ (ops : List (OpB D)) (n : Nat) (f : Nat → D), histOkB n ops →
    modelRunB H (n, f) { leaf_count := n, peaks := peaks H n f } ops
      = some { leaf_count := (specRunB (n, f) ops).1,
               peaks := peaks H (specRunB (n, f) ops).1 (specRunB (n, f) ops).2 } := by
  intro ops
  induction ops with
  | nil => intro n f _; rfl
  | cons op rest ih =>
    intro n f hok
    obtain ⟨h1, h2⟩ := hok
    unfold modelRunB
    rw [modelStepB_refines H n f op h1]
    rw [← specStepB_count n f op] at h2
    exact ih (specStepB (n, f) op).1 (specStepB (n, f) op).2 h2

end Hist

end TF.MmrAccBatch
