import TF.Model.PolyDiv
import TF.Model.XFieldInv
import TF.Proofs.PolyMulHom
/-!
Naturality of the generic polynomial model in the field record: a map `f : α → β` that commutes with every operation
of `FieldOps` (a *homomorphism of operation records*) commutes with `normalize`, `add`, `sub`, `mul`, `scalarMul`,
`naiveDivide`, `xgcd` and with the model of `XFieldElement::inverse`.  Used to transfer theorems proved over
`FieldOps.ofField (ZMod P)` to the executable instance `bfieldOps` along `ZMod.val` (`TF/Proofs/XFieldInv.lean`).
Such an `f` is an `OpsMap` without side condition; `normalize`, the sums and the product come from `TF/Proofs/PolyMulHom.lean`.
-/
namespace TF

/-- `f` commutes with all operations the polynomial model uses -/
structure FieldOps.Hom {α β : Type} (F : FieldOps α) (G : FieldOps β) (f : α → β) : Prop where
  zero : f F.zero = G.zero
  one : f F.one = G.one
  add : ∀ a b, f (F.add a b) = G.add (f a) (f b)
  sub : ∀ a b, f (F.sub a b) = G.sub (f a) (f b)
  mul : ∀ a b, f (F.mul a b) = G.mul (f a) (f b)
  neg : ∀ a, f (F.neg a) = G.neg (f a)
  inv : ∀ a, f (F.inv a) = G.inv (f a)
  isZero : ∀ a, G.isZero (f a) = F.isZero a

namespace PolyHom
open TF.Model.Poly TF.Model.PolyD TF.Model.XFInv

variable {α β : Type} {F : FieldOps α} {G : FieldOps β} {f : α → β}

theorem opsMap (h : FieldOps.Hom F G f) : Hom.OpsMap F G f (fun _ => True) :=
  .of_true h.zero h.one h.add h.sub h.mul fun a => (h.isZero a).symm

theorem normalize_map (h : FieldOps.Hom F G f) (l : List α) : normalize G (l.map f) = (normalize F l).map f :=
  (Hom.normalize_map (opsMap h) l (fun _ _ => trivial)).symm

theorem revNorm_map (h : FieldOps.Hom F G f) (l : List α) : revNorm G (l.map f) = (revNorm F l).map f := by
  have := congrArg List.reverse (normalize_map h l)
  rwa [normalize, normalize, List.reverse_reverse, List.map_reverse, List.reverse_reverse] at this

theorem degSucc_map (h : FieldOps.Hom F G f) (l : List α) : degSucc G (l.map f) = degSucc F l := by
  simp only [degSucc, normalize_map h, List.length_map]

theorem isZero_map (h : FieldOps.Hom F G f) (l : List α) : isZero G (l.map f) = isZero F l := by
  simp only [isZero, normalize_map h, List.isEmpty_map]

theorem leadingCoefficient_map (h : FieldOps.Hom F G f) (l : List α) :
    leadingCoefficient G (l.map f) = (leadingCoefficient F l).map f := by
  simp only [leadingCoefficient, normalize_map h, List.getLast?_map]

theorem add_map (h : FieldOps.Hom F G f) (a b : List α) : (add F a b).map f = add G (a.map f) (b.map f) :=
  Hom.zipLongestWith_map _ _ _ _ h.add (fun _ => rfl) a b

theorem sub_map (h : FieldOps.Hom F G f) (a b : List α) : (sub F a b).map f = sub G (a.map f) (b.map f) :=
  Hom.zipLongestWith_map _ _ _ _ h.sub (fun r => by rw [h.sub, h.zero]) a b

theorem scalarMul_map (h : FieldOps.Hom F G f) (p : List α) (s : α) :
    (scalarMul F p s).map f = scalarMul G (p.map f) (f s) := by
  simp [scalarMul, scalarMulG, h.mul]

theorem mul_map (h : FieldOps.Hom F G f) (a b : List α) : (mul F a b).map f = mul G (a.map f) (b.map f) :=
  Hom.naiveMultiply_map (opsMap h) a b (fun _ _ => trivial) (fun _ _ => trivial)

theorem subScaled_map (h : FieldOps.Hom F G f) (qc : α) : ∀ t r : List α,
    (subScaled F qc t r).map (List.map f) = subScaled G (f qc) (t.map f) (r.map f)
  | [], r => rfl
  | _ :: _, [] => rfl
  | t :: tl, r :: rest => by
    have ih := subScaled_map h qc tl rest
    simp only [subScaled, List.map_cons, ← ih]
    cases subScaled F qc tl rest with
    | none => rfl
    | some l => simp [h.sub, h.mul]

theorem divLoop_map (h : FieldOps.Hom F G f) (li : α) (tl : List α) : ∀ (n : Nat) (rr q : List α),
    (divLoop F li tl n rr q).map (Prod.map (List.map f) (List.map f))
      = divLoop G (f li) (tl.map f) n (rr.map f) (q.map f)
  | 0, rr, q => rfl
  | n + 1, [], q => rfl
  | n + 1, c :: rest, q => by
    simp only [divLoop, List.map_cons, ← h.mul, h.isZero]
    split
    · rw [divLoop_map h li tl n rest _]; rfl
    · rw [← subScaled_map h]
      cases subScaled F (F.mul c li) tl rest with
      | none => rfl
      | some rest' => simp only [Option.map_some]; rw [divLoop_map h li tl n rest' _]; rfl

theorem naiveDivide_map (h : FieldOps.Hom F G f) (a d : List α) :
    (naiveDivide F a d).map (Prod.map (List.map f) (List.map f)) = naiveDivide G (a.map f) (d.map f) := by
  simp only [naiveDivide, revNorm_map h]
  cases revNorm F d with
  | nil => rfl
  | cons lc tl =>
    simp only [List.map_cons, List.length_map, ← h.inv]
    split
    · rfl
    · have := divLoop_map h (F.inv lc) tl ((revNorm F a).length - tl.length) (revNorm F a) []
      simp only [List.map_nil] at this
      rw [← this]
      cases divLoop F (F.inv lc) tl ((revNorm F a).length - tl.length) (revNorm F a) [] with
      | none => rfl
      | some qr => simp [Prod.map]

def map3 (f : α → β) (t : List α × List α × List α) : List β × List β × List β :=
  (t.1.map f, t.2.1.map f, t.2.2.map f)

theorem xgcdLoop_map (h : FieldOps.Hom F G f) : ∀ (fuel : Nat) (x y a0 a1 b0 b1 : List α),
    (xgcdLoop F fuel x y a0 a1 b0 b1).map (map3 f)
      = xgcdLoop G fuel (x.map f) (y.map f) (a0.map f) (a1.map f) (b0.map f) (b1.map f)
  | 0, _, _, _, _, _, _ => rfl
  | fuel + 1, x, y, a0, a1, b0, b1 => by
    simp only [xgcdLoop, isZero_map h, ← naiveDivide_map h]
    split
    · rfl
    · cases naiveDivide F x y with
      | none => rfl
      | some qr =>
        simp only [Option.map_some, Prod.map]
        rw [← mul_map h, ← mul_map h, ← sub_map h, ← sub_map h]
        exact xgcdLoop_map h fuel _ _ _ _ _ _

theorem xgcd_map (h : FieldOps.Hom F G f) (x y : List α) :
    (xgcd F x y).map (map3 f) = xgcd G (x.map f) (y.map f) := by
  have := xgcdLoop_map h (degSucc F y + 2) x y [F.one] [] [] [F.one]
  simp only [List.map_cons, List.map_nil, h.one] at this
  simp only [xgcd, degSucc_map h, ← this]
  cases xgcdLoop F (degSucc F y + 2) x y [F.one] [] [] [F.one] with
  | none => rfl
  | some t =>
    obtain ⟨g, a, b⟩ := t
    simp only [Option.map_some, map3, leadingCoefficient_map h]
    cases leadingCoefficient F g with
    | none => simp only [Option.map_none, ← h.one, ← h.inv, ← scalarMul_map h]
    | some c => simp only [Option.map_some, ← h.inv, ← scalarMul_map h]

def mapT (f : α → β) (x : α × α × α) : β × β × β := (f x.1, f x.2.1, f x.2.2)

theorem shahG_map (h : FieldOps.Hom F G f) : (shahG F).map f = shahG G := by
  simp [shahG, h.one, h.zero, h.neg]

theorem ofPolyG_map (h : FieldOps.Hom F G f) (p : List α) :
    (ofPolyG F p).map (mapT f) = ofPolyG G (p.map f) := by
  simp only [ofPolyG, ← shahG_map h, ← naiveDivide_map h]
  cases naiveDivide F p (shahG F) with
  | none => rfl
  | some qr =>
    simp only [Option.map_some, Prod.map, coefficients, normalize_map h]
    rcases normalize F qr.2 with _ | ⟨c0, _ | ⟨c1, _ | ⟨c2, _ | ⟨c3, l⟩⟩⟩⟩ <;>
      simp [mapT, h.zero]

theorem isZeroG_map (h : FieldOps.Hom F G f) (x : α × α × α) : isZeroG G (mapT f x) = isZeroG F x := by
  simp [isZeroG, mapT, h.isZero]

theorem inverseG_map (h : FieldOps.Hom F G f) (x : α × α × α) :
    (inverseG F x).map (mapT f) = inverseG G (mapT f x) := by
  simp only [inverseG, isZeroG_map h]
  split
  · rfl
  · have : toPoly (mapT f x) = (toPoly x).map f := rfl
    rw [this, ← shahG_map h, ← xgcd_map h]
    cases xgcd F (toPoly x) (shahG F) with
    | none => rfl
    | some t => simp only [Option.map_some, map3]; exact ofPolyG_map h _

end PolyHom
end TF
