/-!
`List.getD`, `set`, `take`, `drop` at one index, as the regenerated loops use them (`a[i]` is `a.getD i d`, `a[i] = v` is
`a.set i v`), for any element type and default.  Core Lean only.
-/
namespace TF

theorem getD_eq {α : Type} (a : List α) {d : α} (i : Nat) (h : i < a.length) : a.getD i d = a[i] := by
  rw [List.getD_eq_getElem?_getD, List.getElem?_eq_getElem h, Option.getD_some]

theorem drop_cons_getD {α : Type} (a : List α) (d : α) (i : Nat) (h : i < a.length) :
    a.drop i = a.getD i d :: a.drop (i + 1) := by
  rw [List.drop_eq_getElem_cons h, getD_eq a i h]

theorem take_set_succ {α : Type} (a : List α) (i : Nat) (v : α) (h : i < a.length) :
    (a.set i v).take (i + 1) = a.take i ++ [v] := by
  rw [List.take_add_one, List.take_set_of_le (Nat.le_refl i), List.getElem?_set_self h, Option.toList_some]

theorem getD_set_self {α : Type} (a : List α) {d : α} (i : Nat) (v : α) (h : i < a.length) : (a.set i v).getD i d = v := by
  rw [List.getD_eq_getElem?_getD, List.getElem?_set_self h, Option.getD_some]

theorem getD_set_ne {α : Type} (a : List α) {d : α} (i j : Nat) (v : α) (h : i ≠ j) :
    (a.set i v).getD j d = a.getD j d := by
  rw [List.getD_eq_getElem?_getD, List.getD_eq_getElem?_getD, List.getElem?_set_ne h]

theorem band {a b : Bool} (ha : a = true) (hb : b = true) : (a && b) = true := by
  rw [ha, hb, Bool.and_self]

end TF
