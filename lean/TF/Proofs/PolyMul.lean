import TF.Proofs.Poly
import TF.Proofs.PolyMulHom
import Mathlib.Algebra.BigOperators.Group.List.Basic
import Mathlib.Algebra.Field.Rat
/-!
Lemmas for C07 about `TF/Model/PolyMul.lean`: squares, NTT-based products relative to a transform satisfying
`TransformSpec`, the square-and-multiply loop, the batch tree reduction and its chunked parallel variant.
-/
open Polynomial

namespace TF.Model.Poly
variable {K : Type} [Field K]
open Classical

variable (root : Nat → Option K)
local notation "FK" => FieldOps.ofField K root

theorem denote_squareRows (c : List K) : denote (squareRows FK c) = denote c ^ 2 := by
  induction c with
  | nil => simp [squareRows]
  | cons c0 cs ih =>
    cases cs with
    | nil => simp [squareRows]; ring
    | cons c1 cs =>
      rw [squareRows]
      simp only [FieldOps.ofField_add_fn]
      rw [denote_zipLongestWith (· + ·) id _ _ (fun _ _ => rfl)]
      simp only [List.map_id, denote_cons, FieldOps.ofField_zero, FieldOps.ofField_mul, FieldOps.ofField_one,
        map_zero, zero_add, ih]
      have := denote_map_mul_left (c1 :: cs) ((1 + 1) * c0)
      simp only [denote_cons] at this
      rw [show (List.map (fun cj => (1 + 1) * c0 * cj) (c1 :: cs)) = List.map (fun c => ((1 + 1) * c0) * c) (c1 :: cs) from rfl,
        this]
      simp only [C_mul, C_add, C_1]
      ring

/-- `slow_square` returns the square, for any storage -/
theorem denote_slowSquare (p : List K) : denote (slowSquare FK p) = denote p ^ 2 := by
  unfold slowSquare
  rw [denote_squareRows, denote_normalize]


/-- the first `n` coefficients of a polynomial -/
noncomputable def coeffList (q : K[X]) (n : Nat) : List K := (List.range n).map q.coeff

@[simp] theorem length_coeffList (q : K[X]) (n : Nat) : (coeffList q n).length = n := by simp [coeffList]

theorem getD_coeffList (q : K[X]) (n i : Nat) : (coeffList q n).getD i 0 = if i < n then q.coeff i else 0 := by
  unfold coeffList
  split
  · next h => rw [getD_of_lt _ _ _ (by simpa using h)]; simp
  · next h => rw [getD_of_ge _ _ _ (by simpa using h)]

theorem denote_coeffList (q : K[X]) (n : Nat) (h : q.degree < n) : denote (coeffList q n) = q := by
  ext i
  rw [coeff_denote, getD_coeffList]
  split
  · rfl
  · next hi => exact ((Polynomial.degree_lt_iff_coeff_zero q n).1 h i (by omega)).symm

theorem take_coeffList (q : K[X]) (n m : Nat) (h : m ≤ n) : (coeffList q n).take m = coeffList q m := by
  unfold coeffList
  rw [← List.map_take, List.take_range, Nat.min_eq_left h]

@[simp] theorem length_resize (xs : List K) (n : Nat) (z : K) : (resize xs n z).length = n :=
  Hom.length_resize' xs n z

/-- `resize` (truncate or pad with zeros) reads the denoted polynomial only: it lists its first `n` coefficients -/
theorem resize_eq_coeffList (a : List K) (n : Nat) : resize a n 0 = coeffList (denote a) n := by
  apply List.ext_getElem (by simp)
  intro i _ h2
  simp only [coeffList, List.getElem_map, List.getElem_range, coeff_denote, resize, List.getElem_append,
    List.getElem_take, List.getElem_replicate, List.length_take]
  split
  · exact (getD_of_lt _ _ _ (by omega)).symm
  · exact (getD_of_ge _ _ _ (by simp only [length_coeffList] at h2; omega)).symm

theorem coeff_denote_resize (a : List K) (n i : Nat) :
    (denote (resize a n 0)).coeff i = if i < n then (denote a).coeff i else 0 := by
  rw [resize_eq_coeffList, coeff_denote, getD_coeffList]

theorem denote_resize_of_lt (a : List K) (n : Nat) (h : (denote a).degree < n) : denote (resize a n 0) = denote a := by
  rw [resize_eq_coeffList, denote_coeffList _ _ h]

theorem denote_resize_of_zero (a : List K) (n : Nat) (h : denote a = 0) : denote (resize a n 0) = 0 :=
  (denote_resize_of_lt a n (h ▸ WithBot.bot_lt_coe n)).trans h

theorem degree_mul_lt {p q : K[X]} {m : Nat} (h : p.natDegree + q.natDegree < m) : (p * q).degree < (m : WithBot ℕ) :=
  degree_le_natDegree.trans_lt (Nat.cast_lt.2 (natDegree_mul_le.trans_lt h))

theorem le_nextPowerOfTwo (n : Nat) : n ≤ nextPowerOfTwo n := by
  unfold nextPowerOfTwo
  split
  · omega
  · have := @Nat.lt_log2_self (n - 1); omega

/-- What the products need from the transform pair (discharged for the Rust NTT by property C06:
    `ntt = DFT` at the powers of the primitive root, and `intt ∘ ntt = id`):
    * `ntt` on a vector of length `n` returns the values of the denoted polynomial at the points `pts n 0, …, pts n (n-1)`;
    * whether `ntt` panics depends on the length only;
    * `intt` undoes `ntt`. -/
structure TransformSpec (T : Transform K) (pts : Nat → Nat → K) : Prop where
  ntt_eval : ∀ xs ys, T.ntt xs = some ys →
    ys = (List.range xs.length).map (fun i => (denote xs).eval (pts xs.length i))
  ntt_some_of_length : ∀ xs ys xs', T.ntt xs = some ys → xs'.length = xs.length → ∃ ys', T.ntt xs' = some ys'
  intt_ntt : ∀ xs ys zs, T.ntt xs = some ys → T.intt ys = some zs → zs = xs


section
variable {T : Transform K} {pts : Nat → Nat → K} (hT : TransformSpec T pts)
include hT

/-- transform two vectors of length `n`, multiply pointwise, transform back, keep `m ≤ n` coefficients: the product of the
    denoted polynomials, when it has degree `< m` (no wrap-around).  Idea: the coefficient list of the product, of the same
    length, has a transform (`ntt_some_of_length`) with the same values, so `intt` returns it (`intt_ntt`). -/
theorem transform_mul (la lb : List K) (n m : Nat) (hla : la.length = n) (hlb : lb.length = n) (hmn : m ≤ n)
    (hdeg : (denote la * denote lb).degree < m) (l r c : List K)
    (hl : T.ntt la = some l) (hr : T.ntt lb = some r) (hc : T.intt (List.zipWith (· * ·) l r) = some c) :
    denote (c.take m) = denote la * denote lb := by
  have hdegn : (denote la * denote lb).degree < n := hdeg.trans_le (Nat.cast_le.2 hmn)
  have el := hT.ntt_eval la l hl
  have er := hT.ntt_eval lb r hr
  obtain ⟨ys', hys'⟩ := hT.ntt_some_of_length la l (coeffList (denote la * denote lb) n) hl (by simp [hla])
  have ec := hT.ntt_eval _ ys' hys'
  rw [denote_coeffList _ _ hdegn, length_coeffList] at ec
  have : List.zipWith (· * ·) l r = ys' := by
    rw [el, er, ec, hla, hlb, List.zipWith_map]
    simp [List.zipWith_self, eval_mul]
  rw [this] at hc
  rw [hT.intt_ntt _ ys' c hys' hc, take_coeffList _ _ _ hmn, denote_coeffList _ _ hdeg]

/-- `fast_multiply` returns the ring product whenever it returns (any storage, incl. zero operands) -/
theorem denote_fastMultiply (a b r : List K) (h : fastMultiply FK T a b = some r) : denote r = denote a * denote b := by
  have hda := degree_spec root a
  have hdb := degree_spec root b
  rcases Hom.fastMultiplyG_some h with ⟨hd, rfl⟩ | ⟨hd, l, rr, c, hl, hr, hc, rfl⟩
  · -- negative degree sum: one operand is zero
    by_cases ha : denote a = 0
    · simp [ha]
    · by_cases hb : denote b = 0
      · simp [hb]
      · rw [if_neg ha] at hda
        rw [if_neg hb] at hdb
        omega
  · generalize hdn : (degree FK a + degree FK b).toNat = d at hl hr hc ⊢
    generalize hn : nextPowerOfTwo (d + 1) = n at hl hr hc
    have hnle : d + 1 ≤ n := hn ▸ le_nextPowerOfTwo _
    -- the padded (or, next to a zero operand, truncated) storages still multiply to the product, of degree ≤ d
    have key : denote (resize a n 0) * denote (resize b n 0) = denote a * denote b ∧
        (denote a * denote b).degree < (d + 1 : ℕ) := by
      by_cases ha : denote a = 0
      · rw [denote_resize_of_zero a n ha, ha, zero_mul, zero_mul]; exact ⟨rfl, WithBot.bot_lt_coe _⟩
      by_cases hb : denote b = 0
      · rw [denote_resize_of_zero b n hb, hb, mul_zero, mul_zero]; exact ⟨rfl, WithBot.bot_lt_coe _⟩
      rw [if_neg ha] at hda; rw [if_neg hb] at hdb
      have hd' : d = (denote a).natDegree + (denote b).natDegree := by omega
      rw [denote_resize_of_lt a n (degree_le_natDegree.trans_lt (Nat.cast_lt.2 (by omega))),
        denote_resize_of_lt b n (degree_le_natDegree.trans_lt (Nat.cast_lt.2 (by omega)))]
      exact ⟨rfl, degree_mul_lt (by omega)⟩
    rw [FieldOps.ofField_zero] at hl hr
    rw [FieldOps.ofField_mul_fn] at hc
    rw [← key.1]
    exact transform_mul hT _ _ n (d + 1) (length_resize _ _ _) (length_resize _ _ _) hnle (by rw [key.1]; exact key.2) l rr c hl hr hc


/-- `multiply`: both arms of the dispatch return the product — for every threshold -/
theorem denote_multiply (threshold : Int) (a b r : List K) (h : multiply FK threshold T a b = some r) : denote r = denote a * denote b := by
  unfold multiply multiplyG at h
  split at h
  · injection h with h
    subst h
    exact denote_naiveMultiply root a b
  · exact denote_fastMultiply root hT a b r h

theorem denote_fastSquare (p r : List K) (h : fastSquare FK T p = some r) : denote r = denote p ^ 2 := by
  rcases Hom.fastSquare_some h with ⟨hn, rfl⟩ | ⟨c, hn, rfl⟩ | ⟨c, c1, cs, v, w, hn, hv, hw, rfl⟩
  · rw [(normalize_eq_nil_iff root p).1 hn]; simp
  · rw [← denote_normalize root p, hn]
    simp
    ring
  · have hp0 : denote p ≠ 0 := fun h0 => by rw [(normalize_eq_nil_iff root p).2 h0] at hn; cases hn
    have hlen := length_normalize root p hp0
    rw [hn] at hlen
    simp only [List.length_cons] at hlen
    generalize hn' : nextPowerOfTwo (2 * (cs.length + 1) + 1) = n at hv
    have hnle : 2 * (cs.length + 1) + 1 ≤ n := hn' ▸ le_nextPowerOfTwo _
    have ep : denote (resize p n 0) = denote p :=
      denote_resize_of_lt p n (degree_le_natDegree.trans_lt (Nat.cast_lt.2 (by omega)))
    rw [← List.zipWith_self] at hw
    rw [pow_two, ← ep]
    exact transform_mul hT _ _ n _ (length_resize _ _ _) (length_resize _ _ _) hnle
      (by rw [ep]; exact degree_mul_lt (by omega)) v v w hv hv hw


/-- `square`: both arms return the square — for every cut-off -/
theorem denote_square (cutoff : Nat) (p r : List K) (h : square FK cutoff T p = some r) : denote r = denote p ^ 2 := by
  unfold square at h
  split at h
  · next hn =>
    injection h with h; subst h
    rw [(normalize_eq_nil_iff root p).1 hn]; simp
  · next c cs hn =>
    split at h
    · exact denote_fastSquare root hT p r h
    · injection h with h; subst h
      rw [denote_squareRows, ← hn, denote_normalize]

end

/-- below the threshold `multiply` is total (no transform involved) -/
theorem multiply_isSome_of_lt (T : Transform K) (threshold : Int) (a b : List K)
    (h : degree FK a + degree FK b < threshold) : (multiply FK threshold T a b).isSome := by
  unfold multiply multiplyG
  rw [if_pos h]
  rfl

theorem square_isSome_of_le (T : Transform K) (cutoff : Nat) (p : List K)
    (h : 2 * (normalize FK p).length ≤ cutoff + 1) : (square FK cutoff T p).isSome := by
  unfold square
  split
  · rfl
  · next c cs hn =>
    rw [hn] at h; simp only [List.length_cons] at h
    rw [if_neg (by omega)]; rfl


/-- bit `n` of the exponent is what `e / 2^n` has more than twice `e / 2^(n+1)` -/
theorem div_two_pow_eq (e n : Nat) : e / 2 ^ n = 2 * (e / 2 ^ (n + 1)) + (e >>> n &&& 1) := by
  rw [Nat.and_one_is_mod, Nat.shiftRight_eq_div_pow, pow_succ, ← Nat.div_div_eq_div_mul]; omega

/-- invariant: with `n` steps left the accumulator is `P ^ (e / 2^n)`, the power for the bits of `e` above bit `n` -/
theorem powLoop_spec (sq mulSelf : List K → Option (List K)) (P : K[X])
    (hsq : ∀ acc r, sq acc = some r → denote r = denote acc ^ 2)
    (hmul : ∀ acc r, mulSelf acc = some r → denote r = denote acc * P)
    (e bl : Nat) (n : Nat) (hn : n ≤ bl + 1) (acc r : List K)
    (hacc : denote acc = P ^ (e / 2 ^ n))
    (h : powLoop sq mulSelf e bl n acc = some r) : denote r = P ^ e := by
  induction n generalizing acc with
  | zero => cases h; simpa using hacc
  | succ n ih =>
    rw [Hom.powLoop_succ, show bl - (bl + 1 - (n + 1)) = n by omega] at h
    obtain ⟨a1, h1, h⟩ := Option.bind_eq_some_iff.1 h
    have hstep : P ^ (e / 2 ^ n) = denote a1 * P ^ (e >>> n &&& 1) := by
      rw [div_two_pow_eq e n, pow_add, pow_mul', ← hacc, ← hsq acc a1 h1]
    split at h
    · next hb =>
      obtain ⟨a2, h2, h⟩ := Option.bind_eq_some_iff.1 h
      refine ih (by omega) a2 ?_ h
      rw [hstep, hmul a1 a2 h2, beq_iff_eq.1 hb, pow_one]
    · next hb =>
      refine ih (by omega) a1 ?_ h
      have h0 : e >>> n &&& 1 = 0 := by have := Nat.and_one_is_mod (e >>> n); have := beq_iff_eq.not.1 hb; omega
      rw [hstep, h0, pow_zero, mul_one]

theorem div_pow_log2_succ (e : Nat) : e / 2 ^ (Nat.log2 e + 1) = 0 :=
  Nat.div_eq_of_lt Nat.lt_log2_self

/-- `pow(e)` is the `e`-th power in the ring (`0⁰ = 1`), for any storage -/
theorem denote_pow (p : List K) (e : Nat) : denote (pow FK p e) = denote p ^ e := by
  unfold pow
  split
  · next h =>
    simp at h
    subst h
    simp
  · next h =>
    simp at h
    split
    · next hd => rw [(degree_neg_iff root p).1 hd, zero_pow h]; rfl
    · next hd =>
      have hs := Hom.powLoop_isSome (fun acc => some (slowSquare FK acc)) (fun acc => some (mul FK acc p))
        (fun _ => rfl) (fun _ => rfl) e (Nat.log2 e) (Nat.log2 e + 1) (one FK)
      obtain ⟨r, hr⟩ := Option.isSome_iff_exists.1 hs
      simp only [hr]
      exact powLoop_spec _ _ (denote p)
        (fun acc r h => by injection h with h; subst h; exact denote_slowSquare root acc)
        (fun acc r h => by injection h with h; subst h; exact denote_mul root acc p)
        e _ _ (le_refl _) _ r (by rw [div_pow_log2_succ]; simp) hr

/-- `fast_pow(e)` is the `e`-th power whenever it returns — for every squaring cut-off and multiply threshold -/
theorem denote_fastPow {T : Transform K} {pts : Nat → Nat → K} (hT : TransformSpec T pts)
    (sqCutoff : Nat) (threshold : Int) (p : List K) (e : Nat) (r : List K)
    (h : fastPow FK sqCutoff threshold T p e = some r) : denote r = denote p ^ e := by
  unfold fastPow at h
  split at h
  · next he =>
    simp at he
    subst he
    injection h with h
    subst h
    simp
  · next he =>
    simp at he
    split at h
    · next hd =>
      injection h with h; subst h
      rw [(degree_neg_iff root p).1 hd, zero_pow he]; rfl
    · exact powLoop_spec _ _ (denote p)
        (fun acc r h => denote_square root hT sqCutoff acc r h)
        (fun acc r h => by rw [denote_multiply root hT threshold p acc r h, mul_comm])
        e _ _ (le_refl _) _ r (by rw [div_pow_log2_succ]; simp) h

noncomputable def val : Option (List K) → Option K[X] := Option.map denote

/-- product of a list of polynomials-or-panic: `none` if any entry is a panic -/
noncomputable def prodO : List (Option (List K)) → Option K[X]
  | [] => some 1
  | p :: ps => do let a ← val p; let b ← prodO ps; pure (a * b)

theorem prodO_map_some (fs : List (List K)) : prodO (fs.map some) = some (fs.map denote).prod := by
  induction fs with
  | nil => rfl
  | cons f fs ih => simp [prodO, val, ih]

theorem prodO_append (xs ys : List (Option (List K))) (u v : K[X])
    (hx : prodO xs = some u) (hy : prodO ys = some v) : prodO (xs ++ ys) = some (u * v) := by
  induction xs generalizing u with
  | nil =>
    simp [prodO] at hx
    subst hx
    simpa using hy
  | cons x xs ih =>
    simp only [prodO, List.cons_append, Option.bind_eq_bind, Option.pure_def] at hx ⊢
    cases hvx : val x with
    | none => simp [hvx] at hx
    | some a =>
      cases hpx : prodO xs with
      | none => simp [hvx, hpx] at hx
      | some b =>
        simp [hvx, hpx] at hx
        rw [ih b hpx]; simp [← hx, mul_assoc]

/-- a binary product that is correct whenever it returns -/
def MulOK (mulf : List K → List K → Option (List K)) : Prop :=
  ∀ a b c, mulf a b = some c → denote c = denote a * denote b

section
variable {mulf : List K → List K → Option (List K)} (hm : MulOK mulf)
include hm

theorem prodO_pairUp (ps : List (Option (List K))) (v : K[X]) (h : prodO (pairUp mulf ps) = some v) : prodO ps = some v := by
  fun_induction pairUp mulf ps generalizing v with
  | case1 => exact h
  | case2 p => exact h
  | case3 p q rest ih =>
    simp only [prodO, Option.bind_eq_bind, Option.pure_def] at h ⊢
    cases p with
    | none => simp [val] at h
    | some a =>
      cases q with
      | none => simp [val] at h
      | some b =>
        simp only [Option.bind_some] at h
        cases hc : mulf a b with
        | none => simp [hc, val] at h
        | some c =>
          rw [hc] at h
          cases hr : prodO (pairUp mulf rest) with
          | none => simp [hr, val] at h
          | some w =>
            simp [hr, val] at h
            rw [ih w hr]
            simp [val, ← h, hm a b c hc, mul_assoc]

theorem batchLoop_spec (ps : List (Option (List K))) (r : List K) (h : batchLoop mulf ps = some r) :
    prodO ps = some (denote r) := by
  fun_induction batchLoop mulf ps with
  | case1 => simp at h
  | case2 p => subst h; simp [prodO, val]
  | case3 p q rest ih => exact prodO_pairUp hm _ _ (ih h)

theorem batchMultiplyWith_spec (ps : List (Option (List K))) (r : List K) (h : batchMultiplyWith FK mulf ps = some r) :
    prodO ps = some (denote r) := by
  unfold batchMultiplyWith at h
  split at h
  · next he =>
    injection h with h; subst h
    rw [List.isEmpty_iff] at he
    subst he
    simp [prodO]
  · exact batchLoop_spec hm ps r h

theorem prodO_chunks (n : Nat) (hn : 1 ≤ n)
    (fuel : Nat) (xs : List (Option (List K))) (hf : xs.length ≤ fuel) (v : K[X])
    (h : prodO ((chunksAux n fuel xs).map (batchChunk FK mulf)) = some v) : prodO xs = some v := by
  induction fuel generalizing xs v with
  | zero =>
    have : xs = [] := List.length_eq_zero_iff.1 (by omega)
    subst this; simpa [chunksAux] using h
  | succ fuel ih =>
    unfold chunksAux at h
    split at h
    · next he =>
      rw [List.isEmpty_iff] at he
      subst he
      simpa using h
    · next he =>
      simp only [List.map_cons, prodO, Option.bind_eq_bind, Option.pure_def] at h
      cases hc : batchChunk FK mulf (xs.take n) with
      | none => simp [hc, val] at h
      | some c =>
        cases hr : prodO ((chunksAux n fuel (xs.drop n)).map (batchChunk FK mulf)) with
        | none => simp [hc, hr, val] at h
        | some w =>
          simp [hc, hr, val] at h
          have h1 := batchMultiplyWith_spec root hm _ c hc
          have hlen : (xs.drop n).length ≤ fuel := by
            have : xs ≠ [] := by intro h0; simp [h0] at he
            have := List.length_pos_of_ne_nil this
            simp only [List.length_drop]; omega
          have h2 := ih (xs.drop n) hlen w hr
          have := prodO_append _ _ _ _ h1 h2
          rw [List.take_append_drop] at this
          rw [this, h]

theorem parBatchLoop_spec (numThreads : Nat)
    (ps : List (Option (List K))) (r : List K) (h : parBatchLoop FK mulf numThreads ps = some r) :
    prodO ps = some (denote r) := by
  fun_induction parBatchLoop FK mulf numThreads ps with
  | case1 => simp at h
  | case2 p => subst h; simp [prodO, val]
  | case3 p q rest chunkSize ih =>
    exact prodO_chunks root hm chunkSize (by omega) _ _ (le_refl _) _ (ih h)

theorem parBatchMultiplyWith_spec (numThreads : Nat)
    (ps : List (Option (List K))) (r : List K) (h : parBatchMultiplyWith FK mulf numThreads ps = some r) :
    prodO ps = some (denote r) := by
  unfold parBatchMultiplyWith at h
  split at h
  · next he =>
    injection h with h; subst h
    rw [List.isEmpty_iff] at he
    subst he
    simp [prodO]
  · exact parBatchLoop_spec root hm numThreads ps r h

end

def AllSome (ps : List (Option (List K))) : Prop := ∀ p ∈ ps, p.isSome

/-- "returns" as a relation between a run and itself (the second component is ignored), so that the no-panic theorems are
    instances of the two-run lemmas of `TF/Proofs/PolyMulHom.lean` -/
theorem isSome_mulRel {mulf : List K → List K → Option (List K)} (ht : ∀ a b, (mulf a b).isSome) :
    Hom.MulRel (fun p _ => p.isSome = true) mulf mulf := by
  intro p _ q _ hp hq
  obtain ⟨a, rfl⟩ := Option.isSome_iff_exists.1 hp
  obtain ⟨b, rfl⟩ := Option.isSome_iff_exists.1 hq
  exact ht a b

theorem batchMultiplyWith_isSome {mulf : List K → List K → Option (List K)} (ht : ∀ a b, (mulf a b).isSome)
    (ps : List (Option (List K))) (h : AllSome ps) : (batchMultiplyWith FK mulf ps).isSome :=
  Hom.batchMultiplyWith_rel (G := FK) (isSome_mulRel ht) rfl (List.forall₂_same.2 h)

theorem parBatchMultiplyWith_isSome {mulf : List K → List K → Option (List K)} (ht : ∀ a b, (mulf a b).isSome)
    (numThreads : Nat) (ps : List (Option (List K))) (h : AllSome ps) :
    (parBatchMultiplyWith FK mulf numThreads ps).isSome :=
  Hom.parBatchMultiplyWith_rel (G := FK) (isSome_mulRel ht) rfl numThreads (List.forall₂_same.2 h)

theorem allSome_map_some (fs : List (List K)) : AllSome (fs.map some) := by
  intro p hp
  simp at hp
  obtain ⟨a, _, rfl⟩ := hp
  rfl


/-! Operands over different fields (`FF: Mul<FF2>`): `K₁`, `K₂` are the coefficient fields of the operands, `K` the field of
the result, `φ₁ φ₂` the embeddings (for `BFieldElement × XFieldElement`: `φ₁ = algebraMap`, `φ₂ = id`), and the mixed product
is `φ₁ a * φ₂ b`.  A ring homomorphism between fields is a map of operation records (`ofField_opsMap`), so the mixed
operations reduce to the same-field ones on the embedded operands by `TF/Proofs/PolyMulHom.lean`. -/
section Mixed
variable {K₁ K₂ : Type} [Field K₁] [Field K₂] (φ₁ : K₁ →+* K) (φ₂ : K₂ →+* K)
variable (root₁ : Nat → Option K₁) (root₂ : Nat → Option K₂)

theorem denote_map (φ : K₁ →+* K) (a : List K₁) : denote (a.map φ) = (denote a).map φ := by
  induction a with
  | nil => simp
  | cons c cs ih => simp [ih]

theorem ofField_opsMap (φ : K₁ →+* K) : Hom.OpsMap (FieldOps.ofField K₁ root₁) FK φ (fun _ => True) :=
  .of_true φ.map_zero φ.map_one φ.map_add φ.map_sub φ.map_mul fun a => by
    rw [Bool.eq_iff_iff, FieldOps.ofField_isZero, FieldOps.ofField_isZero, map_eq_zero]

theorem normalize_map (φ : K₁ →+* K) (a : List K₁) :
    (normalize (FieldOps.ofField K₁ root₁) a).map φ = normalize FK (a.map φ) :=
  Hom.normalize_map (ofField_opsMap root root₁ φ) a (fun _ _ => trivial)

theorem degree_map (φ : K₁ →+* K) (a : List K₁) :
    degree FK (a.map φ) = degree (FieldOps.ofField K₁ root₁) a :=
  Hom.degree_map (ofField_opsMap root root₁ φ) a (fun _ _ => trivial)

/-- the mixed-field `naive_multiply` is the same-field one on the embedded operands -/
theorem naiveMultiplyG_eq (a : List K₁) (b : List K₂) :
    naiveMultiplyG (FieldOps.ofField K₁ root₁) (FieldOps.ofField K₂ root₂) FK (fun x y => φ₁ x * φ₂ y) a b
      = naiveMultiply FK (a.map φ₁) (b.map φ₂) :=
  (List.map_id _).symm.trans
    (Hom.naiveMultiplyG_map (ofField_opsMap root root₁ φ₁) (ofField_opsMap root root₂ φ₂) (Hom.OpsMap.id FK)
      (fun _ _ => rfl) a b (fun _ _ => trivial) (fun _ _ => trivial))

/-- `fast_multiply<FF2>` with each operand transformed over its own field is the same-field `fast_multiply` on the
    embedded operands, whenever the transforms correspond along the embeddings -/
theorem fastMultiplyG_eq_of_hom (T1 : Transform K₁) (T2 : Transform K₂) (T : Transform K)
    (h1 : ∀ xs, (T1.ntt xs).map (List.map φ₁) = T.ntt (xs.map φ₁))
    (h2 : ∀ xs, (T2.ntt xs).map (List.map φ₂) = T.ntt (xs.map φ₂)) (a : List K₁) (b : List K₂) :
    fastMultiplyG (FieldOps.ofField K₁ root₁) (FieldOps.ofField K₂ root₂) (fun x y => φ₁ x * φ₂ y) T1 T2 T a b
      = fastMultiply FK T (a.map φ₁) (b.map φ₂) := by
  have := (Hom.fastMultiplyG_rel (mul' := (· * ·)) (ofField_opsMap root root₁ φ₁) (ofField_opsMap root root₂ φ₂) h1 h2
    (Hom.TransMap.id T) (fun _ _ => rfl) a b (fun _ _ => trivial) (fun _ _ => trivial)).1
  rwa [List.map_id_fun, Option.map_id_fun] at this

theorem multiplyG_eq_of_hom (T1 : Transform K₁) (T2 : Transform K₂) (T : Transform K)
    (h1 : ∀ xs, (T1.ntt xs).map (List.map φ₁) = T.ntt (xs.map φ₁))
    (h2 : ∀ xs, (T2.ntt xs).map (List.map φ₂) = T.ntt (xs.map φ₂)) (threshold : Int) (a : List K₁) (b : List K₂) :
    multiplyG (FieldOps.ofField K₁ root₁) (FieldOps.ofField K₂ root₂) FK (fun x y => φ₁ x * φ₂ y) threshold T1 T2 T a b
      = multiply FK threshold T (a.map φ₁) (b.map φ₂) := by
  unfold multiply multiplyG
  rw [degree_map, degree_map, naiveMultiplyG_eq, fastMultiplyG_eq_of_hom root φ₁ φ₂ root₁ root₂ T1 T2 T h1 h2]
  rfl

theorem denote_naiveMultiplyG (a : List K₁) (b : List K₂) :
    denote (naiveMultiplyG (FieldOps.ofField K₁ root₁) (FieldOps.ofField K₂ root₂) FK (fun x y => φ₁ x * φ₂ y) a b)
      = (denote a).map φ₁ * (denote b).map φ₂ := by
  rw [naiveMultiplyG_eq, denote_naiveMultiply, denote_map, denote_map]

theorem denote_scalarMulG (p : List K₁) (s : K₂) :
    denote (scalarMulG (fun x y => φ₁ x * φ₂ y) p s) = (denote p).map φ₁ * C (φ₂ s) := by
  unfold scalarMulG
  rw [← denote_map, ← denote_map_mul_right, List.map_map]
  rfl

theorem scaleAux_map (p : List K₁) (alpha pw : K₂) :
    scaleAux (· * ·) (fun x y => φ₁ x * φ₂ y) alpha pw p
      = scaleAux (· * ·) (· * ·) (φ₂ alpha) (φ₂ pw) (p.map φ₁) := by
  induction p generalizing pw with
  | nil => simp [scaleAux]
  | cons c cs ih => simp [scaleAux, ih]

theorem denote_scaleG (p : List K₁) (alpha : K₂) :
    denote (scaleG (1 : K₂) (· * ·) (fun x y => φ₁ x * φ₂ y) p alpha)
      = ((denote p).map φ₁).comp (C (φ₂ alpha) * X) := by
  unfold scaleG
  rw [scaleAux_map, denote_scaleAux, denote_map]
  simp

end Mixed

/-- a concrete transform pair over `ℚ` (lengths 1 and 2, points `1, -1`) for the non-vacuity examples -/
def exampleTransform : Transform ℚ where
  ntt := fun xs => match xs with
    | [x] => some [x]
    | [x0, x1] => some [x0 + x1, x0 - x1]
    | _ => none
  intt := fun ys => match ys with
    | [y] => some [y]
    | [y0, y1] => some [(y0 + y1) / 2, (y0 - y1) / 2]
    | _ => none

def examplePts (_ i : Nat) : ℚ := if i = 0 then 1 else -1

theorem exampleNtt_some {xs ys : List ℚ} (h : exampleTransform.ntt xs = some ys) :
    (∃ x, xs = [x] ∧ ys = [x]) ∨ ∃ x0 x1, xs = [x0, x1] ∧ ys = [x0 + x1, x0 - x1] := by
  match xs, h with
  | [x], h => exact .inl ⟨x, rfl, (Option.some.inj h).symm⟩
  | [x0, x1], h => exact .inr ⟨x0, x1, rfl, (Option.some.inj h).symm⟩

theorem exampleTransform_spec : TransformSpec exampleTransform examplePts where
  ntt_eval := by
    intro xs ys h
    rcases exampleNtt_some h with ⟨x, rfl, rfl⟩ | ⟨x0, x1, rfl, rfl⟩
    · simp [examplePts, List.range_succ]
    · simp [examplePts, List.range_succ]; ring
  ntt_some_of_length := by
    intro xs ys xs' h hl
    rcases exampleNtt_some h with ⟨x, rfl, rfl⟩ | ⟨x0, x1, rfl, rfl⟩
    · obtain ⟨a, rfl⟩ := List.length_eq_one_iff.1 hl
      exact ⟨_, rfl⟩
    · obtain ⟨a, b, rfl⟩ := List.length_eq_two.1 hl
      exact ⟨_, rfl⟩
  intt_ntt := by
    intro xs ys zs h h2
    rcases exampleNtt_some h with ⟨x, rfl, rfl⟩ | ⟨x0, x1, rfl, rfl⟩
    · exact (Option.some.inj h2).symm
    · rw [← Option.some.inj h2]
      congr 1
      · ring
      · congr 1; ring

end TF.Model.Poly
