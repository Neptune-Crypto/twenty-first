import TF.Proofs.MmrForest
import TF.Proofs.MmrBounded
/-!
With `forest_row_block` (every row of the table of the explicit forest in node coordinates),
`get_authentication_path_node_indices` and `leaf_index_to_mt_index_and_peak_index` agree with the table, which closes
`forestAgrees n = true` for every `n < 2^63`.
-/
namespace TF.Mmr
open TF TF.Gen TF.Spec.Mmr TF.Model.Mmr
open TF.MmrE (nodeIdx anc sibsUp)
open TF.Spec.MmrE (sibBlk)

/-- two descriptions of "the highest bit in which `i` and `n` differ" agree -/
theorem diff_bit_unique (i n a b : Nat) (ha1 : i / 2^(a+1) = n / 2^(a+1)) (ha2 : n / 2^a % 2 = 1) (ha3 : i / 2^a % 2 = 0)
    (hb1 : i / 2^(b+1) = n / 2^(b+1)) (hb2 : n / 2^b % 2 = 1) (hb3 : i / 2^b % 2 = 0) : a = b := by
  rcases Nat.lt_trichotomy a b with h | h | h
  · have := div_pow_eq_of_le ha1 (K := b) (by omega)
    rw [this] at hb3; omega
  · exact h
  · have := div_pow_eq_of_le hb1 (K := a) (by omega)
    rw [this] at ha3; omega

/-- the would-be parent of the peak for the set bit `b` of `n` is not a node of the forest: it closes the block that
    ends beyond leaf `n`, and `n` has at least one set bit more than `n / 2^(b+1)` -/
theorem peak_parent_gt (n b : Nat) (hb : n / 2^b % 2 = 1) : nodesOf n < nodeIdx (b+1) (n / 2^(b+1)) := by
  have h1 := Nat.div_add_mod n (2^(b+1))
  have h2 := mod_two_pow_succ n b
  rw [hb, Nat.mul_one] at h2
  have hpos := Nat.two_pow_pos b
  have hlt := Nat.mod_lt n (Nat.two_pow_pos (b+1))
  have hs := popCount_split (b+1) n
  have hp := popCount_pos (n % 2^(b+1)) (by omega)
  have he := TF.MmrE.nodeIdx_eq (b+1) (n / 2^(b+1))
  rw [two_pow_succ' (b+1)] at he
  have e : (n / 2^(b+1) + 1) * (2 * 2^(b+1)) = 2 * (2^(b+1) * (n / 2^(b+1))) + 2 * 2^(b+1) := by ring
  have hle := popCount_le n
  unfold nodesOf
  omega

section
variable (n : Nat) (hn : n < 2^63) (k : Nat) (r : Row) (hr : (k, r) ∈ (forest n).rows)
include hn hr

/-- the columns of a row in coordinates: the set bit `b` of its tree, its node `(height, j)` below the peak, the peak as
    its ancestor, the Merkle-tree index and the authentication path -/
theorem forest_row_facts :
    ∃ b j, n / 2^b % 2 = 1 ∧ k = popCount (n / 2^(b+1)) ∧ r.height ≤ b ∧
      j / 2^(b - r.height) = 2 * (n / 2^(b+1)) ∧ r.idx = nodeIdx r.height j ∧
      ((forest n).peaks.map TF.Spec.Mmr.Tree.idx)[k]? = some (anc r.height j (b - r.height)) ∧
      anc r.height j (b - r.height) ≤ (forest n).nodes ∧
      r.mt = 2^(b - r.height) + j % 2^(b - r.height) ∧
      r.auth = sibsUp r.height j (b - r.height) ∧
      (∀ li, r.leaf = some li → r.height = 0 ∧ li = j) := by
  obtain ⟨b, l, j, hb, hk, _, hl, hj, rfl, hpk, hle⟩ := forest_row_block n hn k r hr
  refine ⟨b, j, hb, hk, hl, hj, rfl, hpk, hle, by simp [rowAt], by simp [rowAt], fun li hli => ?_⟩
  exact rowAt_leaf hli

/-- from a node to the peak of its tree the function returns the authentication path recorded in the table -/
theorem forest_auth_path :
    ∃ pk, ((forest n).peaks.map TF.Spec.Mmr.Tree.idx)[k]? = some pk ∧
      get_authentication_path_node_indices r.idx pk (forest n).nodes = some (some r.auth) := by
  obtain ⟨b, j, _, _, _, _, hidx, hpk, hle, _, hauth, _⟩ := forest_row_facts n hn k r hr
  refine ⟨_, hpk, ?_⟩
  have hnodes : (forest n).nodes ≤ 2 * n := by rw [forest_eq]; exact nodesOf_le n
  have h64 : (2:Nat)^64 = 2 * 2^63 := by decide
  rw [hidx, hauth]
  exact TF.MmrE.get_auth_path_ancestor r.height j (b - r.height) _ (by omega)
    (fun t ht => by have := TF.MmrE.anc_strictMono r.height j ht; omega)

/-- for a leaf row the function returns the recorded Merkle-tree index and the position of the leaf's tree among the peaks -/
theorem forest_mt_peak (li : Nat) (hl : r.leaf = some li) :
    li < n ∧ leaf_index_to_mt_index_and_peak_index li n = (r.mt, k) := by
  have hn64 : n < 2^64 := by
    have : (2:Nat)^63 < 2^64 := by decide
    omega
  obtain ⟨b, j, hb, hk, _, hdiv, _, _, _, hmt, _, hleaf⟩ := forest_row_facts n hn k r hr
  obtain ⟨hh, rfl⟩ := hleaf li hl
  rw [hh, Nat.sub_zero] at hdiv hmt
  have hblk := block_le n b hb
  have hpos := Nat.two_pow_pos b
  have hdm := Nat.div_add_mod li (2^b)
  have hmod := Nat.mod_lt li hpos
  have hlt : li < n := by
    have e : (2 * (n / 2^(b+1)) + 1) * 2^b = 2^b * (2 * (n / 2^(b+1))) + 2^b := by ring
    rw [hdiv] at hdm
    omega
  refine ⟨hlt, ?_⟩
  obtain ⟨hv, _⟩ := mt_spec li n hlt hn64
  obtain ⟨f1, f2, f3⟩ := xor_log2_facts li n hlt
  have g1 : li / 2^(b+1) = n / 2^(b+1) := by
    rw [div_two_pow_succ li b, hdiv]; omega
  have g3 : li / 2^b % 2 = 0 := by rw [hdiv]; omega
  have := diff_bit_unique li n _ b f1 f2 f3 g1 hb g3
  rw [hv, this, hmt, hk]

theorem forest_idx_le :
    1 ≤ r.idx ∧ r.idx ≤ (forest n).nodes := by
  obtain ⟨b, j, _, _, _, _, hidx, _, hle, _, _, _⟩ := forest_row_facts n hn k r hr
  have := TF.MmrE.anc_mono r.height j (a := 0) (b := b - r.height) (by omega)
  rw [TF.MmrE.anc_zero, ← hidx] at this
  have := TF.MmrE.nodeIdx_pos r.height j
  omega

theorem forest_step_coords (hp : r.parent ≠ 0) (L J : Nat) (hidx : r.idx = nodeIdx L J) :
    r.parent = nodeIdx (L + 1) (J / 2) ∧ r.sibling = nodeIdx L (sibBlk J) := by
  obtain ⟨b, l, j, _, _, _, _, _, rfl, _, hle⟩ := forest_row_block n hn k r hr
  obtain ⟨rfl, rfl⟩ := TF.MmrE.nodeIdx_inj l j L J (forest_row_lt hn hle) hidx
  have hlb : l ≠ b := fun e => hp (if_pos e)
  simp only [rowAt, if_neg hlb]
  exact ⟨trivial, trivial⟩

/-- for an arbitrary second argument `p`: `Some` iff `p` is the node, an ancestor up to the peak, or the would-be parent of the
    peak (a node index outside the forest that the Rust code does not notice); `None` otherwise -/
theorem forest_auth_path_exact :
    ∃ b j, r.idx = nodeIdx r.height j ∧ r.height ≤ b ∧
      ((forest n).peaks.map TF.Spec.Mmr.Tree.idx)[k]? = some (anc r.height j (b - r.height)) ∧
      (∀ p path, get_authentication_path_node_indices r.idx p (forest n).nodes = some (some path) ↔
         ∃ d, d ≤ b - r.height + 1 ∧ anc r.height j d = p ∧ path = sibsUp r.height j d) ∧
      (∀ p, get_authentication_path_node_indices r.idx p (forest n).nodes = some none ↔
         ∀ d, d ≤ b - r.height + 1 → anc r.height j d ≠ p) := by
  obtain ⟨b, j, hb, _, hle, hdiv, hidx, hpk, hancle, _, _, _⟩ := forest_row_facts n hn k r hr
  refine ⟨b, j, hidx, hle, hpk, ?_⟩
  generalize r.height = l at *
  obtain ⟨D, hD⟩ : ∃ D, b - l = D := ⟨_, rfl⟩
  rw [hD] at hdiv hancle ⊢
  have hnodes : (forest n).nodes = nodesOf n := by rw [forest_eq]
  have hnle := nodesOf_le n
  have h64 : (2:Nat)^64 = 2 * 2^63 := by decide
  have hb62 := bit_lt n b 63 hb hn
  have hgt : (forest n).nodes < anc l j (D + 1) := by
    have e : anc l j (D + 1) = nodeIdx (b + 1) (n / 2^(b+1)) := by
      unfold TF.MmrE.anc
      rw [div_two_pow_succ, hdiv]
      have : 2 * (n / 2^(b+1)) / 2 = n / 2^(b+1) := by omega
      rw [this]; congr 1; omega
    rw [e, hnodes]; exact peak_parent_gt n b hb
  have key : ∀ d, (∀ t, t < d → anc l j t ≤ (forest n).nodes) ↔ d ≤ D + 1 := by
    intro d
    constructor
    · intro h
      by_contra hc
      have := h (D + 1) (by omega)
      omega
    · intro h t ht
      have := TF.MmrE.anc_mono l j (a := t) (b := D) (by omega)
      omega
  have hlt : nodeIdx l j < 2^64 := by
    have := TF.MmrE.anc_mono l j (a := 0) (b := D) (by omega)
    rw [TF.MmrE.anc_zero] at this
    omega
  have hnc : (forest n).nodes < 2^64 - 1 := by omega
  rw [hidx]
  constructor
  · intro p path
    rw [TF.MmrE.get_auth_path_some_iff l j p _ hlt hnc path]
    constructor
    · rintro ⟨d, _, hp, hbelow, hpath⟩
      exact ⟨d, (key d).mp hbelow, hp, hpath⟩
    · rintro ⟨d, hd, hp, hpath⟩
      exact ⟨d, by omega, hp, (key d).mpr hd, hpath⟩
  · intro p
    rw [TF.MmrE.get_auth_path_none_iff l j p _ hlt hnc]
    constructor
    · intro h d hd hp
      obtain ⟨t, ht, hnt⟩ := h d (by omega) hp
      have := (key d).mpr hd t ht
      omega
    · intro h d _ hp
      have hd : ¬ d ≤ D + 1 := fun hc => h d hc hp
      exact ⟨D + 1, by omega, hgt⟩

theorem forest_row_zero_cols :
    (r.parent = 0 → r.sibling = 0) ∧ (r.height = 0 → r.left = 0) := by
  obtain ⟨b, l, j, _, _, _, _, _, rfl, _, _⟩ := forest_row_block n hn k r hr
  constructor
  · intro hp
    have hlb : l = b := by
      by_contra hne
      have := TF.MmrE.nodeIdx_pos (l + 1) (j / 2)
      simp only [rowAt, if_neg hne] at hp
      omega
    exact if_pos hlb
  · intro hh
    exact if_pos hh

theorem forest_rowAgrees :
    rowAgrees n (forest n).nodes ((forest n).peaks.map TF.Spec.Mmr.Tree.idx) k r = true := by
  obtain ⟨f1, f2, f3, f4⟩ := forest_node_functions n hn k r hr
  have f5 := forest_rll_node n hn k r hr
  obtain ⟨z1, z2⟩ := forest_row_zero_cols n hn k r hr
  obtain ⟨pk, hpk, hauth⟩ := forest_auth_path n hn k r hr
  have hgetD : ((forest n).peaks.map TF.Spec.Mmr.Tree.idx).getD k 0 = pk := by
    rw [List.getD_eq_getElem?_getD, hpk]; rfl
  unfold rowAgrees
  rw [f1, f2, f5, hgetD, hauth]
  have c3 : (r.parent == 0 || parent r.idx == some r.parent) = true := by
    by_cases hp : r.parent = 0
    · simp [hp]
    · rw [(f3 hp).1]; simp
  have c5 : (r.left == 0 || (left_child r.idx r.height == r.left && right_child r.idx == r.right)) = true := by
    by_cases hh : r.height = 0
    · simp [z2 hh]
    · obtain ⟨g1, _, g2, _⟩ := f4 (by omega)
      rw [g1, g2]; simp
  have c6 : (r.sibling == 0 ||
      (if r.rll != 0 then left_sibling r.idx r.height == r.sibling else right_sibling r.idx r.height == r.sibling)) = true := by
    by_cases hp : r.parent = 0
    · simp [z1 hp]
    · obtain ⟨_, g1, g2⟩ := f3 hp
      by_cases hrll : r.rll = 0
      · rw [(g2 hrll).1]; simp [hrll]
      · rw [(g1 hrll).1]; simp [hrll]
  rw [c3, c5, c6]
  cases hl : r.leaf with
  | none => simp
  | some li =>
    obtain ⟨g1, g2⟩ := forest_leaf_functions n hn k r hr li hl
    obtain ⟨_, g3⟩ := forest_mt_peak n hn k r hr li hl
    simp only [g1, g2, g3, beq_self_eq_true, Bool.and_self]

end

/-- along a chain `c 0, …, c d` of rows, each the recorded parent of the one before, the function returns the recorded
    siblings of `c 0 … c (d−1)` -/
theorem forest_auth_path_chain (n : Nat) (hn : n < 2^63) (d : Nat) (c : Nat → Row) (kk : Nat → Nat)
    (hrows : ∀ t, t ≤ d → (kk t, c t) ∈ (forest n).rows)
    (hpar : ∀ t, t < d → (c t).parent = (c (t+1)).idx) :
    get_authentication_path_node_indices (c 0).idx (c d).idx (forest n).nodes
      = some (some ((List.range d).map fun t => (c t).sibling)) := by
  obtain ⟨_, j, _, _, _, _, hidx0, _⟩ := forest_row_facts n hn (kk 0) (c 0) (hrows 0 (by omega))
  generalize (c 0).height = l at hidx0
  have hall : ∀ t, t ≤ d → (c t).idx = anc l j t := by
    intro t
    induction t with
    | zero => intro _; rw [TF.MmrE.anc_zero]; exact hidx0
    | succ t ih =>
      intro ht
      have hi := ih (by omega)
      have hp : (c t).parent ≠ 0 := by
        rw [hpar t (by omega)]
        have := (forest_idx_le n hn _ _ (hrows (t+1) ht)).1
        omega
      have := (forest_step_coords n hn _ _ (hrows t (by omega)) hp (l + t) (j / 2^t) hi).1
      rw [← hpar t (by omega), this]
      unfold TF.MmrE.anc
      rw [← div_two_pow_succ]
      rfl
  have hsib : (List.range d).map (fun t => (c t).sibling) = sibsUp l j d := by
    unfold TF.MmrE.sibsUp
    apply List.map_congr_left
    intro t ht
    have ht' := List.mem_range.mp ht
    have hp : (c t).parent ≠ 0 := by
      rw [hpar t ht']
      have := (forest_idx_le n hn _ _ (hrows (t+1) (by omega))).1
      omega
    exact (forest_step_coords n hn _ _ (hrows t (by omega)) hp (l + t) (j / 2^t) (hall t (by omega))).2
  have hnodes : (forest n).nodes ≤ 2 * n := by rw [forest_eq]; exact nodesOf_le n
  have h64 : (2:Nat)^64 = 2 * 2^63 := by decide
  have hd := (forest_idx_le n hn _ _ (hrows d (Nat.le_refl _))).2
  rw [hsib, hall d (Nat.le_refl _), hidx0]
  rw [hall d (Nat.le_refl _)] at hd
  exact TF.MmrE.get_auth_path_ancestor l j d _ (by omega)
    (fun t ht => by rw [← hall t (by omega)]; exact (forest_idx_le n hn _ _ (hrows t (by omega))).2)

theorem forestAgrees_all (n : Nat) (hn : n < 2^63) : forestAgrees n = true := by
  have hn64 : n < 2^64 := by
    have : (2:Nat)^63 < 2^64 := by decide
    omega
  have hs := forest_shape n hn64
  unfold forestAgrees
  simp only
  have c1 : (num_leafs_to_num_nodes n == (forest n).nodes) = true := by
    rw [(num_nodes_spec n hn).1, hs.1]; simp
  have c2 : (get_peak_heights n == (forest n).peaks.map TF.Spec.Mmr.Tree.height) = true := by
    rw [get_peak_heights_spec n hn64, hs.2.2]; simp
  have c3 : (get_peak_heights_and_peak_node_indices n
      == some ((forest n).peaks.map TF.Spec.Mmr.Tree.height, (forest n).peaks.map TF.Spec.Mmr.Tree.idx)) = true := by
    rw [forest_peaks n hn]; simp
  have c4 : (node_indices_added_by_append n
      == some ((List.range ((forest n).append.nodes - (forest n).nodes)).map fun k => (forest n).nodes + 1 + k)) = true := by
    rw [forest_added n hn]
    exact beq_self_eq_true _
  rw [c1, c2, c3, c4]
  simp only [Bool.true_and, List.all_eq_true]
  rintro ⟨k, r⟩ hx
  exact forest_rowAgrees n hn k r hx

end TF.Mmr
