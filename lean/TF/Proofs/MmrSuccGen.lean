import TF.Proofs.MmrSuccBlk
import TF.Proofs.MmrSuccUnfold
/-!
C12, `new_from_batch_append`: the needed-sibling walk (`neededLoop`) from an old peak returns the node indices of the
sibling blocks up to the new peak above it (`needed_spec`).
-/
namespace TF.MmrE
open TF TF.Gen TF.Model.Mmr TF.Model.MmrE TF.Spec.MmrE TF.Spec.Mmr

theorem parent_some_gt (x : Nat) (h1 : 1 ≤ x) (h2 : x < 2 ^ 64 - 1) : ∃ p, parent x = some p ∧ x < p := by
  obtain ⟨l, j, hl, hj, rfl⟩ := exists_coords 63 x h1 (by omega)
  have hl63 : l < 63 := by
    by_contra hc
    obtain rfl : l = 63 := by omega
    obtain rfl : j = 0 := by simpa using hj
    rw [nodeIdx_root] at h2; omega
  exact ⟨_, parent_spec l j hl63 (TF.Mmr.parent_lt l j hl63 hj), nodeIdx_lt_parent l j⟩

theorem mul_pow_succ_le (a l : Nat) (hl : l < 63) (h : a * 2 ^ (l + 1) < 2 ^ 63) : (a + 1) * 2 ^ (l + 1) ≤ 2 ^ 63 := by
  have e : (2:Nat) ^ 63 = 2 ^ (62 - l) * 2 ^ (l + 1) := by rw [← Nat.pow_add]; congr 1; omega
  rw [e] at h ⊢
  have := Nat.lt_of_mul_lt_mul_right h
  exact Nat.mul_le_mul_right _ this

theorem sibling_spec (l j : Nat) (hl : l < 63) (hlt : nodeIdx (l + 1) (j / 2) < 2 ^ 64) :
    (j % 2 = 1 → left_sibling (nodeIdx l j) l = nodeIdx l (sibBlk j)) ∧
    (j % 2 = 0 → right_sibling (nodeIdx l j) l = nodeIdx l (sibBlk j)) := by
  have hpar := nodeIdx_lt_parent l j
  have h := siblingAndParent_spec l j hl hlt
  unfold siblingAndParent at h
  rw [rll_spec l j (by omega)] at h
  simp only at h
  constructor
  · intro hodd
    rw [if_pos ((trailingOnes_ne_zero_iff j).mpr hodd)] at h
    exact (Prod.mk.inj (Prod.mk.inj (Option.some.inj h)).2).1
  · intro hev
    rw [if_neg (fun hc => by have := (trailingOnes_ne_zero_iff j).mp hc; omega)] at h
    exact (Prod.mk.inj (Prod.mk.inj (Option.some.inj h)).2).1

/-- one round of the `while !indices_of_new_peaks.contains(&current_index)` loop at the node `(l, j)` -/
theorem neededLoop_step (newIdx : List Nat) (fuel l j : Nat) (acc : List Nat)
    (hb : bend (l + 1) (j / 2) < 2 ^ 63) (hnc : nodeIdx l j ∉ newIdx) :
    neededLoop newIdx (fuel + 1) (nodeIdx l j) l acc
      = neededLoop newIdx fuel (nodeIdx (l + 1) (j / 2)) (l + 1) (acc ++ [nodeIdx l (sibBlk j)]) := by
  have hl1 : l + 1 < 63 := level_lt_of_bend (l + 1) (j / 2) _ (Nat.le_refl _) hb
  have hl : l < 63 := by omega
  have hlt : nodeIdx (l + 1) (j / 2) < 2 ^ 64 := nodeIdx_lt_of_block (l + 1) (j / 2) _ (Nat.le_refl _) hb
  have hpar := nodeIdx_lt_parent l j
  have hinc : inc32 l = l + 1 := by unfold inc32 W32; omega
  have hcont : newIdx.contains (nodeIdx l j) = false := by
    simpa using hnc
  rw [neededLoop_succ, hcont, parent_spec l j hl hlt]
  have hsib := sibling_spec l j hl hlt
  by_cases hev : j % 2 = 0
  · have hs : sibBlk j = j + 1 := sibBlk_even hev
    have e : (j + 1) / 2 = j / 2 := by omega
    rw [hsib.2 hev, hs, parent_spec l (j + 1) hl (by rw [e]; exact hlt), e]
    simp only [Bool.false_eq_true, if_false, hinc, Option.bind_some, ne_eq, not_true_eq_false]
  · have hodd : j % 2 = 1 := by omega
    have e : j = 2 * (j / 2) + 1 := by omega
    have hr := nodeIdx_right l (j / 2)
    rw [← e] at hr
    have h2 := two_pow_le_nodeIdx l j
    have heq := nodeIdx_eq l j
    have hpcpos : 1 ≤ TF.popCount j := by
      rw [TF.Mmr.popCount_eq]; omega
    -- the node "to the right" is some other node with a larger parent
    have hbnd : (j / 2 + 1 + 1) * 2 ^ (l + 1) ≤ 2 ^ 63 := mul_pow_succ_le (j / 2 + 1) l hl (by unfold bend at hb; exact hb)
    have hmul : (j + 1) * 2 ^ (l + 1) + 2 * 2 ^ (l + 1) = 2 * ((j / 2 + 1 + 1) * 2 ^ (l + 1)) := by
      have : j + 1 = 2 * (j / 2 + 1) := by omega
      rw [this]; ring
    have hpos : 0 < 2 ^ (l + 1) := Nat.pow_pos (by omega)
    have h64 : (2:Nat) ^ 64 = 2 * 2 ^ 63 := by rw [← Nat.pow_succ']
    have hrs := (TF.Mmr.right_sibling_spec (nodeIdx l j) l hl (by omega)).1
    obtain ⟨p, hp, hgt⟩ := parent_some_gt (nodeIdx l j + 2 ^ (l + 1) - 1) (by omega) (by omega)
    have hne : p ≠ nodeIdx (l + 1) (j / 2) := by omega
    rw [hrs, hp, hsib.1 hodd]
    simp only [Bool.false_eq_true, if_false, hinc, Option.bind_some, ne_eq, hne, not_false_eq_true, if_true]

theorem neededLoop_walk (newIdx : List Nat) : ∀ (d l j : Nat) (acc : List Nat) (fuel : Nat), d < fuel →
    (∀ t < d, nodeIdx (l + t) (j / 2 ^ t) ∉ newIdx) → nodeIdx (l + d) (j / 2 ^ d) ∈ newIdx →
    bend (l + d) (j / 2 ^ d) < 2 ^ 63 →
    neededLoop newIdx fuel (nodeIdx l j) l acc
      = some (acc ++ (List.range d).map (fun t => nodeIdx (l + t) (sibBlk (j / 2 ^ t)))) := by
  intro d
  induction d with
  | zero =>
    intro l j acc fuel hf _ hin _
    obtain ⟨f, rfl⟩ : ∃ f, fuel = f + 1 := ⟨fuel - 1, by omega⟩
    have hc : newIdx.contains (nodeIdx l j) = true := by simpa using hin
    rw [neededLoop_succ, hc]
    simp
  | succ d ih =>
    intro l j acc fuel hf hnot hin hb
    obtain ⟨f, rfl⟩ : ∃ f, fuel = f + 1 := ⟨fuel - 1, by omega⟩
    have ediv : j / 2 / 2 ^ d = j / 2 ^ (d + 1) := by rw [Nat.div_div_eq_div_mul, Nat.pow_succ']
    have e1 : l + 1 + d = l + (d + 1) := by omega
    have hanc := bend_le_anc (l + 1) (j / 2) d
    rw [ediv, e1] at hanc
    have h0 := hnot 0 (by omega)
    simp only [Nat.add_zero, Nat.pow_zero, Nat.div_one] at h0
    rw [neededLoop_step newIdx f l j acc (by omega) h0]
    rw [ih (l + 1) (j / 2) _ f (by omega) (fun t ht => by
        have := hnot (t + 1) (by omega)
        have e : l + 1 + t = l + (t + 1) := by omega
        rw [Nat.div_div_eq_div_mul, ← Nat.pow_succ', e]; exact this)
      (by rw [ediv, e1]; exact hin) (by rw [ediv, e1]; exact hb)]
    congr 1
    rw [List.append_assoc]
    congr 1
    exact (map_range_succ_up (fun l' x => nodeIdx l' (sibBlk x)) l j d).symm

/-- number of levels between the block `(h, j)` and the peak above it in the MMR with `n` leaves -/
def upLen (n h j : Nat) : Nat := (locate n (j * 2 ^ h)).1 - h

theorem chain_facts (n h j : Nat) (hb : bend h j ≤ n) :
    (∀ t < upLen n h j, (h + t, j / 2 ^ t) ∉ peakBlk n) ∧
    (h + upLen n h j, j / 2 ^ upLen n h j) ∈ peakBlk n ∧
    h + upLen n h j = (locate n (j * 2 ^ h)).1 := by
  obtain ⟨hlt, hle⟩ := locate_block h j n hb
  have hL : h + upLen n h j = (locate n (j * 2 ^ h)).1 := by unfold upLen; omega
  refine ⟨?_, ?_, hL⟩
  · intro t ht hmem
    have := locate_of_mem_peakBlk (h + t) n (j * 2 ^ h) (by rw [blk_div]; exact hmem)
    omega
  · have := peakBlk_getElem_locate n (j * 2 ^ h) hlt
    rw [← hL, blk_div] at this
    exact List.mem_of_getElem? this

/-- **the needed-sibling walk of `new_from_batch_append`** for the old peak `(h, j)`: the node indices of the sibling
    blocks up to the new peak above it, lowest first (`2 * descentFuel` rounds are the model's bound for the Rust loop;
    at most 63 are needed) -/
theorem needed_spec (n h j : Nat) (hb : bend h j ≤ n) (hn : n < 2 ^ 63) :
    neededLoop (peakIdx n) (2 * descentFuel) (nodeIdx h j) h []
      = some ((sibBlks h j (upLen n h j)).map (fun b => nodeIdx b.1 b.2)) := by
  obtain ⟨h1, h2, h3⟩ := chain_facts n h j hb
  have hbend := mem_peakBlk_bend n _ _ h2
  have hl := level_lt_of_bend _ _ n hbend hn
  have := neededLoop_walk (peakIdx n) (upLen n h j) h j [] (2 * descentFuel) (by unfold descentFuel; omega)
    (fun t ht hmem => h1 t ht ((mem_peakIdx n _ _ hn).mp hmem)) ((mem_peakIdx n _ _ hn).mpr h2) (by omega)
  rw [this]
  simp [sibBlks, List.map_map, Function.comp_def]

end TF.MmrE
