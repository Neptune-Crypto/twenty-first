import TF.Gen.U32sLoops
import TF.Proofs.U32s
import TF.Proofs.OptionIte
import TF.Proofs.ListBasics
/-!
`Add`, `Sub`, `mul_two`, `div_two` of `amount/u32s.rs` as regenerated from source (`TF/Gen/U32sLoops.lean`) are the hand
model: `(if f_ok N a b then some (f N a b) else none) = Model.f a b` for all limb lists of length `N`.  `a.values[i]` is
`a.getD i 0`, `a.values[i] = v` is `a.set i v`, `for i in 0..N` a recursion on the number of iterations still to run; `f_ok` is
true iff no `assert!` fails and no index is out of range.
-/
namespace TF.GenBridge.U32s
open TF TF.Gen TF.U32s

theorem add_for_eq (a b : List Nat) : ∀ n i c res, a.length = i + n → b.length = i + n → res.length = i + n →
    Loops.u32s_add_for a b n i c res
      = ((addLoop (a.drop i) (b.drop i) c).2, res.take i ++ (addLoop (a.drop i) (b.drop i) c).1) := by
  intro n
  induction n with
  | zero =>
    intro i c res ha hb hr
    have ea : a.drop i = [] := List.drop_eq_nil_of_le (by omega)
    have eb : b.drop i = [] := List.drop_eq_nil_of_le (by omega)
    have er : res.take i = res := List.take_of_length_le (by omega)
    simp only [Loops.u32s_add_for, ea, eb, er, addLoop, List.append_nil]
  | succ n ih =>
    intro i c res ha hb hr
    rw [drop_cons_getD a 0 i (by omega), drop_cons_getD b 0 i (by omega)]
    simp only [Loops.u32s_add_for, addLoop, W, ite_eq_mul_toNat, Nat.one_mul, ge_iff_le]
    rw [ih (i + 1) _ _ (by omega) (by omega) (by rw [List.length_set]; omega), take_set_succ res i _ (by omega),
      List.append_assoc, List.singleton_append]
    rfl

theorem add_for_ok (a b : List Nat) : ∀ n i c res, a.length = i + n → b.length = i + n → res.length = i + n →
    Loops.u32s_add_for_ok a b n i c res = true := by
  intro n
  induction n with
  | zero => intros; rfl
  | succ n ih =>
    intro i c res ha hb hr
    have h1 : i < a.length := by omega
    have h2 : i < b.length := by omega
    have h3 : i < res.length := by omega
    simp only [Loops.u32s_add_for_ok, h1, h2, h3, decide_true, Bool.and_self, Bool.true_and]
    exact ih (i + 1) _ _ (by omega) (by omega) (by rw [List.length_set]; omega)

theorem gen_add_eq (N : Nat) (a b : List Nat) (ha : a.length = N) (hb : b.length = N) :
    (if Loops.u32s_add_ok N a b then some (Loops.u32s_add N a b) else none) = add a b := by
  have hf := add_for_eq a b N 0 false (List.replicate N 0) (by omega) (by omega) (by simp)
  have hk := add_for_ok a b N 0 false (List.replicate N 0) (by omega) (by omega) (by simp)
  simp only [Loops.u32s_add_ok, Loops.u32s_add, add, Nat.sub_zero, hf, hk, List.drop_zero, List.take_zero,
    List.nil_append, Bool.true_and]
  cases (addLoop a b false).2 <;> simp

theorem sub_for_eq (a b : List Nat) : ∀ n i c res, a.length = i + n → b.length = i + n → res.length = i + n →
    Loops.u32s_sub_for a b n i c res
      = ((subLoop (a.drop i) (b.drop i) c).2, res.take i ++ (subLoop (a.drop i) (b.drop i) c).1) := by
  intro n
  induction n with
  | zero =>
    intro i c res ha hb hr
    have ea : a.drop i = [] := List.drop_eq_nil_of_le (by omega)
    have eb : b.drop i = [] := List.drop_eq_nil_of_le (by omega)
    have er : res.take i = res := List.take_of_length_le (by omega)
    simp only [Loops.u32s_sub_for, ea, eb, er, subLoop, List.append_nil]
  | succ n ih =>
    intro i c res ha hb hr
    rw [drop_cons_getD a 0 i (by omega), drop_cons_getD b 0 i (by omega)]
    simp only [Loops.u32s_sub_for, subLoop, W, ite_eq_mul_toNat, Nat.one_mul]
    rw [ih (i + 1) _ _ (by omega) (by omega) (by rw [List.length_set]; omega), take_set_succ res i _ (by omega),
      List.append_assoc, List.singleton_append]
    rfl

theorem sub_for_ok (a b : List Nat) : ∀ n i c res, a.length = i + n → b.length = i + n → res.length = i + n →
    Loops.u32s_sub_for_ok a b n i c res = true := by
  intro n
  induction n with
  | zero => intros; rfl
  | succ n ih =>
    intro i c res ha hb hr
    have h1 : i < a.length := by omega
    have h2 : i < b.length := by omega
    have h3 : i < res.length := by omega
    simp only [Loops.u32s_sub_for_ok, h1, h2, h3, decide_true, Bool.and_self, Bool.true_and]
    exact ih (i + 1) _ _ (by omega) (by omega) (by rw [List.length_set]; omega)

theorem gen_sub_eq (N : Nat) (a b : List Nat) (ha : a.length = N) (hb : b.length = N) :
    (if Loops.u32s_sub_ok N a b then some (Loops.u32s_sub N a b) else none) = sub a b := by
  have hf := sub_for_eq a b N 0 false (List.replicate N 0) (by omega) (by omega) (by simp)
  have hk := sub_for_ok a b N 0 false (List.replicate N 0) (by omega) (by omega) (by simp)
  simp only [Loops.u32s_sub_ok, Loops.u32s_sub, sub, Nat.sub_zero, hf, hk, List.drop_zero, List.take_zero,
    List.nil_append, Bool.true_and]
  cases (subLoop a b false).2 <;> simp

theorem mul_two_for_eq : ∀ n i cur c, cur.length = i + n →
    Loops.u32s_mul_two_for n i cur c
      = (cur.take i ++ (mulTwoLoop (cur.drop i) c).1, (mulTwoLoop (cur.drop i) c).2) := by
  intro n
  induction n with
  | zero =>
    intro i cur c hl
    have ea : cur.drop i = [] := List.drop_eq_nil_of_le (by omega)
    have er : cur.take i = cur := List.take_of_length_le (by omega)
    simp only [Loops.u32s_mul_two_for, ea, er, mulTwoLoop, List.append_nil]
  | succ n ih =>
    intro i cur c hl
    rw [drop_cons_getD cur 0 i (by omega)]
    simp only [Loops.u32s_mul_two_for, mulTwoLoop, W, ite_eq_mul_toNat, Nat.one_mul, ge_iff_le, Nat.mul_comm (cur.getD i 0) 2]
    rw [ih (i + 1) _ _ (by rw [List.length_set]; omega), take_set_succ cur i _ (by omega),
      List.drop_set_of_lt (Nat.lt_succ_self i), List.append_assoc, List.singleton_append]
    rfl

theorem mul_two_for_ok : ∀ n i cur c, cur.length = i + n → Loops.u32s_mul_two_for_ok n i cur c = true := by
  intro n
  induction n with
  | zero => intros; rfl
  | succ n ih =>
    intro i cur c hl
    have h1 : i < cur.length := by omega
    simp only [Loops.u32s_mul_two_for_ok, h1, decide_true, Bool.true_and]
    exact ih (i + 1) _ _ (by rw [List.length_set]; omega)

theorem gen_mul_two_eq (N : Nat) (a : List Nat) (ha : a.length = N) :
    (if Loops.u32s_mul_two_ok N a then some (Loops.u32s_mul_two N a) else none) = mulTwo a := by
  have hf := mul_two_for_eq N 0 a false (by omega)
  have hk := mul_two_for_ok N 0 a false (by omega)
  simp only [Loops.u32s_mul_two_ok, Loops.u32s_mul_two, mulTwo, Nat.sub_zero, hf, hk, List.drop_zero, List.take_zero,
    List.nil_append, Bool.true_and]
  cases (mulTwoLoop a false).2 <;> simp

/-- one round of the generated `div_two` loop at index `i` -/
def dstep (i : Nat) (st : List Nat × Bool) : List Nat × Bool :=
  (st.1.set i (if st.2 then (st.1.getD i 0 / 2 + (1 * 2147483648 % 4294967296)) % 4294967296 else st.1.getD i 0 / 2),
   (st.1.getD i 0 &&& 1) == 1)

theorem div_two_for_succ (lo n : Nat) (cur : List Nat) (c : Bool) :
    Loops.u32s_div_two_for lo (n + 1) cur c
      = Loops.u32s_div_two_for lo n (dstep (lo + n) (cur, c)).1 (dstep (lo + n) (cur, c)).2 := by
  simp only [Loops.u32s_div_two_for, dstep]

/-- `div_two` runs `for i in (0..N).rev()`, the hand model recurses from the least significant limb: the rounds commute
    into "first all higher indices, then the lowest one" -/
theorem div_two_for_peel : ∀ n lo cur c,
    Loops.u32s_div_two_for lo (n + 1) cur c = dstep lo (Loops.u32s_div_two_for (lo + 1) n cur c) := by
  intro n
  induction n with
  | zero =>
    intro lo cur c
    rw [div_two_for_succ]
    simp only [Loops.u32s_div_two_for, Nat.add_zero]
  | succ n ih =>
    intro lo cur c
    rw [div_two_for_succ, ih, div_two_for_succ (lo + 1) n]
    have e : lo + (n + 1) = lo + 1 + n := by omega
    rw [e]

theorem div_two_for_eq : ∀ n lo cur, cur.length = lo + n → (∀ x ∈ cur, x < 4294967296) →
    Loops.u32s_div_two_for lo n cur false
      = (cur.take lo ++ (divTwoLoop (cur.drop lo)).1, (divTwoLoop (cur.drop lo)).2.1) := by
  intro n
  induction n with
  | zero =>
    intro lo cur hl _
    have ea : cur.drop lo = [] := List.drop_eq_nil_of_le (by omega)
    have er : cur.take lo = cur := List.take_of_length_le (by omega)
    simp only [Loops.u32s_div_two_for, ea, er, divTwoLoop, List.append_nil]
  | succ n ih =>
    intro lo cur hl hw
    rw [div_two_for_peel, ih (lo + 1) cur (by omega) hw, drop_cons_getD cur 0 lo (by omega)]
    have hx : cur.getD lo 0 < 4294967296 := by
      rw [getD_eq cur lo (by omega)]; exact hw _ (List.getElem_mem _)
    have hlen : (cur.take (lo + 1)).length = lo + 1 := by rw [List.length_take]; omega
    have hg : (cur.take (lo + 1) ++ (divTwoLoop (cur.drop (lo + 1))).1).getD lo 0 = cur.getD lo 0 := by
      rw [List.getD_eq_getElem?_getD, List.getD_eq_getElem?_getD, List.getElem?_append_left (by omega),
        List.getElem?_take_of_lt (by omega)]
    have hs : ∀ v, (cur.take (lo + 1) ++ (divTwoLoop (cur.drop (lo + 1))).1).set lo v
        = cur.take lo ++ v :: (divTwoLoop (cur.drop (lo + 1))).1 := by
      intro v
      have hlo : (cur.take lo).length = lo := by rw [List.length_take]; omega
      rw [List.take_add_one, List.getElem?_eq_getElem (show lo < cur.length by omega), Option.toList_some,
        List.append_assoc, List.set_append_right _ _ (by omega), hlo, Nat.sub_self]
      rfl
    simp only [dstep, hg, hs, divTwoLoop]
    have hand : (cur.getD lo 0 &&& 1) = cur.getD lo 0 % 2 := Nat.and_one_is_mod _
    rw [hand]
    generalize cur.getD lo 0 = x at hx ⊢
    have hb : (x % 2 == 1) = decide (x % 2 = 1) := by by_cases h : x % 2 = 1 <;> simp [h]
    rw [hb]
    cases hc : (divTwoLoop (cur.drop (lo + 1))).2.1
    · simp only [Bool.false_eq_true, if_false, Nat.add_zero]
    · have e : (x / 2 + 1 * 2147483648 % 4294967296) % 4294967296 = x / 2 + 2147483648 := by omega
      simp only [if_true, e]

theorem div_two_for_ok : ∀ n lo cur c, lo + n ≤ cur.length → (∀ x ∈ cur, x < 4294967296) →
    Loops.u32s_div_two_for_ok lo n cur c = true := by
  intro n
  induction n with
  | zero => intros; rfl
  | succ n ih =>
    intro lo cur c hl hw
    have h1 : lo + n < cur.length := by omega
    have hx : cur.getD (lo + n) 0 < 4294967296 := by
      rw [getD_eq cur _ h1]; exact hw _ (List.getElem_mem _)
    have hcell : cur.getD (lo + n) 0 / 2 + 1 * 2147483648 % 4294967296 < 4294967296 := by omega
    simp only [Loops.u32s_div_two_for_ok, h1, hcell, decide_true, Bool.true_and, ite_self]
    apply ih lo _ _ (by rw [List.length_set]; omega)
    intro y hy
    rcases List.mem_or_eq_of_mem_set hy with h | h
    · exact hw y h
    · subst h; split <;> omega

theorem gen_div_two_eq (N : Nat) (a : List Nat) (ha : a.length = N) (hw : ∀ x ∈ a, x < 4294967296) :
    (if Loops.u32s_div_two_ok N a then some (Loops.u32s_div_two N a) else none) = divTwo a := by
  have hf := div_two_for_eq N 0 a (by omega) hw
  have hk := div_two_for_ok N 0 a false (by omega) hw
  simp only [Loops.u32s_div_two_ok, Loops.u32s_div_two, divTwo, Nat.sub_zero, hf, hk, List.drop_zero, List.take_zero,
    List.nil_append, (divTwoLoop_spec (n := a.length) ⟨rfl, hw⟩).2.1, if_true]

end TF.GenBridge.U32s
