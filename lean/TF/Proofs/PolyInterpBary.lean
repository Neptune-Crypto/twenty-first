import TF.Proofs.PolyInterp
import Mathlib.Algebra.Polynomial.Derivative
/-!
`barycentric_evaluate` (C08): the barycentric formula over the subgroup `⟨ω⟩` equals evaluation of the interpolant.
-/
open Polynomial

namespace TF.Model.PolyI
open TF TF.Model.Poly

variable {K : Type} [Field K]
variable (root : Nat → Option K)
local notation "FK" => FieldOps.ofField K root

section
open Classical

/-- the powers of an `n`-th root of unity, if pairwise distinct, are all the roots of `X^n - 1` -/
theorem zpoly_powers (ω : K) (n : Nat) (hn : 0 < n) (hω : ω ^ n = 1)
    (hprim : ((List.range n).map (fun i => ω ^ i)).Nodup) :
    zpoly ((List.range n).map (fun i => ω ^ i)) = X ^ n - 1 := by
  set D := (List.range n).map (fun i => ω ^ i) with hD
  have hlen : D.length = n := by simp [hD]
  have hcard : D.toFinset.card = n := by rw [List.toFinset_card_of_nodup hprim, hlen]
  have hmon : (X ^ n - 1 : K[X]).Monic := monic_X_pow_sub_C (1 : K) (Nat.pos_iff_ne_zero.1 hn)
  have hdeg : (X ^ n - 1 : K[X]).degree = n := by
    have := degree_X_pow_sub_C hn (1 : K)
    simpa using this
  apply eq_of_degree_sub_lt_of_eval_finset_eq D.toFinset
  · rw [hcard]
    have h1 : (zpoly D).degree = (X ^ n - 1 : K[X]).degree := by rw [degree_zpoly, hlen, hdeg]
    have := degree_sub_lt_left h1 (zpoly_ne_zero D) (by rw [(zpoly_monic D).leadingCoeff, hmon.leadingCoeff])
    rw [degree_zpoly, hlen] at this
    exact this
  · intro x hx
    have hx' : x ∈ D := List.mem_toFinset.1 hx
    rw [(eval_zpoly_eq_zero_iff D x).2 hx']
    obtain ⟨i, _, rfl⟩ := List.mem_map.1 hx'
    simp only [eval_sub, eval_pow, eval_X, eval_one]
    rw [← pow_mul, mul_comm, pow_mul, hω, one_pow, sub_self]

/-- value of the cofactor `Z / (X - d)` at `d`, for `Z = X^n - 1` -/
theorem cofactor_at_node (D : List K) (n : Nat) (hZ : zpoly D = X ^ n - 1) (d : K) (hd : d ∈ D) :
    (zpoly (D.erase d)).eval d = n * d ^ (n - 1) := by
  have h := zpoly_eq_mul_erase D d hd
  have hder : derivative (zpoly D) = zpoly (D.erase d) + (X - C d) * derivative (zpoly (D.erase d)) := by
    rw [h, derivative_mul]; simp
  have h2 : (derivative (zpoly D)).eval d = (zpoly (D.erase d)).eval d := by
    rw [hder]; simp
  rw [← h2, hZ]
  simp [derivative_X_pow]

theorem degree_lsum_lt (D : List K) (hD : D ≠ []) : ∀ (pairs : List (K × K)), (∀ p ∈ pairs, p.1 ∈ D) →
    (lsum D pairs).degree < D.length := by
  intro pairs
  induction pairs with
  | nil => intro _; simp [lsum]
  | cons p pairs ih =>
    intro hmem
    have hrest := ih (fun q hq => hmem q (by simp [hq]))
    have hp : p.1 ∈ D := hmem p (by simp)
    simp only [lsum, List.map_cons, List.sum_cons] at hrest ⊢
    refine lt_of_le_of_lt (degree_add_le _ _) (max_lt ?_ hrest)
    have hle : (C (p.2 / (zpoly (D.erase p.1)).eval p.1) * zpoly (D.erase p.1)).degree
        ≤ (zpoly (D.erase p.1)).degree := by
      by_cases ha : p.2 / (zpoly (D.erase p.1)).eval p.1 = 0
      · rw [ha]; simp
      · rw [degree_C_mul ha]
    refine lt_of_le_of_lt hle ?_
    rw [degree_zpoly]
    have : (D.erase p.1).length = D.length - 1 := List.length_erase_of_mem hp
    have hpos := List.length_pos_iff.2 hD
    rw [this]
    exact_mod_cast Nat.sub_lt hpos Nat.one_pos

theorem foldl_add_eq_sum (l : List K) (a : K) : l.foldl (FK).add a = a + l.sum := by
  induction l generalizing a with
  | nil => simp
  | cons x xs ih => simp only [List.foldl_cons, FieldOps.ofField_add, List.sum_cons, ih]; ring

theorem zipWith_map_left_zip {α β γ δ : Type} (h : α → δ) (m : δ → β → γ) : ∀ (xs : List α) (ys : List β),
    List.zipWith m (xs.map h) ys = (xs.zip ys).map (fun p => m (h p.1) p.2) := by
  intro xs
  induction xs with
  | nil => intro ys; simp
  | cons x xs ih => intro ys; cases ys <;> simp [ih]

omit [Field K] in
theorem zip_replicate {α : Type} (c : K) : ∀ (D : List α),
    D.zip (List.replicate D.length c) = D.map (fun d => (d, c)) := by
  intro D
  induction D with
  | nil => rfl
  | cons d ds ih => simp [List.replicate_succ, ih]

theorem zipWith_inv_self (x : K) : ∀ (D : List K),
    List.zipWith (fun d inv => inv * d) D ((D.map (fun d => x - d)).map (fun y => y⁻¹))
      = D.map (fun d => (x - d)⁻¹ * d) := by
  intro D
  induction D with
  | nil => rfl
  | cons d ds ih => simp only [List.map_cons, List.zipWith_cons_cons, ih]

/-- the interpolant is the Lagrange sum; its value off the nodes in the first barycentric form -/
theorem eval_interpolant_roots_of_unity (D : List K) (n : Nat) (hn : 0 < n) (hlen : D.length = n) (hnd : D.Nodup)
    (hZ : zpoly D = X ^ n - 1) (cs : List K) (hcs : cs.length = n) (f : K[X]) (hf : Interpolates D cs f)
    (x : K) (hx : x ∉ D) :
    f.eval x = ((x ^ n - 1) / n) * ((D.zip cs).map (fun p => p.2 * ((x - p.1)⁻¹ * p.1))).sum := by
  have hD : D ≠ [] := by
    intro h
    rw [h] at hlen
    simp at hlen
    omega
  have hmem : ∀ p ∈ D.zip cs, p.1 ∈ D := fun p hp => (List.of_mem_zip hp).1
  have hpow : ∀ d ∈ D, d ^ n = 1 := by
    intro d hd
    have := (eval_zpoly_eq_zero_iff D d).2 hd
    rw [hZ] at this
    simpa [sub_eq_zero] using this
  have hn0 : (n : K) ≠ 0 := by
    obtain ⟨d, hd⟩ := List.exists_mem_of_ne_nil D hD
    have := eval_zpoly_erase_ne_zero hnd d
    rw [cofactor_at_node D n hZ d hd] at this
    exact left_ne_zero_of_mul this
  have hls : Interpolates D cs (lsum D (D.zip cs)) :=
    ⟨degree_lsum_lt D hD _ hmem, fun p hp => eval_lsum D hnd (D.zip cs)
      (by rw [List.map_fst_zip (by omega)]; exact hnd) hmem p hp⟩
  rw [Interpolates.unique hnd (by omega) hf hls]
  simp only [lsum, eval_listSum, List.map_map]
  rw [← List.sum_map_mul_left]
  congr 1
  apply List.map_congr_left
  intro p hp
  have hd := hmem p hp
  have hxd : x - p.1 ≠ 0 := sub_ne_zero.2 (fun e => hx (e ▸ hd))
  have hd0 : p.1 ≠ 0 := by
    intro h0
    have := hpow p.1 hd
    rw [h0, zero_pow (Nat.pos_iff_ne_zero.1 hn)] at this
    exact zero_ne_one this
  have hQx : (zpoly (D.erase p.1)).eval x = (x ^ n - 1) * (x - p.1)⁻¹ := by
    have := congrArg (eval x) (zpoly_eq_mul_erase D p.1 hd)
    rw [hZ] at this
    simp only [eval_sub, eval_pow, eval_X, eval_one, eval_mul, eval_C] at this
    rw [this]; field_simp
  have hQd : (zpoly (D.erase p.1)).eval p.1 = n * p.1⁻¹ := by
    rw [cofactor_at_node D n hZ p.1 hd]
    congr 1
    have : p.1 ^ (n - 1) * p.1 = 1 := by rw [← pow_succ, Nat.sub_add_cancel hn, hpow p.1 hd]
    exact eq_inv_of_mul_eq_one_left this
  simp only [Function.comp, eval_mul, eval_C]
  rw [hQx, hQd]
  field_simp

end

/-- **`barycentric_evaluate`**: for a codeword of length `n ≥ 1` on the subgroup generated by a primitive `n`-th
    root `ω = root n`, and an indeterminate outside the subgroup, the result is the value of the interpolant -/
theorem barycentricEvaluate_spec (codeword : List K) (x : K) (ω : K) (hn : 0 < codeword.length)
    (hω : root codeword.length = some ω) (hω1 : ω ^ codeword.length = 1)
    (hprim : ((List.range codeword.length).map (fun i => ω ^ i)).Nodup)
    (hx : x ∉ (List.range codeword.length).map (fun i => ω ^ i))
    (f : K[X]) (hf : Interpolates ((List.range codeword.length).map (fun i => ω ^ i)) codeword f) :
    barycentricEvaluate FK codeword x = some (f.eval x) := by
  classical
  set n := codeword.length with hnl
  set D := (List.range n).map (fun i => ω ^ i) with hD
  have hlen : D.length = n := by simp [hD]
  have hZ := zpoly_powers ω n hn hω1 hprim
  have hfx := eval_interpolant_roots_of_unity D n hn hlen hprim hZ codeword rfl f hf x hx
  -- the same identity for the constant polynomial 1
  have hone : Interpolates D (List.replicate n 1) (1 : K[X]) := by
    refine ⟨?_, ?_⟩
    · rw [degree_one, hlen]; exact_mod_cast hn
    · intro p hp
      have := (List.of_mem_zip hp).2
      rw [List.mem_replicate] at this
      simp [this.2]
  have h1x := eval_interpolant_roots_of_unity D n hn hlen hprim hZ (List.replicate n 1) (by simp) 1 hone x hx
  have hzr : D.zip (List.replicate n (1 : K)) = D.map (fun d => (d, 1)) := by
    rw [← hlen]; exact zip_replicate 1 D
  rw [hzr, List.map_map] at h1x
  have hcomp : ((fun p : K × K => p.2 * ((x - p.1)⁻¹ * p.1)) ∘ fun d => (d, (1 : K)))
      = fun d => (x - d)⁻¹ * d := by funext d; simp
  rw [hcomp, eval_one] at h1x
  unfold barycentricEvaluate
  simp only [FieldOps.ofField_rootOfUnity, ← hnl, hω, Option.bind_eq_bind, Option.bind_some]
  rw [geom_eq]
  simp only [FieldOps.ofField_one, one_mul, FieldOps.ofField_sub]
  have hbi : batchInversion FK (D.map (fun d => x - d)) = some ((D.map (fun d => x - d)).map (fun y => y⁻¹)) := by
    apply batchInversion_map
    intro y hy
    obtain ⟨d, hd, rfl⟩ := List.mem_map.1 hy
    exact sub_ne_zero.2 (fun e => hx (e ▸ hd))
  rw [← hD, hbi]
  simp only [Option.bind_some, FieldOps.ofField_mul, FieldOps.ofField_zero, FieldOps.ofField_inv]
  have hdods := zipWith_inv_self x D
  simp only [hdods, foldl_add_eq_sum, zero_add, zipWith_map_left_zip]
  set S1 := (D.map (fun d => (x - d)⁻¹ * d)).sum with hS1
  set Sc := ((D.zip codeword).map (fun p => p.2 * ((x - p.1)⁻¹ * p.1))).sum with hSc
  have hS1ne : S1 ≠ 0 := by
    intro h0
    rw [h0, mul_zero] at h1x
    exact one_ne_zero h1x
  have hane : (x ^ n - 1) / n ≠ 0 := by
    intro h0
    rw [h0, zero_mul] at h1x
    exact one_ne_zero h1x
  have hz : (FK).isZero S1 = false := by simpa using hS1ne
  rw [hz]
  simp only [Bool.false_eq_true, if_false, Option.pure_def, Option.some.injEq]
  rw [hfx]
  have : S1⁻¹ = (x ^ n - 1) / n := (eq_inv_of_mul_eq_one_left h1x.symm).symm
  rw [this]; ring

/-- inside the subgroup the formula divides by zero: panic -/
theorem barycentricEvaluate_in_domain (codeword : List K) (x : K) (ω : K)
    (hω : root codeword.length = some ω) (hx : x ∈ (List.range codeword.length).map (fun i => ω ^ i)) :
    barycentricEvaluate FK codeword x = none := by
  unfold barycentricEvaluate
  simp only [FieldOps.ofField_rootOfUnity, hω, Option.bind_eq_bind, Option.bind_some]
  rw [geom_eq]
  simp only [FieldOps.ofField_one, one_mul, FieldOps.ofField_sub]
  have : batchInversion FK (((List.range codeword.length).map (fun i => ω ^ i)).map (fun d => x - d)) = none := by
    unfold batchInversion
    have : (((List.range codeword.length).map (fun i => ω ^ i)).map (fun d => x - d)).any (FK).isZero = true := by
      rw [List.any_eq_true]
      exact ⟨x - x, List.mem_map.2 ⟨x, hx, rfl⟩, by simp⟩
    rw [this]; rfl
  rw [this]; rfl

end TF.Model.PolyI
