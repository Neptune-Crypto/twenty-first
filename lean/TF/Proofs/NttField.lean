import TF.Proofs.NttHom
import TF.Proofs.NttTable
import TF.Proofs.BFieldModel
import Mathlib.FieldTheory.Finite.Basic
/-!
The two instances the driver runs (`bOps` on canonical values, `xOps` on triples) versus the ring `ZMod P`:
`Nat.cast` is a homomorphism of operation records `bOps → ringOps (ZMod P)`, and each coordinate projection is a
homomorphism `xOps → bOps` (the transform of an extension-field vector is the transform of its three coordinate
vectors, because all twiddle factors lie in the base field).
-/
namespace TF.NttProofs
open TF.Gen TF.Model.Ntt TF.NttFn TF.Spec

noncomputable def zinv (a : ZMod P) : Option (ZMod P) := if a = 0 then none else some a⁻¹
noncomputable def zinv0 (a : ZMod P) : ZMod P := a⁻¹
noncomputable abbrev zOps : Ops (ZMod P) (ZMod P) := ringOps (ZMod P) zinv zinv0

theorem cast_fadd (a b : Nat) : ((fadd a b : ℕ) : ZMod P) = (a : ZMod P) + b := by
  simp [fadd, ZMod.natCast_mod]
theorem cast_fmul (a b : Nat) : ((fmul a b : ℕ) : ZMod P) = (a : ZMod P) * b := by
  simp [fmul, ZMod.natCast_mod]
theorem cast_fsub (a b : Nat) : ((fsub a b : ℕ) : ZMod P) = (a : ZMod P) - b := by
  have hb : b % P ≤ a + P := by have := Nat.mod_lt b P_pos; omega
  simp [fsub, ZMod.natCast_mod, Nat.cast_sub hb]

theorem cast_fpow (a e : Nat) : ((fpow a e : ℕ) : ZMod P) = (a : ZMod P)^e := by
  rw [TF.BF.fpow_eq, ZMod.natCast_mod, Nat.cast_pow]

theorem cast_eq_zero_iff (a : Nat) : ((a : ℕ) : ZMod P) = 0 ↔ a % P = 0 := by
  rw [ZMod.natCast_eq_zero_iff, Nat.dvd_iff_mod_eq_zero]

theorem cast_finv (a : Nat) (ha : a % P ≠ 0) : ((finv a : ℕ) : ZMod P) = (a : ZMod P)⁻¹ := by
  have hne : (a : ZMod P) ≠ 0 := fun h => ha ((cast_eq_zero_iff a).1 h)
  have h1 : (a : ZMod P)^(P - 1) = 1 := ZMod.pow_card_sub_one_eq_one hne
  rw [finv, cast_fpow]
  apply eq_inv_of_mul_eq_one_left
  rw [← pow_succ]
  have : P - 2 + 1 = P - 1 := by have := two_lt_P; omega
  rw [this, h1]

/-- `Nat.cast` commutes with every operation of the base-field instance -/
theorem castHom : OpsHom bOps zOps (fun n : Nat => (n : ZMod P)) (fun n : Nat => (n : ZMod P)) where
  szero := Nat.cast_zero
  sone := Nat.cast_one
  smul := cast_fmul
  spow := cast_fpow
  sinv := fun a => by
    simp only [bOps, ringOps, bInv, zinv, beq_iff_eq]
    by_cases h : a % P = 0
    · rw [if_pos h, if_pos ((cast_eq_zero_iff a).2 h)]; rfl
    · rw [if_neg h, if_neg (fun h' => h ((cast_eq_zero_iff a).1 h'))]
      simp [cast_finv a h]
  sinv0 := fun a => by
    simp only [bOps, ringOps, bInv0, zinv0, beq_iff_eq]
    by_cases h : a % P = 0
    · rw [if_pos h, (cast_eq_zero_iff a).2 h]; simp
    · rw [if_neg h, cast_finv a h]
  sofNat := fun n => ZMod.natCast_mod n P
  zero := Nat.cast_zero
  add := cast_fadd
  sub := cast_fsub
  scale := cast_fmul

/-- coordinate `k` of an extension-field element -/
def coord (k : Nat) (a : X3) : Nat := if k = 0 then a.1 else if k = 1 then a.2.1 else a.2.2

theorem coord_map2 (k : Nat) (f : Nat → Nat → Nat) (a b : X3) :
    coord k (f a.1 b.1, f a.2.1 b.2.1, f a.2.2 b.2.2) = f (coord k a) (coord k b) := by
  unfold coord
  split
  · rfl
  · split <;> rfl

/-- every coordinate projection commutes with the operations of the extension-field instance -/
theorem coordHom (k : Nat) : OpsHom xOps bOps id (coord k) where
  szero := rfl
  sone := rfl
  smul := fun _ _ => rfl
  spow := fun _ _ => rfl
  sinv := fun _ => congrFun Option.map_id_fun _
  sinv0 := fun _ => rfl
  sofNat := fun _ => rfl
  zero := coord_map2 k (fun _ _ => 0) xzero xzero
  add := coord_map2 k fadd
  sub := coord_map2 k fsub
  scale := fun c a => coord_map2 k (fun x _ => fmul c x) a a

end TF.NttProofs
