import TF.Model.Codec
/-!
Lemmas behind the codec properties (C03, C13, C14): what `hasTy` and `decode` accept, constructor by constructor; the list
combinators with an induction principle for accepted lists; the mutual inductions over the type grammar. Core Lean only.
-/
namespace TF.Codec

/-! A chain of `if`s is taken one test at a time (`split` on the outermost `if` of a long chain is slow to check). -/
theorem ite_le {c : Prop} [Decidable c] {a b m : Nat} (ha : a ≤ m) (hb : ¬c → b ≤ m) :
    (if c then a else b) ≤ m := by
  split
  · exact ha
  · exact hb ‹_›
theorem ite_ne {α} {c : Prop} [Decidable c] {a b x : α} (ha : a ≠ x) (hb : ¬c → b ≠ x) :
    (if c then a else b) ≠ x := by
  split
  · exact ha
  · exact hb ‹_›
theorem of_ite_eq {α} {c : Prop} [Decidable c] {a b x : α} (h : (if c then a else b) = x) (ha : a ≠ x) :
    ¬c ∧ b = x := by
  split at h
  · exact absurd h ha
  · exact ⟨‹_›, h⟩

namespace Outcome
@[simp] theorem map_ok {α β} (f : α → β) (a : α) : (Outcome.ok a).map f = .ok (f a) := rfl
@[simp] theorem map_err {α β} (f : α → β) (k : Err) : (Outcome.err k : Outcome α).map f = .err k := rfl
@[simp] theorem map_panic {α β} (f : α → β) : (Outcome.panic : Outcome α).map f = .panic := rfl
theorem map_eq_ok {α β} {f : α → β} {x : Outcome α} {b : β} : x.map f = .ok b ↔ ∃ a, x = .ok a ∧ f a = b := by
  cases x <;> simp [map]
theorem map_eq_panic {α β} {f : α → β} {x : Outcome α} : x.map f = .panic ↔ x = .panic := by
  cases x <;> simp [map]
theorem map_ne_panic {α β} {f : α → β} {x : Outcome α} (hx : x ≠ .panic) : x.map f ≠ .panic :=
  fun h => hx (map_eq_panic.1 h)
theorem bind_eq_ok {α β} {x : Outcome α} {f : α → Outcome β} {b : β} (h : x.bind f = .ok b) :
    ∃ a, x = .ok a ∧ f a = .ok b :=
  match x, h with
  | .ok a, h => ⟨a, rfl, h⟩
theorem bind_ne_panic {α β} {x : Outcome α} {f : α → Outcome β} (hx : x ≠ .panic)
    (hf : ∀ a, x = .ok a → f a ≠ .panic) : x.bind f ≠ .panic :=
  match x, hx with
  | .ok a, _ => hf a rfl
  | .err _, _ => nofun
end Outcome

theorem isNumBelow_iff {b : Nat} {v : Val} : isNumBelow b v = true ↔ ∃ n, v = .num n ∧ n < b := by
  cases v <;> simp [isNumBelow]

@[simp] theorem numOf_num (n : Nat) : numOf (.num n) = n := rfl

section
variable {t : Ty} {ts : List Ty} {n : Nat} {v : Val}

theorem hasTy_phantom (h : hasTy .phantom v = true) : v = .unit :=
  match v, h with
  | .unit, _ => rfl
theorem hasTy_option (h : hasTy (.option t) v = true) :
    v = .opt none ∨ ∃ x, v = .opt (some x) ∧ hasTy t x = true :=
  match v, h with
  | .opt none, _ => .inl rfl
  | .opt (some x), h => .inr ⟨x, rfl, h⟩
theorem hasTy_vec (h : hasTy (.vec t) v = true) :
    ∃ vs, v = .list vs ∧ ∀ x ∈ vs, hasTy t x = true :=
  match v, h with
  | .list vs, h => ⟨vs, rfl, List.all_eq_true.1 h⟩
theorem hasTy_array (h : hasTy (.array n t) v = true) :
    ∃ vs, v = .list vs ∧ vs.length = n ∧ ∀ x ∈ vs, hasTy t x = true :=
  match v, h with
  | .list vs, h => by
    simp only [hasTy, Bool.and_eq_true, beq_iff_eq, List.all_eq_true] at h
    exact ⟨vs, rfl, h⟩
theorem hasTy_poly (h : hasTy (.poly t) v = true) :
    ∃ cs, v = .list cs ∧ (∀ x ∈ cs, hasTy t x = true) ∧ lastIsZero cs = false :=
  match v, h with
  | .list cs, h => by
    simp only [hasTy, Bool.and_eq_true, List.all_eq_true, Bool.not_eq_true'] at h
    exact ⟨cs, rfl, h⟩
theorem hasTy_u32s (h : hasTy (.u32s n) v = true) :
    ∃ ls, v = .list ls ∧ ls.length = n ∧ ls.all (isNumBelow (2^32)) = true :=
  match v, h with
  | .list ls, h => by
    simp only [hasTy, Bool.and_eq_true, beq_iff_eq] at h
    exact ⟨ls, rfl, h⟩
/-- tuples and structs (`hasTy (.struct ts) v` unfolds to the same term) -/
theorem hasTy_fields (h : hasTy (.tuple ts) v = true) : ∃ vs, v = .list vs ∧ hasTys ts vs = true :=
  match v, h with
  | .list vs, h => ⟨vs, rfl, h⟩
theorem hasTy_enum {vars : List (List Ty)} (h : hasTy (.enum vars) v = true) :
    ∃ k vs, v = .variant k vs ∧ hasTyVariant vars k vs = true :=
  match v, h with
  | .variant k vs, h => ⟨k, vs, rfl, h⟩
theorem hasTys_nil {vs : List Val} (h : hasTys [] vs = true) : vs = [] :=
  match vs, h with
  | [], _ => rfl
theorem hasTys_cons {vs : List Val} (h : hasTys (t :: ts) vs = true) :
    ∃ v vs', vs = v :: vs' ∧ hasTy t v = true ∧ hasTys ts vs' = true :=
  match vs, h with
  | v :: vs', h => by
    simp only [hasTys, Bool.and_eq_true] at h
    exact ⟨v, vs', rfl, h⟩

theorem noZW_item (h : (noZW t && staticLength t != some 0) = true) : noZW t = true ∧ staticLength t ≠ some 0 := by
  simpa only [Bool.and_eq_true, bne_iff_ne, ne_eq] using h
end

@[simp] theorem prefixed_false (e : List Nat) : prefixed false e = e := rfl
@[simp] theorem prefixed_true (e : List Nat) : prefixed true e = e.length :: e := rfl
theorem prefixed_length (d : Bool) (e : List Nat) : (prefixed d e).length = e.length + (if d then 1 else 0) := by
  cases d <;> simp
theorem prefixed_isDyn (t : Ty) (e : List Nat) :
    prefixed (isDyn t) e = if staticLength t = none then e.length :: e else e := by
  unfold isDyn prefixed
  cases staticLength t <;> simp

@[simp] theorem encodeItems_nil (enc : Val → List Nat) (d : Bool) : encodeItems enc d [] = [] := rfl
@[simp] theorem encodeItems_cons (enc : Val → List Nat) (d : Bool) (v : Val) (vs : List Val) :
    encodeItems enc d (v :: vs) = prefixed d (enc v) ++ encodeItems enc d vs := rfl

theorem encodeItems_length_static (enc : Val → List Nat) (w : Nat) :
    ∀ vs : List Val, (∀ v ∈ vs, (enc v).length = w) → (encodeItems enc false vs).length = vs.length * w
  | [], _ => by simp
  | v :: vs, h => by
    have h1 := h v (by simp)
    have h2 := encodeItems_length_static enc w vs (fun x hx => h x (by simp [hx]))
    simp [h1, h2, Nat.add_mul]
    omega

theorem encodeItems_congr {enc enc' : Val → List Nat} (d : Bool) :
    ∀ vs : List Val, (∀ v ∈ vs, enc v = enc' v) → encodeItems enc d vs = encodeItems enc' d vs
  | [], _ => rfl
  | v :: vs, h => by
    simp [h v (by simp), encodeItems_congr d vs (fun x hx => h x (by simp [hx]))]

theorem mem_encodeItems_length_le (enc : Val → List Nat) (d : Bool) :
    ∀ (vs : List Val) (v : Val), v ∈ vs → (enc v).length ≤ (encodeItems enc d vs).length
  | x :: xs, v, h => by
    simp only [List.mem_cons] at h
    simp only [encodeItems_cons, List.length_append, prefixed_length]
    rcases h with rfl | h
    · omega
    · have := mem_encodeItems_length_le enc d xs v h
      omega

/-- an item of a list occupies at least one element: its length prefix, or its static width, which is not `0` -/
theorem prefixed_length_pos {sl : Option Nat} {c : List Nat} (hz : sl ≠ some 0)
    (hlen : ∀ w, sl = some w → c.length = w) : 0 < (prefixed sl.isNone c).length := by
  cases sl with
  | none => simp
  | some w =>
    have := hlen w rfl
    have : w ≠ 0 := fun h => hz (h ▸ rfl)
    simp
    omega

theorem length_le_encodeItems (enc : Val → List Nat) (sl : Option Nat) (hz : sl ≠ some 0) :
    ∀ vs : List Val, (∀ v ∈ vs, ∀ w, sl = some w → (enc v).length = w) →
      vs.length ≤ (encodeItems enc sl.isNone vs).length
  | [], _ => by simp
  | v :: vs, h => by
    have ih := length_le_encodeItems enc sl hz vs (fun x hx => h x (by simp [hx]))
    have := prefixed_length_pos hz (h v (by simp))
    simp only [encodeItems_cons, List.length_append, List.length_cons]
    omega

/-- all elements are canonical field values -/
def Canon (s : List Nat) : Prop := ∀ x ∈ s, x < P
instance (s : List Nat) : Decidable (Canon s) := by unfold Canon; infer_instance

theorem Canon.nil : Canon [] := fun _ h => by simp at h
theorem Canon.cons_iff {x : Nat} {s : List Nat} : Canon (x :: s) ↔ x < P ∧ Canon s := by
  unfold Canon; simp
theorem Canon.append_iff {a b : List Nat} : Canon (a ++ b) ↔ Canon a ∧ Canon b := by
  unfold Canon; simp only [List.mem_append]
  exact ⟨fun h => ⟨fun x hx => h x (.inl hx), fun x hx => h x (.inr hx)⟩, fun h x hx => hx.elim (h.1 x) (h.2 x)⟩
theorem Canon.take {s : List Nat} (h : Canon s) (k : Nat) : Canon (s.take k) :=
  fun x hx => h x (List.mem_of_mem_take hx)
theorem Canon.drop {s : List Nat} (h : Canon s) (k : Nat) : Canon (s.drop k) :=
  fun x hx => h x (List.mem_of_mem_drop hx)
theorem Canon.tail {a : Nat} {s : List Nat} (h : Canon (a :: s)) : Canon s := (Canon.cons_iff.1 h).2
theorem Canon.head {a : Nat} {s : List Nat} (h : Canon (a :: s)) : a < P := (Canon.cons_iff.1 h).1
theorem Canon.of_append_right {a b : List Nat} (h : Canon (a ++ b)) : Canon b := (Canon.append_iff.1 h).2
theorem Canon.of_prefixed {d : Bool} {c : List Nat} (h : Canon (prefixed d c)) : Canon c := by
  cases d
  · exact h
  · exact h.tail
theorem prefixed_canon {d : Bool} {e : List Nat} (h : Canon e) (hl : e.length < P) : Canon (prefixed d e) := by
  cases d
  · exact h
  · exact Canon.cons_iff.2 ⟨hl, h⟩

theorem P_val : P = 18446744069414584321 := rfl
theorem P_gt : 2^128 > P ∧ P > 2^64 - 2^32 ∧ P > 2^32 := by rw [P_val]; omega

/-- what a decoder can be handed: canonical elements, fewer than `2^32` of them. The bound is what keeps
    `sequence_index + item_length` below `2^64` for any canonical length field: `2^32 + P - 1 = 2^64`
    (`decodeDyn_ne_panic`). -/
def Good (s : List Nat) : Prop := Canon s ∧ s.length < 2^32

theorem Good.take {s : List Nat} (h : Good s) (k : Nat) : Good (s.take k) :=
  ⟨h.1.take k, by have := h.2; simp only [List.length_take]; omega⟩
theorem Good.drop {s : List Nat} (h : Good s) (k : Nat) : Good (s.drop k) :=
  ⟨h.1.drop k, by have := h.2; simp only [List.length_drop]; omega⟩
theorem Good.tail {a : Nat} {s : List Nat} (h : Good (a :: s)) : Good s :=
  ⟨h.1.tail, by have := h.2; simp only [List.length_cons] at this; omega⟩
theorem Good.of_append_right {a b : List Nat} (h : Good (a ++ b)) : Good b :=
  ⟨h.1.of_append_right, by have := h.2; simp only [List.length_append] at this; omega⟩

theorem decodeSmall_nil (b : Nat) : decodeSmall b [] = .err .empty := rfl
theorem decodeSmall_singleton (b x : Nat) : decodeSmall b [x] = if x < b then .ok (.num x) else .err .range := rfl
theorem decodeSmall_cons_cons (b x y : Nat) (s : List Nat) : decodeSmall b (x :: y :: s) = .err .tooLong := rfl
section
variable {b k x : Nat} {s : List Nat} {v : Val}

theorem decodeSmall_of_length_gt (h : 1 < s.length) : decodeSmall b s = .err .tooLong :=
  match s, h with
  | _ :: _ :: _, _ => rfl
theorem decodeSmall_range (h : b ≤ x) : decodeSmall b [x] = .err .range := if_neg (Nat.not_lt.2 h)
theorem decodeSmall_ok (h : decodeSmall b s = .ok v) :
    ∃ x, s = [x] ∧ v = .num x ∧ x < b :=
  match s, h with
  | [x], h => by
    by_cases hx : x < b
    · exact ⟨x, rfl, (Outcome.ok.inj ((if_pos hx).symm.trans h)).symm, hx⟩
    · cases (if_neg hx).symm.trans h
theorem decodeSmall_ne_panic (b : Nat) : ∀ s : List Nat, decodeSmall b s ≠ .panic
  | [] | _ :: _ :: _ => nofun
  | [x] => by rw [decodeSmall_singleton]; split <;> nofun

theorem decodeLimbs_nil (k : Nat) : decodeLimbs k [] = .err .empty := rfl
theorem decodeLimbs_of_length_lt (h0 : s ≠ []) (h : s.length < k) :
    decodeLimbs k s = .err .tooShort := by
  rw [decodeLimbs, if_neg (by simpa using h0), if_pos h]
theorem decodeLimbs_of_length_gt (h : k < s.length) : decodeLimbs k s = .err .tooLong := by
  rw [decodeLimbs, if_neg (by cases s <;> simp at h ⊢), if_neg (by omega), if_pos h]
theorem decodeLimbs_of_length_eq (hk : 0 < k) (h : s.length = k) :
    decodeLimbs k s = if s.any (fun x => x > 2^32 - 1) then .err .range else .ok (.num (limbsValue s)) := by
  rw [decodeLimbs, if_neg (by cases s <;> simp at h ⊢; omega), if_neg (by omega), if_neg (by omega)]

theorem decodeLimbs_range (hk : 0 < k) (hl : s.length = k) (h : ∃ x ∈ s, 2^32 ≤ x) :
    decodeLimbs k s = .err .range := by
  obtain ⟨x, hx, hr⟩ := h
  rw [decodeLimbs_of_length_eq hk hl, if_pos (List.any_eq_true.2 ⟨x, hx, decide_eq_true (by omega)⟩)]

theorem decodeLimbs_ok (h : decodeLimbs k s = .ok v) :
    s.length = k ∧ (∀ x ∈ s, x < 2^32) ∧ v = .num (limbsValue s) := by
  obtain ⟨h1, h⟩ := of_ite_eq h nofun
  obtain ⟨h2, h⟩ := of_ite_eq h nofun
  obtain ⟨h3, h⟩ := of_ite_eq h nofun
  obtain ⟨h4, h⟩ := of_ite_eq h nofun
  refine ⟨by omega, fun x hx => ?_, (Outcome.ok.inj h).symm⟩
  simp only [List.any_eq_true, decide_eq_true_eq, not_exists, not_and] at h4
  have := h4 x hx
  omega
theorem decodeLimbs_ne_panic (k : Nat) (s : List Nat) : decodeLimbs k s ≠ .panic :=
  ite_ne nofun fun _ => ite_ne nofun fun _ => ite_ne nofun fun _ => ite_ne nofun fun _ => nofun

end

/-- the `k` little-endian base-`2^32` digits of `n` -/
def limbs : Nat → Nat → List Nat
  | 0, _ => []
  | k + 1, n => n % 2^32 :: limbs k (n / 2^32)

/-- `encode .u64 v` unfolds to `limbs 2 _`; for `u128` the model divides by `2^64` and `2^96` where `limbs` divides by `2^32`
    repeatedly, hence a lemma. -/
theorem encode_u128 (v : Val) : encode .u128 v = limbs 4 (numOf v) := by
  simp only [encode, limbs, Nat.div_div_eq_div_mul]

theorem limbs_length : ∀ k n : Nat, (limbs k n).length = k
  | 0, _ => rfl
  | k + 1, _ => congrArg (· + 1) (limbs_length k _)
theorem limbs_lt : ∀ (k n x : Nat), x ∈ limbs k n → x < 2^32
  | k + 1, n, x, h => by
    rcases List.mem_cons.1 h with rfl | h
    · exact Nat.mod_lt _ (by decide)
    · exact limbs_lt k _ x h
theorem limbsValue_limbs : ∀ k n : Nat, limbsValue (limbs k n) = n % 2^(32 * k)
  | 0, n => by simp [limbs, limbsValue, Nat.mod_one]
  | k + 1, n => by
    rw [limbs, limbsValue, limbsValue_limbs k, Nat.mul_add, Nat.mul_one, Nat.pow_add, Nat.mul_comm (2^(32*k)), Nat.mod_mul]
theorem limbs_limbsValue : ∀ s : List Nat, (∀ x ∈ s, x < 2^32) → limbs s.length (limbsValue s) = s
  | [], _ => rfl
  | x :: s, h => by
    have hx := h x (by simp)
    rw [List.length_cons, limbsValue, limbs, Nat.add_mul_mod_self_left, Nat.mod_eq_of_lt hx,
      Nat.add_mul_div_left _ _ (by decide), Nat.div_eq_of_lt hx, Nat.zero_add,
      limbs_limbsValue s (fun y hy => h y (by simp [hy]))]
theorem limbsValue_lt : ∀ s : List Nat, (∀ x ∈ s, x < 2^32) → limbsValue s < 2^(32 * s.length)
  | [], _ => by simp [limbsValue]
  | x :: s, h => by
    have hx := h x (by simp)
    have ih := limbsValue_lt s (fun y hy => h y (by simp [hy]))
    rw [List.length_cons, limbsValue, Nat.mul_add, Nat.mul_one, Nat.pow_add, Nat.mul_comm (2^(32 * s.length))]
    calc x + 2^32 * limbsValue s < 2^32 * (limbsValue s + 1) := by rw [Nat.mul_add]; omega
      _ ≤ 2^32 * 2^(32 * s.length) := Nat.mul_le_mul_left _ ih

theorem decodeLimbs_limbs {k n : Nat} (hk : 0 < k) (h : n < 2^(32 * k)) : decodeLimbs k (limbs k n) = .ok (.num n) := by
  have a : ((limbs k n).any fun x => decide (x > 2^32 - 1)) = false := by
    simp only [List.any_eq_false, decide_eq_true_eq]
    intro x hx; have := limbs_lt k n x hx; omega
  rw [decodeLimbs_of_length_eq hk (limbs_length k n), a, limbsValue_limbs, Nat.mod_eq_of_lt h]; rfl

theorem decodeU32Limbs_cons (x : Nat) (xs : List Nat) :
    decodeU32Limbs (x :: xs) = if x < 2^32 then (decodeU32Limbs xs).map (.num x :: ·) else .err .range := by
  rw [decodeU32Limbs]; cases decodeU32Limbs xs <;> rfl

theorem decodeU32Limbs_encode : ∀ ls : List Val, ls.all (isNumBelow (2^32)) = true →
    decodeU32Limbs (encodeItems (fun x => [numOf x]) false ls) = .ok ls
  | [], _ => rfl
  | l :: ls, h => by
    simp only [List.all_cons, Bool.and_eq_true] at h
    obtain ⟨n, rfl, hn⟩ := isNumBelow_iff.1 h.1
    have ih := decodeU32Limbs_encode ls h.2
    show decodeU32Limbs (n :: encodeItems (fun x => [numOf x]) false ls) = _
    simp only [decodeU32Limbs, if_pos hn, ih]

theorem decodeU32Limbs_ok : ∀ (s : List Nat) (vs : List Val), decodeU32Limbs s = .ok vs →
    encodeItems (fun x => [numOf x]) false vs = s ∧ vs.all (isNumBelow (2^32)) = true ∧ Val.sizes vs = s.length
  | [], vs, h => by cases h; exact ⟨rfl, rfl, rfl⟩
  | x :: xs, vs, h => by
    rw [decodeU32Limbs_cons] at h
    by_cases hx : x < 2^32
    case neg => rw [if_neg hx] at h; cases h
    rw [if_pos hx] at h
    obtain ⟨vs', hvs, rfl⟩ := Outcome.map_eq_ok.1 h
    obtain ⟨h1, h2, h3⟩ := decodeU32Limbs_ok xs vs' hvs
    simp [h1, h2, h3, isNumBelow, hx, Val.sizes, Val.size]; omega

theorem decodeU32Limbs_ne_panic : ∀ s : List Nat, decodeU32Limbs s ≠ .panic
  | [] => nofun
  | x :: xs => by
    rw [decodeU32Limbs_cons]
    by_cases hx : x < 2^32
    · rw [if_pos hx]; exact Outcome.map_ne_panic (decodeU32Limbs_ne_panic xs)
    · rw [if_neg hx]; nofun

/-! The model writes the propagation of errors and panics out as `match`es; each step of a combinator is restated here with
`Outcome.bind` and `Outcome.map`, so that `bind_eq_ok`, `bind_ne_panic` … apply. -/

theorem finishFields_ok (vs : List Val) : finishFields (.ok (vs, [])) = .ok vs := rfl
theorem finishFields_eq_ok {r : Outcome (List Val × List Nat)} {vs : List Val} (h : finishFields r = .ok vs) :
    r = .ok (vs, []) :=
  match r, h with
  | .ok (_, []), h => by cases h; rfl
theorem finishFields_ne_panic {r : Outcome (List Val × List Nat)} (h : r ≠ .panic) : finishFields r ≠ .panic :=
  match r, h with
  | .ok (_, []), _ | .ok (_, _ :: _), _ | .err _, _ => nofun

section
variable {dec : List Nat → Outcome Val} {enc : Val → List Nat} {sl : Option Nat} {w n K : Nat} {s r : List Nat} {v : Val}
  {vs : List Val}

theorem decodeChunks_succ :
    decodeChunks dec w (n + 1) s = (dec (s.take w)).bind fun v => (decodeChunks dec w n (s.drop w)).map (v :: ·) := by
  rw [decodeChunks]
  cases dec (s.take w) with
  | ok v => cases decodeChunks dec w n (s.drop w) <;> rfl
  | err _ => rfl
  | panic => rfl

theorem decodeDyn_succ {idx len : Nat} {rest : List Nat} :
    decodeDyn dec (n + 1) idx (len :: rest) =
      if idx + 1 + len ≥ 2^64 then .panic else if rest.length < len then .err .tooShort
      else (dec (rest.take len)).bind fun v =>
        (decodeDyn dec n (idx + 1 + len) (rest.drop len)).map fun p => (v :: p.1, p.2) := by
  rw [decodeDyn]
  cases dec (rest.take len) with
  | ok v => cases decodeDyn dec n (idx + 1 + len) (rest.drop len) <;> rfl
  | err _ => rfl
  | panic => rfl

theorem decodeList_none : decodeList dec none n s = finishFields (decodeDyn dec n 0 s) := rfl

theorem decodeItem_some :
    decodeItem dec (some w) s = if s.length < w then .err .tooShort else (dec (s.take w)).map (·, s.drop w) := by
  rw [decodeItem]; cases dec (s.take w) <;> rfl
theorem decodeItem_none {len : Nat} :
    decodeItem dec none (len :: r) = if r.length < len then .err .tooShort else (dec (r.take len)).map (·, r.drop len) := by
  rw [decodeItem]; cases dec (r.take len) <;> rfl

/-! Induction over an accepted list: the motive sees the sequence and the decoded items. -/
theorem decodeChunks_induct {M : List Nat → List Val → Prop} (nil : M [] [])
    (cons : ∀ c rest v vs, dec c = .ok v → c.length = w → M rest vs → M (c ++ rest) (v :: vs)) :
    ∀ (n : Nat) (s : List Nat) (vs : List Val), s.length = n * w → decodeChunks dec w n s = .ok vs →
      M s vs ∧ vs.length = n
  | 0, s, vs, hl, h => by
    cases h
    rw [Nat.zero_mul, List.length_eq_zero_iff] at hl
    exact ⟨hl ▸ nil, rfl⟩
  | n + 1, s, vs, hl, h => by
    rw [decodeChunks_succ] at h
    obtain ⟨v, hv, h⟩ := Outcome.bind_eq_ok h
    obtain ⟨vs', hvs, rfl⟩ := Outcome.map_eq_ok.1 h
    rw [Nat.add_mul, Nat.one_mul] at hl
    have ih := decodeChunks_induct nil cons n (s.drop w) vs' (by rw [List.length_drop]; omega) hvs
    have := cons _ _ v vs' hv (by rw [List.length_take]; omega) ih.1
    rw [List.take_append_drop] at this
    exact ⟨this, congrArg (· + 1) ih.2⟩

theorem decodeDyn_induct {M : List Nat → List Val → Prop} (nil : M r [])
    (cons : ∀ c rest v vs, dec c = .ok v → M rest vs → M (c.length :: c ++ rest) (v :: vs)) :
    ∀ (n idx : Nat) (s : List Nat) (vs : List Val), decodeDyn dec n idx s = .ok (vs, r) → M s vs ∧ vs.length = n
  | 0, idx, s, vs, h => by cases h; exact ⟨nil, rfl⟩
  | n + 1, idx, len :: rest, vs, h => by
    rw [decodeDyn_succ] at h
    obtain ⟨-, h⟩ := of_ite_eq h nofun
    obtain ⟨hlen, h⟩ := of_ite_eq h nofun
    obtain ⟨v, hv, h⟩ := Outcome.bind_eq_ok h
    obtain ⟨⟨vs', r'⟩, hvs, e⟩ := Outcome.map_eq_ok.1 h
    obtain ⟨rfl, (hr : r' = r)⟩ := Prod.mk.inj e
    have ih := decodeDyn_induct nil cons n _ _ vs' (hr ▸ hvs)
    have := cons _ _ v vs' hv ih.1
    rw [List.length_take, Nat.min_eq_left (by omega), List.cons_append, List.take_append_drop] at this
    exact ⟨this, congrArg (· + 1) ih.2⟩

theorem decodeList_some_ok (h : decodeList dec (some w) n s = .ok vs) :
    w ≠ 0 ∧ s.length = n * w ∧ decodeChunks dec w n s = .ok vs := by
  obtain ⟨h1, h⟩ := of_ite_eq h nofun
  obtain ⟨h2, h⟩ := of_ite_eq h nofun
  obtain ⟨h3, h⟩ := of_ite_eq h nofun
  obtain ⟨hw, h⟩ := of_ite_eq h nofun
  exact ⟨hw, by omega, h⟩

theorem decodeList_induct {M : List Nat → List Val → Prop} (nil : M [] [])
    (cons : ∀ c rest v vs, dec c = .ok v → 0 < (prefixed sl.isNone c).length → M rest vs →
      M (prefixed sl.isNone c ++ rest) (v :: vs))
    (h : decodeList dec sl n s = .ok vs) : M s vs ∧ vs.length = n := by
  cases sl with
  | some w =>
    obtain ⟨hw, hl, h⟩ := decodeList_some_ok h
    refine decodeChunks_induct nil (fun c rest v vs hv hc => cons c rest v vs hv ?_) n s vs hl h
    rw [Option.isNone_some, prefixed_false]
    omega
  | none =>
    rw [decodeList_none] at h
    exact decodeDyn_induct nil (fun c rest v vs hv => cons c rest v vs hv (Nat.succ_pos _)) n 0 s _ (finishFields_eq_ok h)

theorem decodeList_static_of_length_ne (h : s.length ≠ n * w) :
    ∃ k, decodeList dec (some w) n s = .err k := by
  unfold decodeList
  by_cases h1 : n * w ≥ 2^64
  · exact ⟨.invalidLen, if_pos h1⟩
  · by_cases h2 : s.length < n * w
    · exact ⟨.tooShort, by simp only [if_neg h1, if_pos h2]⟩
    · exact ⟨.tooLong, by simp only [if_neg h1, if_neg h2, if_pos (show s.length > n * w by omega)]⟩

/-- items of static width `0` (finding F10): the list decoder accepts nothing -/
theorem decodeList_zero_width : decodeList dec (some 0) n s ≠ .ok vs :=
  fun h => (decodeList_some_ok h).1 rfl

theorem decodeItem_ok (h : decodeItem dec sl s = .ok (v, r)) : ∃ c, s = prefixed sl.isNone c ++ r ∧ dec c = .ok v := by
  cases sl with
  | some w =>
    rw [decodeItem_some] at h
    obtain ⟨-, h⟩ := of_ite_eq h nofun
    obtain ⟨v', hv, e⟩ := Outcome.map_eq_ok.1 h
    cases e
    exact ⟨_, (List.take_append_drop w s).symm, hv⟩
  | none =>
    match s, h with
    | len :: rest, h =>
      rw [decodeItem_none] at h
      obtain ⟨hlen, h⟩ := of_ite_eq h nofun
      obtain ⟨v', hv, e⟩ := Outcome.map_eq_ok.1 h
      cases e
      refine ⟨_, ?_, hv⟩
      rw [Option.isNone_none, prefixed_true, List.length_take, Nat.min_eq_left (by omega), List.cons_append,
        List.take_append_drop]

theorem decodeItem_prefixed (dec : List Nat → Outcome Val) (sl : Option Nat) (v : Val) (e rest : List Nat)
    (hdec : dec e = .ok v) (hlen : ∀ n, sl = some n → e.length = n) :
    decodeItem dec sl (prefixed sl.isNone e ++ rest) = .ok (v, rest) := by
  unfold decodeItem
  cases sl with
  | some w =>
    have := hlen w rfl
    simp [this.symm, hdec]
  | none => simp [hdec]

theorem decodeChunks_encodeItems :
    ∀ vs : List Val, (∀ v ∈ vs, dec (enc v) = .ok v ∧ (enc v).length = w) →
      decodeChunks dec w vs.length (encodeItems enc false vs) = .ok vs
  | [], _ => rfl
  | v :: vs, h => by
    obtain ⟨h1, h2⟩ := h v (by simp)
    have ih := decodeChunks_encodeItems vs (fun x hx => h x (by simp [hx]))
    simp only [encodeItems_cons, prefixed_false, List.length_cons, decodeChunks]
    rw [List.take_left' h2, List.drop_left' h2, h1, ih]

theorem decodeDyn_encodeItems :
    ∀ (vs : List Val) (idx : Nat) (rest : List Nat), (∀ v ∈ vs, dec (enc v) = .ok v) →
      idx + (encodeItems enc true vs).length < 2^64 →
      decodeDyn dec vs.length idx (encodeItems enc true vs ++ rest) = .ok (vs, rest)
  | [], idx, rest, _, _ => rfl
  | v :: vs, idx, rest, h, hb => by
    have h1 := h v (by simp)
    simp only [encodeItems_cons, prefixed_true, List.length_cons, List.length_append] at hb
    have ih := decodeDyn_encodeItems vs (idx + 1 + (enc v).length) rest
      (fun x hx => h x (by simp [hx])) (by omega)
    simp only [encodeItems_cons, prefixed_true, List.length_cons, List.cons_append, List.append_assoc, decodeDyn]
    rw [if_neg (by omega), if_neg (by simp), List.take_left' rfl, List.drop_left' rfl, h1, ih]

theorem decodeList_encodeItems (hitem : ∀ v ∈ vs, dec (enc v) = .ok v) (hz : sl ≠ some 0)
    (hlen : ∀ v ∈ vs, ∀ w, sl = some w → (enc v).length = w)
    (hb : (encodeItems enc sl.isNone vs).length < 2^64) :
    decodeList dec sl vs.length (encodeItems enc sl.isNone vs) = .ok vs := by
  unfold decodeList
  cases sl with
  | some w =>
    have hL := encodeItems_length_static enc w vs (fun v hv => hlen v hv w rfl)
    simp only [Option.isNone_some] at hb ⊢
    rw [if_neg (by omega), if_neg (by omega), if_neg (by omega), if_neg (fun h : w = 0 => hz (h ▸ rfl))]
    exact decodeChunks_encodeItems _ (fun x hx => ⟨hitem x hx, hlen x hx w rfl⟩)
  | none =>
    have := decodeDyn_encodeItems (dec := dec) vs 0 [] hitem (by simpa using hb)
    rw [List.append_nil] at this
    simp only [Option.isNone_none, this]

theorem decodeList_ok (hinv : ∀ c v, dec c = .ok v → enc v = c)
    (h : decodeList dec sl n s = .ok vs) : encodeItems enc sl.isNone vs = s ∧ vs.length = n :=
  decodeList_induct (M := fun s vs => encodeItems enc sl.isNone vs = s) rfl
    (fun c rest v vs hv _ ih => by rw [encodeItems_cons, hinv c v hv, ih]) h

theorem decodeList_forall {Q : Val → Prop} (hdec : ∀ c v, Canon c → dec c = .ok v → Q v) (hc : Canon s)
    (h : decodeList dec sl n s = .ok vs) : ∀ v ∈ vs, Q v :=
  (decodeList_induct (M := fun s vs => Canon s → ∀ v ∈ vs, Q v) (fun _ _ h => nomatch h)
    (fun c rest v vs hv _ ih hs x hx => by
      obtain ⟨h1, h2⟩ := Canon.append_iff.1 hs
      rcases List.mem_cons.1 hx with rfl | hx
      · exact hdec c _ h1.of_prefixed hv
      · exact ih h2 x hx) h).1 hc

theorem decodeList_size (hdec : ∀ c v, dec c = .ok v → v.size ≤ K * max 1 c.length)
    (h : decodeList dec sl n s = .ok vs) : Val.sizes vs ≤ K * s.length :=
  (decodeList_induct (M := fun s vs => Val.sizes vs ≤ K * s.length) (Nat.zero_le _)
    (fun c rest v vs hv hc ih => by
      have h1 := hdec c v hv
      have h2 : K * max 1 c.length ≤ K * (prefixed sl.isNone c).length :=
        Nat.mul_le_mul_left K (by rw [prefixed_length] at hc ⊢; omega)
      rw [Val.sizes, List.length_append, Nat.mul_add]; omega) h).1

theorem decodeList_count (h : decodeList dec sl n s = .ok vs) : n ≤ s.length := by
  obtain ⟨h1, h2⟩ := decodeList_induct (M := fun s vs => vs.length ≤ s.length) (Nat.le_refl _)
    (fun c rest v vs _ hc ih => by rw [List.length_append, List.length_cons]; omega) h
  omega

theorem decodeItem_size (hdec : ∀ c v, dec c = .ok v → v.size ≤ K * max 1 c.length)
    (h : decodeItem dec sl s = .ok (v, r)) : v.size ≤ K * max 1 s.length ∧ r.length ≤ s.length := by
  obtain ⟨c, rfl, hv⟩ := decodeItem_ok h
  have h1 := hdec c v hv
  have h2 : K * max 1 c.length ≤ K * max 1 (prefixed sl.isNone c ++ r).length :=
    Nat.mul_le_mul_left K (by rw [List.length_append, prefixed_length]; omega)
  exact ⟨by omega, by rw [List.length_append]; omega⟩

theorem decodeChunks_ne_panic (hdec : ∀ c, Good c → dec c ≠ .panic) :
    ∀ (n : Nat) (s : List Nat), Good s → decodeChunks dec w n s ≠ .panic
  | 0, s, _ => nofun
  | n + 1, s, hg => by
    rw [decodeChunks_succ]
    exact Outcome.bind_ne_panic (hdec _ (hg.take w)) fun _ _ =>
      Outcome.map_ne_panic (decodeChunks_ne_panic hdec n (s.drop w) (hg.drop w))

theorem decodeDyn_ne_panic (hdec : ∀ c, Good c → dec c ≠ .panic) :
    ∀ (n idx : Nat) (s : List Nat), Good s → idx + s.length < 2^32 → decodeDyn dec n idx s ≠ .panic
  | 0, idx, s, _, _ => nofun
  | n + 1, idx, [], _, _ => nofun
  | n + 1, idx, len :: rest, hg, hi => by
    have hlen := hg.1.head
    rw [P_val] at hlen
    rw [List.length_cons] at hi
    -- `idx + 1 + len < 2^64` from `idx + 1 < 2^32` and `len < P`
    rw [decodeDyn_succ, if_neg (by omega)]
    exact ite_ne nofun fun _ => Outcome.bind_ne_panic (hdec _ (hg.tail.take len)) fun _ _ =>
      Outcome.map_ne_panic (decodeDyn_ne_panic hdec n (idx + 1 + len) (rest.drop len) (hg.tail.drop len)
        (by rw [List.length_drop]; omega))

theorem decodeList_ne_panic (hdec : ∀ c, Good c → dec c ≠ .panic) (hsl : sl ≠ some 0) (hg : Good s) :
    decodeList dec sl n s ≠ .panic := by
  cases sl with
  | some w =>
    exact ite_ne nofun fun _ => ite_ne nofun fun _ => ite_ne nofun fun _ =>
      (if_neg (fun h : w = 0 => hsl (h ▸ rfl))).symm ▸ decodeChunks_ne_panic hdec n s hg
  | none =>
    rw [decodeList_none]
    exact finishFields_ne_panic (decodeDyn_ne_panic hdec n 0 s hg (by have := hg.2; omega))

theorem decodeVec_ne_panic (hdec : ∀ c, Good c → dec c ≠ .panic) (hsl : sl ≠ some 0) :
    ∀ s : List Nat, Good s → decodeVec dec sl s ≠ .panic
  | [], _ => nofun
  | _ :: _, hg => decodeList_ne_panic hdec hsl hg.tail

theorem decodeItem_ne_panic (hdec : ∀ c, Good c → dec c ≠ .panic) :
    ∀ (sl : Option Nat) (s : List Nat), Good s → decodeItem dec sl s ≠ .panic
  | some w, s, hg => by
    rw [decodeItem_some]
    exact ite_ne nofun fun _ => Outcome.map_ne_panic (hdec _ (hg.take w))
  | none, [], _ => nofun
  | none, len :: rest, hg => by
    rw [decodeItem_none]
    exact ite_ne nofun fun _ => Outcome.map_ne_panic (hdec _ (hg.tail.take len))

end

section
variable {t : Ty} {ts : List Ty} {n : Nat} {s : List Nat} {v : Val}

theorem decode_bfe_ok (h : decode .bfe s = .ok v) : ∃ x, s = [x] ∧ v = .num x :=
  match s, h with
  | [x], h => ⟨x, rfl, (Outcome.ok.inj h).symm⟩

theorem decode_phantom_ok (h : decode .phantom s = .ok v) : s = [] ∧ v = .unit :=
  match s, h with
  | [], h => ⟨rfl, (Outcome.ok.inj h).symm⟩

theorem decode_option_one {rest : List Nat} :
    decode (.option t) (1 :: rest) = (decode t rest).map fun v => .opt (some v) := by
  simp only [decode]; cases decode t rest <;> rfl

theorem decode_option_ok (h : decode (.option t) s = .ok v) :
    (s = [0] ∧ v = .opt none) ∨ ∃ rest x, s = 1 :: rest ∧ v = .opt (some x) ∧ decode t rest = .ok x :=
  match s, h with
  | [0], h => .inl ⟨rfl, (Outcome.ok.inj h).symm⟩
  | 1 :: rest, h => by
    rw [decode_option_one] at h
    obtain ⟨x, hx, rfl⟩ := Outcome.map_eq_ok.1 h
    exact .inr ⟨rest, x, rfl, rfl, hx⟩

theorem decode_vec_ok (h : decode (.vec t) s = .ok v) :
    ∃ n rest vs, s = n :: rest ∧ v = .list vs ∧ decodeList (fun c => decode t c) (staticLength t) n rest = .ok vs :=
  match s, h with
  | n :: rest, h => by
    obtain ⟨vs, hvs, rfl⟩ := Outcome.map_eq_ok.1 h
    exact ⟨n, rest, vs, rfl, rfl, hvs⟩

theorem decode_array_ok (h : decode (.array n t) s = .ok v) :
    ∃ vs, v = .list vs ∧ decodeList (fun c => decode t c) (staticLength t) n s = .ok vs := by
  rw [decode] at h
  obtain ⟨-, h⟩ := of_ite_eq h nofun
  obtain ⟨vs, hvs, rfl⟩ := Outcome.map_eq_ok.1 h
  exact ⟨vs, rfl, hvs⟩

/-- tuples and structs: `decode` of either unfolds to this form -/
theorem finishFields_map_ok {r : Outcome (List Val × List Nat)} (h : (finishFields r).map .list = .ok v) :
    ∃ vs, v = .list vs ∧ r = .ok (vs, []) := by
  obtain ⟨vs, hvs, rfl⟩ := Outcome.map_eq_ok.1 h
  exact ⟨vs, rfl, finishFields_eq_ok hvs⟩

theorem decode_poly_cons {ind : Nat} {rest : List Nat} :
    decode (.poly t) (ind :: rest) =
      if (ind :: rest).length < ind + 1 then .err .tooShort else if (ind :: rest).length > ind + 1 then .err .tooLong
      else (decodeVec (fun c => decode t c) (staticLength t) rest).bind fun cs =>
        if lastIsZero cs then .err .trailingZeros else .ok (.list cs) := by
  rw [decode]; cases decodeVec (fun c => decode t c) (staticLength t) rest <;> rfl

theorem decode_poly_ok (h : decode (.poly t) s = .ok v) :
    ∃ n rest cs, s = (rest.length + 1) :: n :: rest ∧ v = .list cs ∧ lastIsZero cs = false ∧
      decodeList (fun c => decode t c) (staticLength t) n rest = .ok cs :=
  match s, h with
  | [ind], h => by
    rw [decode_poly_cons] at h
    obtain ⟨-, h⟩ := of_ite_eq h nofun
    obtain ⟨-, h⟩ := of_ite_eq h nofun
    cases h
  | ind :: n :: rest, h => by
    rw [decode_poly_cons] at h
    obtain ⟨h1, h⟩ := of_ite_eq h nofun
    obtain ⟨h2, h⟩ := of_ite_eq h nofun
    obtain ⟨cs, hcs, h⟩ := Outcome.bind_eq_ok h
    obtain ⟨hz, h⟩ := of_ite_eq h nofun
    simp only [List.length_cons] at h1 h2
    exact ⟨n, rest, cs, by congr 1; omega, (Outcome.ok.inj h).symm, Bool.eq_false_iff.2 hz, hcs⟩

theorem decode_u32s_ok (h : decode (.u32s n) s = .ok v) :
    ∃ vs, v = .list vs ∧ s.length = n ∧ decodeU32Limbs s = .ok vs := by
  rw [decode] at h
  obtain ⟨-, h⟩ := of_ite_eq h nofun
  obtain ⟨h2, h⟩ := of_ite_eq h nofun
  obtain ⟨h3, h⟩ := of_ite_eq h nofun
  obtain ⟨vs, hvs, rfl⟩ := Outcome.map_eq_ok.1 h
  exact ⟨vs, rfl, by omega, hvs⟩

theorem decode_enum_ok {vars : List (List Ty)} (h : decode (.enum vars) s = .ok v) :
    ∃ d rest vs, s = d :: rest ∧ v = .variant d vs ∧ decodeVariant vars d rest = .ok vs :=
  match s, h with
  | d :: rest, h => by
    obtain ⟨vs, hvs, rfl⟩ := Outcome.map_eq_ok.1 h
    exact ⟨d, rest, vs, rfl, rfl, hvs⟩

theorem decodeFields_cons :
    decodeFields (t :: ts) s = (decodeFields ts s).bind fun p =>
      (decodeItem (fun c => decode t c) (staticLength t) p.2).map fun q => (q.1 :: p.1, q.2) := by
  rw [decodeFields]
  rcases decodeFields ts s with ⟨vs, s'⟩ | _ | _
  · dsimp only [Outcome.bind]
    rcases decodeItem (fun c => decode t c) (staticLength t) s' with ⟨v, r⟩ | _ | _ <;> rfl
  · rfl
  · rfl

theorem decodeFields_cons_ok {vs : List Val} {r : List Nat} (h : decodeFields (t :: ts) s = .ok (vs, r)) :
    ∃ v vs' s', vs = v :: vs' ∧ decodeFields ts s = .ok (vs', s') ∧
      decodeItem (fun c => decode t c) (staticLength t) s' = .ok (v, r) := by
  rw [decodeFields_cons] at h
  obtain ⟨⟨vs', s'⟩, hfs, h⟩ := Outcome.bind_eq_ok h
  obtain ⟨⟨v, r'⟩, hv, e⟩ := Outcome.map_eq_ok.1 h
  cases e
  exact ⟨v, vs', s', rfl, hfs, hv⟩

end

theorem variantsHaveWidth_cons {fs : List Ty} {rest : List (List Ty)} {w : Nat} :
    variantsHaveWidth (fs :: rest) w = true ↔ staticLengthSum fs = some w ∧ variantsHaveWidth rest w = true := by
  simp only [variantsHaveWidth, Bool.and_eq_true]
  cases staticLengthSum fs <;> simp

theorem variantsHaveWidth_iff {vars : List (List Ty)} {w : Nat} :
    variantsHaveWidth vars w = true ↔ ∀ gs ∈ vars, staticLengthSum gs = some w := by
  induction vars with
  | nil => simp [variantsHaveWidth]
  | cons g more ih => rw [variantsHaveWidth_cons, ih]; simp

theorem staticLengthSum_cons_some {t : Ty} {ts : List Ty} {n : Nat} (h : staticLengthSum (t :: ts) = some n) :
    ∃ a b, staticLength t = some a ∧ staticLengthSum ts = some b ∧ n = a + b := by
  rw [staticLengthSum] at h
  match ha : staticLength t, hb : staticLengthSum ts, h with
  | some a, some b, h => exact ⟨a, b, rfl, rfl, (Option.some.inj h).symm⟩

theorem staticLengthEnum_some {vars : List (List Ty)} {n : Nat} (h : staticLengthEnum vars = some n) :
    ∃ w, n = w + 1 ∧ variantsHaveWidth vars w = true :=
  match vars, h with
  | [], h => ⟨0, (Option.some.inj h).symm, rfl⟩
  | fs :: rest, h => by
    rw [staticLengthEnum] at h
    match hw : staticLengthSum fs, h with
    | some w, h =>
      simp only at h
      split at h
      · exact ⟨w, (Option.some.inj h).symm, variantsHaveWidth_cons.2 ⟨hw, ‹_›⟩⟩
      · cases h

mutual
theorem encode_length_static : ∀ (t : Ty) (v : Val) (n : Nat),
    hasTy t v = true → staticLength t = some n → (encode t v).length = n
  | .bfe | .u8 | .u16 | .u32 | .bool | .u64 | .u128 | .phantom => fun v n _ hs => Option.some.inj hs
  | .box t => fun v n h hs => encode_length_static t v n h hs
  | .option t | .vec t | .poly t => fun v n _ hs => nomatch hs
  | .array k t => fun v n h hs => by
    obtain ⟨vs, rfl, hk, hv⟩ := hasTy_array h
    rw [staticLength] at hs
    match hw : staticLength t, hs with
    | some w, hs =>
      cases hs
      simp only [encode, isDyn, hw, Option.isNone_some]
      rw [encodeItems_length_static _ w vs (fun x hx => encode_length_static t x w (hv x hx) hw), hk, Nat.mul_comm]
  | .tuple ts | .struct ts => fun v n h hs => by
    obtain ⟨vs, rfl, hv⟩ := hasTy_fields h
    exact encodeFields_length_static ts vs n hv hs
  | .u32s k => fun v n h hs => by
    obtain ⟨ls, rfl, hk, _⟩ := hasTy_u32s h
    cases hs
    simp only [encode]
    rw [encodeItems_length_static _ 1 ls (fun _ _ => rfl), hk, Nat.mul_one]
  | .enum vars => fun v n h hs => by
    obtain ⟨w, rfl, hw⟩ := staticLengthEnum_some hs
    obtain ⟨k, vs, rfl, hv⟩ := hasTy_enum h
    simp only [encode, List.length_cons, encodeVariant_length_static vars k vs w hv hw]
theorem encodeFields_length_static : ∀ (ts : List Ty) (vs : List Val) (n : Nat),
    hasTys ts vs = true → staticLengthSum ts = some n → (encodeFields ts vs).length = n
  | [], vs, n, _, hs => Option.some.inj hs
  | t :: ts, vs, n, h, hs => by
    obtain ⟨v, vs, rfl, hv, hvs⟩ := hasTys_cons h
    obtain ⟨a, b, ha, hb, rfl⟩ := staticLengthSum_cons_some hs
    simp only [encodeFields, isDyn, ha, List.length_append, Option.isNone_some, prefixed_false,
      encode_length_static t v a hv ha, encodeFields_length_static ts vs b hvs hb, Nat.add_comm]
theorem encodeVariant_length_static : ∀ (vars : List (List Ty)) (k : Nat) (vs : List Val) (w : Nat),
    hasTyVariant vars k vs = true → variantsHaveWidth vars w = true → (encodeVariant vars k vs).length = w
  | fs :: _, 0, vs, w, h, hw => encodeFields_length_static fs vs w h (variantsHaveWidth_cons.1 hw).1
  | _ :: rest, k + 1, vs, w, h, hw => encodeVariant_length_static rest k vs w h (variantsHaveWidth_cons.1 hw).2
end

theorem normalize_of_not_lastIsZero : ∀ cs : List Val, lastIsZero cs = false → normalize cs = cs
  | [], _ => rfl
  | [c], h => by
    simp [lastIsZero] at h
    simp [normalize, h]
  | c :: d :: cs, h => by
    have h' : lastIsZero (d :: cs) = false := by
      simpa [lastIsZero, List.getLast?_cons_cons] using h
    have ih := normalize_of_not_lastIsZero (d :: cs) h'
    rw [normalize, ih]

theorem length_le_encodeItems_of_noZW {t : Ty} {vs : List Val} (hv : ∀ x ∈ vs, hasTy t x = true)
    (hz : (noZW t && staticLength t != some 0) = true) :
    vs.length ≤ (encodeItems (fun x => encode t x) (isDyn t) vs).length :=
  length_le_encodeItems _ _ (noZW_item hz).2 vs (fun x hx w => encode_length_static t x w (hv x hx))

/-- `ih` is the induction hypothesis of `decode_encode` at the item type of a vector, array or polynomial -/
theorem decodeList_encode {t : Ty} {vs : List Val}
    (ih : ∀ v, hasTy t v = true → noZW t = true → (encode t v).length < 2^64 → decode t (encode t v) = .ok v)
    (hv : ∀ x ∈ vs, hasTy t x = true) (hz : (noZW t && staticLength t != some 0) = true)
    (hb : (encodeItems (fun x => encode t x) (isDyn t) vs).length < 2^64) :
    decodeList (fun c => decode t c) (staticLength t) vs.length (encodeItems (fun x => encode t x) (isDyn t) vs) =
      .ok vs := by
  have hz := noZW_item hz
  exact decodeList_encodeItems (enc := fun x => encode t x) (fun x hx => ih x (hv x hx) hz.1 (by
      have := mem_encodeItems_length_le (fun x => encode t x) (isDyn t) vs x hx; omega))
    hz.2 (fun x hx w => encode_length_static t x w (hv x hx)) hb

mutual
theorem decode_encode : ∀ (t : Ty) (v : Val), hasTy t v = true → noZW t = true → (encode t v).length < 2^64 →
    decode t (encode t v) = .ok v
  | .bfe => fun v h _ _ => by
    obtain ⟨n, rfl, -⟩ := isNumBelow_iff.1 h; rfl
  | .u8 | .u16 | .u32 | .bool => fun v h _ _ => by
    obtain ⟨n, rfl, hn⟩ := isNumBelow_iff.1 h
    exact if_pos hn
  | .u64 => fun v h _ _ => by
    obtain ⟨n, rfl, hn⟩ := isNumBelow_iff.1 h
    exact decodeLimbs_limbs (k := 2) (by decide) hn
  | .u128 => fun v h _ _ => by
    obtain ⟨n, rfl, hn⟩ := isNumBelow_iff.1 h
    rw [encode_u128]; exact decodeLimbs_limbs (k := 4) (by decide) hn
  | .phantom => fun v h _ _ => by rw [hasTy_phantom h]; rfl
  | .box t => fun v h hz hb => decode_encode t v h hz hb
  | .option t => fun v h hz hb => by
    rcases hasTy_option h with rfl | ⟨x, rfl, hx⟩
    · rfl
    · simp only [encode, List.length_cons] at hb
      show decode (.option t) (1 :: encode t x) = _
      rw [decode_option_one, decode_encode t x hx hz (by omega)]; rfl
  | .vec t => fun v h hz hb => by
    obtain ⟨vs, rfl, hv⟩ := hasTy_vec h
    exact congrArg (Outcome.map Val.list) (decodeList_encode (decode_encode t) hv hz (Nat.lt_of_succ_lt hb))
  | .array n t => fun v h hz hb => by
    obtain ⟨vs, rfl, rfl, hv⟩ := hasTy_array h
    simp only [encode] at hb
    have hne : ¬ (vs.length > 0 ∧ (encodeItems (fun x => encode t x) (isDyn t) vs).isEmpty = true) := by
      have := length_le_encodeItems_of_noZW hv hz
      rw [List.isEmpty_iff_length_eq_zero]; omega
    simp only [encode, decode, if_neg hne, decodeList_encode (decode_encode t) hv hz hb]; rfl
  | .tuple ts | .struct ts => fun v h hz hb => by
    obtain ⟨vs, rfl, hv⟩ := hasTy_fields h
    have := decodeFields_encodeFields ts vs [] hv hz hb
    rw [List.append_nil] at this
    exact congrArg (fun r => (finishFields r).map Val.list) this
  | .poly t => fun v h hz hb => by
    obtain ⟨cs, rfl, hv, hnz⟩ := hasTy_poly h
    simp only [encode, normalize_of_not_lastIsZero cs hnz, List.length_cons] at hb ⊢
    simp only [decode, decodeVec, List.length_cons]
    rw [if_neg (by omega), if_neg (by omega), decodeList_encode (decode_encode t) hv hz (by omega)]
    simp only [hnz]; rfl
  | .u32s k => fun v h _ _ => by
    obtain ⟨ls, rfl, rfl, hv⟩ := hasTy_u32s h
    have hL := encodeItems_length_static (fun x => [numOf x]) 1 ls (fun _ _ => rfl)
    rw [show encode (.u32s ls.length) (.list ls) = encodeItems (fun x => [numOf x]) false ls by simp only [encode]]
    simp only [decode]
    rw [if_neg (by rw [List.isEmpty_iff_length_eq_zero]; omega), if_neg (by omega), if_neg (by omega),
      decodeU32Limbs_encode ls hv]
    rfl
  | .enum vars => fun v h hz hb => by
    obtain ⟨k, vs, rfl, hv⟩ := hasTy_enum h
    exact congrArg (Outcome.map (Val.variant k)) (decodeVariant_encodeVariant vars k vs hv hz (Nat.lt_of_succ_lt hb))
theorem decodeFields_encodeFields : ∀ (ts : List Ty) (vs : List Val) (rest : List Nat),
    hasTys ts vs = true → noZWs ts = true → (encodeFields ts vs).length < 2^64 →
    decodeFields ts (encodeFields ts vs ++ rest) = .ok (vs, rest)
  | [], vs, rest, h, _, _ => by rw [hasTys_nil h]; rfl
  | t :: ts, vs, rest, h, hz, hb => by
    obtain ⟨v, vs, rfl, hv, hvs⟩ := hasTys_cons h
    have hz := Bool.and_eq_true_iff.1 hz
    simp only [encodeFields, List.length_append, prefixed_length] at hb
    simp only [encodeFields, decodeFields, List.append_assoc,
      decodeFields_encodeFields ts vs _ hvs hz.2 (by omega), isDyn,
      decodeItem_prefixed (fun c => decode t c) (staticLength t) v (encode t v) rest (decode_encode t v hv hz.1 (by omega))
        (fun n hn => encode_length_static t v n hv hn)]
theorem decodeVariant_encodeVariant : ∀ (vars : List (List Ty)) (k : Nat) (vs : List Val),
    hasTyVariant vars k vs = true → noZWss vars = true → (encodeVariant vars k vs).length < 2^64 →
    decodeVariant vars k (encodeVariant vars k vs) = .ok vs
  | fs :: _, 0, vs, h, hz, hb => by
    have hz := Bool.and_eq_true_iff.1 hz
    have := decodeFields_encodeFields fs vs [] h hz.1 hb
    rw [List.append_nil] at this
    simp only [encodeVariant, decodeVariant, this, finishFields_ok]
  | _ :: rest, k + 1, vs, h, hz, hb => by
    have hz := Bool.and_eq_true_iff.1 hz
    exact decodeVariant_encodeVariant rest k vs h hz.2 hb
end

mutual
theorem encode_decode : ∀ (t : Ty) (s : List Nat) (v : Val), decode t s = .ok v → encode t v = s
  | .bfe => fun s v h => by obtain ⟨x, rfl, rfl⟩ := decode_bfe_ok h; rfl
  | .u8 | .u16 | .u32 | .bool => fun s v h => by
    obtain ⟨x, rfl, rfl, -⟩ := decodeSmall_ok h; rfl
  | .u64 => fun s v h => by
    obtain ⟨hl, hx, rfl⟩ := decodeLimbs_ok h
    have := limbs_limbsValue s hx
    rwa [hl] at this
  | .u128 => fun s v h => by
    obtain ⟨hl, hx, rfl⟩ := decodeLimbs_ok h
    rw [encode_u128, numOf_num]
    have := limbs_limbsValue s hx
    rwa [hl] at this
  | .phantom => fun s v h => by obtain ⟨rfl, rfl⟩ := decode_phantom_ok h; rfl
  | .box t => fun s v h => encode_decode t s v h
  | .option t => fun s v h => by
    rcases decode_option_ok h with ⟨rfl, rfl⟩ | ⟨rest, x, rfl, rfl, hx⟩
    · rfl
    · simp only [encode, encode_decode t rest x hx]
  | .vec t => fun s v h => by
    obtain ⟨n, rest, vs, rfl, rfl, hvs⟩ := decode_vec_ok h
    obtain ⟨h1, h2⟩ := decodeList_ok (enc := fun x => encode t x) (encode_decode t) hvs
    simp only [encode, isDyn, h1, h2]
  | .array n t => fun s v h => by
    obtain ⟨vs, rfl, hvs⟩ := decode_array_ok h
    exact (decodeList_ok (enc := fun x => encode t x) (encode_decode t) hvs).1
  | .tuple ts | .struct ts => fun s v h => by
    obtain ⟨vs, rfl, hvs⟩ := finishFields_map_ok h
    exact (List.append_nil _).symm.trans (encodeFields_decodeFields ts s vs [] hvs)
  | .poly t => fun s v h => by
    obtain ⟨n, rest, cs, rfl, rfl, hz, hcs⟩ := decode_poly_ok h
    obtain ⟨h1, h2⟩ := decodeList_ok (enc := fun x => encode t x) (encode_decode t) hcs
    simp only [encode, normalize_of_not_lastIsZero cs hz, isDyn, h1, h2, List.length_cons]
  | .u32s n => fun s v h => by
    obtain ⟨vs, rfl, -, hvs⟩ := decode_u32s_ok h
    exact (decodeU32Limbs_ok s vs hvs).1
  | .enum vars => fun s v h => by
    obtain ⟨d, rest, vs, rfl, rfl, hvs⟩ := decode_enum_ok h
    simp only [encode, encodeVariant_decodeVariant vars d rest vs hvs]
theorem encodeFields_decodeFields : ∀ (ts : List Ty) (s : List Nat) (vs : List Val) (r : List Nat),
    decodeFields ts s = .ok (vs, r) → encodeFields ts vs ++ r = s
  | [], s, vs, r, h => by cases h; rfl
  | t :: ts, s, vs, r, h => by
    obtain ⟨v, vs, s', rfl, hfs, hv⟩ := decodeFields_cons_ok h
    obtain ⟨c, rfl, hc⟩ := decodeItem_ok hv
    rw [encodeFields, isDyn, encode_decode t c v hc, List.append_assoc, encodeFields_decodeFields ts s vs _ hfs]
theorem encodeVariant_decodeVariant : ∀ (vars : List (List Ty)) (d : Nat) (s : List Nat) (vs : List Val),
    decodeVariant vars d s = .ok vs → encodeVariant vars d vs = s
  | fs :: _, 0, s, vs, h =>
    (List.append_nil _).symm.trans (encodeFields_decodeFields fs s vs [] (finishFields_eq_ok h))
  | _ :: rest, d + 1, s, vs, h => encodeVariant_decodeVariant rest d s vs h
end

mutual
theorem decode_hasTy : ∀ (t : Ty) (s : List Nat) (v : Val), Canon s → decode t s = .ok v → hasTy t v = true
  | .bfe => fun s v hc h => by
    obtain ⟨x, rfl, rfl⟩ := decode_bfe_ok h
    exact decide_eq_true hc.head
  | .u8 | .u16 | .u32 | .bool => fun s v _ h => by
    obtain ⟨x, rfl, rfl, hx⟩ := decodeSmall_ok h
    exact decide_eq_true hx
  | .u64 | .u128 => fun s v _ h => by
    obtain ⟨hl, hx, rfl⟩ := decodeLimbs_ok h
    have := limbsValue_lt s hx
    rw [hl] at this
    exact decide_eq_true this
  | .phantom => fun s v _ h => by obtain ⟨rfl, rfl⟩ := decode_phantom_ok h; rfl
  | .box t => fun s v hc h => decode_hasTy t s v hc h
  | .option t => fun s v hc h => by
    rcases decode_option_ok h with ⟨rfl, rfl⟩ | ⟨rest, x, rfl, rfl, hx⟩
    · rfl
    · exact decode_hasTy t rest x hc.tail hx
  | .vec t => fun s v hc h => by
    obtain ⟨n, rest, vs, rfl, rfl, hvs⟩ := decode_vec_ok h
    exact List.all_eq_true.2 (decodeList_forall (decode_hasTy t) hc.tail hvs)
  | .array n t => fun s v hc h => by
    obtain ⟨vs, rfl, hvs⟩ := decode_array_ok h
    simp only [hasTy, Bool.and_eq_true, beq_iff_eq, List.all_eq_true]
    exact ⟨(decodeList_ok (enc := fun x => encode t x) (encode_decode t) hvs).2,
      decodeList_forall (decode_hasTy t) hc hvs⟩
  | .tuple ts | .struct ts => fun s v hc h => by
    obtain ⟨vs, rfl, hvs⟩ := finishFields_map_ok h
    exact (decodeFields_hasTys ts s vs [] hc hvs).1
  | .poly t => fun s v hc h => by
    obtain ⟨n, rest, cs, rfl, rfl, hz, hcs⟩ := decode_poly_ok h
    simp only [hasTy, Bool.and_eq_true, List.all_eq_true, Bool.not_eq_true']
    exact ⟨decodeList_forall (decode_hasTy t) hc.tail.tail hcs, hz⟩
  | .u32s n => fun s v _ h => by
    obtain ⟨vs, rfl, hn, hvs⟩ := decode_u32s_ok h
    obtain ⟨h1, h2, -⟩ := decodeU32Limbs_ok s vs hvs
    have hL := encodeItems_length_static (fun x => [numOf x]) 1 vs (fun _ _ => rfl)
    simp only [hasTy, Bool.and_eq_true, beq_iff_eq]
    exact ⟨by rw [h1] at hL; omega, h2⟩
  | .enum vars => fun s v hc h => by
    obtain ⟨d, rest, vs, rfl, rfl, hvs⟩ := decode_enum_ok h
    exact decodeVariant_hasTy vars d rest vs hc.tail hvs
theorem decodeFields_hasTys : ∀ (ts : List Ty) (s : List Nat) (vs : List Val) (r : List Nat), Canon s →
    decodeFields ts s = .ok (vs, r) → hasTys ts vs = true ∧ Canon r
  | [], s, vs, r, hc, h => by cases h; exact ⟨rfl, hc⟩
  | t :: ts, s, vs, r, hc, h => by
    obtain ⟨v, vs, s', rfl, hfs, hv⟩ := decodeFields_cons_ok h
    obtain ⟨h1, h2⟩ := decodeFields_hasTys ts s vs s' hc hfs
    obtain ⟨c, rfl, hd⟩ := decodeItem_ok hv
    obtain ⟨h3, h4⟩ := Canon.append_iff.1 h2
    simp only [hasTys, h1, decode_hasTy t c v h3.of_prefixed hd, Bool.and_self, h4, and_self]
theorem decodeVariant_hasTy : ∀ (vars : List (List Ty)) (d : Nat) (s : List Nat) (vs : List Val), Canon s →
    decodeVariant vars d s = .ok vs → hasTyVariant vars d vs = true
  | fs :: _, 0, s, vs, hc, h => (decodeFields_hasTys fs s vs [] hc (finishFields_eq_ok h)).1
  | _ :: rest, d + 1, s, vs, hc, h => decodeVariant_hasTy rest d s vs hc h
end

mutual
theorem decode_ne_panic : ∀ (t : Ty) (s : List Nat), noZW t = true → Good s → decode t s ≠ .panic
  | .bfe => fun s _ _ => match s with
    | [] | [_] | _ :: _ :: _ => nofun
  | .phantom => fun s _ _ => match s with
    | [] | _ :: _ => nofun
  | .u8 | .u16 | .u32 | .bool => fun s _ _ => decodeSmall_ne_panic _ s
  | .u64 | .u128 => fun s _ _ => decodeLimbs_ne_panic _ s
  | .box t => fun s hz hg => decode_ne_panic t s hz hg
  | .option t => fun s hz hg => match s, hg with
    | [], _ => nofun
    | tag :: rest, hg => by
      by_cases h1 : tag = 1
      · subst h1
        rw [decode_option_one]
        exact Outcome.map_ne_panic (decode_ne_panic t rest hz hg.tail)
      · simp only [decode]
        refine ite_ne ?_ fun _ => (if_neg h1).symm ▸ nofun
        cases rest <;> nofun
  | .vec t => fun s hz hg => by
    have hz := noZW_item hz
    exact Outcome.map_ne_panic (decodeVec_ne_panic (fun c hc => decode_ne_panic t c hz.1 hc) hz.2 s hg)
  | .array n t => fun s hz hg => by
    have hz := noZW_item hz
    rw [decode]
    exact ite_ne nofun fun _ => Outcome.map_ne_panic
      (decodeList_ne_panic (fun c hc => decode_ne_panic t c hz.1 hc) hz.2 hg)
  | .tuple ts | .struct ts => fun s hz hg =>
    Outcome.map_ne_panic (finishFields_ne_panic (decodeFields_ne_panic ts s hz hg))
  | .poly t => fun s hz hg => match s, hg with
    | [], _ => nofun
    | ind :: rest, hg => by
      have hz := noZW_item hz
      rw [decode_poly_cons]
      exact ite_ne nofun fun _ => ite_ne nofun fun _ => Outcome.bind_ne_panic
        (decodeVec_ne_panic (fun c hc => decode_ne_panic t c hz.1 hc) hz.2 rest hg.tail)
        fun _ _ => ite_ne nofun fun _ => nofun
  | .u32s n => fun s _ _ => by
    rw [decode]
    exact ite_ne nofun fun _ => ite_ne nofun fun _ => ite_ne nofun fun _ => Outcome.map_ne_panic (decodeU32Limbs_ne_panic s)
  | .enum vars => fun s hz hg => match s, hg with
    | [], _ => nofun
    | d :: rest, hg => Outcome.map_ne_panic (decodeVariant_ne_panic vars d rest hz hg.tail)
theorem decodeFields_ne_panic : ∀ (ts : List Ty) (s : List Nat), noZWs ts = true → Good s →
    decodeFields ts s ≠ .panic
  | [], s, _, _ => nofun
  | t :: ts, s, hz, hg => by
    have hz := Bool.and_eq_true_iff.1 hz
    rw [decodeFields_cons]
    refine Outcome.bind_ne_panic (decodeFields_ne_panic ts s hz.2 hg) fun p hp => Outcome.map_ne_panic ?_
    -- what is left is a final segment of `s`
    have hs' : Good p.2 := (encodeFields_decodeFields ts s p.1 p.2 hp ▸ hg).of_append_right
    exact decodeItem_ne_panic (fun c hc => decode_ne_panic t c hz.1 hc) (staticLength t) p.2 hs'
theorem decodeVariant_ne_panic : ∀ (vars : List (List Ty)) (d : Nat) (s : List Nat), noZWss vars = true → Good s →
    decodeVariant vars d s ≠ .panic
  | [], d, s, _, _ => nofun
  | fs :: _, 0, s, hz, hg => by
    have hz := Bool.and_eq_true_iff.1 hz
    exact finishFields_ne_panic (decodeFields_ne_panic fs s hz.1 hg)
  | _ :: rest, d + 1, s, hz, hg => by
    have hz := Bool.and_eq_true_iff.1 hz
    exact decodeVariant_ne_panic rest d s hz.2 hg
end

theorem one_le_max (n : Nat) : 1 ≤ max 1 n := by omega
theorem max_one_length_cons (x : Nat) (l : List Nat) : max 1 l.length ≤ max 1 (x :: l).length := by
  rw [List.length_cons]
  omega

/-- one unit (a node of the value, a call of a decoder) on top of a part bounded by `K * L`; the bounds are in `max 1` of the
    length because a value decoded from no elements (`PhantomData`, an empty struct) still has a node and costs a call -/
theorem wrap_step {a K L M : Nat} (h : a ≤ K * L) (hL : L ≤ M) (hM : 1 ≤ M) : 1 + a ≤ (1 + K) * M := by
  have := Nat.mul_le_mul_left K hL
  rw [Nat.add_mul]
  omega

mutual
theorem decode_size : ∀ (t : Ty) (s : List Nat) (v : Val), decode t s = .ok v → v.size ≤ t.size * max 1 s.length
  | .bfe => fun s v h => by obtain ⟨x, rfl, rfl⟩ := decode_bfe_ok h; exact Nat.le_refl 1
  | .u8 | .u16 | .u32 | .bool => fun s v h => by
    obtain ⟨x, rfl, rfl, -⟩ := decodeSmall_ok h; exact Nat.le_refl 1
  | .u64 | .u128 => fun s v h => by
    obtain ⟨-, -, rfl⟩ := decodeLimbs_ok h
    simp only [Val.size, Ty.size]; omega
  | .phantom => fun s v h => by obtain ⟨rfl, rfl⟩ := decode_phantom_ok h; exact Nat.le_refl 1
  | .box t => fun s v h => by
    have := decode_size t s v h
    simp only [Ty.size, Nat.add_mul]; omega
  | .option t => fun s v h => by
    rcases decode_option_ok h with ⟨rfl, rfl⟩ | ⟨rest, x, rfl, rfl, hx⟩
    · simp only [Val.size, Ty.size, Nat.add_mul, List.length_cons]; omega
    · exact wrap_step (decode_size t rest x hx) (max_one_length_cons _ _) (one_le_max _)
  | .vec t => fun s v h => by
    obtain ⟨n, rest, vs, rfl, rfl, hvs⟩ := decode_vec_ok h
    exact wrap_step (decodeList_size (decode_size t) hvs) (by simp only [List.length_cons]; omega) (one_le_max _)
  | .array n t => fun s v h => by
    obtain ⟨vs, rfl, hvs⟩ := decode_array_ok h
    exact wrap_step (decodeList_size (decode_size t) hvs) (by omega) (one_le_max _)
  | .tuple ts | .struct ts => fun s v h => by
    obtain ⟨vs, rfl, hvs⟩ := finishFields_map_ok h
    exact wrap_step (decodeFields_size ts s vs [] hvs).1 (Nat.le_refl _) (one_le_max _)
  | .poly t => fun s v h => by
    obtain ⟨n, rest, cs, rfl, rfl, -, hcs⟩ := decode_poly_ok h
    exact wrap_step (decodeList_size (decode_size t) hcs) (by simp only [List.length_cons]; omega) (one_le_max _)
  | .u32s n => fun s v h => by
    obtain ⟨vs, rfl, -, hvs⟩ := decode_u32s_ok h
    have := (decodeU32Limbs_ok s vs hvs).2.2
    simp only [Val.size, Ty.size, this]; omega
  | .enum vars => fun s v h => by
    obtain ⟨d, rest, vs, rfl, rfl, hvs⟩ := decode_enum_ok h
    exact wrap_step (decodeVariant_size vars d rest vs hvs) (max_one_length_cons _ _) (one_le_max _)
theorem decodeFields_size : ∀ (ts : List Ty) (s : List Nat) (vs : List Val) (r : List Nat),
    decodeFields ts s = .ok (vs, r) → Val.sizes vs ≤ Ty.sizes ts * max 1 s.length ∧ r.length ≤ s.length
  | [], s, vs, r, h => by cases h; exact ⟨Nat.zero_le _, Nat.le_refl _⟩
  | t :: ts, s, vs, r, h => by
    obtain ⟨v, vs, s', rfl, hfs, hv⟩ := decodeFields_cons_ok h
    have ih := decodeFields_size ts s vs s' hfs
    have hi := decodeItem_size (decode_size t) hv
    have h2 : t.size * max 1 s'.length ≤ t.size * max 1 s.length := Nat.mul_le_mul_left _ (by omega)
    simp only [Val.sizes, Ty.sizes, Nat.add_mul]
    exact ⟨by omega, by omega⟩
theorem decodeVariant_size : ∀ (vars : List (List Ty)) (d : Nat) (s : List Nat) (vs : List Val),
    decodeVariant vars d s = .ok vs → Val.sizes vs ≤ Ty.sizess vars * max 1 s.length
  | fs :: _, 0, s, vs, h => by
    have := (decodeFields_size fs s vs [] (finishFields_eq_ok h)).1
    simp only [Ty.sizess, Nat.add_mul]; omega
  | _ :: rest, d + 1, s, vs, h => by
    have := decodeVariant_size rest d s vs h
    simp only [Ty.sizess, Nat.add_mul]; omega
end

section
variable {dec : List Nat → Outcome Val} {cst : List Nat → Nat} {w C : Nat} (hc : ∀ c, cst c ≤ C * max 1 c.length)
include hc

theorem costChunks_le (hw : 0 < w) :
    ∀ (n : Nat) (s : List Nat), s.length = n * w → costChunks dec cst w n s ≤ (1 + C) * s.length
  | 0, s, _ => Nat.zero_le _
  | n + 1, s, hl => by
    rw [Nat.succ_mul] at hl
    have h1 := hc (s.take w)
    rw [List.length_take, Nat.min_eq_left (by omega), Nat.max_eq_right hw] at h1
    have ih := costChunks_le hw n (s.drop w) (by rw [List.length_drop]; omega)
    rw [List.length_drop, hl, Nat.add_sub_cancel] at ih
    rw [costChunks, hl, Nat.mul_add, Nat.add_mul 1 C w, Nat.one_mul]
    split <;> omega

theorem costDyn_le :
    ∀ (n idx : Nat) (s : List Nat), costDyn dec cst n idx s ≤ (1 + C) * s.length + 1
  | 0, idx, s => Nat.zero_le _
  | n + 1, idx, [] => Nat.le_refl 1
  | n + 1, idx, len :: rest => by
    rw [costDyn]
    refine ite_le (by omega) fun _ => ite_le (by omega) fun hlen => ?_
    have h1 := hc (rest.take len)
    rw [List.length_take, Nat.min_eq_left (by omega)] at h1
    have h2 : C * max 1 len ≤ C * (len + 1) := Nat.mul_le_mul_left C (by omega)
    have ih := costDyn_le n (idx + 1 + len) (rest.drop len)
    rw [List.length_drop] at ih
    have e : (len :: rest).length = (len + 1) + (rest.length - len) := by rw [List.length_cons]; omega
    rw [e, Nat.mul_add, Nat.add_mul 1 C (len + 1), Nat.one_mul]
    split <;> omega

theorem costList_le (sl : Option Nat) (n : Nat) (s : List Nat) :
    costList dec cst sl n s ≤ (1 + C) * s.length + 2 := by
  cases sl with
  | some w =>
    refine ite_le (by omega) fun h1 => ite_le (by omega) fun h2 => ite_le (by omega) fun h3 => ite_le (by omega) fun h4 => ?_
    have := costChunks_le (dec := dec) (w := w) hc (by omega) n s (by omega)
    omega
  | none =>
    have := costDyn_le (dec := dec) hc n 0 s
    show 1 + _ ≤ _; omega

theorem costItem_le :
    ∀ (sl : Option Nat) (s : List Nat), costItem cst sl s ≤ 1 + C * max 1 s.length
  | some w, s => ite_le (Nat.le_add_right 1 _) fun _ => Nat.add_le_add_left
      (Nat.le_trans (hc _) (Nat.mul_le_mul_left C (by rw [List.length_take]; omega))) 1
  | none, [] => Nat.le_add_right 1 _
  | none, len :: rest => ite_le (Nat.le_add_right 1 _) fun _ => Nat.add_le_add_left
      (Nat.le_trans (hc _) (Nat.mul_le_mul_left C (by rw [List.length_take, List.length_cons]; omega))) 1

end

theorem le_mul_max {k K : Nat} (h : k ≤ K) (n : Nat) : k ≤ K * max 1 n :=
  Nat.le_trans h (Nat.le_mul_of_pos_right K (by omega))

/-- The step of `cost_le` for `Vec`, `[T; N]` and `Polynomial`: `k` units are spent outside the list decoder, `costList` adds
    `2`, and each of the `d` elements in front of the items (count, indicator) pays for one unit. Hence the constants `c` of
    `Ty.work`: `3` for `Vec` (`k = 1`, `d = 1`), `4` for arrays (`k = 1`, `d = 0`), `4` for polynomials (`k = 2`, `d = 2`). -/
theorem list_step {a C L M c : Nat} (k d : Nat) (h : a ≤ (1 + C) * L + 2) (hL : L + d ≤ M) (hM : 1 ≤ M)
    (hc : 1 ≤ c ∧ k + 3 ≤ c + d) : k + a ≤ (c + C) * M := by
  have h1 := Nat.mul_le_mul_left (1 + C) hL
  rw [Nat.mul_add] at h1
  have h2 : d ≤ (1 + C) * d := Nat.le_mul_of_pos_left d (by omega)
  have h3 : c - 1 ≤ (c - 1) * M := Nat.le_mul_of_pos_right _ hM
  rw [show c + C = (c - 1) + (1 + C) by omega, Nat.add_mul]
  omega

mutual
theorem cost_le : ∀ (t : Ty) (s : List Nat), cost t s ≤ t.work * max 1 s.length
  | .bfe | .u8 | .u16 | .u32 | .u64 | .u128 | .bool | .phantom => fun _ => le_mul_max (Nat.le_refl 1) _
  | .box t => fun s => wrap_step (cost_le t s) (Nat.le_refl _) (one_le_max _)
  | .option t => fun s => match s with
    | [] => le_mul_max (Nat.le_add_right 1 _) _
    | tag :: rest => ite_le (wrap_step (cost_le t rest) (max_one_length_cons _ _) (one_le_max _))
        fun _ => le_mul_max (Nat.le_add_right 1 _) _
  | .vec t => fun s => match s with
    | [] => le_mul_max (k := 1) (Nat.le_add_right_of_le (by decide)) _
    | n :: rest =>
      list_step 1 1 (costList_le (dec := fun c => decode t c) (cst := fun c => cost t c) (cost_le t) (staticLength t) n rest)
        (by rw [List.length_cons]; omega) (one_le_max _) (by decide)
  | .array n t => fun s => ite_le (le_mul_max (Nat.le_add_right_of_le (by decide)) _) fun _ =>
      list_step 1 0 (costList_le (dec := fun c => decode t c) (cst := fun c => cost t c) (cost_le t) (staticLength t) n s)
        (Nat.le_max_right 1 _) (one_le_max _) (by decide)
  | .tuple ts | .struct ts => fun s => wrap_step (costFields_le ts s) (Nat.le_refl _) (one_le_max _)
  | .poly t => fun s => match s with
    | [] => le_mul_max (k := 1) (Nat.le_add_right_of_le (by decide)) _
    | [ind] => ite_le (le_mul_max (Nat.le_add_right_of_le (by decide)) _) fun _ =>
        ite_le (le_mul_max (Nat.le_add_right_of_le (by decide)) _) fun _ =>
          le_mul_max (k := 2) (Nat.le_add_right_of_le (by decide)) _
    | ind :: n :: rest => ite_le (le_mul_max (Nat.le_add_right_of_le (by decide)) _) fun _ =>
        ite_le (le_mul_max (Nat.le_add_right_of_le (by decide)) _) fun _ =>
          list_step 2 2
            (costList_le (dec := fun c => decode t c) (cst := fun c => cost t c) (cost_le t) (staticLength t) n rest)
            (by simp only [List.length_cons]; omega) (one_le_max _) (by decide)
  | .u32s n => fun s => by
    show (if s.length = n then 1 + s.length else 1) ≤ 2 * max 1 s.length
    split <;> omega
  | .enum vars => fun s => match s with
    | [] => le_mul_max (Nat.le_add_right 1 _) _
    | d :: rest => wrap_step (costVariant_le vars d rest) (max_one_length_cons _ _) (one_le_max _)
theorem costFields_le : ∀ (ts : List Ty) (s : List Nat), costFields ts s ≤ Ty.works ts * max 1 s.length
  | [], s => Nat.zero_le _
  | t :: ts, s => by
    have ih := costFields_le ts s
    have hM := one_le_max s.length
    simp only [costFields, Ty.works, Nat.add_mul, Nat.one_mul]
    split
    · rename_i vs s' hfs
      have hr := (decodeFields_size ts s vs s' hfs).2
      have hi := costItem_le (cst := fun c => cost t c) (cost_le t) (staticLength t) s'
      have h2 : t.work * max 1 s'.length ≤ t.work * max 1 s.length := Nat.mul_le_mul_left _ (by omega)
      omega
    · omega
theorem costVariant_le : ∀ (vars : List (List Ty)) (d : Nat) (s : List Nat),
    costVariant vars d s ≤ Ty.workss vars * max 1 s.length
  | [], _, _ => Nat.zero_le _
  | fs :: _, 0, s => Nat.le_trans (costFields_le fs s) (Nat.mul_le_mul_right _ (Nat.le_add_right _ _))
  | _ :: rest, d + 1, s => Nat.le_trans (costVariant_le rest d s) (Nat.mul_le_mul_right _ (Nat.le_add_left _ _))
end

theorem encodeItems_canon (enc : Val → List Nat) (d : Bool) :
    ∀ vs : List Val, (∀ v ∈ vs, (enc v).length < P → Canon (enc v)) → (encodeItems enc d vs).length < P →
      Canon (encodeItems enc d vs)
  | [], _, _ => Canon.nil
  | v :: vs, h, hl => by
    simp only [encodeItems_cons, List.length_append, prefixed_length] at hl ⊢
    have h1 : (enc v).length < P := by omega
    exact Canon.append_iff.2 ⟨prefixed_canon (h v (by simp) h1) h1,
      encodeItems_canon enc d vs (fun x hx => h x (by simp [hx])) (by omega)⟩

theorem canon_singleton {x : Nat} (h : x < P) : Canon [x] := Canon.cons_iff.2 ⟨h, Canon.nil⟩

theorem limbs_canon (k n : Nat) : Canon (limbs k n) :=
  fun x hx => Nat.lt_trans (limbs_lt k n x hx) P_gt.2.2

theorem hasTyVariant_lt : ∀ (vars : List (List Ty)) (k : Nat) (vs : List Val), hasTyVariant vars k vs = true →
    k < vars.length
  | _ :: _, 0, _, _ => Nat.succ_pos _
  | _ :: rest, k + 1, vs, h => Nat.succ_lt_succ (hasTyVariant_lt rest k vs h)

mutual
theorem encode_canon : ∀ (t : Ty) (v : Val), hasTy t v = true → noZW t = true → wf t = true →
    (encode t v).length < P → Canon (encode t v)
  | .bfe => fun v h _ _ _ => by
    obtain ⟨n, rfl, hn⟩ := isNumBelow_iff.1 h
    exact canon_singleton hn
  | .u8 | .u16 | .u32 | .bool => fun v h _ _ _ => by
    obtain ⟨n, rfl, hn⟩ := isNumBelow_iff.1 h
    exact canon_singleton (Nat.lt_trans hn (by decide))
  | .u64 => fun v _ _ _ _ => limbs_canon 2 _
  | .u128 => fun v _ _ _ _ => encode_u128 v ▸ limbs_canon 4 _
  | .phantom => fun v _ _ _ _ => Canon.nil
  | .box t => fun v h hz hw hb => encode_canon t v h hz hw hb
  | .option t => fun v h hz hw hb => by
    rcases hasTy_option h with rfl | ⟨x, rfl, hx⟩
    · exact canon_singleton (by decide)
    · simp only [encode, List.length_cons] at hb ⊢
      exact Canon.cons_iff.2 ⟨by decide, encode_canon t x hx hz hw (by omega)⟩
  | .vec t => fun v h hz hw hb => by
    obtain ⟨vs, rfl, hv⟩ := hasTy_vec h
    have hcount := length_le_encodeItems_of_noZW hv hz
    have hz := noZW_item hz
    simp only [encode, List.length_cons] at hb ⊢
    exact Canon.cons_iff.2 ⟨by omega, encodeItems_canon _ _ vs
      (fun x hx hl => encode_canon t x (hv x hx) hz.1 hw hl) (by omega)⟩
  | .array n t => fun v h hz hw hb => by
    obtain ⟨vs, rfl, -, hv⟩ := hasTy_array h
    have hz := noZW_item hz
    exact encodeItems_canon _ _ vs (fun x hx hl => encode_canon t x (hv x hx) hz.1 hw hl) hb
  | .tuple ts => fun v h hz hw hb => by
    obtain ⟨vs, rfl, hv⟩ := hasTy_fields h
    simp only [wf, Bool.and_eq_true] at hw
    exact encodeFields_canon ts vs hv hz hw.2 hb
  | .struct ts => fun v h hz hw hb => by
    obtain ⟨vs, rfl, hv⟩ := hasTy_fields h
    exact encodeFields_canon ts vs hv hz hw hb
  | .poly t => fun v h hz hw hb => by
    obtain ⟨cs, rfl, hv, hnz⟩ := hasTy_poly h
    have hcount := length_le_encodeItems_of_noZW hv hz
    have hz := noZW_item hz
    simp only [encode, normalize_of_not_lastIsZero cs hnz, List.length_cons] at hb ⊢
    -- `wf (.poly t)` only says `t` is a field type; its own well-formedness follows
    have hwt : wf t = true := by
      simp only [wf] at hw
      unfold isFieldTy at hw
      split at hw
      · rfl
      · rfl
      · cases hw
    exact Canon.cons_iff.2 ⟨by omega, Canon.cons_iff.2 ⟨by omega, encodeItems_canon _ _ cs
      (fun x hx hl => encode_canon t x (hv x hx) hz.1 hwt hl) (by omega)⟩⟩
  | .u32s k => fun v h _ _ hb => by
    obtain ⟨ls, rfl, -, hv⟩ := hasTy_u32s h
    exact encodeItems_canon _ _ ls (fun x hx _ => by
      obtain ⟨n, rfl, hn⟩ := isNumBelow_iff.1 (List.all_eq_true.1 hv x hx)
      exact canon_singleton (Nat.lt_trans hn P_gt.2.2)) hb
  | .enum vars => fun v h hz hw hb => by
    obtain ⟨k, vs, rfl, hv⟩ := hasTy_enum h
    simp only [wf, Bool.and_eq_true, decide_eq_true_eq] at hw
    simp only [encode, List.length_cons] at hb ⊢
    have hk := hasTyVariant_lt vars k vs hv
    exact Canon.cons_iff.2 ⟨by rw [P_val]; omega, encodeVariant_canon vars k vs hv hz hw.2 (by omega)⟩
theorem encodeFields_canon : ∀ (ts : List Ty) (vs : List Val), hasTys ts vs = true → noZWs ts = true →
    wfs ts = true → (encodeFields ts vs).length < P → Canon (encodeFields ts vs)
  | [], vs, _, _, _, _ => Canon.nil
  | t :: ts, vs, h, hz, hw, hb => by
    obtain ⟨v, vs, rfl, hv, hvs⟩ := hasTys_cons h
    have hz := Bool.and_eq_true_iff.1 hz
    have hw := Bool.and_eq_true_iff.1 hw
    simp only [encodeFields, List.length_append, prefixed_length] at hb ⊢
    have h1 : (encode t v).length < P := by omega
    exact Canon.append_iff.2 ⟨encodeFields_canon ts vs hvs hz.2 hw.2 (by omega),
      prefixed_canon (encode_canon t v hv hz.1 hw.1 h1) h1⟩
theorem encodeVariant_canon : ∀ (vars : List (List Ty)) (k : Nat) (vs : List Val), hasTyVariant vars k vs = true →
    noZWss vars = true → wfss vars = true → (encodeVariant vars k vs).length < P → Canon (encodeVariant vars k vs)
  | fs :: _, 0, vs, h, hz, hw, hb => by
    have hz := Bool.and_eq_true_iff.1 hz
    have hw := Bool.and_eq_true_iff.1 hw
    exact encodeFields_canon fs vs h hz.1 hw.1 hb
  | _ :: rest, k + 1, vs, h, hz, hw, hb => by
    have hz := Bool.and_eq_true_iff.1 hz
    have hw := Bool.and_eq_true_iff.1 hw
    exact encodeVariant_canon rest k vs h hz.2 hw.2 hb
end

/-- the outcome is an error, or a well-typed value whose one and only encoding is the input -/
theorem decode_strict (t : Ty) (s : List Nat) (hz : noZW t = true) (hc : Canon s) (hl : s.length < 2^32) :
    (∃ k, decode t s = .err k) ∨ (∃ v, decode t s = .ok v ∧ hasTy t v = true ∧ encode t v = s) := by
  cases h : decode t s with
  | ok v => exact .inr ⟨v, rfl, decode_hasTy t s v hc h, encode_decode t s v h⟩
  | err k => exact .inl ⟨k, rfl⟩
  | panic => exact absurd h (decode_ne_panic t s hz ⟨hc, hl⟩)

/-- a type of static length `n` accepts canonical sequences of that length only -/
theorem decode_length_static (t : Ty) (s : List Nat) (v : Val) (n : Nat) (hc : Canon s) (h : decode t s = .ok v)
    (hs : staticLength t = some n) : s.length = n :=
  encode_decode t s v h ▸ encode_length_static t v n (decode_hasTy t s v hc h) hs

theorem encodeFields_eq_flatMap : ∀ (ts : List Ty) (vs : List Val),
    encodeFields ts vs = ((ts.zip vs).reverse.flatMap fun tv => prefixed (isDyn tv.1) (encode tv.1 tv.2))
  | [], _ => by simp [encodeFields]
  | _ :: _, [] => by simp [encodeFields]
  | t :: ts, v :: vs => by simp [encodeFields, encodeFields_eq_flatMap ts vs]

theorem encodeVariant_eq : ∀ (vars : List (List Ty)) (k : Nat) (fs : List Ty) (vs : List Val), vars[k]? = some fs →
    encodeVariant vars k vs = encodeFields fs vs
  | _ :: _, 0, _, _, h => by
    cases h
    rfl
  | _ :: rest, k + 1, fs, vs, h => encodeVariant_eq rest k fs vs (List.getElem?_cons_succ ▸ h)

theorem decodeVariant_eq : ∀ (vars : List (List Ty)) (k : Nat) (fs : List Ty) (s : List Nat), vars[k]? = some fs →
    decodeVariant vars k s = finishFields (decodeFields fs s)
  | _ :: _, 0, _, _, h => by
    cases h
    rfl
  | _ :: rest, k + 1, fs, s, h => decodeVariant_eq rest k fs s (List.getElem?_cons_succ ▸ h)

theorem decodeVariant_of_length_le : ∀ (vars : List (List Ty)) (d : Nat) (s : List Nat), vars.length ≤ d →
    decodeVariant vars d s = .err .badDiscriminant
  | [], _, _, _ => rfl
  | _ :: rest, d + 1, s, h => decodeVariant_of_length_le rest d s (Nat.le_of_succ_le_succ h)

theorem decode_enum_of_length_le (vars : List (List Ty)) (d : Nat) (rest : List Nat) (h : vars.length ≤ d) :
    decode (.enum vars) (d :: rest) = .err .badDiscriminant := by
  simp only [decode, decodeVariant_of_length_le vars d rest h]
  rfl

end TF.Codec
