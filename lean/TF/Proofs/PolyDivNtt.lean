import TF.Proofs.PolyDiv
import TF.Proofs.PolyMulHom
import Mathlib.Algebra.Polynomial.AlgebraMap
/-!
Helper lemmas for property C09, evaluation-domain strategies, given that `ntt` is the DFT (`NttDft`, property C06):
the convolution property used by `fast_reduce`, `clean_divide` over a field extension `L/K` (for twenty-first:
`XFieldElement` over `BFieldElement`), and the NTT-domain rounds of `formal_power_series_inverse_newton`.
Every point-wise operation on transforms goes through `ntt_ext`.
-/
open Polynomial

namespace TF.Proofs.PolyD
open TF TF.Model.PolyD
open TF.Model.Poly hiding nextPowerOfTwo resize evens odds
open Classical

variable {K : Type} [Field K] (root : Nat → Option K)
local notation "FK" => FieldOps.ofField K root

section clean
variable {L : Type} [Field L] [Algebra K L] (rootL : Nat → Option L)
local notation "FL" => FieldOps.ofField L rootL

theorem batchBack_spec (l : List L) (hl : ∀ x ∈ l, x ≠ 0) (acc : L) (hacc : acc ≠ 0) :
    batchBack FL (l.zip (prefixProducts FL l acc).1) ((prefixProducts FL l acc).2)⁻¹
      = (l.map (fun x => x⁻¹), acc⁻¹) := by
  induction l generalizing acc with
  | nil => simp [prefixProducts, batchBack]
  | cons x xs ih =>
    have hx : x ≠ 0 := hl x (by simp)
    have hxs : ∀ y ∈ xs, y ≠ 0 := fun y hy => hl y (by simp [hy])
    have := ih hxs (acc * x) (mul_ne_zero hacc hx)
    simp only [prefixProducts, FieldOps.ofField_mul, List.zip_cons_cons, batchBack, this, List.map_cons]
    congr 1
    · congr 1; field_simp
    · field_simp

/-- `batch_inversion` of non-zero elements is element-wise inversion -/
theorem batchInversion_spec (l : List L) (hl : ∀ x ∈ l, x ≠ 0) :
    batchInversion FL l = some (l.map (fun x => x⁻¹)) := by
  unfold batchInversion
  have h : l.any (FL).isZero = false := by
    rw [List.any_eq_false]
    intro x hx
    rw [FieldOps.ofField_isZero]
    exact hl x hx
  rw [h]
  simp only [Bool.false_eq_true, if_false, FieldOps.ofField_inv, FieldOps.ofField_one]
  rw [batchBack_spec rootL l hl 1 one_ne_zero]

omit [Field K] [Field L] [Algebra K L] in
theorem mapM_unlift (lift : K → L) (unlift : L → Option K) (h : ∀ k, unlift (lift k) = some k) (l : List K) :
    (l.map lift).mapM unlift = some l := by
  induction l with
  | nil => rfl
  | cons k ks ih => simp [List.mapM_cons, h, ih]

/-- `scale(offset)` of a base-field polynomial by an extension-field element: `P(X) ↦ P(x·X)` over `L` -/
theorem denote_scaleAux_lift (p : List K) (x pw : L) :
    denote (scaleAux (· * ·) (fun (c : K) (q : L) => algebraMap K L c * q) x pw p)
      = C pw * ((denote p).map (algebraMap K L)).comp (C x * X) := by
  induction p generalizing pw with
  | nil => simp [scaleAux]
  | cons c cs ih =>
    simp only [scaleAux, denote_cons, ih, Polynomial.map_add, Polynomial.map_mul, map_C, map_X, add_comp,
      mul_comp, C_comp, X_comp, C_mul]
    ring

theorem length_scaleAux {α σ γ : Type} (mulS : σ → σ → σ) (mul : α → σ → γ) (x pw : σ) (p : List α) :
    (scaleAux mulS mul x pw p).length = p.length := by
  induction p generalizing pw with
  | nil => rfl
  | cons c cs ih => simp [scaleAux, ih]

/-- unscaling the scaled lift gives the lift back, coefficient by coefficient -/
theorem scaleAux_unscale (q : List K) (x : L) (hx : x ≠ 0) (pw pw' : L) (h : pw * pw' = 1) :
    scaleAux (· * ·) (· * ·) x⁻¹ pw' (scaleAux (· * ·) (fun (c : K) (r : L) => algebraMap K L c * r) x pw q)
      = q.map (algebraMap K L) := by
  induction q generalizing pw pw' with
  | nil => rfl
  | cons c cs ih =>
    simp only [scaleAux, List.map_cons]
    rw [ih (pw * x) (pw' * x⁻¹) (by field_simp; linear_combination h)]
    congr 1
    rw [mul_assoc, h, mul_one]

variable {N : NttOps L} {ω : Nat → L}

theorem ntt_length (hN : NttDft N ω) (l : List L) (hp : isPowerOfTwo l.length = true) :
    (N.ntt l).length = l.length := by
  rw [hN.ntt_eval l hp]; simp

theorem ntt_getElem (hN : NttDft N ω) (l : List L) (hp : isPowerOfTwo l.length = true) (i : Nat)
    (hi : i < (N.ntt l).length) : (N.ntt l)[i] = (denote l).eval (ω l.length ^ i) := by
  have h := hN.ntt_eval l hp
  simp [h]

/-- a list that holds the values of `w` at the powers of the root is the transform of `w`: every point-wise
    operation on transforms is justified by an identity between polynomials through this -/
theorem ntt_ext (hN : NttDft N ω) (w l : List L) (hp : isPowerOfTwo w.length = true) (hl : l.length = w.length)
    (h : ∀ i (hi : i < l.length), l[i] = (denote w).eval (ω w.length ^ i)) : l = N.ntt w := by
  apply List.ext_getElem
  · rw [hl, ntt_length hN w hp]
  · intro i h1 h2
    rw [h i h1, ntt_getElem hN w hp]

/-- `NttDft` (what property C06 establishes) implies the convolution property used by `fast_reduce` -/
theorem nttConv_of_nttDft (hN : NttDft N ω) : NttConv N where
  length_ntt := fun u hu => ntt_length hN u hu
  conv := by
    intro u v huv hu hdeg
    have hv : isPowerOfTwo v.length = true := huv ▸ hu
    -- the product as a storage of the length of the factors
    set w := resize (FieldOps.ofField L) (Model.Poly.mul (FieldOps.ofField L) u v) u.length with hw
    have hwl : w.length = u.length := length_resize _ _ _
    have hwd : denote w = denote u * denote v := by
      rw [hw, denote_resize _ _ _ (by rw [denote_mul]; exact hdeg), denote_mul]
    have hz : List.zipWith (· * ·) (N.ntt u) (N.ntt v) = N.ntt w :=
      ntt_ext hN _ _ (by rw [hwl]; exact hu)
        (by rw [List.length_zipWith, ntt_length hN u hu, ntt_length hN v hv, hwl, ← huv]; exact Nat.min_self _)
        (fun i hi => by
          rw [List.getElem_zipWith, ntt_getElem hN u hu, ntt_getElem hN v hv, hwd, hwl, ← huv, eval_mul])
    rw [hz, hN.intt_ntt _ (by rw [hwl]; exact hu)]
    exact ⟨hwl, hwd⟩

/-- point-wise division of transforms: if `a = q·d` and the transform of `d` has no zero entry, then dividing the
    transform of `a` by it entry by entry and transforming back gives `q` -/
theorem inttChecked_zipWith_inv (hN : NttDft N ω) (a d q : List L) (hp : isPowerOfTwo q.length = true)
    (ha : a.length = q.length) (hd : d.length = q.length) (h : denote a = denote q * denote d)
    (hnz : ∀ y ∈ N.ntt d, y ≠ 0) :
    inttChecked N (List.zipWith (· * ·) (N.ntt a) ((N.ntt d).map (fun y => y⁻¹))) = some q := by
  have hpa : isPowerOfTwo a.length = true := ha ▸ hp
  have hpd : isPowerOfTwo d.length = true := hd ▸ hp
  have hz : List.zipWith (· * ·) (N.ntt a) ((N.ntt d).map (fun y => y⁻¹)) = N.ntt q := by
    apply ntt_ext hN q _ hp
    · rw [List.length_zipWith, List.length_map, ntt_length hN a hpa, ntt_length hN d hpd, ha, hd]
      exact Nat.min_self _
    · intro i hi
      rw [List.length_zipWith, List.length_map, ntt_length hN a hpa, ntt_length hN d hpd, ha, hd,
        Nat.min_self] at hi
      have hne : (N.ntt d)[i]'(by rw [ntt_length hN d hpd, hd]; exact hi) ≠ 0 := hnz _ (List.getElem_mem _)
      rw [ntt_getElem hN d hpd, hd] at hne
      rw [List.getElem_zipWith, List.getElem_map, ntt_getElem hN a hpa, ntt_getElem hN d hpd, h, ha, hd, eval_mul,
        mul_assoc, mul_inv_cancel₀ hne, mul_one]
  rw [hz, inttChecked_eq N _ (by rw [ntt_length hN q hp]; exact hp), hN.intt_ntt q hp]

/-- removing the common root 0: never fails for a clean division, and a quotient of the stripped pair is a quotient
    of the original pair -/
theorem cleanDivideStrip_spec (a d : List K) (hd : denote d ≠ 0) (hdvd : denote d ∣ denote a) :
    ∃ a1 d1, cleanDivideStrip FK a d = some (a1, d1) ∧ denote d1 ≠ 0 ∧ denote d1 ∣ denote a1 ∧
      (∀ q : K[X], q * denote d1 = denote a1 → q * denote d = denote a) := by
  cases d with
  | nil => exact absurd rfl hd
  | cons d0 dt =>
    by_cases hd0 : d0 = 0
    · subst hd0
      have hdX : denote ((0 : K) :: dt) = X * denote dt := by simp
      have hdt : denote dt ≠ 0 := by
        intro h
        apply hd
        rw [hdX, h, mul_zero]
      have hz : (FK).isZero (0 : K) = true := (FieldOps.ofField_isZero root 0).2 rfl
      cases a with
      | nil =>
        refine ⟨[], dt, by simp [cleanDivideStrip, hz], hdt, by simp, ?_⟩
        intro q hq
        rw [hdX, ← mul_assoc, mul_comm q X, mul_assoc, hq]; simp
      | cons a0 at' =>
        have ha0 : a0 = 0 := by
          obtain ⟨k, hk⟩ := hdvd
          have := congrArg (fun p => p.coeff 0) hk
          simp only [denote_cons, coeff_add, coeff_C_zero, mul_coeff_zero, coeff_X_zero, zero_mul, add_zero,
            map_zero, zero_add] at this
          exact this
        subst ha0
        have haX : denote ((0 : K) :: at') = X * denote at' := by simp
        refine ⟨at', dt, by simp [cleanDivideStrip, hz], hdt, ?_, ?_⟩
        · rw [hdX, haX] at hdvd
          exact (mul_dvd_mul_iff_left X_ne_zero).1 hdvd
        · intro q hq
          rw [hdX, haX, ← hq]; ring
    · have hz : ¬ (FK).isZero d0 = true := by rw [FieldOps.ofField_isZero]; exact hd0
      exact ⟨a, d0 :: dt, by simp [cleanDivideStrip, hz], hd, hdvd, fun q hq => hq⟩

/-- `P(X) ↦ P(x·X)` over the extension field -/
noncomputable def sc (x : L) (p : K[X]) : L[X] := (p.map (algebraMap K L)).comp (C x * X)

theorem sc_mul (x : L) (p q : K[X]) : sc x (p * q) = sc x p * sc x q := by
  unfold sc; rw [Polynomial.map_mul, mul_comp]

theorem sc_zero (x : L) : sc x (0 : K[X]) = 0 := by unfold sc; simp

theorem degree_sc_lt (x : L) (p : K[X]) (n : Nat) (h : p.degree < n) : (sc x p).degree < (n : WithBot ℕ) := by
  by_cases hp : p = 0
  · rw [hp, sc_zero, degree_zero]; exact WithBot.bot_lt_coe _
  · rw [degree_eq_natDegree hp] at h
    have h1 : p.natDegree < n := by exact_mod_cast h
    have h2 : (sc x p).natDegree ≤ p.natDegree := by
      unfold sc
      refine le_trans natDegree_comp_le ?_
      have ha : (p.map (algebraMap K L)).natDegree ≤ p.natDegree := natDegree_map_le
      have hb : (C x * X : L[X]).natDegree ≤ 1 := by
        refine le_trans natDegree_mul_le ?_
        simp
      calc (p.map (algebraMap K L)).natDegree * (C x * X : L[X]).natDegree
          ≤ p.natDegree * 1 := Nat.mul_le_mul ha hb
        _ = p.natDegree := Nat.mul_one _
    refine lt_of_le_of_lt degree_le_natDegree ?_
    exact_mod_cast (by omega : (sc x p).natDegree < n)

theorem denote_scaleG_lift (p : List K) (x : L) :
    denote (scaleG (FL).one (FL).mul (fun (c : K) (pw : L) => algebraMap K L c * pw) p x) = sc x (denote p) := by
  unfold scaleG sc
  rw [FieldOps.ofField_mul_fn, denote_scaleAux_lift]
  simp

theorem denote_resize_scaleG_lift (p : List K) (x : L) (n : Nat) (h : (denote p).degree < n) :
    denote (resize FL (scaleG (FL).one (FL).mul (fun (c : K) (pw : L) => algebraMap K L c * pw) p x) n)
      = sc x (denote p) := by
  rw [denote_resize rootL _ n (by rw [denote_scaleG_lift]; exact degree_sc_lt x _ _ h), denote_scaleG_lift]

/-- `a = q·d` survives scaling into `L` and resizing to a domain of `n > deg a` points — also when the divisor does
    not fit the domain, for then `a = 0 = q` -/
theorem denote_scaled_quotient (x : L) (a d q : List K) (n : Nat) (hqd : denote q * denote d = denote a)
    (hd : denote d ≠ 0) (ha : (denote a).degree < n) :
    (denote q).degree < n ∧
    denote (resize FL (scaleG (FL).one (FL).mul (fun (c : K) (pw : L) => algebraMap K L c * pw) a x) n)
      = sc x (denote q) *
        denote (resize FL (scaleG (FL).one (FL).mul (fun (c : K) (pw : L) => algebraMap K L c * pw) d x) n) := by
  refine ⟨lt_of_le_of_lt (by rw [← hqd]; exact degree_le_mul_left _ hd) ha, ?_⟩
  rw [denote_resize_scaleG_lift rootL a x n ha]
  by_cases hq0 : denote q = 0
  · rw [← hqd, hq0, zero_mul, sc_zero, zero_mul]
  · have hdn : (denote d).degree < n :=
      lt_of_le_of_lt (by rw [← hqd, mul_comm]; exact degree_le_mul_left _ hq0) ha
    rw [denote_resize_scaleG_lift rootL d x n hdn, ← hqd, sc_mul]

/-- the evaluation-domain part of `clean_divide` returns the exact quotient of a clean division — whether or not the
    divisor vanishes on the evaluation coset, for every non-zero offset -/
theorem cleanDivideNtt_spec (E : ExtOps K L) (hN : NttDft N ω)
    (hlift : ∀ k, E.lift k = algebraMap K L k) (hunlift : ∀ k, E.unlift (algebraMap K L k) = some k)
    (hoff : E.offset ≠ 0) (a1 d1 : List K) (hd : denote d1 ≠ 0) (hdvd : denote d1 ∣ denote a1) :
    ∃ q, cleanDivideNtt FK FL E N a1 d1 = some q ∧ denote q * denote d1 = denote a1 := by
  obtain ⟨qK, hq1, hqd⟩ := div_spec_of_dvd root a1 d1 hd hdvd
  have hliftfn : (fun (c : K) (pw : L) => (FL).mul (E.lift c) pw) = fun c pw => algebraMap K L c * pw := by
    funext c pw
    rw [hlift]
    rfl
  unfold cleanDivideNtt
  simp only [hliftfn]
  set order := nextPowerOfTwo (degSucc FK a1) with horder
  set aX := resize FL (scaleG (FL).one (FL).mul (fun (c : K) (pw : L) => algebraMap K L c * pw) a1 E.offset) order
    with haX
  set dX := resize FL (scaleG (FL).one (FL).mul (fun (c : K) (pw : L) => algebraMap K L c * pw) d1 E.offset) order
    with hdX
  have hpow : isPowerOfTwo order = true := isPowerOfTwo_nextPowerOfTwo _
  have hal : aX.length = order := length_resize _ _ _
  have hdl : dX.length = order := length_resize _ _ _
  rw [nttChecked_eq N aX (by rw [hal]; exact hpow), nttChecked_eq N dX (by rw [hdl]; exact hpow)]
  simp only
  split
  · exact ⟨qK, hq1, hqd⟩
  · next hany =>
    have hnz : ∀ y ∈ N.ntt dX, y ≠ 0 := fun y hy h0 =>
      hany (List.any_eq_true.2 ⟨y, hy, (FieldOps.ofField_isZero rootL y).2 h0⟩)
    obtain ⟨hQdeg, hprod⟩ := denote_scaled_quotient rootL E.offset a1 d1 qK order hqd hd
      (lt_of_lt_of_le (degree_lt_degSucc root a1) (by exact_mod_cast le_nextPowerOfTwo _))
    -- the quotient, scaled, as `order` coefficients over `L`
    set lq := scaleAux (· * ·) (fun (c : K) (r : L) => algebraMap K L c * r) E.offset 1 (resize FK qK order) with hlq
    have hlql : lq.length = order := by rw [hlq, length_scaleAux, length_resize]
    have hlqd : denote lq = sc E.offset (denote qK) := by
      rw [hlq, denote_scaleAux_lift, denote_resize root qK order hQdeg]
      unfold sc
      simp
    rw [batchInversion_spec rootL _ hnz]
    simp only
    rw [FieldOps.ofField_mul_fn, inttChecked_zipWith_inv hN aX dX lq (by rw [hlql]; exact hpow) (by rw [hal, hlql])
      (by rw [hdl, hlql]) (by rw [hlqd]; exact hprod) hnz]
    simp only
    have hqs : scale FL lq ((FL).inv E.offset) = (resize FK qK order).map (algebraMap K L) := by
      unfold scale scaleG
      rw [FieldOps.ofField_mul_fn, hlq]
      exact scaleAux_unscale (resize FK qK order) E.offset hoff 1 1 (by simp)
    rw [hqs, mapM_unlift (algebraMap K L) E.unlift hunlift]
    exact ⟨_, rfl, by rw [denote_resize root qK order hQdeg]; exact hqd⟩

/-- **`clean_divide`** (with the repairs F9 and F11) for every extension `L/K`, every transform pair over `L` that is
    the DFT, every non-zero offset, every cut-off, every non-zero divisor — with or without roots on the evaluation
    coset, with or without factors `X^k`, any storage — and every dividend it divides (incl. zero): no panic, and
    the result is the exact quotient -/
theorem cleanDivide_spec (E : ExtOps K L) (hN : NttDft N ω)
    (hlift : ∀ k, E.lift k = algebraMap K L k) (hunlift : ∀ k, E.unlift (algebraMap K L k) = some k)
    (hoff : E.offset ≠ 0) (cutoff : Nat) (a d : List K) (hd : denote d ≠ 0) (hdvd : denote d ∣ denote a) :
    ∃ q, cleanDivide FK FL E N cutoff a d = some q ∧ denote q * denote d = denote a := by
  unfold cleanDivide
  split
  · exact div_spec_of_dvd root a d hd hdvd
  · obtain ⟨a1, d1, s1, s2, s3, s4⟩ := cleanDivideStrip_spec root a d hd hdvd
    rw [s1]
    simp only
    obtain ⟨q, h1, h2⟩ := cleanDivideNtt_spec root rootL E hN hlift hunlift hoff a1 d1 s2 s3
    exact ⟨q, h1, s4 _ h2⟩

end clean

section newton

theorem nextPowerOfTwo_le_of_le_pow (x e : Nat) (h : x ≤ 2 ^ e) : nextPowerOfTwo x ≤ 2 ^ e := by
  unfold nextPowerOfTwo
  split
  · exact Nat.one_le_two_pow
  · next hx =>
    have h1 : x - 1 ≠ 0 := by omega
    have h2 : x - 1 < 2 ^ e := by omega
    have := (Nat.log2_lt h1).2 h2
    exact Nat.pow_le_pow_right (by decide) (by omega)

theorem exists_pow_of_isPowerOfTwo (n : Nat) (h : isPowerOfTwo n = true) : ∃ e, n = 2 ^ e := by
  unfold isPowerOfTwo at h
  simp only [Bool.and_eq_true, beq_iff_eq] at h
  exact ⟨_, h.2.symm⟩

theorem nextPowerOfTwo_mono (x y : Nat) (h : x ≤ y) : nextPowerOfTwo x ≤ nextPowerOfTwo y := by
  obtain ⟨e, he⟩ := exists_pow_of_isPowerOfTwo _ (isPowerOfTwo_nextPowerOfTwo y)
  rw [he]
  apply nextPowerOfTwo_le_of_le_pow
  rw [← he]
  exact le_trans h (le_nextPowerOfTwo y)

theorem dvd_of_isPowerOfTwo_le (a b : Nat) (ha : isPowerOfTwo a = true) (hb : isPowerOfTwo b = true)
    (h : a ≤ b) : a ∣ b := by
  obtain ⟨i, rfl⟩ := exists_pow_of_isPowerOfTwo a ha
  obtain ⟨j, rfl⟩ := exists_pow_of_isPowerOfTwo b hb
  exact pow_dvd_pow 2 ((Nat.pow_le_pow_iff_right (by decide)).1 h)

theorem stepBy_cons {α : Type} (k : Nat) (hk : 0 < k) (x : α) (xs : List α) :
    stepBy k (x :: xs) = x :: stepBy k ((x :: xs).drop k) := by
  rw [stepBy]
  congr 2
  cases k with
  | zero => omega
  | succ k => simp

theorem stepBy_spec {α : Type} (k : Nat) (hk : 0 < k) (m : Nat) (l : List α) (hl : l.length = m * k) :
    (stepBy k l).length = m ∧ ∀ i (hi : i < m) (h2 : i < (stepBy k l).length),
      (stepBy k l)[i] = l[i * k]'(by rw [hl]; exact Nat.mul_lt_mul_of_pos_right hi hk) := by
  induction m generalizing l with
  | zero =>
    have : l = [] := List.eq_nil_of_length_eq_zero (by simpa using hl)
    subst this
    exact ⟨by rw [stepBy]; rfl, fun i hi => absurd hi (by omega)⟩
  | succ m ih =>
    cases l with
    | nil => simp [Nat.succ_mul] at hl; omega
    | cons x xs =>
      rw [stepBy_cons k hk]
      have hd : ((x :: xs).drop k).length = m * k := by
        rw [List.length_drop, hl, Nat.succ_mul]; omega
      obtain ⟨h1, h2⟩ := ih _ hd
      refine ⟨by simp [h1], ?_⟩
      intro i hi h3
      cases i with
      | zero => simp
      | succ i =>
        simp only [List.getElem_cons_succ]
        rw [h2 i (by omega)]
        rw [List.getElem_drop]
        congr 1
        rw [Nat.succ_mul]; omega

theorem isPowerOfTwo_pos (n : Nat) (h : isPowerOfTwo n = true) : 0 < n := by
  unfold isPowerOfTwo at h
  simp only [Bool.and_eq_true, bne_iff_ne, ne_eq] at h
  omega

variable {N : NttOps K} {ω : Nat → K}

/-- "migrate to a larger domain as necessary": the storage behind the transform is kept, the domain afterwards holds
    the tracked degree -/
theorem newtonGrow_spec (hN : NttDft N ω) (full cur : Nat) (fd : Int) (g : List K) (hgl : g.length = cur)
    (hcp : isPowerOfTwo cur = true) (hcf : cur ≤ full) (hnext : nextPowerOfTwo (1 + fd.toNat) ≤ full) :
    ∃ cur' g2, newtonGrow FK N full fd cur (N.ntt g) = some (cur', N.ntt g2) ∧ g2.length = cur' ∧
      isPowerOfTwo cur' = true ∧ cur' ≤ full ∧ denote g2 = denote g ∧ fd.toNat < cur' := by
  unfold newtonGrow
  split
  · next hge =>
    have hgp : isPowerOfTwo g.length = true := by rw [hgl]; exact hcp
    have hle := le_nextPowerOfTwo (1 + fd.toNat)
    simp only
    rw [if_neg (by omega), inttChecked_eq N _ (by rw [ntt_length hN g hgp]; exact hgp), hN.intt_ntt g hgp]
    simp only
    rw [nttChecked_eq N _ (by rw [length_resize]; exact isPowerOfTwo_nextPowerOfTwo _)]
    exact ⟨_, _, rfl, length_resize _ _ _, isPowerOfTwo_nextPowerOfTwo _, hnext,
      denote_resize_of_length_le root g _ (by omega), by omega⟩
  · next hlt => exact ⟨cur, g, rfl, hgl, hcp, hcf, rfl, by omega⟩

/-- the point-wise Newton step against every `full/cur`-th entry of the transform of `f` is the Newton step on
    storages, on a domain that holds the result -/
theorem newtonPointwise_spec (hN : NttDft N ω) (f g : List K) (full : Nat) (hfull : isPowerOfTwo full = true)
    (hfdeg : (denote f).degree < (full : WithBot ℕ)) (hgp : isPowerOfTwo g.length = true) (hle : g.length ≤ full)
    (hnd : (denote (nstep root f g)).degree < (g.length : WithBot ℕ)) :
    newtonPointwise FK (N.ntt (resize FK f full)) full g.length (N.ntt g)
      = N.ntt (resize FK (nstep root f g) g.length) := by
  obtain ⟨q, hq⟩ := dvd_of_isPowerOfTwo_le g.length full hgp hfull hle
  have hcpos := isPowerOfTwo_pos _ hgp
  have hqpos : 0 < q := by
    rcases Nat.eq_zero_or_pos q with h | h
    · rw [h, Nat.mul_zero] at hq
      have := isPowerOfTwo_pos full hfull
      omega
    · exact h
  have hdiv : full / g.length = q := by rw [hq, Nat.mul_div_cancel_left _ hcpos]
  have rf1 : (resize FK f full).length = full := length_resize _ _ _
  have hfp : isPowerOfTwo (resize FK f full).length = true := by rw [rf1]; exact hfull
  obtain ⟨st1, st2⟩ := stepBy_spec q hqpos g.length (N.ntt (resize FK f full))
    (by rw [ntt_length hN _ hfp, rf1, hq])
  have hgnl : (resize FK (nstep root f g) g.length).length = g.length := length_resize _ _ _
  unfold newtonPointwise
  rw [hdiv]
  apply ntt_ext hN _ _ (by rw [hgnl]; exact hgp)
  · rw [List.length_zipWith, ntt_length hN g hgp, st1, hgnl]; exact Nat.min_self _
  · intro i hi
    have hi' : i < g.length := by
      rw [List.length_zipWith, ntt_length hN g hgp, st1, Nat.min_self] at hi; exact hi
    have hroot : ω full ^ (i * q) = ω g.length ^ i := by
      rw [mul_comm, pow_mul, ← hdiv, hN.compat full g.length hfull hgp ⟨q, hq⟩]
    rw [List.getElem_zipWith, ntt_getElem hN g hgp, st2 i hi', ntt_getElem hN _ hfp, rf1, hgnl,
      denote_resize root f full hfdeg, denote_resize root _ _ hnd, denote_nstep, hroot]
    simp only [FieldOps.ofField_sub, FieldOps.ofField_mul, FieldOps.ofField_ofNat, Nat.cast_ofNat, eval_sub,
      eval_mul, eval_ofNat]
    ring

/-- the NTT-domain rounds.  The buffer is `N.ntt g` for a storage `g` of length `cur`; the tracked degree `fdeg`
    bounds `natDegree g` and fits the domain; `f·g ≡ 1 mod X^e`.  Each round doubles `e` and maps `fdeg` to
    `2·fdeg + s`; the budget `(fdeg + s)·2^k ≤ T` with `nextPowerOfTwo T ≤ full` is why `newtonGrow` never needs more
    than the `full` entries of `ntt(f)` (`full = nextPowerOfTwo (2^(nr+1)·s)` in the Rust code, `T = 2^nr·s`). -/
theorem newtonNttLoop_spec (hN : NttDft N ω) (f : List K) (s full : Nat) (hs : (denote f).natDegree = s)
    (hs1 : 1 ≤ s) (hfull : isPowerOfTwo full = true) (hfdeg : (denote f).degree < (full : WithBot ℕ))
    (T : Nat) (hT : nextPowerOfTwo T ≤ full) (k : Nat) :
    ∀ (fdeg : Int) (cur : Nat) (g : List K) (e : Nat), g.length = cur → isPowerOfTwo cur = true → cur ≤ full →
      0 ≤ fdeg → (denote g).natDegree ≤ fdeg.toNat → fdeg.toNat < cur →
      (X ^ e : K[X]) ∣ denote f * denote g - 1 → (fdeg.toNat + s) * 2 ^ k ≤ T →
      ∃ cur' g', newtonNttLoop FK N (N.ntt (resize FK f full)) full (s : Int) k fdeg cur (N.ntt g)
          = some (cur', N.ntt g') ∧ g'.length = cur' ∧ isPowerOfTwo cur' = true ∧ cur' ≤ full ∧
        (X ^ (e * 2 ^ k) : K[X]) ∣ denote f * denote g' - 1 := by
  induction k with
  | zero =>
    intro fdeg cur g e hgl hcp hcf _ _ _ he _
    exact ⟨cur, g, rfl, hgl, hcp, hcf, by simpa using he⟩
  | succ k ih =>
    intro fdeg cur g e hgl hcp hcf hf0 hgd hfc he hbud
    have hfd' : (2 * fdeg + (s : Int)).toNat = 2 * fdeg.toNat + s := by omega
    have hpk : (fdeg.toNat + s) * 2 ≤ (fdeg.toNat + s) * 2 ^ (k + 1) :=
      Nat.mul_le_mul_left _ (by rw [pow_succ']; exact Nat.le_mul_of_pos_right 2 (Nat.two_pow_pos k))
    obtain ⟨cur', g2, hg1, hg2, hg3, hg4, hg5, hg6⟩ := newtonGrow_spec root hN full cur (2 * fdeg + s) g hgl hcp hcf
      (by rw [hfd']; exact le_trans (nextPowerOfTwo_mono _ _ (by omega)) hT)
    subst hg2
    rw [hfd'] at hg6
    have hnd : (denote (nstep root f g2)).natDegree ≤ 2 * fdeg.toNat + s := by
      have := natDegree_nstep_le root f g2
      rw [hg5, hs] at this
      omega
    have hndeg : (denote (nstep root f g2)).degree < (g2.length : WithBot ℕ) :=
      lt_of_le_of_lt degree_le_natDegree
        (by exact_mod_cast (by omega : (denote (nstep root f g2)).natDegree < g2.length))
    have hstep := nstep_dvd root f g2 e (by rw [hg5]; exact he)
    rw [← denote_resize root _ _ hndeg] at hstep
    obtain ⟨cur'', g', r1, r2, r3, r4, r5⟩ := ih (2 * fdeg + (s : Int)) g2.length
      (resize FK (nstep root f g2) g2.length) (e * 2) (length_resize _ _ _) hg3 hg4 (by omega)
      (by rw [hfd', denote_resize root _ _ hndeg]; exact hnd) (by rw [hfd']; exact hg6) hstep
      (by rw [hfd']
          calc (2 * fdeg.toNat + s + s) * 2 ^ k = (fdeg.toNat + s) * 2 ^ (k + 1) := by rw [pow_succ]; ring
            _ ≤ T := hbud)
    refine ⟨cur'', g', ?_, r2, r3, r4, ?_⟩
    · simp only [newtonNttLoop]
      rw [hg1]
      simp only
      rw [if_neg (by have := isPowerOfTwo_pos _ hg3; omega),
        newtonPointwise_spec root hN f g2 full hfull hfdeg hg3 hg4 hndeg]
      exact r1
    · rw [pow_succ', ← mul_assoc]
      exact r5

theorem not_X_pow_dvd_neg_one (e : Nat) (he : 1 ≤ e) : ¬ (X ^ e : K[X]) ∣ (0 : K[X]) - 1 := by
  intro h
  have hx : (X : K[X]) ∣ 0 - 1 := dvd_trans (dvd_pow_self X (by omega)) h
  rw [X_dvd_iff] at hx
  simp at hx

theorem two_pow_mul_succ_le (s a b : Nat) (hs : 1 ≤ s) (hab : a < b) : 2 ^ a * s + 1 ≤ 2 ^ b * s := by
  have h1 : 2 ^ a * 2 ≤ 2 ^ b := by
    rw [← pow_succ]
    exact Nat.pow_le_pow_right (by decide) hab
  have h2 : 1 ≤ 2 ^ a * s := Nat.mul_pos Nat.one_le_two_pow hs
  have h3 := Nat.mul_le_mul_right s h1
  rw [Nat.mul_right_comm] at h3
  omega

/-- **`formal_power_series_inverse_newton`**, every arm (constant, polynomial-arithmetic rounds only, NTT-domain rounds
    with domain growth), every cut-off, every precision, every storage of `f` with non-zero constant term -/
theorem fpsInverseNewton_spec (hN : NttDft N ω) (cutoff : Nat) (f : List K) (precision : Nat)
    (h0 : (denote f).coeff 0 ≠ 0) :
    ∃ g, fpsInverseNewton FK N cutoff f precision = some g ∧
      (X ^ precision : K[X]) ∣ denote f * denote g - 1 := by
  cases f with
  | nil => simp at h0
  | cons cc ft =>
    have hcc : cc ≠ 0 := by simpa using h0
    have hf : denote (cc :: ft) ≠ 0 := by
      intro h
      rw [h] at h0
      simp at h0
    have hdeg := degree_spec root (cc :: ft)
    rw [if_neg hf] at hdeg
    unfold fpsInverseNewton
    simp only [hdeg]
    by_cases hd0 : (denote (cc :: ft)).natDegree = 0
    · rw [if_pos (by exact_mod_cast hd0)]
      refine ⟨[cc⁻¹], rfl, ?_⟩
      have hc := denote_cons_of_natDegree_eq_zero hd0
      have : (C cc : K[X]) * denote [cc⁻¹] - 1 = 0 := by
        simp only [denote_cons, denote_nil, mul_zero, add_zero]
        rw [← C_mul, mul_inv_cancel₀ hcc, C_1, sub_self]
      rw [hc, this]
      exact dvd_zero _
    · rw [if_neg (by exact_mod_cast hd0), if_neg (by omega)]
      simp only [Int.toNat_natCast]
      rw [if_neg (by rw [FieldOps.ofField_isZero]; exact hcc)]
      set s := (denote (cc :: ft)).natDegree with hs
      set nr := Nat.log2 (nextPowerOfTwo precision) with hnr
      set sw := (if cutoff < s then 0 else Nat.log2 (cutoff / s)) with hswd
      have hs1 : 1 ≤ s := by omega
      -- the standard rounds reach precision `2 ^ min nr sw`; `2 ^ nr ≥ precision` is the goal
      have hg0dvd := newtonStandard_spec root (cc :: ft) (min nr sw) [(FK).inv cc] 1
        (X_dvd_cons_mul_inv_sub_one hcc ft)
      rw [one_mul] at hg0dvd
      have hprec : ∀ g : List K, (X ^ 2 ^ nr : K[X]) ∣ denote (cc :: ft) * denote g - 1 →
          (X ^ precision : K[X]) ∣ denote (cc :: ft) * denote g - 1 := fun g h =>
        dvd_trans (pow_dvd_pow X (by rw [hnr, two_pow_log2_nextPowerOfTwo]; exact le_nextPowerOfTwo precision)) h
      split
      · next hge =>
        rw [Nat.min_eq_left hge] at hg0dvd ⊢
        exact ⟨_, rfl, hprec _ hg0dvd⟩
      · next hlt =>
        have hswlt : sw < nr := by omega
        rw [Nat.min_eq_right hswlt.le] at hg0dvd ⊢
        set g0 := newtonStandard FK (cc :: ft) sw [(FK).inv cc] with hg0
        obtain ⟨hb1, hb2⟩ := newtonStandard_bounds root (cc :: ft) sw [(FK).inv cc] 0 (by simp) (by simp)
        rw [← hg0, ← hs, Nat.zero_add] at hb1 hb2
        have hG0 : denote g0 ≠ 0 := by
          intro h
          rw [h, mul_zero] at hg0dvd
          exact not_X_pow_dvd_neg_one (2 ^ sw) Nat.one_le_two_pow hg0dvd
        have hg0ne : g0 ≠ [] := by
          intro h
          rw [h] at hG0
          exact hG0 rfl
        -- the iterate after the `sw < nr` standard rounds, and `f` itself, fit the full domain `≥ 2^(nr+1)·s`
        have z1 := two_pow_mul_succ_le s sw nr hs1 hswlt
        have z2 : 2 ^ nr * s ≤ 2 ^ (nr + 1) * s :=
          Nat.mul_le_mul_right s (Nat.pow_le_pow_right (by decide) (Nat.le_succ nr))
        have z3 := two_pow_mul_succ_le s 0 (nr + 1) hs1 (Nat.succ_pos nr)
        rw [pow_zero, one_mul] at z3
        set full := nextPowerOfTwo (2 ^ (nr + 1) * s) with hfulld
        have hfull : isPowerOfTwo full = true := isPowerOfTwo_nextPowerOfTwo _
        have hfullge : 2 ^ (nr + 1) * s ≤ full := le_nextPowerOfTwo _
        have hfdeg : (denote (cc :: ft)).degree < (full : WithBot ℕ) := by
          rw [degree_eq_natDegree hf]; exact_mod_cast (by omega : s < full)
        set cur := nextPowerOfTwo g0.length with hcur
        have hcurp : isPowerOfTwo cur = true := isPowerOfTwo_nextPowerOfTwo _
        have hcurle : cur ≤ full := nextPowerOfTwo_mono _ _ (by omega)
        have hgl : g0.length ≤ cur := le_nextPowerOfTwo _
        have rg2 := denote_resize_of_length_le root g0 cur hgl
        rw [nttChecked_eq N _ (by rw [length_resize]; exact hfull)]
        simp only
        rw [if_neg (by omega), nttChecked_eq N _ (by rw [length_resize]; exact hcurp)]
        simp only
        have hndlt : (denote g0).natDegree < cur := lt_of_lt_of_le (natDegree_denote_lt g0 hg0ne) hgl
        obtain ⟨cur', g', l1, l2, l3, l4, l5⟩ := newtonNttLoop_spec root hN (cc :: ft) s full hs.symm hs1 hfull hfdeg
          (2 ^ nr * s) (nextPowerOfTwo_mono _ _ z2) (nr - sw) ((denote g0).natDegree : Int) cur
          (resize FK g0 cur) (2 ^ sw) (length_resize _ _ _) hcurp hcurle (by omega) (by rw [rg2]; simp)
          (by simpa using hndlt) (by rw [rg2]; exact hg0dvd)
          (by simp only [Int.toNat_natCast]
              calc ((denote g0).natDegree + s) * 2 ^ (nr - sw) ≤ (2 ^ sw * s) * 2 ^ (nr - sw) :=
                    Nat.mul_le_mul_right _ hb2
                _ = 2 ^ nr * s := by
                    rw [Nat.mul_right_comm, ← pow_add, Nat.add_sub_cancel' hswlt.le])
        rw [degree_spec, if_neg hG0, l1]
        simp only
        have hgp' : isPowerOfTwo g'.length = true := by rw [l2]; exact l3
        rw [inttChecked_eq N _ (by rw [ntt_length hN g' hgp']; exact hgp'), hN.intt_ntt g' hgp']
        refine ⟨_, rfl, hprec _ ?_⟩
        rw [show (FK).zero = (0 : K) from rfl, denote_append_zeros]
        rwa [← pow_add, Nat.add_sub_cancel' hswlt.le] at l5

end newton
end TF.Proofs.PolyD
