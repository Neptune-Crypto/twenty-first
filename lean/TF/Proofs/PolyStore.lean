import TF.Proofs.Poly
import Mathlib.Algebra.Polynomial.FieldDivision
/-!
Facts about `%` on `K[X]` shared by the proofs about division, interpolation and value semantics.
-/
open Polynomial

namespace TF.Model.Poly
variable {K : Type} [Field K]

theorem dvd_mod_sub (p m : K[X]) : m ∣ p % m - p :=
  ⟨-(p / m), by rw [EuclideanDomain.mod_eq_sub_mul_div]; ring⟩

/-- polynomials congruent modulo `z` agree on the roots of `z` -/
theorem eval_eq_of_dvd_sub {z p g : K[X]} {x : K} (h : z ∣ p - g) (hx : z.eval x = 0) : p.eval x = g.eval x := by
  obtain ⟨q, hq⟩ := h
  have := congrArg (eval x) hq
  rw [eval_sub, eval_mul, hx, zero_mul] at this
  exact sub_eq_zero.1 this

/-- a multiple `t` of `d` that differs from `a` by less than the degree of `d` is `a` minus its remainder -/
theorem eq_sub_mod_of_dvd {t a d : K[X]} (hd : d ∣ t) (hdeg : (t - a).degree < d.degree) : t = a - a % d := by
  have h0 : d ≠ 0 := by rintro rfl; simp at hdeg
  have h1 : (a - t) % d = a - t := (mod_eq_self_iff h0).2 (by rw [← neg_sub, degree_neg]; exact hdeg)
  have h2 : a % d = (a - t) % d := by
    conv_lhs => rw [← sub_add_cancel a t, add_mod, (EuclideanDomain.mod_eq_zero).2 hd, add_zero]
  rw [h2, h1, sub_sub_cancel]

end TF.Model.Poly
