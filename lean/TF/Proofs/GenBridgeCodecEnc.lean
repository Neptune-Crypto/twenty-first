import TF.Proofs.GenBridgeCodecGeneric
/-!
Bridge: the regenerated encoders (`TF/Gen/CodecGeneric.lean`) -- `bfield_codec_encode_list`, `Vec<T>`, `[T; N]`, `Option<T>`,
`Polynomial<T>` and the per-component step of the tuple encoders (`pushComp`) -- are the corresponding cases of `encode` of the hand
model, for every item encoder that is the model's (`vals (enc x) = encode t (toVal x)`).  Lengths that the code converts with
`usize -> BFieldElement` are assumed `< P` (what can be materialised; the model emits them unreduced, see TF/Model/Codec.lean).
-/
namespace TF.GenBridge.CodecG
open TF.Gen TF.Gen.Loops TF.Codec TF.RustStd TF.GenBridge.Codec

theorem from_usize_value (n : Nat) (h : n < TF.BF.Pn) : vals [codec_bfe_from_usize n] = [n] := by
  simp only [vals, List.map_cons, List.map_nil, codec_bfe_from_usize]
  rw [TF.BF.value_new n h]

/-- **list encoder**, regenerated = hand model `encodeItems`, for every item encoder: items in order, each prefixed by its
    length iff the item type is dynamically sized (lengths `< P`, as everything that can be materialised) -/
theorem gen_encode_list {α : Type} (sl : Option Nat) (enc : α → List Nat) (toVal : α → Val) (encM : Val → List Nat)
    (he : ∀ x, vals (enc x) = encM (toVal x)) (xs : List α) (hl : ∀ x ∈ xs, (enc x).length < TF.BF.Pn) :
    vals (codec_encode_list sl enc xs) = encodeItems encM sl.isNone (xs.map toVal) := by
  cases sl with
  | some w =>
    simp only [codec_encode_list, Option.isSome_some, if_true, Option.isNone_some]
    clear hl
    induction xs with
    | nil => rfl
    | cons x xs ih => simp only [List.flatMap_cons, vals_append, List.map_cons, encodeItems, prefixed, ih, he]; rfl
  | none =>
    simp only [codec_encode_list, Option.isSome_none, Bool.false_eq_true, if_false, Option.isNone_none]
    have gen : ∀ (xs : List α) (acc : List Nat), (∀ x ∈ xs, (enc x).length < TF.BF.Pn) →
        vals (List.foldl (fun st_1 element_v => st_1 ++ [codec_bfe_from_usize (enc element_v).length] ++ enc element_v) acc xs)
          = vals acc ++ encodeItems encM true (xs.map toVal) := by
      intro xs
      induction xs with
      | nil => intro acc _; simp
      | cons x xs ih =>
        intro acc hl
        have hx := hl x (List.mem_cons_self)
        simp only [List.foldl_cons, List.map_cons, encodeItems, prefixed, if_true]
        rw [ih _ (fun y hy => hl y (List.mem_cons_of_mem _ hy)), vals_append, vals_append, from_usize_value _ hx, he]
        have : (encM (toVal x)).length = (enc x).length := by rw [← he, vals_length]
        simp [this]
    have := gen xs [] hl
    simpa [vals] using this

/-- **`Vec<T>::encode`**: the length, then the items through `bfield_codec_encode_list` -/
theorem gen_vec_encode {α : Type} (t : Ty) (enc : α → List Nat) (toVal : α → Val)
    (he : ∀ x, vals (enc x) = encode t (toVal x)) (xs : List α) (hn : xs.length < TF.BF.Pn)
    (hl : ∀ x ∈ xs, (enc x).length < TF.BF.Pn) :
    vals (codec_vec_encode (staticLength t) enc xs) = encode (.vec t) (.list (xs.map toVal)) := by
  have h := gen_encode_list (staticLength t) enc toVal (fun x => encode t x) he xs hl
  simp only [codec_vec_encode, encode, isDyn, List.length_map]
  rw [vals_append, from_usize_value _ hn, h]
  rfl

/-- **`[T; N]::encode`**: the items through `bfield_codec_encode_list`, no length -/
theorem gen_array_encode {α : Type} (n : Nat) (t : Ty) (enc : α → List Nat) (toVal : α → Val)
    (he : ∀ x, vals (enc x) = encode t (toVal x)) (xs : List α) (hl : ∀ x ∈ xs, (enc x).length < TF.BF.Pn) :
    vals (codec_array_encode n (staticLength t) enc xs) = encode (.array n t) (.list (xs.map toVal)) := by
  have h := gen_encode_list (staticLength t) enc toVal (fun x => encode t x) he xs hl
  simp only [codec_array_encode, encode, isDyn]
  exact h

/-- **`Option<T>::encode`**: `[0]` or `1` followed by the item -/
theorem gen_option_encode {α : Type} (t : Ty) (enc : α → List Nat) (toVal : α → Val)
    (he : ∀ x, vals (enc x) = encode t (toVal x)) (o : Option α) :
    vals (codec_option_encode enc o) = encode (.option t) (.opt (o.map toVal)) := by
  cases o with
  | none => simp only [codec_option_encode, Option.map_none, encode]; exact vals_ZERO
  | some x =>
    simp only [codec_option_encode, Option.map_some, encode, List.flatten_cons, List.flatten_nil, List.append_nil]
    rw [vals_append, vals_ONE, he]
    rfl

/-- `Polynomial::coefficients()` regenerated (`rposition` of the last non-zero coefficient, slice up to it) = `normalize` of
    the hand model, for every `is_zero` that is the model's -/
theorem poly_coefficients_map {α : Type} (toVal : α → Val) (isz : α → Bool) (hz : ∀ a, isz a = valIsZero (toVal a)) :
    ∀ (l : List α), (codec_poly_coefficients isz l).map toVal = normalize (l.map toVal) := by
  intro l
  induction l with
  | nil => rfl
  | cons c cs ih =>
    simp only [codec_poly_coefficients, TF.RustStd.rposition] at ih ⊢
    cases hr : TF.RustStd.rposition (fun c => !isz c) cs with
    | some i =>
      rw [hr] at ih
      cases cs with
      | nil => simp [TF.RustStd.rposition] at hr
      | cons d ds =>
        simp only [List.take_succ_cons, List.map_cons, normalize] at ih ⊢
        rw [← ih]
    | none =>
      rw [hr] at ih
      simp only [List.map_nil] at ih
      simp only [List.map_cons, normalize, ← ih, ← hz]
      by_cases hc : isz c = true
      · simp [hc]
      · simp [hc]

/-- **`Polynomial<T>::encode`**: the length of the `Vec` encoding of the *normalised* coefficients, then that encoding -/
theorem gen_poly_encode {α : Type} (t : Ty) (enc : α → List Nat) (isz : α → Bool) (toVal : α → Val)
    (he : ∀ x, vals (enc x) = encode t (toVal x)) (hz : ∀ a, isz a = valIsZero (toVal a)) (cs : List α)
    (hn : (codec_poly_coefficients isz cs).length < TF.BF.Pn)
    (hl : ∀ x ∈ codec_poly_coefficients isz cs, (enc x).length < TF.BF.Pn)
    (hlen : (codec_vec_encode (staticLength t) enc (codec_poly_coefficients isz cs)).length < TF.BF.Pn) :
    vals (codec_poly_encode (staticLength t) enc isz cs) = encode (.poly t) (.list (cs.map toVal)) := by
  have hv := gen_vec_encode t enc toVal he (codec_poly_coefficients isz cs) hn hl
  rw [poly_coefficients_map toVal isz hz] at hv
  simp only [encode] at hv
  simp only [codec_poly_encode, encode, List.flatten_cons, List.flatten_nil, List.append_nil]
  rw [vals_append, from_usize_value _ hlen, hv, ← vals_length, hv]
  rfl

/-- the code the macro emits for one type parameter in `encode` -/
def pushComp (sl : Option Nat) (encoding : List Nat) (sequence : List Nat) : List Nat :=
  (let sequence := (if sl.isNone then
  (let sequence := sequence ++ [(codec_bfe_from_usize encoding.length)]
  sequence)
  else sequence)
  (let sequence := sequence ++ encoding
  sequence))

theorem pushComp_vals (sl : Option Nat) (e seq : List Nat) (hl : e.length < TF.BF.Pn) :
    vals (pushComp sl e seq) = vals seq ++ prefixed sl.isNone (vals e) := by
  cases sl with
  | some w => simp [pushComp, prefixed, vals_append]
  | none =>
    simp only [pushComp, Option.isNone_none, if_true, prefixed, vals_append, from_usize_value _ hl, vals_length]
    simp

theorem encodeFields_nil (vs : List Val) : encodeFields [] vs = [] := by simp only [encodeFields]

theorem encodeFields_cons (t : Ty) (ts : List Ty) (v : Val) (vs : List Val) :
    encodeFields (t :: ts) (v :: vs) = encodeFields ts vs ++ prefixed (staticLength t).isNone (encode t v) := by
  simp only [encodeFields, isDyn]

/-- **one step of a regenerated tuple encoder against the model** (components are pushed from the last to the first) -/
theorem pushComp_chain {t : Ty} {ts : List Ty} {v : Val} {vs : List Val} {e seq : List Nat}
    (he : vals e = encode t v) (hl : e.length < TF.BF.Pn) (hs : vals seq = encodeFields ts vs) :
    vals (pushComp (staticLength t) e seq) = encodeFields (t :: ts) (v :: vs) := by
  rw [pushComp_vals _ _ _ hl, hs, he, encodeFields_cons]

end TF.GenBridge.CodecG
