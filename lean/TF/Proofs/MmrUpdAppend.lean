import TF.Proofs.MmrAMap
import TF.Proofs.MmrMember
import TF.Proofs.MmrAppendIdx
/-!
Helper lemmas for C05: `MmrMembershipProof::update_from_append` computes the from-scratch authentication path of the
longer range.  `get_authentication_path_node_indices` and `get_peak_index_and_height` in `nodeIdx` form; the `HashMap`
`known_digests`: every entry is the digest of the block its key denotes (`Sound`) and the keys looked up are present.
-/
namespace TF.MmrE.UpdAppend
open TF TF.Gen TF.Model.Mmr TF.Model.MmrE TF.Spec.MmrE

theorem authPathLoop_step (p nc f x : Nat) (acc : List Nat) :
    authPathLoop p nc (f + 1) x acc =
      if x ≤ nc ∧ x ≠ p then
        (match siblingAndParent x with
          | none => none
          | some r => authPathLoop p nc f r.2.2 (acc ++ [r.2.1]))
      else some (x, acc) := by
  rw [authPathLoop]
  unfold siblingAndParent
  cases right_lineage_length_and_own_height x with
  | none => rfl
  | some r =>
    obtain ⟨a, b⟩ := r
    simp only
    split
    · split <;> rfl
    · rfl

theorem authPathLoop_spec (peak nc : Nat) : ∀ (d l b fuel : Nat) (acc : List Nat), d < fuel → l + d ≤ 63 →
    nodeIdx (l + d) (b / 2 ^ d) < 2 ^ 64 → nodeIdx (l + d) (b / 2 ^ d) ≤ nc → peak = nodeIdx (l + d) (b / 2 ^ d) →
    authPathLoop peak nc fuel (nodeIdx l b) acc
      = some (peak, acc ++ (List.range d).map (fun k => nodeIdx (l + k) (sibBlk (b / 2 ^ k)))) := by
  intro d
  induction d with
  | zero =>
    intro l b fuel acc hf _ _ _ hp
    obtain ⟨f, rfl⟩ : ∃ f, fuel = f + 1 := ⟨fuel - 1, by omega⟩
    simp only [Nat.add_zero, Nat.pow_zero, Nat.div_one] at hp
    rw [authPathLoop_step, if_neg (by omega)]
    simp [hp]
  | succ d ih =>
    intro l b fuel acc hf hl hlt hnc hp
    obtain ⟨f, rfl⟩ : ∃ f, fuel = f + 1 := ⟨fuel - 1, by omega⟩
    have hanc := nodeIdx_lt_ancestor l b (d + 1) (by omega)
    have e1 : l + 1 + d = l + (d + 1) := by omega
    have ediv : b / 2 / 2 ^ d = b / 2 ^ (d + 1) := (div_pow_succ' b d).symm
    have hle := nodeIdx_le_ancestor (l + 1) (b / 2) d
    rw [ediv, e1] at hle
    rw [authPathLoop_step, if_pos ⟨by omega, by omega⟩, siblingAndParent_spec l b (by omega) (by omega)]
    simp only
    rw [ih (l + 1) (b / 2) f _ (by omega) (by omega) (by rw [ediv, e1]; exact hlt) (by rw [ediv, e1]; exact hnc)
      (by rw [ediv, e1]; exact hp)]
    congr 2
    rw [List.append_assoc]
    congr 1
    exact (map_range_succ_up (fun l' x => nodeIdx l' (sibBlk x)) l b d).symm

/-- **`get_authentication_path_node_indices`** from the node `(l, b)` to its ancestor `d` levels up (which exists:
    its index is at most `node_count`): `Some` of the sibling blocks' node indices, bottom up -/
theorem get_auth_path_node_indices_spec (l b d nc : Nat) (hl : l + d ≤ 63)
    (hlt : nodeIdx (l + d) (b / 2 ^ d) < 2 ^ 64) (hnc : nodeIdx (l + d) (b / 2 ^ d) ≤ nc) :
    get_authentication_path_node_indices (nodeIdx l b) (nodeIdx (l + d) (b / 2 ^ d)) nc
      = some (some ((List.range d).map (fun k => nodeIdx (l + k) (sibBlk (b / 2 ^ k))))) := by
  unfold get_authentication_path_node_indices
  rw [authPathLoop_spec _ nc d l b (descentFuel + 1) [] (by unfold descentFuel; omega) hl hlt hnc rfl]
  simp

section
variable {D : Type} (H : D → D → D)

/-- **`get_peak_index_and_height`** on a from-scratch path: the node index of the leaf's peak and its height -/
theorem getPeakIndexAndHeight_spec (g : Nat → D) (n i : Nat) (hlt : i < n) (hn : n < 2 ^ 63) :
    getPeakIndexAndHeight (authPathOf H g n i) i
      = some (nodeIdx (locate n i).1 (i / 2 ^ (locate n i).1), (locate n i).1) := by
  have hh := height_lt_64 n i hlt (by omega)
  have hidx := nodeIdx_lt_of_block _ _ n (tree_block_le n i hlt) hn
  have hlen := authPathOf_length H g n i
  unfold getPeakIndexAndHeight
  rw [hlen, get_direct_path_indices_spec i _ (by omega) (by omega) hidx]
  simp only [List.range_succ, List.map_append, List.map_cons, List.map_nil]
  have : (locate n i).1 % W32 = (locate n i).1 := by unfold W32; omega
  simp [this]

end

section
variable {D : Type} [DecidableEq D] (H : D → D → D) (g : Nat → D)

/-- every entry of the map is the digest of the block that its key denotes -/
def Sound (m : AMap D) : Prop :=
  ∀ x d, (x, d) ∈ m → ∃ l b, x = nodeIdx l b ∧ nodeIdx l b < 2 ^ 64 ∧ d = sub H g l b

omit [DecidableEq D] in
theorem Sound.get? {m : AMap D} (hs : Sound H g m) (l b : Nat) (hk : nodeIdx l b ∈ m.map (·.1)) :
    m.get? (nodeIdx l b) = some (sub H g l b) := by
  obtain ⟨d, hd⟩ := get?_of_key m _ hk
  obtain ⟨l', b', he, hlt, hv⟩ := hs _ _ (get?_some_mem m _ _ hd)
  obtain ⟨rfl, rfl⟩ := nodeIdx_inj l' b' l b hlt he.symm
  rw [hd, hv]

omit [DecidableEq D] in
theorem Sound.insert {m : AMap D} (hs : Sound H g m) (l b : Nat) (hlt : nodeIdx l b < 2 ^ 64) :
    Sound H g (m.insert (nodeIdx l b) (sub H g l b)) := by
  intro x d hx
  unfold AMap.insert at hx
  rcases List.mem_cons.mp hx with h | h
  · cases h; exact ⟨l, b, rfl, hlt, rfl⟩
  · exact hs x d h

omit [DecidableEq D] in
theorem foldl_insert_eq (L : List (Nat × D)) : ∀ m0 : AMap D,
    L.foldl (fun m (x : Nat × D) => AMap.insert m x.1 x.2) m0 = L.reverse ++ m0 := by
  induction L with
  | nil => intro m0; rfl
  | cons p L ih =>
    intro m0
    obtain ⟨i, d⟩ := p
    rw [List.foldl_cons, ih]
    simp [AMap.insert]

/-- the map built from the old peaks -/
def knownPeaks (n : Nat) : AMap D :=
  ((TF.Spec.Mmr.bitsBelow 64 n).map fun j => (nodeIdx j (n / 2 ^ j - 1), sub H g j (n / 2 ^ j - 1))).reverse

omit [DecidableEq D] in
theorem knownPeaks_eq_foldl (n : Nat) (hn : n < 2 ^ 63) :
    ((((TF.Spec.Mmr.bitsBelow 64 n).map fun j => nodeIdx j (n / 2 ^ j - 1)).zip (peaks H n g)).foldl
      (fun m (x : Nat × D) => AMap.insert m x.1 x.2) ([] : AMap D)) = knownPeaks H g n := by
  rw [foldl_insert_eq, peaks_bitsBelow H n 64 g (by omega), List.zip_map', List.append_nil]
  rfl

omit [DecidableEq D] in
theorem knownPeaks_sound (n : Nat) (hn : n < 2 ^ 63) : Sound H g (knownPeaks H g n) := by
  intro x d hx
  unfold knownPeaks at hx
  rw [List.mem_reverse, List.mem_map] at hx
  obtain ⟨j, hj, he⟩ := hx
  cases he
  have hbit := ((mem_bitsBelow n 64 j).mp hj).2
  have e : n / 2 ^ j - 1 + 1 = n / 2 ^ j := by
    generalize n / 2 ^ j = q at hbit ⊢; omega
  refine ⟨j, n / 2 ^ j - 1, rfl, ?_, rfl⟩
  apply nodeIdx_lt_of_block _ _ n _ hn
  rw [e]
  exact Nat.div_mul_le_self n (2 ^ j)

omit [DecidableEq D] in
theorem knownPeaks_key (n j : Nat) (hj : j < 64) (hbit : n / 2 ^ j % 2 = 1) :
    nodeIdx j (n / 2 ^ j - 1) ∈ (knownPeaks H g n).map (·.1) := by
  unfold knownPeaks
  rw [List.mem_map]
  refine ⟨(nodeIdx j (n / 2 ^ j - 1), sub H g j (n / 2 ^ j - 1)), ?_, rfl⟩
  rw [List.mem_reverse, List.mem_map]
  exact ⟨j, (mem_bitsBelow n 64 j).mpr ⟨hj, hbit⟩, rfl⟩

omit [DecidableEq D] in
theorem knownFromAppend_nil_left (stop : List Nat) (stopAt : Option Nat) (pks : List D) (count : Nat) (acc : D)
    (known : AMap D) : knownFromAppend H stop stopAt [] pks count acc known = known := by
  rw [knownFromAppend]; intro _ _ _ _ h; cases h

omit [DecidableEq D] in
theorem knownFromAppend_nil_right (stop : List Nat) (stopAt : Option Nat) (nis : List Nat) (count : Nat) (acc : D)
    (known : AMap D) : knownFromAppend H stop stopAt nis [] count acc known = known := by
  rw [knownFromAppend]; intro _ _ _ _ _ h; cases h

omit [DecidableEq D] in
theorem knownFromAppend_cons (stop : List Nat) (stopAt : Option Nat) (ni : Nat) (nis : List Nat) (pk : D) (pks : List D)
    (count : Nat) (acc : D) (known : AMap D) :
    knownFromAppend H stop stopAt (ni :: nis) (pk :: pks) count acc known
      = if stopAt = some count then known.insert ni acc
        else if stop.contains ni then known.insert ni acc
        else knownFromAppend H stop stopAt nis pks (count + 1) (H pk acc) (known.insert ni acc) := by
  rw [knownFromAppend]

omit [DecidableEq D] in
theorem knownFromAppend_keys_mono (stop : List Nat) (stopAt : Option Nat) (x : Nat) :
    ∀ (nis : List Nat) (pks : List D) (count : Nat) (acc : D) (known : AMap D),
    x ∈ known.map (·.1) → x ∈ (knownFromAppend H stop stopAt nis pks count acc known).map (·.1) := by
  intro nis
  induction nis with
  | nil =>
    intro pks count acc known h
    rw [knownFromAppend_nil_left]
    exact h
  | cons ni nis ih =>
    intro pks count acc known h
    cases pks with
    | nil => rw [knownFromAppend_nil_right]; exact h
    | cons pk pks =>
      have h' : x ∈ (AMap.insert known ni acc).map (·.1) := List.mem_cons_of_mem _ h
      rw [knownFromAppend_cons]
      by_cases h1 : stopAt = some count
      · rw [if_pos h1]; exact h'
      · rw [if_neg h1]
        by_cases h2 : stop.contains ni = true
        · rw [if_pos h2]; exact h'
        · rw [if_neg h2]; exact ih _ _ _ _ h'

omit [DecidableEq D] in
theorem knownFromAppend_reaches (stop : List Nat) (stopAt : Option Nat) (x : Nat) :
    ∀ (m : Nat) (nis : List Nat) (pks : List D) (count : Nat) (acc : D) (known : AMap D),
    nis[m]? = some x → m < pks.length → (∀ k, k < m → stopAt ≠ some (count + k)) →
    (∀ k y, k < m → nis[k]? = some y → y ∉ stop) →
    x ∈ (knownFromAppend H stop stopAt nis pks count acc known).map (·.1) := by
  intro m
  induction m with
  | zero =>
    intro nis pks count acc known hx hp _ _
    cases nis with
    | nil => cases hx
    | cons ni nis =>
      cases pks with
      | nil => cases hp
      | cons pk pks =>
        obtain rfl : ni = x := Option.some.inj hx
        have h' : ni ∈ (AMap.insert known ni acc).map (·.1) := List.mem_cons_self
        rw [knownFromAppend_cons]
        by_cases h1 : stopAt = some count
        · rw [if_pos h1]; exact h'
        · rw [if_neg h1]
          by_cases h2 : stop.contains ni = true
          · rw [if_pos h2]; exact h'
          · rw [if_neg h2]; exact knownFromAppend_keys_mono H stop stopAt ni _ _ _ _ _ h'
  | succ m ih =>
    intro nis pks count acc known hx hp hsa hst
    cases nis with
    | nil => cases hx
    | cons ni nis =>
      cases pks with
      | nil => cases hp
      | cons pk pks =>
        have h1 : stopAt ≠ some count := hsa 0 (by omega)
        have h2 : ¬ stop.contains ni = true := fun h => hst 0 ni (by omega) rfl (List.contains_iff_mem.mp h)
        rw [knownFromAppend_cons, if_neg h1, if_neg h2]
        apply ih nis pks (count + 1) _ _ hx (Nat.lt_of_succ_lt_succ hp)
        · intro k hk
          have := hsa (k + 1) (by omega)
          rwa [Nat.add_assoc, Nat.add_comm 1 k]
        · intro k y hk hy
          exact hst (k + 1) y (by omega) hy
omit [DecidableEq D] in
/-- soundness of the loop on the from-scratch peaks: it inserts the digests of the blocks `(k, n / 2^k)` on the right
    spine above the new leaf -/
theorem knownFromAppend_sound (stop : List Nat) (stopAt : Option Nat) (n : Nat) (hn : n + 1 < 2 ^ 63) :
    ∀ (m c : Nat) (pks : List D) (count : Nat) (known : AMap D), c + m ≤ trailingOnes n + 1 → Sound H g known →
    (∀ k p, pks[k]? = some p → c + k < trailingOnes n → p = sub H g (c + k) (n / 2 ^ (c + k) - 1)) →
    Sound H g (knownFromAppend H stop stopAt ((List.range' c m).map fun k => nodeIdx k (n / 2 ^ k)) pks count
      (sub H g c (n / 2 ^ c)) known) := by
  intro m
  induction m with
  | zero =>
    intro c pks count known _ hs _
    rw [List.range'_zero, List.map_nil, knownFromAppend_nil_left]; exact hs
  | succ m ih =>
    intro c pks count known hc hs hp
    rw [List.range'_succ, List.map_cons]
    cases pks with
    | nil => rw [knownFromAppend_nil_right]; exact hs
    | cons pk pks =>
      have hs' := Sound.insert H g hs c (n / 2 ^ c) (spine_lt n c hn (by omega))
      rw [knownFromAppend_cons]
      by_cases h1 : stopAt = some count
      · rw [if_pos h1]; exact hs'
      · rw [if_neg h1]
        by_cases h2 : stop.contains (nodeIdx c (n / 2 ^ c)) = true
        · rw [if_pos h2]; exact hs'
        · rw [if_neg h2]
          by_cases hct : c < trailingOnes n
          · have hpk := hp 0 pk (by simp) (by omega)
            simp only [Nat.add_zero] at hpk
            have hbit := trailingOnes_bit_lt c n hct
            have hacc : H pk (sub H g c (n / 2 ^ c)) = sub H g (c + 1) (n / 2 ^ (c + 1)) := by
              rw [hpk]
              conv => rhs; rw [sub]
              have e1 : 2 * (n / 2 ^ (c + 1)) = n / 2 ^ c - 1 := by rw [div_pow_succ]; omega
              have e2 : 2 * (n / 2 ^ (c + 1)) + 1 = n / 2 ^ c := by rw [div_pow_succ]; omega
              rw [e2, e1]
            rw [hacc]
            apply ih (c + 1) pks (count + 1) _ (by omega) hs'
            intro k p hk hlt
            have := hp (k + 1) p (by simpa using hk) (by omega)
            rw [this]
            have e : c + (k + 1) = c + 1 + k := by omega
            rw [e]
          · have hm : m = 0 := by omega
            subst hm
            rw [List.range'_zero, List.map_nil, knownFromAppend_nil_left]; exact hs'

omit [DecidableEq D] in
theorem lookupAll_sibPath (M : AMap D) : ∀ (d l b : Nat),
    (∀ k, k < d → M.get? (nodeIdx (l + k) (sibBlk (b / 2 ^ k))) = some (sub H g (l + k) (sibBlk (b / 2 ^ k)))) →
    lookupAll M ((List.range d).map fun k => nodeIdx (l + k) (sibBlk (b / 2 ^ k))) = some (sibPath H g l d b) := by
  intro d
  induction d with
  | zero => intro l b _; simp [lookupAll, sibPath]
  | succ d ih =>
    intro l b hk
    rw [map_range_succ_up (fun l' x => nodeIdx l' (sibBlk x)) l b d, lookupAll]
    have h0 := hk 0 (by omega)
    simp only [Nat.add_zero, Nat.pow_zero, Nat.div_one] at h0
    have hrest := ih (l + 1) (b / 2) (by
      intro k hkd
      have := hk (k + 1) (by omega)
      have e : l + (k + 1) = l + 1 + k := by omega
      rw [e, div_pow_succ'] at this
      exact this)
    rw [hrest, h0, sibPath]

end

/-- the sibling blocks between the old peak of leaf `i` (height `h`) and the new peak (height `trailingOnes n`):
    first the block of the new leaf's spine, then old peaks -/
theorem sib_above (n i : Nat) (hlt : i < n) (k : Nat) (hk : (locate n i).1 + k < trailingOnes n) :
    sibBlk (i / 2 ^ (locate n i).1 / 2 ^ k)
      = if k = 0 then n / 2 ^ (locate n i).1 else n / 2 ^ ((locate n i).1 + k) - 1 := by
  obtain ⟨h1, h2, h3⟩ := locate_bits n i hlt
  rw [Nat.div_div_eq_div_mul, ← Nat.pow_add]
  by_cases hk0 : k = 0
  · subst hk0
    rw [if_pos rfl, Nat.add_zero]
    rw [div_pow_succ, div_pow_succ] at h1
    unfold sibBlk
    rw [if_pos h3]
    omega
  · rw [if_neg hk0]
    have he := TF.Mmr.div_pow_eq_of_le h1 (by omega : (locate n i).1 + 1 ≤ (locate n i).1 + k)
    have hbit := trailingOnes_bit_lt _ n hk
    rw [he]
    unfold sibBlk
    rw [if_neg (by omega)]

/-- the parent of the old peak of leaf `i`, as computed by the routines (`peak + (1 << (height + 1))`) -/
theorem peak_parent_eq (n i : Nat) (hlt : i < n) (hn : n < 2 ^ 63) :
    add64 (nodeIdx (locate n i).1 (i / 2 ^ (locate n i).1)) (shl1 (inc32 (locate n i).1))
      = nodeIdx ((locate n i).1 + 1) (n / 2 ^ ((locate n i).1 + 1)) ∧
    nodeIdx ((locate n i).1 + 1) (n / 2 ^ ((locate n i).1 + 1)) < 2 ^ 64 := by
  obtain ⟨h1, h2, h3⟩ := locate_bits n i hlt
  have hle := two_pow_height_le n i hlt
  generalize (locate n i).1 = h at *
  have hh : h < 63 := lt_of_two_pow_le hle hn
  have hinc : inc32 h = h + 1 := by unfold inc32 W32; omega
  have hshl : shl1 (h + 1) = 2 ^ (h + 1) := by
    unfold shl1; have : (h + 1) % 64 = h + 1 := by omega
    rw [this]
  have hleft := nodeIdx_left h (i / 2 ^ (h + 1))
  have e : 2 * (i / 2 ^ (h + 1)) = i / 2 ^ h := by rw [div_pow_succ]; omega
  rw [e, h1] at hleft
  have hq : n / 2 ^ (h + 1) < 2 ^ (62 - h) := by
    apply Nat.div_lt_of_lt_mul
    rw [← Nat.pow_add]
    have : h + 1 + (62 - h) = 63 := by omega
    rw [this]; exact hn
  have hmul : (n / 2 ^ (h + 1) + 1) * 2 ^ (h + 1 + 1) ≤ 2 ^ 64 := by
    calc (n / 2 ^ (h + 1) + 1) * 2 ^ (h + 1 + 1) ≤ 2 ^ (62 - h) * 2 ^ (h + 1 + 1) := Nat.mul_le_mul_right _ (by omega)
      _ = 2 ^ 64 := by rw [← Nat.pow_add]; congr 1; omega
  have hlt64 : nodeIdx (h + 1) (n / 2 ^ (h + 1)) < 2 ^ 64 :=
    Nat.lt_of_lt_of_le (Nat.lt_of_lt_of_eq (Nat.lt_succ_of_le (Nat.le_add_right _ _))
      (nodeIdx_eq (h + 1) (n / 2 ^ (h + 1)))) hmul
  refine ⟨?_, hlt64⟩
  rw [hinc, hshl]
  show (_ + _) % 2 ^ 64 = _
  rw [← hleft]
  exact Nat.mod_eq_of_lt hlt64

theorem added_contains (n : Nat) (l b : Nat) (hlt : nodeIdx l b < 2 ^ 64) :
    ((List.range (trailingOnes n + 1)).map fun k => nodeIdx k (n / 2 ^ k)).contains (nodeIdx l b) = true
      ↔ l ≤ trailingOnes n ∧ b = n / 2 ^ l := by
  rw [List.contains_iff_mem, List.mem_map]
  constructor
  · rintro ⟨k, hk, he⟩
    have hk' := List.mem_range.mp hk
    obtain ⟨rfl, rfl⟩ := nodeIdx_inj l b k (n / 2 ^ k) hlt he.symm
    exact ⟨by omega, rfl⟩
  · rintro ⟨h1, rfl⟩
    exact ⟨l, List.mem_range.mpr (by omega), rfl⟩

theorem added_getLast? (n : Nat) :
    ((List.range (trailingOnes n + 1)).map fun k => nodeIdx k (n / 2 ^ k)).getLast?
      = some (nodeIdx (trailingOnes n) (n / 2 ^ trailingOnes n)) := by
  simp [List.range_succ]

/-- the test of the routines "is the parent of the old peak of leaf `i` among the added nodes": the peak is merged -/
theorem parent_added (n i : Nat) (hlt : i < n) (hn : n < 2 ^ 63) :
    ((List.range (trailingOnes n + 1)).map fun k => nodeIdx k (n / 2 ^ k)).contains
        (add64 (nodeIdx (locate n i).1 (i / 2 ^ (locate n i).1)) (shl1 (inc32 (locate n i).1)))
      = decide ((locate n i).1 < trailingOnes n) := by
  obtain ⟨hpp, hpplt⟩ := peak_parent_eq n i hlt hn
  have hcont := added_contains n ((locate n i).1 + 1) (n / 2 ^ ((locate n i).1 + 1)) hpplt
  rw [hpp, Bool.eq_iff_iff, hcont, decide_eq_true_iff]
  exact ⟨fun h => h.1, fun h => ⟨h, rfl⟩⟩

section
variable {D : Type} [DecidableEq D] (H : D → D → D) (g : Nat → D)

omit [DecidableEq D] in
theorem trailingOnes_le_peaks_length (n : Nat) : trailingOnes n ≤ (peaks H n g).reverse.length := by
  obtain ⟨rest, hr⟩ := peaks_reverse_low H n g
  rw [hr]; simp

omit [DecidableEq D] in
/-- the map of known digests (either loop variant) answers every lookup of the digests missing from the proof of an
    old leaf whose peak was merged, provided the loop got as far as the leaf's old height -/
theorem known_lookup (n i : Nat) (hlt : i < n) (hn : n + 1 < 2 ^ 63) (hht : (locate n i).1 < trailingOnes n)
    (stop : List Nat) (stopAt : Option Nat)
    (hreach : nodeIdx (locate n i).1 (n / 2 ^ (locate n i).1) ∈
      (knownFromAppend H stop stopAt ((List.range (trailingOnes n + 1)).map fun k => nodeIdx k (n / 2 ^ k))
        (peaks H n g).reverse 0 (g n) (knownPeaks H g n)).map (·.1)) :
    lookupAll (knownFromAppend H stop stopAt ((List.range (trailingOnes n + 1)).map fun k => nodeIdx k (n / 2 ^ k))
        (peaks H n g).reverse 0 (g n) (knownPeaks H g n))
      ((List.range (trailingOnes n - (locate n i).1)).map fun k =>
        nodeIdx ((locate n i).1 + k) (sibBlk (i / 2 ^ (locate n i).1 / 2 ^ k)))
      = some (sibPath H g (locate n i).1 (trailingOnes n - (locate n i).1) (i / 2 ^ (locate n i).1)) := by
  have ht64 := TF.Mmr.trailingOnes_lt 64 n (by omega)
  have hsound : Sound H g (knownFromAppend H stop stopAt
      ((List.range (trailingOnes n + 1)).map fun k => nodeIdx k (n / 2 ^ k)) (peaks H n g).reverse 0 (g n)
      (knownPeaks H g n)) := by
    have h0 : g n = sub H g 0 (n / 2 ^ 0) := by simp [sub]
    rw [List.range_eq_range', h0]
    apply knownFromAppend_sound H g stop stopAt n hn (trailingOnes n + 1) 0 _ 0 _ (by omega)
      (knownPeaks_sound H g n (by omega))
    intro k p hk hkt
    rw [Nat.zero_add] at hkt ⊢
    rw [peaks_reverse_getElem? H n g k hkt] at hk
    exact (Option.some.inj hk).symm
  apply lookupAll_sibPath
  intro k hk
  apply Sound.get? H g hsound
  rw [sib_above n i hlt k (by omega)]
  by_cases hk0 : k = 0
  · subst hk0
    rw [if_pos rfl, Nat.add_zero]
    exact hreach
  · rw [if_neg hk0]
    apply knownFromAppend_keys_mono
    exact knownPeaks_key H g n _ (by omega) (trailingOnes_bit_lt _ n (by omega))

omit [DecidableEq D] in
/-- how the from-scratch path of an old leaf changes under an append: extended (hence different) iff the leaf's peak is
    among the merged ones -/
theorem authPathOf_succ_cases (n i : Nat) (hlt : i < n) :
    ((locate n i).1 < trailingOnes n →
      authPathOf H g (n + 1) i = authPathOf H g n i ++
        sibPath H g (locate n i).1 (trailingOnes n - (locate n i).1) (i / 2 ^ (locate n i).1) ∧
      authPathOf H g (n + 1) i ≠ authPathOf H g n i) ∧
    (¬ (locate n i).1 < trailingOnes n → authPathOf H g (n + 1) i = authPathOf H g n i) := by
  have hsucc := locate_succ_height n i hlt
  obtain ⟨_, happ⟩ := authPathOf_append H g n i hlt
  constructor
  · intro hht
    rw [hsucc, if_pos hht] at happ
    refine ⟨happ, ?_⟩
    rw [happ]
    intro he
    have := congrArg List.length he
    rw [List.length_append, sibPath_length] at this
    omega
  · intro hht
    rw [hsucc, if_neg hht, Nat.sub_self] at happ
    simpa [sibPath] using happ

theorem auth_missing_spec (n i : Nat) (hlt : i < n) (hn : n + 1 < 2 ^ 63) (hht : (locate n i).1 < trailingOnes n) :
    get_authentication_path_node_indices (nodeIdx (locate n i).1 (i / 2 ^ (locate n i).1))
        (nodeIdx (trailingOnes n) (n / 2 ^ trailingOnes n)) (nodeIdx (trailingOnes n) (n / 2 ^ trailingOnes n))
      = some (some ((List.range (trailingOnes n - (locate n i).1)).map fun k =>
          nodeIdx ((locate n i).1 + k) (sibBlk (i / 2 ^ (locate n i).1 / 2 ^ k)))) := by
  have ht64 := TF.Mmr.trailingOnes_lt 64 n (by omega)
  have hd : (locate n i).1 + (trailingOnes n - (locate n i).1) = trailingOnes n := by omega
  have hdiv : i / 2 ^ (locate n i).1 / 2 ^ (trailingOnes n - (locate n i).1) = n / 2 ^ trailingOnes n := by
    rw [Nat.div_div_eq_div_mul, ← Nat.pow_add, hd]
    exact TF.Mmr.div_pow_eq_of_le (locate_bits n i hlt).1 (by omega)
  have hauth := get_auth_path_node_indices_spec (locate n i).1 (i / 2 ^ (locate n i).1)
    (trailingOnes n - (locate n i).1) (nodeIdx (trailingOnes n) (n / 2 ^ trailingOnes n)) (by omega)
    (by rw [hd, hdiv]; exact spine_lt n _ hn (Nat.le_refl _)) (by rw [hd, hdiv])
  rw [hd, hdiv] at hauth
  exact hauth

theorem new_node_count_eq (n : Nat) (hn : n + 1 < 2 ^ 63) :
    num_leafs_to_num_nodes (add64 n 1) = nodeIdx (trailingOnes n) (n / 2 ^ trailingOnes n) := by
  have hspine := nodeIdx_spine n (trailingOnes n) (Nat.le_refl _)
  have e := add64_succ n (by omega)
  rw [e, (TF.Mmr.num_nodes_spec (n + 1) hn).1, hspine]
  have := TF.Mmr.nodesOf_succ n
  unfold TF.Mmr.nodesOf at this ⊢
  omega

theorem updateFromAppend_spec (n i : Nat) (hlt : i < n) (hn : n + 1 < 2 ^ 63) :
    updateFromAppend H (authPathOf H g n i) i n (g n) (peaks H n g)
      = some (authPathOf H g (n + 1) i, decide (authPathOf H g (n + 1) i ≠ authPathOf H g n i)) := by
  have hn' : n < 2 ^ 63 := by omega
  obtain ⟨hc1, hc2⟩ := authPathOf_succ_cases H g n i hlt
  unfold updateFromAppend
  rw [getPeakIndexAndHeight_spec H g n i hlt hn', added_nodeIdx n hn']
  simp only [Option.bind_eq_bind, Option.bind_some, Option.pure_def, parent_added n i hlt hn']
  by_cases hht : (locate n i).1 < trailingOnes n
  · obtain ⟨hnew, hne⟩ := hc1 hht
    simp only [decide_eq_true hht, Bool.not_true, Bool.false_eq_true, if_false, added_getLast? n, Option.bind_some, new_node_count_eq n hn,
      auth_missing_spec n i hlt hn hht, peak_indices_nodeIdx n hn']
    rw [knownPeaks_eq_foldl H g n hn', known_lookup H g n i hlt hn hht]
    · simp only [Option.bind_some, ← hnew]
      rw [decide_eq_true hne]
    · -- the loop reaches the old height of the leaf
      apply knownFromAppend_reaches H _ none _ (locate n i).1
      · rw [List.getElem?_map, List.getElem?_range (by omega)]; rfl
      · have := trailingOnes_le_peaks_length H g n; omega
      · intro k _; simp
      · intro k y hk hy hmem
        rw [List.getElem?_map, List.getElem?_range (by omega)] at hy
        simp only [Option.map_some, Option.some.injEq] at hy
        rw [List.mem_map] at hmem
        obtain ⟨k', _, he⟩ := hmem
        rw [← hy] at he
        have := (nodeIdx_inj k (n / 2 ^ k) _ _ (spine_lt n k hn (by omega)) he.symm).1
        omega
  · simp only [decide_eq_false hht, Bool.not_false, if_true, hc2 hht, ne_eq, not_true_eq_false, decide_false]

end

end TF.MmrE.UpdAppend
