import TF.Proofs.MerkleMaps
/-! `PartialMerkleTree::fill` computes the reference recomputation.  First `Spec.refVal` on its own: a computable node is
the hash of the values (`Spec.sibVal`: recomputed, else supplied) of its two children.  Then the invariant of the loop
over the levels (`FillInv`) and `fill_ok`. -/
namespace TF.Merkle
open TF.Gen

section Fill
variable {D : Type} (H : D → D → D)

/-- what `fill` relies on: supplied nodes `authD` exactly at the minimal node set, claimed leafs `leafD` exactly at the
    claimed indices (both by node index) -/
structure FillCtx (h : Nat) (idxs : List Nat) (leafD authD : Nat → Option D) : Prop where
  hh : h ≤ 31
  hi : ∀ i ∈ idxs, i < 2^h
  auth : ∀ k, (authD k).isSome ↔ k ∈ Spec.needed h idxs
  leaf : ∀ k, (leafD k).isSome ↔ ∃ i ∈ idxs, i + 2^h = k

variable {h : Nat} {idxs : List Nat} {leafD authD : Nat → Option D}

theorem sibVal_of_some {j c : Nat} {v : D} (hv : Spec.refVal H leafD authD j c = some v) :
    Spec.sibVal H leafD authD j c = some v := by
  rw [Spec.sibVal, hv]

theorem sibVal_of_none {j c : Nat} (hv : Spec.refVal H leafD authD j c = none) :
    Spec.sibVal H leafD authD j c = authD c := by
  rw [Spec.sibVal, hv]

/-- a node with a recomputed child is the hash of its children's values -/
theorem refVal_succ {j p : Nat} {a b : D} (ha : Spec.sibVal H leafD authD j (2*p) = some a)
    (hb : Spec.sibVal H leafD authD j (2*p+1) = some b)
    (hne : (Spec.refVal H leafD authD j (2*p)).isSome ∨ (Spec.refVal H leafD authD j (2*p+1)).isSome) :
    Spec.refVal H leafD authD (j+1) p = some (H a b) := by
  unfold Spec.sibVal at ha hb
  rw [Spec.refVal]
  cases h1 : Spec.refVal H leafD authD j (2*p) with
  | none =>
    cases h2 : Spec.refVal H leafD authD j (2*p+1) with
    | none =>
      rw [h1, h2] at hne
      simp at hne
    | some y =>
      simp only [h1, h2] at ha hb ⊢
      rw [ha, Option.some.inj hb]
      rfl
  | some x =>
    cases h2 : Spec.refVal H leafD authD j (2*p+1) with
    | none =>
      simp only [h1, h2] at ha hb ⊢
      rw [hb, Option.some.inj ha]
      rfl
    | some y =>
      simp only [h1, h2] at ha hb ⊢
      rw [Option.some.inj ha, Option.some.inj hb]

/-- the same, seen from a recomputed node `c` and its sibling -/
theorem refVal_step {j c : Nat} {v s : D} (hv : Spec.refVal H leafD authD j c = some v)
    (hs : Spec.sibVal H leafD authD j (sib c) = some s) :
    Spec.refVal H leafD authD (j+1) (c/2) = some (step H c v s) := by
  have hv' := sibVal_of_some H hv
  obtain ⟨q, rfl | rfl⟩ := left_or_right c
  · rw [sib_left] at hs
    rw [left_div, step_left]
    exact refVal_succ H hv' hs (Or.inl (by rw [hv]; rfl))
  · rw [sib_right] at hs
    rw [right_div, step_right]
    exact refVal_succ H hs hv' (Or.inr (by rw [hv]; rfl))

theorem refVal_none (ctx : FillCtx h idxs leafD authD) (j k : Nat) (hk : ∀ i ∈ idxs, anc h i j ≠ k) :
    Spec.refVal H leafD authD j k = none := by
  induction j generalizing k with
  | zero =>
    rw [Spec.refVal, ← Option.not_isSome_iff_eq_none, ctx.leaf]
    rintro ⟨i, hi, e⟩
    exact hk i hi (by rw [anc_zero, e])
  | succ j ih =>
    rw [Spec.refVal, ih (2*k) fun i hi e => hk i hi (by rw [anc_succ, e, left_div]),
      ih (2*k+1) fun i hi e => hk i hi (by rw [anc_succ, e, right_div])]

/-- a child `c` of a computable node is computable itself, or it belongs to the minimal node set and nothing is
    recomputed for it -/
theorem child_cases (ctx : FillCtx h idxs leafD authD) {i j c : Nat} (hi : i ∈ idxs) (hj : j < h)
    (hc : c / 2 = anc h i (j+1)) :
    (∃ i' ∈ idxs, anc h i' j = c) ∨ (c ∈ Spec.needed h idxs ∧ Spec.refVal H leafD authD j c = none) := by
  have rc := child_range hj (anc_range (ctx.hi i hi) hj) hc
  cases hcov : Spec.covered h idxs c
  · have hn : ∀ i' ∈ idxs, anc h i' j ≠ c := fun i' hi' e => by
      rw [← e, covered_anc hi' (Nat.le_of_lt hj)] at hcov; cases hcov
    have h2 : 2 ≤ c := Nat.le_trans (two_pow_le_of_le (show 1 ≤ h - j by omega)) rc.1
    have hs : sib c = anc h i j := sib_of_div_eq (by rw [hc, anc_succ]) (Ne.symm (hn i hi))
    exact Or.inr ⟨mem_needed_of_sib ctx.hi h2 hcov (by rw [hs]; exact covered_anc hi (Nat.le_of_lt hj)),
      refVal_none H ctx j c hn⟩
  · exact Or.inl (covered_level ctx.hi hcov (Nat.le_of_lt hj) rc)

theorem sibVal_child (ctx : FillCtx h idxs leafD authD) {i j c : Nat}
    (hs : ∀ i' ∈ idxs, (Spec.refVal H leafD authD j (anc h i' j)).isSome) (hi : i ∈ idxs) (hj : j < h)
    (hc : c / 2 = anc h i (j+1)) : ∃ v, Spec.sibVal H leafD authD j c = some v := by
  rcases child_cases H ctx hi hj hc with ⟨i', hi', rfl⟩ | ⟨hm, hn⟩
  · obtain ⟨v, hv⟩ := Option.isSome_iff_exists.1 (hs i' hi')
    exact ⟨v, sibVal_of_some H hv⟩
  · rw [sibVal_of_none H hn]
    exact Option.isSome_iff_exists.1 ((ctx.auth c).2 hm)

/-- `refVal_anc_succ` with the values of level `j` as a hypothesis: `refVal_isSome` is proved by induction through it -/
theorem refVal_anc_succ_of (ctx : FillCtx h idxs leafD authD) {i j : Nat}
    (hs : ∀ i' ∈ idxs, (Spec.refVal H leafD authD j (anc h i' j)).isSome) (hi : i ∈ idxs) (hj : j < h) :
    ∃ a b, Spec.sibVal H leafD authD j (2 * anc h i (j+1)) = some a ∧
      Spec.sibVal H leafD authD j (2 * anc h i (j+1) + 1) = some b ∧
      Spec.refVal H leafD authD (j+1) (anc h i (j+1)) = some (H a b) := by
  obtain ⟨a, ha⟩ := sibVal_child H ctx hs hi hj (c := 2 * anc h i (j+1)) (left_div _)
  obtain ⟨b, hb⟩ := sibVal_child H ctx hs hi hj (c := 2 * anc h i (j+1) + 1) (right_div _)
  refine ⟨a, b, ha, hb, refVal_succ H ha hb ?_⟩
  -- one of the children is the ancestor on level `j`
  have := hs i hi
  obtain ⟨q, e | e⟩ := left_or_right (anc h i j)
  · left; rw [anc_succ, e, left_div, ← e]; exact this
  · right; rw [anc_succ, e, right_div, ← e]; exact this

theorem refVal_isSome (ctx : FillCtx h idxs leafD authD) (j : Nat) (hj : j ≤ h) :
    ∀ i ∈ idxs, (Spec.refVal H leafD authD j (anc h i j)).isSome := by
  induction j with
  | zero =>
    intro i hi
    rw [Spec.refVal, ctx.leaf]
    exact ⟨i, hi, (anc_zero h i).symm⟩
  | succ j ih =>
    intro i hi
    obtain ⟨a, b, _, _, hr⟩ := refVal_anc_succ_of H ctx (ih (by omega)) hi (by omega)
    rw [hr]; rfl

theorem refVal_anc_succ (ctx : FillCtx h idxs leafD authD) {i j : Nat} (hi : i ∈ idxs) (hj : j < h) :
    ∃ a b, Spec.sibVal H leafD authD j (2 * anc h i (j+1)) = some a ∧
      Spec.sibVal H leafD authD j (2 * anc h i (j+1) + 1) = some b ∧
      Spec.refVal H leafD authD (j+1) (anc h i (j+1)) = some (H a b) :=
  refVal_anc_succ_of H ctx (refVal_isSome H ctx j (Nat.le_of_lt hj)) hi hj

theorem auth_none_of_covered (ctx : FillCtx h idxs leafD authD) {k : Nat} (hc : Spec.covered h idxs k = true) :
    authD k = none := by
  rw [← Option.not_isSome_iff_eq_none, ctx.auth, mem_needed, hc]
  simp

/-- before `fill`, the computable inner nodes are absent -/
theorem base_anc (ctx : FillCtx h idxs leafD authD) {i j : Nat} (hi : i ∈ idxs) (hj : j ≤ h) (hj1 : 1 ≤ j) :
    (authD (anc h i j)).or (leafD (anc h i j)) = none := by
  have hl : leafD (anc h i j) = none := by
    rw [← Option.not_isSome_iff_eq_none, ctx.leaf]
    rintro ⟨i', hi', e⟩
    rw [← anc_zero] at e
    have := anc_level_inj (ctx.hi i' hi') (ctx.hi i hi) (Nat.zero_le _) hj e
    omega
  rw [auth_none_of_covered ctx (covered_anc hi hj), Option.none_or, hl]

/-- the invariant of the outer loop of `fill` after `j` iterations: every computable node up to level `j` carries the
    recomputed value, everything else is as before `fill` (the supplied node, else the claimed leaf) -/
structure FillInv (h : Nat) (idxs : List Nat) (leafD authD : Nat → Option D) (j : Nat) (m : NodeMap D) : Prop where
  computed : ∀ j', j' ≤ j → ∀ i ∈ idxs, m.get (anc h i j') = Spec.refVal H leafD authD j' (anc h i j')
  rest : ∀ k, (∀ j', j' ≤ j → ∀ i ∈ idxs, anc h i j' ≠ k) → m.get k = (authD k).or (leafD k)

theorem fillInv_get_child (ctx : FillCtx h idxs leafD authD) {J : Nat} {m : NodeMap D}
    (inv : FillInv H h idxs leafD authD J m) {i j c : Nat} (hjJ : j ≤ J) (hJ : J ≤ h) (hi : i ∈ idxs) (hj : j < h)
    (hc : c / 2 = anc h i (j+1)) : m.get c = Spec.sibVal H leafD authD j c := by
  rcases child_cases H ctx hi hj hc with ⟨i', hi', rfl⟩ | ⟨hm, hn⟩
  · obtain ⟨v, hv⟩ := Option.isSome_iff_exists.1 (refVal_isSome H ctx j (Nat.le_of_lt hj) i' hi')
    rw [inv.computed j hjJ i' hi', sibVal_of_some H hv, hv]
  · obtain ⟨v, hv⟩ := Option.isSome_iff_exists.1 ((ctx.auth c).2 hm)
    rw [sibVal_of_none H hn, inv.rest c, hv, Option.some_or]
    intro j' hj' i' hi' e
    have := (mem_needed.1 hm).2.2.1
    rw [← e, covered_anc hi' (by omega)] at this
    cases this

/-- One iteration of the outer loop.  The parents `ps` of level `j+1` are the ancestors on that level; each finds the
    values of its two children in the map (`fillInv_get_child`) and is itself still absent, so `foldl_insertDigest` applies
    with `B` the first index of the level; what it inserts is the recomputed value by `refVal_anc_succ`. -/
theorem fillLevel_inv (ctx : FillCtx h idxs leafD authD) {j : Nat} (hj : j < h) {m : NodeMap D}
    (inv : FillInv H h idxs leafD authD j m) {ps : List Nat} (hs : ps.Pairwise (· < ·))
    (hps : ∀ p, p ∈ ps ↔ ∃ i ∈ idxs, anc h i (j+1) = p) :
    ∃ m', Res.foldlM (insertDigest H) m ps = .ok m' ∧ FillInv H h idxs leafD authD (j+1) m' := by
  have hch : ∀ i ∈ idxs, ∃ a b, m.get (2 * anc h i (j+1)) = some a ∧ m.get (2 * anc h i (j+1) + 1) = some b ∧
      Spec.refVal H leafD authD (j+1) (anc h i (j+1)) = some (H a b) := by
    intro i hi
    obtain ⟨a, b, ha, hb, hr⟩ := refVal_anc_succ H ctx hi hj
    refine ⟨a, b, ?_, ?_, hr⟩
    · rw [fillInv_get_child H ctx inv (Nat.le_refl j) (Nat.le_of_lt hj) hi hj (left_div _), ha]
    · rw [fillInv_get_child H ctx inv (Nat.le_refl j) (Nat.le_of_lt hj) hi hj (right_div _), hb]
  have hpar : ∀ p ∈ ps, 2^(h-(j+1)) ≤ p ∧ p < 2 * 2^(h-(j+1)) ∧ 2 * p < USIZE ∧ m.get p = none ∧
      ∃ a b, m.get (2*p) = some a ∧ m.get (2*p+1) = some b := by
    intro p hp
    obtain ⟨i, hi, rfl⟩ := (hps p).1 hp
    have r := anc_range (ctx.hi i hi) (show j+1 ≤ h from hj)
    obtain ⟨a, b, ha, hb, _⟩ := hch i hi
    have hr2 : anc h i (j+1) < 2 * 2^(h-(j+1)) := by
      rw [← Nat.pow_succ']
      exact r.2
    refine ⟨r.1, hr2, ?_, ?_, a, b, ha, hb⟩
    · have : 2^(h-(j+1)+1) ≤ 2^31 := two_pow_le_of_le (by have := ctx.hh; omega)
      have : (2:Nat)^31 * 2 < 2^64 := by decide
      unfold USIZE
      omega
    · rw [inv.rest]
      · exact base_anc ctx hi hj (Nat.succ_pos j)
      · intro j' hj' i' hi' e
        have := anc_level_inj (ctx.hi i' hi') (ctx.hi i hi) (Nat.le_trans hj' (Nat.le_of_lt hj)) hj e
        omega
  obtain ⟨m', e, h1, h2⟩ := foldl_insertDigest H ps m (hs.imp Nat.ne_of_lt) hpar
  refine ⟨m', e, fun j' hj' i hi => ?_, fun k hk => ?_⟩
  · by_cases hjj : j' = j+1
    · subst hjj
      obtain ⟨a, b, ha, hb, hm'⟩ := h2 _ ((hps _).2 ⟨i, hi, rfl⟩)
      obtain ⟨a', b', ha', hb', hr⟩ := hch i hi
      rw [ha'] at ha
      rw [hb'] at hb
      cases ha
      cases hb
      rw [hm', hr]
    · rw [h1 _ (fun hm => ?_), inv.computed j' (Nat.le_of_lt_succ (Nat.lt_of_le_of_ne hj' hjj)) i hi]
      obtain ⟨i', hi', e⟩ := (hps _).1 hm
      exact hjj (anc_level_inj (ctx.hi i hi) (ctx.hi i' hi') (Nat.le_trans hj' hj) hj e.symm)
  · rw [h1 k (fun hm => ?_), inv.rest k (fun j' hj' => hk j' (Nat.le_succ_of_le hj'))]
    obtain ⟨i', hi', e⟩ := (hps k).1 hm
    exact hk (j+1) (Nat.le_refl _) i' hi' e

theorem fillLoop_ok (ctx : FillCtx h idxs leafD authD) (r j : Nat) (ps : List Nat) (m : NodeMap D) (hjr : j + r = h)
    (inv : FillInv H h idxs leafD authD j m) (hs : ps.Pairwise (· < ·))
    (hps : ∀ p, p ∈ ps ↔ ∃ i ∈ idxs, anc h i (j+1) = p) :
    ∃ m', fillLoop H r ps m = .ok m' ∧ FillInv H h idxs leafD authD h m' := by
  induction r generalizing j ps m with
  | zero =>
    have : j = h := by omega
    subst this
    exact ⟨m, rfl, inv⟩
  | succ r ih =>
    obtain ⟨m', e1, inv'⟩ := fillLevel_inv H ctx (show j < h by omega) inv hs hps
    rw [fillLoop, e1, Res.ok_bind]
    refine ih (j+1) (moveUp ps) m' (by omega) inv' (sorted_moveUp hs) fun p => ?_
    rw [mem_moveUp]
    constructor
    · rintro ⟨q, hq, rfl⟩
      obtain ⟨i, hi, rfl⟩ := (hps q).1 hq
      exact ⟨i, hi, anc_succ h i (j+1)⟩
    · rintro ⟨i, hi, rfl⟩
      exact ⟨anc h i (j+1), (hps _).2 ⟨i, hi, rfl⟩, (anc_succ h i (j+1)).symm⟩

theorem firstLayerParents_ok (ctx : FillCtx h idxs leafD authD) :
    ∃ ps, firstLayerParents h idxs = .ok ps ∧ ps.Pairwise (· < ·) ∧ (∀ p, p ∈ ps ↔ ∃ i ∈ idxs, anc h i 1 = p) := by
  have hm : Res.mapM (fun i => do let k ← cadd i (2^h); Res.ok (k / 2)) idxs = .ok (idxs.map (fun i => (i + 2^h) / 2)) := by
    apply Res.mapM_ok
    intro i hi
    have := leaf_add_lt_usize (by have := ctx.hh; omega) (ctx.hi i hi)
    simp [cadd, this]
  refine ⟨toSortedSet (idxs.map (fun i => (i + 2^h) / 2)),
    by simp only [firstLayerParents, numLeafs_ok ctx.hh, Res.ok_bind, hm], sorted_toSortedSet _, ?_⟩
  intro p
  rw [mem_toSortedSet]
  simp [anc]

/-- **`fill` computes the reference values**: started on the supplied nodes and claimed leafs it succeeds and every computable node carries
    the value of the reference recomputation, every other node is untouched. -/
theorem fill_ok (ctx : FillCtx h idxs leafD authD) {m0 : NodeMap D} (hm0 : ∀ k, m0.get k = (authD k).or (leafD k)) :
    ∃ m', fill H { height := h, idxs := idxs, nodes := m0 } = .ok { height := h, idxs := idxs, nodes := m' } ∧
      FillInv H h idxs leafD authD h m' := by
  obtain ⟨ps, e1, hs, hps⟩ := firstLayerParents_ok ctx
  have inv0 : FillInv H h idxs leafD authD 0 m0 := by
    refine ⟨fun j' hj' i hi => ?_, fun k _ => hm0 k⟩
    have : j' = 0 := by omega
    subst this
    rw [hm0, auth_none_of_covered ctx (covered_anc hi (Nat.zero_le _)), Option.none_or, Spec.refVal]
  obtain ⟨m', e2, inv⟩ := fillLoop_ok H ctx h 0 ps m0 (by omega) inv0 hs hps
  exact ⟨m', by simp [fill, e1, e2], inv⟩
end Fill

end TF.Merkle
