import TF.Proofs.BField
import TF.Model.BField
-- needed in front of `toF`: with `Fact (Nat.Prime P)` (Prime) in scope `Fp` gets its ring structure from
-- `ZMod.instField`, so `Fp` is the same field in every statement about `toF`
import TF.Proofs.Prime
import Mathlib.FieldTheory.Finite.Basic
/-!
Bridge from raw Montgomery words to the abstract field `ZMod P`: `toF r = (bfe_value r : ZMod P)` is injective on
canonical words (`toF_inj`), onto (`toF_new`), and turns the translated word-level operations into the field operations.
Everything generic in the library (polynomials, NTT) reaches `BFieldElement` only through these operators, so theorems
proved for an arbitrary field apply to it.  A statement about `bfe_value` is read off from one
about `toF` with `value_of_toF`.
-/
namespace TF.BF
open TF.Gen TF.Model

abbrev Fp := ZMod 18446744069414584321

def toF (r : Nat) : Fp := ((bfe_value r : ℕ) : Fp)

/-- abstraction: raw word ↦ canonical value -/
abbrev val (r : Nat) : Nat := bfe_value r

theorem cast_mod (n : Nat) : ((n % P : ℕ) : Fp) = (n : Fp) := ZMod.natCast_mod n 18446744069414584321

theorem cast_eq_iff (a b : Nat) : (a : Fp) = (b : Fp) ↔ a % P = b % P := ZMod.natCast_eq_natCast_iff' a b _

theorem toF_of_value {r n : Nat} (h : bfe_value r = n % Pn) : toF r = (n : Fp) := by
  unfold toF; rw [h]; exact cast_mod n

theorem value_of_toF {r n : Nat} (hr : r < W) (h : toF r = (n : Fp)) : bfe_value r = n % Pn := by
  rw [← Nat.mod_eq_of_lt (value_lt r hr)]; exact (cast_eq_iff _ _).1 h

theorem toF_new (v : Nat) (hv : v < W) : toF (bfe_new v) = (v : Fp) := toF_of_value (new_spec v hv).2

theorem toF_mul (a b : Nat) (ha : canon a) (hb : canon b) : toF (bfe_mul a b) = toF a * toF b :=
  (toF_of_value (mul_spec a b ha hb).2).trans (Nat.cast_mul _ _)

theorem toF_add (a b : Nat) (ha : canon a) (hb : canon b) : toF (bfe_add a b) = toF a + toF b :=
  (toF_of_value (add_spec a b ha hb).2).trans (Nat.cast_add _ _)

theorem toF_sub (a b : Nat) (ha : canon a) (hb : canon b) : toF (bfe_sub a b) = toF a - toF b := by
  have h := congrArg (Nat.cast : ℕ → Fp) (sub_spec a b ha hb).2
  rw [← P_eq, cast_mod, Nat.cast_add] at h
  exact eq_sub_of_add_eq h

theorem canon_mul (a b : Nat) (ha : canon a) (hb : canon b) : canon (bfe_mul a b) := (mul_spec a b ha hb).1
theorem canon_add (a b : Nat) (ha : canon a) (hb : canon b) : canon (bfe_add a b) := (add_spec a b ha hb).1
theorem canon_sub (a b : Nat) (ha : canon a) (hb : canon b) : canon (bfe_sub a b) := (sub_spec a b ha hb).1

theorem canon_one : canon BF.one := (new_spec 1 (by decide)).1
theorem val_one : bfe_value BF.one = 1 := value_new 1 (by decide)
theorem canon_zero : canon BF.zero := (new_spec 0 (by decide)).1
theorem val_zero : bfe_value BF.zero = 0 := value_new 0 (by decide)
theorem canon_neg (a : Nat) (ha : canon a) : canon (BF.neg a) := canon_sub _ _ canon_zero ha

theorem toF_zero : toF BF.zero = 0 := (toF_new 0 (by decide)).trans Nat.cast_zero
theorem toF_one : toF BF.one = 1 := (toF_new 1 (by decide)).trans Nat.cast_one

theorem toF_neg (a : Nat) (ha : canon a) : toF (BF.neg a) = - toF a := by
  unfold BF.neg; rw [toF_sub _ _ canon_zero ha, toF_zero, zero_sub]

theorem toF_inj (a b : Nat) (ha : canon a) (hb : canon b) (h : toF a = toF b) : a = b := by
  apply repr_unique a b ha hb
  rw [value_of_toF (Nat.lt_trans ha Pn_lt_W) h]
  exact Nat.mod_eq_of_lt (value_lt b (Nat.lt_trans hb Pn_lt_W))

theorem toF_eq_zero (a : Nat) (ha : canon a) : toF a = 0 ↔ a = BF.zero :=
  ⟨fun h => toF_inj a _ ha canon_zero (h.trans toF_zero.symm), fun h => by rw [h, toF_zero]⟩

end TF.BF
