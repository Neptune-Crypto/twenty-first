import TF.Proofs.PolyInterp
import Mathlib.Data.List.Duplicate
/-!
C08, the excluded inputs: with a repeated abscissa every interpolation strategy panics (division by zero in the
Lagrange loop, or batch inversion of a zero offset in the divide-and-conquer step).
-/
open Polynomial

namespace TF.Model.PolyI
open TF TF.Model.Poly

variable {K : Type} [Field K]
variable (root : Nat → Option K)
local notation "FK" => FieldOps.ofField K root

section
open Classical

theorem exists_dup_of_not_nodup (l : List K) (h : ¬ l.Nodup) : ∃ x ∈ l, x ∈ l.erase x := by
  obtain ⟨x, hx⟩ := List.exists_duplicate_iff_not_nodup.2 h
  have h2 : 2 ≤ l.count x := List.duplicate_iff_two_le_count.1 hx
  refine ⟨x, List.count_pos_iff.1 (by omega), List.count_pos_iff.1 ?_⟩
  rw [List.count_erase_self]; omega

/-- the loop panics as soon as one abscissa is a multiple root of the zerofier -/
theorem lagrangeLoop_none (domain : List K) (zn : K) (zs : List K)
    (hz : denote (zn :: zs).reverse = zpoly domain) (hlen : zs.length = domain.length) :
    ∀ (pairs : List (K × K)) (sum : List K), (∀ p ∈ pairs, p.1 ∈ domain) →
      (∃ p ∈ pairs, p.1 ∈ domain.erase p.1) → lagrangeLoop FK (zn :: zs) pairs sum = none := by
  intro pairs
  induction pairs with
  | nil =>
    intro _ _ h
    obtain ⟨p, hp, _⟩ := h
    simp at hp
  | cons p pairs ih =>
    intro sum hmem hex
    obtain ⟨x, y⟩ := p
    have hx : x ∈ domain := hmem (x, y) (by simp)
    obtain ⟨_, q2, _⟩ := synth_zerofier root domain x hx zn zs hz hlen
    rw [lagrangeLoop]
    simp only
    by_cases hdup : x ∈ domain.erase x
    · have : (FK).isZero (synthGo FK x zn (FK).zero [] zs).2 = true := by
        rw [FieldOps.ofField_zero, q2, FieldOps.ofField_isZero, eval_zpoly_eq_zero_iff]; exact hdup
      rw [this]; rfl
    · split
      · rfl
      · apply ih _ (fun q hq => hmem q (by simp [hq]))
        obtain ⟨p, hp, hpd⟩ := hex
        rcases List.mem_cons.1 hp with rfl | hp
        · exact absurd hpd hdup
        · exact ⟨p, hp, hpd⟩

end

section
variable {E : Ext K} (hE : E.Lawful)
include hE

/-- `lagrange_interpolate` with a repeated abscissa panics (`abscis / summand_eval` with `summand_eval = 0`) -/
theorem lagrangeInterpolateWith_dup (T : Nat) (domain values : List K) (hdup : ¬ domain.Nodup)
    (hl : domain.length = values.length) : lagrangeInterpolateWith FK E T domain values = none := by
  classical
  unfold lagrangeInterpolateWith
  simp only
  rw [if_neg (by omega)]
  cases hz : zerofierWith FK E T domain with
  | none => rfl
  | some z =>
    simp only [Option.bind_eq_bind, Option.bind_some]
    obtain ⟨_, zn, zs, hzz, hzslen, hzrev⟩ :=
      zerofier_descending domain z (zerofierWith_sound root hE T domain z hz)
    split
    · rfl
    · rw [hzz]
      apply lagrangeLoop_none root domain zn zs hzrev hzslen _ _ (fun p hp => (List.of_mem_zip hp).1)
      obtain ⟨x, hx, hxe⟩ := exists_dup_of_not_nodup domain hdup
      obtain ⟨y, hy⟩ := mem_zip_of_mem_left domain values hl x hx
      exact ⟨(x, y), hy, hxe⟩

/-- the divide-and-conquer step panics on a repeated abscissa if the interpolator called on the halves does: a
    point in both halves makes an offset zero (batch inversion panics), otherwise one half has the repetition -/
theorem fastInterpolateStep_dup (zfT : Nat) (interp : List K → List K → Option (List K))
    (bev : List K → List K → Option (List K)) (hbev : BevOK bev) (domain values : List K) (hdup : ¬ domain.Nodup)
    (hinterp : ∀ d v, ¬ d.Nodup → interp d v = none) :
    fastInterpolateStep FK E zfT interp bev domain values = none := by
  unfold fastInterpolateStep
  split
  · next h1 =>
    obtain ⟨x, rfl⟩ := List.length_eq_one_iff.1 (by simpa using h1 : domain.length = 1)
    exact absurd (List.nodup_singleton x) hdup
  · simp only
    split
    · rfl
    · set mid := domain.length / 2
      cases hlz : zerofierWith FK E zfT (domain.take mid) with
      | none => rfl
      | some lz =>
        cases hrz : zerofierWith FK E zfT (domain.drop mid) with
        | none => rfl
        | some rz =>
          simp only [Option.bind_eq_bind, Option.bind_some, hbev rz _, hbev lz _]
          have hlzd := zerofierWith_sound root hE zfT _ _ hlz
          have hrzd := zerofierWith_sound root hE zfT _ _ hrz
          by_cases hcross : ∃ x, x ∈ domain.take mid ∧ x ∈ domain.drop mid
          · obtain ⟨x, hxl, hxr⟩ := hcross
            have : batchInversion FK ((domain.take mid).map (fun x => (denote rz).eval x)) = none := by
              unfold batchInversion
              rw [if_pos (List.any_eq_true.2 ⟨(denote rz).eval x, List.mem_map.2 ⟨x, hxl, rfl⟩, by
                rw [FieldOps.ofField_isZero, hrzd, eval_zpoly_eq_zero_iff]; exact hxr⟩)]
            rw [this]; rfl
          · have hnn : ¬ (domain.take mid).Nodup ∨ ¬ (domain.drop mid).Nodup := by
              by_contra hboth
              rw [not_or, not_not, not_not] at hboth
              apply hdup
              rw [← List.take_append_drop mid domain, List.nodup_append]
              exact ⟨hboth.1, hboth.2, fun a ha b hb hab => hcross ⟨a, ha, hab ▸ hb⟩⟩
            cases batchInversion FK ((domain.take mid).map (fun x => (denote rz).eval x)) with
            | none => rfl
            | some loi =>
              simp only [Option.bind_some]
              rcases hnn with hL | hR
              · rw [hinterp _ _ hL]; rfl
              · cases interp (domain.take mid) (List.zipWith (FK).mul (values.take mid) loi) with
                | none => rfl
                | some li =>
                  simp only [Option.bind_some]
                  cases batchInversion FK ((domain.drop mid).map (fun x => (denote lz).eval x)) with
                  | none => rfl
                  | some roi =>
                    simp only [Option.bind_some]
                    rw [hinterp _ _ hR]; rfl

/-- the dispatchers `interpolate`, `par_interpolate` panic on a repeated abscissa, for every cut-off and every
    evaluator satisfying its contract -/
theorem interpolateFuel_dup (t : Thr) (cut : Nat) (bev : List K → List K → Option (List K)) (hbev : BevOK bev) :
    ∀ (fuel : Nat) (domain values : List K), ¬ domain.Nodup → interpolateFuel FK E t cut bev fuel domain values = none := by
  intro fuel
  induction fuel with
  | zero => intro _ _ _; rfl
  | succ fuel ih =>
    intro domain values hdup
    rw [interpolateFuel]
    split
    · rfl
    · split
      · rfl
      · next hl =>
        split
        · exact lagrangeInterpolateWith_dup root hE t.zf domain values hdup (by simpa using hl)
        · exact fastInterpolateStep_dup root hE t.zf _ bev hbev domain values hdup ih

end

end TF.Model.PolyI
