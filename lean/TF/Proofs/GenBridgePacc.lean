import TF.Proofs.GenBridgeBField
import TF.Proofs.ListBasics
/-!
# Bridge: `BFieldElement::power_accumulator::<N, M>` *as regenerated from source* = the hand model, lane by lane

`TF.Gen.Loops.bfe_power_accumulator N M base tail` (three fuel-indexed `while` loops over arrays, `result[j] = …` as
`List.set`, `result[j]` as `getD`) terminates within its fuel for all array lengths `N` and all `M` below `2^64` and
returns, in lane `k`, `BF.powerAccumulator M base[k] tail[k]` (= `M` squarings of `base[k]`, times `tail[k]`).
-/
namespace TF.GenBridge.BField
open TF TF.Gen TF.Model.BF

theorem pacc_loop2_spec (N : Nat) (hN : N < 18446744073709551616) : ∀ fuel (result : List Nat) (j : Nat),
    result.length = N → j ≤ N → N - j < fuel →
    ∃ r, Loops.bfe_power_accumulator_loop2 N fuel result j = some (r, N) ∧ r.length = N ∧
      ∀ k, k < N → r.getD k 0 = if k < j then result.getD k 0 else bfe_mul (result.getD k 0) (result.getD k 0) := by
  intro fuel
  induction fuel with
  | zero => intro result j _ h1 h2; omega
  | succ f ih =>
    intro result j hlen h1 h2
    rw [Loops.bfe_power_accumulator_loop2]
    by_cases hj : j < N
    · have e1 : (j + 1) % 18446744073709551616 = j + 1 := Nat.mod_eq_of_lt (by omega)
      rw [if_pos (by simpa using hj)]
      dsimp only
      rw [mul_unfold, e1]
      obtain ⟨r, hr, hrl, hrk⟩ := ih (result.set j (bfe_mul (result.getD j 0) (result.getD j 0))) (j + 1)
        (by rw [List.length_set]; exact hlen) (by omega) (by omega)
      refine ⟨r, hr, hrl, fun k hk => ?_⟩
      rw [hrk k hk]
      by_cases hkj : k < j
      · rw [if_pos (by omega), if_pos hkj, getD_set_ne _ _ _ _ (by omega)]
      · by_cases hkj' : k = j
        · subst hkj'
          rw [if_pos (by omega), if_neg hkj, getD_set_self _ _ _ (by omega)]
        · rw [if_neg (by omega), if_neg hkj, getD_set_ne _ _ _ _ (by omega)]
    · have : j = N := by omega
      subst this
      rw [if_neg (by simp)]
      exact ⟨result, rfl, hlen, fun k hk => by rw [if_pos hk]⟩

theorem sqN_succ (b k : Nat) : sqN b (k + 1) = sqN (bfe_mul b b) k := by rw [sqN]

theorem pacc_loop_spec (N M : Nat) (hN : N < 18446744073709551616) (hM : M < 18446744073709551616) :
    ∀ fuel (result : List Nat) (i : Nat), result.length = N → i ≤ M → M - i < fuel →
    ∃ r, Loops.bfe_power_accumulator_loop N M fuel result i = some (r, M) ∧ r.length = N ∧
      ∀ k, k < N → r.getD k 0 = sqN (result.getD k 0) (M - i) := by
  intro fuel
  induction fuel with
  | zero => intro result i _ h1 h2; omega
  | succ f ih =>
    intro result i hlen h1 h2
    rw [Loops.bfe_power_accumulator_loop]
    by_cases hi : i < M
    · have e1 : (i + 1) % 18446744073709551616 = i + 1 := Nat.mod_eq_of_lt (by omega)
      obtain ⟨r2, hr2, hr2l, hr2k⟩ := pacc_loop2_spec N hN (N + M + 1) result 0 hlen (by omega) (by omega)
      rw [if_pos (by simpa using hi)]
      dsimp only
      rw [hr2, Option.bind_some, e1]
      dsimp only
      obtain ⟨r, hr, hrl, hrk⟩ := ih r2 (i + 1) hr2l (by omega) (by omega)
      refine ⟨r, hr, hrl, fun k hk => ?_⟩
      rw [hrk k hk, hr2k k hk, if_neg (by omega), show M - i = (M - (i + 1)) + 1 by omega, sqN_succ]
    · have : i = M := by omega
      subst this
      rw [if_neg (by simp)]
      exact ⟨result, rfl, hlen, fun k _ => by rw [Nat.sub_self, sqN]⟩

theorem pacc_loop3_spec (N : Nat) (tail : List Nat) (hN : N < 18446744073709551616) :
    ∀ fuel (result : List Nat) (j : Nat), result.length = N → j ≤ N → N - j < fuel →
    ∃ r, Loops.bfe_power_accumulator_loop3 N tail fuel result j = some (r, N) ∧ r.length = N ∧
      ∀ k, k < N → r.getD k 0 = if k < j then result.getD k 0 else bfe_mul (result.getD k 0) (tail.getD k 0) := by
  intro fuel
  induction fuel with
  | zero => intro result j _ h1 h2; omega
  | succ f ih =>
    intro result j hlen h1 h2
    rw [Loops.bfe_power_accumulator_loop3]
    by_cases hj : j < N
    · have e1 : (j + 1) % 18446744073709551616 = j + 1 := Nat.mod_eq_of_lt (by omega)
      rw [if_pos (by simpa using hj)]
      dsimp only
      rw [mul_unfold, e1]
      obtain ⟨r, hr, hrl, hrk⟩ := ih (result.set j (bfe_mul (result.getD j 0) (tail.getD j 0))) (j + 1)
        (by rw [List.length_set]; exact hlen) (by omega) (by omega)
      refine ⟨r, hr, hrl, fun k hk => ?_⟩
      rw [hrk k hk]
      by_cases hkj : k < j
      · rw [if_pos (by omega), if_pos hkj, getD_set_ne _ _ _ _ (by omega)]
      · by_cases hkj' : k = j
        · subst hkj'
          rw [if_pos (by omega), if_neg hkj, getD_set_self _ _ _ (by omega)]
        · rw [if_neg (by omega), if_neg hkj, getD_set_ne _ _ _ _ (by omega)]
    · have : j = N := by omega
      subst this
      rw [if_neg (by simp)]
      exact ⟨result, rfl, hlen, fun k hk => by rw [if_pos hk]⟩

/-- `BFieldElement::power_accumulator::<N, M>` regenerated from source = the hand model in every lane: for arrays
    `base`, `tail` of length `N` (`N, M < 2^64`, as `usize` const generics) the regenerated function terminates within its
    fuel and returns `[powerAccumulator M base[k] tail[k] | k < N]` -/
theorem gen_power_accumulator_eq (N M : Nat) (base tail : List Nat) (hN : N < 18446744073709551616)
    (hM : M < 18446744073709551616) (hb : base.length = N) (ht : tail.length = N) :
    Loops.bfe_power_accumulator N M base tail = some (List.zipWith (powerAccumulator M) base tail) := by
  obtain ⟨r1, hr1, hr1l, hr1k⟩ := pacc_loop_spec N M hN hM (N + M + 1) base 0 hb (by omega) (by omega)
  obtain ⟨r3, hr3, hr3l, hr3k⟩ := pacc_loop3_spec N tail hN (N + M + 1) r1 0 hr1l (by omega) (by omega)
  unfold Loops.bfe_power_accumulator
  dsimp only
  rw [hr1, Option.bind_some]
  dsimp only
  rw [hr3, Option.bind_some]
  show some r3 = _
  congr 1
  apply List.ext_getElem
  · rw [hr3l, List.length_zipWith, hb, ht, Nat.min_self]
  · intro k h1 h2
    have hk : k < N := by omega
    have h3 := hr3k k hk
    rw [if_neg (by omega), hr1k k hk, Nat.sub_zero] at h3
    rw [List.getElem_zipWith]
    have hkb : k < base.length := by omega
    have hkt : k < tail.length := by omega
    rw [List.getD_eq_getElem _ _ h1, List.getD_eq_getElem _ _ hkb, List.getD_eq_getElem _ _ hkt] at h3
    rw [h3]; rfl

/-- one lane (what the driver evaluates on every `bfe pacc` op) -/
theorem gen_power_accumulator_lane (M base tail : Nat) (hM : M < 18446744073709551616) :
    Loops.bfe_power_accumulator 1 M [base] [tail] = some [powerAccumulator M base tail] :=
  gen_power_accumulator_eq 1 M [base] [tail] (by decide) hM rfl rfl

end TF.GenBridge.BField
