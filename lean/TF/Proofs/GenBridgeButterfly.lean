import TF.Proofs.BlockArith
/-!
In-place butterfly passes on lists, shared by the bridges `GenBridgeNtt` and `GenBridgeLattice`.  A butterfly on the pair
`(j, j + t)` reads `u = x[j]`, `v = x[j+t]` and writes `f j u v` to `j`, `g (j+t) u v` to `j + t`: results indexed by the
position written cover a twiddle per block, per offset in the block and per position.  Also the loops that rewrite one
position per iteration (`mapLoop_spec`).  Core Lean only.
-/
namespace TF.GenBridge.Bfly
open TF.Blocks

variable {α : Type}

theorem set2_getElem? (x : List α) (a b idx : Nat) (A S : α) (ha : a < x.length) :
    ((x.set a A).set b S)[idx]? = if idx = b then (if b < x.length then some S else none) else if idx = a then some A else x[idx]? := by
  by_cases h1 : idx = b
  · subst h1; simp [List.getElem?_set]
  · by_cases h2 : idx = a
    · subst h2; simp [h1, ha, Ne.symm h1]
    · simp [h1, h2, Ne.symm h1, Ne.symm h2]

theorem getD_of_getElem?_eq {x y : List α} {i : Nat} (h : y[i]? = x[i]?) (z : α) : y.getD i z = x.getD i z := by
  rw [List.getD_eq_getElem?_getD, List.getD_eq_getElem?_getD, h]

/-- a loop `for i in i₀..i₀+n { l[i] = g i l[i] }`, given by its two equations -/
theorem mapLoop_spec (g : Nat → α → α) (z : α) (F : Nat → Nat → List α → List α)
    (h0 : ∀ i l, F 0 i l = l) (hs : ∀ n i l, F (n+1) i l = F n (i+1) (l.set i (g i (l.getD i z)))) :
    ∀ n i l, (F n i l).length = l.length ∧
      ∀ idx, (F n i l)[idx]? = if i ≤ idx ∧ idx < i + n then l[idx]?.map (g idx) else l[idx]? := by
  intro n
  induction n with
  | zero =>
    intro i l
    rw [h0]
    exact ⟨rfl, fun idx => by rw [if_neg (by omega)]⟩
  | succ n ih =>
    intro i l
    obtain ⟨il, ip⟩ := ih (i+1) (l.set i (g i (l.getD i z)))
    rw [hs]
    refine ⟨by rw [il, List.length_set], fun idx => ?_⟩
    rw [ip idx, List.getElem?_set]
    by_cases e : i = idx
    · subst e
      rw [if_neg (by omega), if_pos rfl, if_pos (show i ≤ i ∧ i < i + (n + 1) by omega), List.getD_eq_getElem?_getD]
      by_cases h : i < l.length
      · rw [if_pos h, List.getElem?_eq_getElem h]; rfl
      · rw [if_neg h, List.getElem?_eq_none (by omega)]; rfl
    · rw [if_neg e]
      by_cases r : i + 1 ≤ idx ∧ idx < i + 1 + n
      · rw [if_pos r, if_pos (by omega)]
      · rw [if_neg r, if_neg (by omega)]

theorem mapLoop_full (g : Nat → α → α) (z : α) (F : Nat → Nat → List α → List α)
    (h0 : ∀ i l, F 0 i l = l) (hs : ∀ n i l, F (n+1) i l = F n (i+1) (l.set i (g i (l.getD i z)))) (l : List α) (idx : Nat) :
    (F l.length 0 l)[idx]? = l[idx]?.map (g idx) := by
  rw [(mapLoop_spec g z F h0 hs l.length 0 l).2 idx]
  split
  · rfl
  · rw [List.getElem?_eq_none (by omega)]; rfl

/-- `for j in j₀..j₀+n { u = x[j]; v = x[j+t]; x[j] = f j u v; x[j+t] = g (j+t) u v }` -/
def pass (f g : Nat → α → α → α) (z : α) (t : Nat) : Nat → Nat → List α → List α
  | 0, _, x => x
  | n+1, j, x =>
    pass f g z t n (j + 1)
      ((x.set j (f j (x.getD j z) (x.getD (j + t) z))).set (j + t) (g (j + t) (x.getD j z) (x.getD (j + t) z)))

/-- only the results at the positions written matter -/
theorem pass_congr (f g f' g' : Nat → α → α → α) (z : α) (t : Nat) : ∀ n j (x : List α),
    (∀ idx, j ≤ idx → idx < j + n → f idx = f' idx) → (∀ idx, j + t ≤ idx → idx < j + t + n → g idx = g' idx) →
    pass f g z t n j x = pass f' g' z t n j x
  | 0, _, _, _, _ => rfl
  | n+1, j, x, hf, hg => by
    rw [pass, pass, hf j (Nat.le_refl _) (by omega), hg (j + t) (Nat.le_refl _) (by omega)]
    exact pass_congr f g f' g' z t n (j + 1) _ (fun idx h1 h2 => hf idx (by omega) (by omega))
      (fun idx h1 h2 => hg idx (by omega) (by omega))

/-- results that depend on the position only through its block of size `2t` -/
def perBlock (t : Nat) (F : Nat → α → α → α) : Nat → α → α → α := fun idx => F (idx / (2*t))

theorem pass_block (F G : Nat → α → α → α) (z : α) (t b : Nat) (x : List α) :
    pass (fun _ => F b) (fun _ => G b) z t t (b*(2*t)) x = pass (perBlock t F) (perBlock t G) z t t (b*(2*t)) x :=
  pass_congr _ _ _ _ z t t _ x
    (fun idx h1 h2 => by
      obtain ⟨r, rfl⟩ := Nat.exists_eq_add_of_le h1
      rw [perBlock, blk_div b t r (by omega)])
    (fun idx h1 h2 => by
      obtain ⟨r, rfl⟩ := Nat.exists_eq_add_of_le h1
      rw [perBlock, Nat.add_assoc, blk_div b t (t + r) (by omega)])

/-- the last round of a pass -/
theorem pass_succ (f g : Nat → α → α → α) (z : α) (t : Nat) : ∀ n j (x : List α),
    pass f g z t (n + 1) j x =
      ((pass f g z t n j x).set (j + n) (f (j + n) ((pass f g z t n j x).getD (j + n) z) ((pass f g z t n j x).getD (j + n + t) z))).set
        (j + n + t) (g (j + n + t) ((pass f g z t n j x).getD (j + n) z) ((pass f g z t n j x).getD (j + n + t) z))
  | 0, _, _ => rfl
  | n+1, j, x => by rw [pass, pass_succ f g z t n (j + 1), Nat.add_right_comm j 1 n]; rfl

/-- one in-place pass, pointwise, in terms of the values *before* the pass: every index pair is written exactly once, so
    the last round reads two positions the earlier rounds have left alone -/
theorem pass_spec (f g : Nat → α → α → α) (z : α) (t n j : Nat) (x : List α) (hn : n ≤ t) (hlen : j + t + n ≤ x.length) :
    (pass f g z t n j x).length = x.length ∧
    ∀ idx, (pass f g z t n j x)[idx]? =
      if j ≤ idx ∧ idx < j + n then some (f idx (x.getD idx z) (x.getD (idx + t) z))
      else if j + t ≤ idx ∧ idx < j + t + n then some (g idx (x.getD (idx - t) z) (x.getD idx z))
      else x[idx]? := by
  induction n with
  | zero => exact ⟨rfl, fun idx => by rw [if_neg (by omega), if_neg (by omega)]; rfl⟩
  | succ n ih =>
    obtain ⟨il, ip⟩ := ih (by omega) (by omega)
    have ya : (pass f g z t n j x).getD (j + n) z = x.getD (j + n) z :=
      getD_of_getElem?_eq (by rw [ip, if_neg (by omega), if_neg (by omega)]) z
    have yb : (pass f g z t n j x).getD (j + n + t) z = x.getD (j + n + t) z :=
      getD_of_getElem?_eq (by rw [ip, if_neg (by omega), if_neg (by omega)]) z
    rw [pass_succ, ya, yb]
    refine ⟨by rw [List.length_set, List.length_set, il], fun idx => ?_⟩
    rw [set2_getElem? _ _ _ _ _ _ (by omega), il]
    by_cases e2 : idx = j + n + t
    · subst e2
      rw [if_pos rfl, if_pos (by omega), if_neg (by omega), if_pos (by omega), Nat.add_sub_cancel]
    · by_cases e1 : idx = j + n
      · subst e1
        rw [if_neg e2, if_pos rfl, if_pos (by omega)]
      · have c1 : (j ≤ idx ∧ idx < j + (n + 1)) ↔ (j ≤ idx ∧ idx < j + n) := by omega
        have c2 : (j + t ≤ idx ∧ idx < j + t + (n + 1)) ↔ (j + t ≤ idx ∧ idx < j + t + n) := by omega
        simp only [if_neg e2, if_neg e1, ip idx, c1, c2]

/-- one butterfly stage with half-block size `t` on a list, pointwise -/
def stageAt (f g : Nat → α → α → α) (z : α) (t : Nat) (x : List α) (idx : Nat) : α :=
  if idx % (2*t) < t then f idx (x.getD idx z) (x.getD (idx + t) z)
  else g idx (x.getD (idx - t) z) (x.getD idx z)

/-- after blocks `0 .. b-1`: below `b·2t` the stage formula of the list `x` before the stage, from `b·2t` on still `x` -/
def BlockInv (f g : Nat → α → α → α) (z : α) (t : Nat) (x y : List α) (b : Nat) : Prop :=
  y.length = x.length ∧ ∀ idx, y[idx]? = if idx < b*(2*t) then some (stageAt f g z t x idx) else x[idx]?

theorem blockInv_zero (f g : Nat → α → α → α) (z : α) (t : Nat) (x : List α) : BlockInv f g z t x x 0 :=
  ⟨rfl, fun idx => by rw [Nat.zero_mul, if_neg (Nat.not_lt_zero _)]⟩

theorem blockInv_step (f g : Nat → α → α → α) (z : α) (t : Nat) (x y : List α) (b : Nat)
    (inv : BlockInv f g z t x y b) (hk : b*(2*t) + 2*t ≤ x.length) :
    BlockInv f g z t x (pass f g z t t (b*(2*t)) y) (b+1) := by
  obtain ⟨hl, hy⟩ := inv
  obtain ⟨rl, rp⟩ := pass_spec f g z t t (b*(2*t)) y (Nat.le_refl _) (by omega)
  refine ⟨by rw [rl, hl], fun idx => ?_⟩
  have md : ∀ r, r < 2*t → (b*(2*t) + r) % (2*t) = r := blk_mod b t
  have hk1 : (b+1)*(2*t) = b*(2*t) + 2*t := Nat.succ_mul _ _
  rw [rp idx, hk1]
  generalize b*(2*t) = k at *
  by_cases c0 : idx < k
  · rw [if_neg (by omega), if_neg (by omega), hy idx, if_pos c0, if_pos (by omega)]
  · have hx : ∀ i, k ≤ i → y.getD i z = x.getD i z := fun i hi => getD_of_getElem?_eq (by rw [hy, if_neg (by omega)]) _
    by_cases c1 : k ≤ idx ∧ idx < k + t
    · obtain ⟨r, rfl⟩ := Nat.exists_eq_add_of_le c1.1
      rw [if_pos c1, if_pos (by omega), hx _ (by omega), hx _ (by omega), stageAt, md r (by omega), if_pos (by omega)]
    · by_cases c2 : k + t ≤ idx ∧ idx < k + t + t
      · obtain ⟨r, rfl⟩ := Nat.exists_eq_add_of_le c2.1
        rw [if_neg c1, if_pos c2, if_pos (by omega), hx _ (by omega), hx _ (by omega), stageAt, Nat.add_assoc k t r,
          md (t + r) (by omega), if_neg (by omega)]
      · rw [if_neg c1, if_neg c2, hy idx, if_neg c0, if_neg (by omega)]

theorem blockInv_full (f g : Nat → α → α → α) (z : α) (t : Nat) (x y : List α) (B : Nat) (hlen : x.length = B*(2*t))
    (h : BlockInv f g z t x y B) (w : List α) (hwl : w.length = x.length)
    (hw : ∀ idx, idx < x.length → w[idx]? = some (stageAt f g z t x idx)) : y = w := by
  apply List.ext_getElem?
  intro idx
  by_cases hi : idx < x.length
  · rw [h.2 idx, if_pos (by omega), hw idx hi]
  · rw [List.getElem?_eq_none (by rw [h.1]; omega), List.getElem?_eq_none (by rw [hwl]; omega)]

/-- a loop over the blocks whose iteration `b` is the pass over block `b` (`L` the list, `Lok` its no-panic flag) computes
    the stage `w` -/
theorem blockLoop_eq (f g : Nat → α → α → α) (z : α) (t B : Nat) (x w : List α) (hlen : x.length = B*(2*t))
    (hwl : w.length = x.length) (hw : ∀ idx, idx < x.length → w[idx]? = some (stageAt f g z t x idx))
    (L : Nat → Nat → List α → List α) (Lok : Nat → Nat → List α → Bool)
    (h0 : ∀ b y, L 0 b y = y ∧ Lok 0 b y = true)
    (hs : ∀ r b y, b + (r+1) = B → y.length = x.length →
      L (r+1) b y = L r (b+1) (pass f g z t t (b*(2*t)) y) ∧ Lok (r+1) b y = Lok r (b+1) (pass f g z t t (b*(2*t)) y)) :
    L B 0 x = w ∧ Lok B 0 x = true := by
  have step : ∀ r b y, b + r = B → BlockInv f g z t x y b → BlockInv f g z t x (L r b y) B ∧ Lok r b y = true := by
    intro r
    induction r with
    | zero =>
      intro b y hb inv
      rw [(h0 b y).1, (h0 b y).2, ← hb]
      exact ⟨inv, rfl⟩
    | succ r ih =>
      intro b y hb inv
      rw [(hs r b y hb inv.1).1, (hs r b y hb inv.1).2]
      exact ih (b+1) _ (by omega) (blockInv_step f g z t x y b inv (by rw [hlen]; exact blk_le b B t (by omega)))
  obtain ⟨i1, i2⟩ := step B 0 x (Nat.zero_add B) (blockInv_zero f g z t x)
  exact ⟨blockInv_full f g z t x _ B hlen i1 w hwl hw, i2⟩

end TF.GenBridge.Bfly
