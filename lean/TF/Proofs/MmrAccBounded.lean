import TF.Model.MmrAcc
import TF.Spec.MmrAcc
/-!
# C11: the batch operations checked over a *free* hash algebra, on every MMR shape up to a bound (the checking functions)

`D := Term`, `H := Term.node`: two digests are equal iff they were computed in the same way from the same leaves,
so agreement over `Term` implies agreement for every concrete hash on the enumerated shapes.  The functions are executable;
`TF/Proofs/MmrAccFree.lean` shows that every case they enumerate is an instance of the general theorems of C11.
-/
namespace TF.MmrAccB
open TF.Model.MmrAcc TF.Spec.MmrAcc

inductive Term where
  | leaf (i : Nat)          -- original leaf `i`
  | fresh (k : Nat)         -- `k`-th new leaf value
  | node (l r : Term)
deriving DecidableEq, Repr

def f0 : Nat → Term := Term.leaf
def Hn : Term → Term → Term := Term.node

/-- from-scratch proof, `[]` when out of range (never used) -/
def pathOf (n : Nat) (f : Nat → Term) (i : Nat) : List Term := (authPath Hn n f i).getD []

/-- apply `(index, value)` updates in order -/
def updates (f : Nat → Term) : List (Nat × Term) → Nat → Term
  | [] => f
  | (i, x) :: rest => updates (update f i x) rest

/-- all lists of `k` distinct indices below `n` (all orders) -/
def distinctLists (n : Nat) : Nat → List (List Nat)
  | 0 => [[]]
  | k+1 => (distinctLists n k).flatMap fun l => ((List.range n).filter fun i => !l.contains i).map fun i => i :: l

/-- `batch_mutate_leaf_and_update_mps` with valid proofs for `idxs` (in that order), tracking the proofs of *all*
    leaves: peaks and all tracked proofs must be the from-scratch ones of the updated leaf list, and the list of
    modified proofs must be exactly the proofs that changed -/
def batchCase (n : Nat) (idxs : List Nat) : Bool :=
  let muts := idxs.zipIdx.map fun (i, k) => ({ leaf_index := i, new_leaf := Term.fresh k, auth := pathOf n f0 i } : LeafMutation Term)
  let f1 := updates f0 (idxs.zipIdx.map fun (i, k) => (i, Term.fresh k))
  let tracked := List.range n
  match batch_mutate_leaf_and_update_mps Hn { leaf_count := n, peaks := peaks Hn n f0 }
      (tracked.map (pathOf n f0)) tracked muts with
  | none => false
  | some (a, proofs, mods) =>
    a.leaf_count == n && a.peaks == peaks Hn n f1 &&
    proofs == tracked.map (pathOf n f1) &&
    mods == tracked.filter (fun i => pathOf n f0 i != pathOf n f1 i)

/-- `verify_batch_update` with valid proofs for `idxs`, `k` appended leaves: accepts the from-scratch peaks and
    rejects the old ones (unless nothing changes) -/
def verifyCase (n : Nat) (idxs : List Nat) (apps : Nat) : Bool :=
  let muts := idxs.zipIdx.map fun (i, k) => ({ leaf_index := i, new_leaf := Term.fresh k, auth := pathOf n f0 i } : LeafMutation Term)
  let f1 := updates f0 (idxs.zipIdx.map fun (i, k) => (i, Term.fresh k))
  let appLeafs := (List.range apps).map fun k => Term.fresh (100 + k)
  let f2 := updates f1 ((List.range apps).map fun k => (n + k, Term.fresh (100 + k)))
  let a : Acc Term := { leaf_count := n, peaks := peaks Hn n f0 }
  verify_batch_update Hn a (peaks Hn (n + apps) f2) appLeafs muts == some true &&
  (idxs.isEmpty && apps == 0 ||
    verify_batch_update Hn a (peaks Hn n f0) appLeafs muts == some false) &&
  (idxs.isEmpty ||
    verify_batch_update Hn a (peaks Hn (n + apps) f2) appLeafs (muts ++ muts.take 1) == some false)

def batchAll (nMax k : Nat) : Bool :=
  (List.range (nMax + 1)).all fun n => (distinctLists n k).all (batchCase n)

def verifyAll (nMax k apps : Nat) : Bool :=
  (List.range (nMax + 1)).all fun n => (distinctLists n k).all fun l => verifyCase n l apps

end TF.MmrAccB
