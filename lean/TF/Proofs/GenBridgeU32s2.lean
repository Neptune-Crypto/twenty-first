import TF.Gen.U32sLoops2
import TF.Proofs.GenBridgeU32s

/-!
The rest of `amount/u32s.rs` as regenerated from source (`TF/Gen/U32sLoops2.lean`) is the hand model: `get_bit`, `set_bit`,
`Ord`, `is_zero`/`zero`/`one`, `From<u32>`, `From<BigUint>`, `TryFrom<u64/u128>`, `rem_div`, `Mul`; conventions as in
`GenBridgeU32s.lean`.  `hN : N < 2^59 = 2^64 / 32` makes the `usize` product `32 * N` exact.  A `[u32; N]` can have up to
`isize::MAX / 4 < 2^61` elements: the sizes `2^59 ≤ N < 2^61` are left out, not impossible (there `32 * N` wraps).
-/
namespace TF.GenBridge.U32s2
open TF TF.Gen TF.U32s

theorem getbit_limb (x e : Nat) (he : e < 32) :
    ((x &&& (1 * 2 ^ (e % 32) % 4294967296)) != 0) = decide (x / 2 ^ e % 2 = 1) := by
  have h1 : e % 32 = e := Nat.mod_eq_of_lt he
  have h2 : (2:Nat) ^ e < 4294967296 := by
    have : (2:Nat) ^ e < 2 ^ 32 := Nat.pow_lt_pow_right (by omega) he
    simpa using this
  have hand : x &&& 2 ^ e = if x.testBit e then 2 ^ e else 0 := by
    apply Nat.eq_of_testBit_eq
    intro j
    rw [Nat.testBit_and, Nat.testBit_two_pow]
    by_cases h : e = j
    · subst h; cases hx : x.testBit e <;> simp
    · cases hx : x.testBit e <;> simp [h]
  rw [h1, Nat.one_mul, Nat.mod_eq_of_lt h2, hand, ← Nat.testBit_eq_decide_div_mod_eq]
  cases x.testBit e <;> simp

theorem setbit_limb (x e : Nat) (v : Bool) (hx : x < 4294967296) (he : e < 32) :
    ((x &&& (4294967295 - (1 * 2 ^ (e % 32) % 4294967296))) ||| ((if v then 1 else 0) * 2 ^ (e % 32) % 4294967296))
      = x - (x / 2 ^ e % 2) * 2 ^ e + (if v then 2 ^ e else 0) := by
  have h2 : (2:Nat) ^ e < 2 ^ 32 := Nat.pow_lt_pow_right (by omega) he
  have hv : 2 ^ e * v.toNat ≤ 2 ^ e := by
    have := Nat.mul_le_mul_left (2 ^ e) (Bool.toNat_le v)
    rwa [Nat.mul_one] at this
  have hc : (if v then 1 else 0) * 2 ^ e % 4294967296 = 2 ^ e * v.toNat := by
    rw [ite_eq_mul_toNat, Nat.one_mul, Nat.mul_comm]
    exact Nat.mod_eq_of_lt (Nat.lt_of_le_of_lt hv h2)
  have hl : x % 2 ^ e < 2 ^ e := Nat.mod_lt _ (Nat.two_pow_pos e)
  have hm : 2 ^ e * v.toNat + x % 2 ^ e < 2 ^ (e + 1) := by
    rw [Nat.pow_succ]; omega
  rw [Nat.mod_eq_of_lt he, Nat.one_mul, Nat.mod_eq_of_lt (show 2 ^ e < 4294967296 from h2), hc, setBit_limb_eq,
    show (4294967295 : Nat) - 2 ^ e = 2 ^ 32 - (2 ^ e + 1) by omega]
  -- bit `j` of both sides, for `j` below, at and above `e`
  apply Nat.eq_of_testBit_eq
  intro j
  rw [Nat.testBit_or, Nat.testBit_and, Nat.testBit_two_pow_sub_succ h2,
    Nat.testBit_two_pow, Nat.testBit_two_pow_mul_add _ hm, Nat.testBit_two_pow_mul_add _ hl,
    Nat.testBit_mod_two_pow, Nat.testBit_div_two_pow, Nat.testBit_two_pow_mul]
  rcases Nat.lt_trichotomy j e with h | rfl | h
  · simp [h, Nat.lt_succ_of_lt h, Nat.ne_of_gt h, Nat.not_le_of_lt h, Nat.lt_trans h he]
  · simp [he]
  · have hv : v.toNat.testBit (j - e) = false := by
      obtain ⟨k, hk⟩ : ∃ k, j - e = k + 1 := ⟨j - e - 1, by omega⟩
      rw [hk, Nat.testBit_succ]; cases v <;> exact Nat.zero_testBit k
    have hxj : (x.testBit j && decide (j < 32)) = x.testBit j := by
      by_cases h32 : j < 32
      · simp [h32]
      · rw [Nat.testBit_lt_two_pow (Nat.lt_of_lt_of_le hx
          (Nat.pow_le_pow_right (by decide : 0 < 2) (Nat.le_of_not_lt h32)))]; rfl
    have e1 : j - (e + 1) + (e + 1) = j := by omega
    simp [hv, hxj, e1, Nat.ne_of_lt h, Nat.not_lt_of_ge (Nat.succ_le_of_lt h)]

theorem gen_get_bit_eq (N : Nat) (a : List Nat) (i : Nat) (ha : a.length = N) (hN : N < 576460752303423488) :
    (if Loops.u32s_get_bit_ok N a i then some (Loops.u32s_get_bit N a i) else none) = getBit a i := by
  rw [getBit_closed, ha]
  have hm : (32 * N) % 18446744073709551616 = 32 * N := Nat.mod_eq_of_lt (by omega)
  have h32 : 32 * N < 18446744073709551616 := by omega
  by_cases h : i < 32 * N
  · have h1 : i / 32 < a.length := by omega
    have h2 : i % 32 < 32 := by omega
    simp only [Loops.u32s_get_bit_ok, Loops.u32s_get_bit, hm, h, h1, h2, h32, decide_true, if_true, Bool.and_self,
      Bool.true_and, getbit_limb _ _ h2]
    rfl
  · rw [if_neg h, Loops.u32s_get_bit_ok, hm, decide_eq_true h32, decide_eq_false h]; rfl

theorem gen_set_bit_eq (N : Nat) (a : List Nat) (i : Nat) (v : Bool) (ha : a.length = N)
    (hw : ∀ x ∈ a, x < 4294967296) (hN : N < 576460752303423488) :
    (if Loops.u32s_set_bit_ok N a i v then some (Loops.u32s_set_bit N a i v) else none) = setBit a i v := by
  rw [setBit_closed, ha]
  have hm : (32 * N) % 18446744073709551616 = 32 * N := Nat.mod_eq_of_lt (by omega)
  have h32 : 32 * N < 18446744073709551616 := by omega
  by_cases h : i < 32 * N
  · have h1 : i / 32 < a.length := by omega
    have h2 : i % 32 < 32 := by omega
    have hx : a.getD (i / 32) 0 < 4294967296 := by
      rw [getD_eq a _ h1]; exact hw _ (List.getElem_mem _)
    simp only [Loops.u32s_set_bit_ok, Loops.u32s_set_bit, hm, h, h1, h2, h32, decide_true, if_true, Bool.and_self,
      Bool.true_and, setbit_limb _ _ v hx h2]
    rfl
  · rw [if_neg h, Loops.u32s_set_bit_ok, hm, decide_eq_true h32, decide_eq_false h]; rfl

theorem gen_cmp_eq (N : Nat) (a b : List Nat) : Loops.u32s_cmp N a b = U32s.cmp a b := by
  simp only [Loops.u32s_cmp, U32s.cmp, lexCmp_eq_iter_cmp]

/-- `>=` as Rust evaluates it (provided method of `PartialOrd` over the translated `partial_cmp`) = the model's `ge` -/
theorem gen_ge_eq (N : Nat) (a b : List Nat) :
    TF.RustStd.ord_ge (Loops.u32s_partial_cmp N a b) = ge a b := by
  simp only [Loops.u32s_partial_cmp, gen_cmp_eq, ge]
  cases U32s.cmp a b <;> rfl

theorem gen_is_zero_eq (N : Nat) (a : List Nat) : Loops.u32s_is_zero N a = isZero a := rfl

theorem gen_zero_eq (N : Nat) : Loops.u32s_zero N = zero N := rfl

/-- `One::one` panics (index out of bounds) exactly for `N = 0` -/
theorem gen_one_eq (N : Nat) : (if Loops.u32s_one_ok N then some (Loops.u32s_one N) else none) = one N := by
  cases N with
  | zero => rfl
  | succ n => simp [Loops.u32s_one_ok, Loops.u32s_one, one, fromU32, zero, List.replicate_succ]

theorem gen_from_u32_eq (N v : Nat) :
    (if Loops.u32s_from_u32_ok N v then some (Loops.u32s_from_u32 N v) else none) = fromU32 N v := by
  cases N with
  | zero => rfl
  | succ n => simp [Loops.u32s_from_u32_ok, Loops.u32s_from_u32, Loops.u32s_zero, Loops.u32s_zero_ok, fromU32, zero,
      List.replicate_succ]

theorem from_biguint_for_eq (N : Nat) : ∀ n i rem ret, ret.length = i + n →
    Loops.u32s_from_biguint_for N n i rem ret = (rem / W ^ n, ret.take i ++ ofNat n rem) ∧
    Loops.u32s_from_biguint_for_ok N n i rem ret = true := by
  intro n
  induction n with
  | zero =>
    intro i rem ret hl
    have er : ret.take i = ret := List.take_of_length_le (by omega)
    simp [Loops.u32s_from_biguint_for, Loops.u32s_from_biguint_for_ok, ofNat, er]
  | succ n ih =>
    intro i rem ret hl
    have h1 : i < ret.length := by omega
    have h2 : rem % 4294967296 < 4294967296 := Nat.mod_lt _ (by omega)
    obtain ⟨e1, e2⟩ := ih (i + 1) (rem / 4294967296) (ret.set i (rem % 4294967296)) (by rw [List.length_set]; omega)
    constructor
    · simp only [Loops.u32s_from_biguint_for, e1, ofNat, W]
      rw [take_set_succ ret i _ h1, List.append_assoc, List.singleton_append, Nat.pow_succ,
        Nat.div_div_eq_div_mul, Nat.mul_comm]
    · simp only [Loops.u32s_from_biguint_for_ok, e2, h1, h2, decide_true]
      rfl

theorem gen_from_biguint_eq (N v : Nat) :
    Loops.u32s_from_biguint_ok N v = true ∧ Loops.u32s_from_biguint N v = fromBig N v := by
  obtain ⟨e1, e2⟩ := from_biguint_for_eq N N 0 v (Loops.u32s_zero N) (by simp [Loops.u32s_zero])
  constructor
  · simp only [Loops.u32s_from_biguint_ok, Loops.u32s_zero_ok, Nat.sub_zero, e2, Bool.and_self]
  · simp only [Loops.u32s_from_biguint, Nat.sub_zero, e1, List.take_zero, List.nil_append, fromBig]

/-- `Result<Self, _>` as the hand model's `Option` -/
def toOpt : Except String (List Nat) → Option (List Nat)
  | .ok v => some v
  | .error _ => none

theorem gen_try_from_u64_eq (N v : Nat) :
    Loops.u32s_try_from_u64_ok N v = true ∧ toOpt (Loops.u32s_try_from_u64 N v) = tryFromU64 N v := by
  obtain ⟨k, e⟩ := gen_from_biguint_eq N v
  constructor
  · simp only [Loops.u32s_try_from_u64_ok, k, ite_self]
  · simp only [Loops.u32s_try_from_u64, e, tryFromU64]
    match N with
    | 0 =>
      simp
      split <;> rfl
    | 1 =>
      simp [U32MAX]
      split <;> rfl
    | n + 2 => simp [toOpt]

theorem gen_try_from_u128_eq (N v : Nat) :
    Loops.u32s_try_from_u128_ok N v = true ∧ toOpt (Loops.u32s_try_from_u128 N v) = tryFromU128 N v := by
  obtain ⟨k, e⟩ := gen_from_biguint_eq N v
  constructor
  · simp only [Loops.u32s_try_from_u128_ok, k, ite_self]
  · simp only [Loops.u32s_try_from_u128, e, tryFromU128]
    match N with
    | 0 =>
      simp
      split <;> rfl
    | 1 =>
      simp [U32MAX]
      split <;> rfl
    | 2 =>
      simp
      split <;> rfl
    | 3 =>
      simp
      split <;> rfl
    | n + 4 => simp [toOpt]

theorem rem_div_for_eq (N : Nat) (a d : List Nat) (ha : WF N a) (hd : WF N d) (hN : N < 576460752303423488) :
    ∀ n q r, n ≤ 32 * N → WF N q → WF N r →
    (if Loops.u32s_rem_div_for_ok N a d 0 n q r then some (Loops.u32s_rem_div_for N a d 0 n q r) else none)
      = remDivLoop a d n q r := by
  intro n
  induction n with
  | zero => intro q r _ _ _; rfl
  | succ n ih =>
    intro q r hn hq hr
    have hNpos : 0 < 32 * N := by omega
    simp only [Loops.u32s_rem_div_for, Loops.u32s_rem_div_for_ok, Nat.zero_add, remDivLoop, remDivStep, gen_ge_eq,
      Loops.u32s_partial_cmp_ok, Loops.u32s_cmp_ok, Bool.true_and]
    rcases ite_some_none_cases (TF.GenBridge.U32s.gen_mul_two_eq N r hr.1) with ⟨k1, m1⟩ | ⟨k1, m1⟩
    swap
    · rw [k1, m1]; rfl
    have w1 := WF_of_norm (mulTwo_eq_norm hr) m1
    rw [k1, m1]
    generalize Loops.u32s_mul_two N r = r1 at *
    rcases ite_some_none_cases (gen_get_bit_eq N a n ha.1 hN) with ⟨k2, m2⟩ | ⟨k2, m2⟩
    swap
    · rw [k2, m2]; rfl
    rw [k2, m2]
    generalize Loops.u32s_get_bit N a n = bit at *
    simp only [Bool.true_and, Option.bind_some]
    rcases ite_some_none_cases (gen_set_bit_eq N r1 0 bit w1.1 w1.2 hN) with ⟨k3, m3⟩ | ⟨k3, m3⟩
    swap
    · rw [k3, m3]; rfl
    have w3 := setBit_wf w1 hNpos m3
    rw [k3, m3]
    generalize Loops.u32s_set_bit N r1 0 bit = r2 at *
    simp only [Bool.true_and, Option.bind_some]
    by_cases hge : ge r2 d = true
    · simp only [hge, if_true]
      rcases ite_some_none_cases (TF.GenBridge.U32s.gen_sub_eq N r2 d w3.1 hd.1) with ⟨k4, m4⟩ | ⟨k4, m4⟩
      swap
      · rw [k4, m4]; rfl
      have w4 := sub_wf w3 hd m4
      rw [k4, m4]
      generalize Loops.u32s_sub N r2 d = r3 at *
      rcases ite_some_none_cases (gen_set_bit_eq N q n true hq.1 hq.2 hN) with ⟨k5, m5⟩ | ⟨k5, m5⟩
      swap
      · rw [k5, m5]; rfl
      have w5 := setBit_wf hq (by omega : n < 32 * N) m5
      rw [k5, m5]
      generalize Loops.u32s_set_bit N q n true = q1 at *
      simp only [Bool.true_and, Option.bind_some]
      exact ih q1 r3 (by omega) w5 w4
    · simp only [hge, Bool.false_eq_true, if_false, Bool.true_and, Option.bind_some]
      exact ih q r2 (by omega) hq w3

theorem gen_rem_div_eq (N : Nat) (a d : List Nat) (ha : WF N a) (hd : WF N d) (hN : N < 576460752303423488) :
    (if Loops.u32s_rem_div_ok N a d then some (Loops.u32s_rem_div N a d) else none) = remDiv a d := by
  have hz := WF_zero N
  have h := rem_div_for_eq N a d ha hd hN (32 * N) (zero N) (zero N) (Nat.le_refl _) hz hz
  have hm : N * 32 % 18446744073709551616 = 32 * N := by omega
  have h32 : N * 32 < 18446744073709551616 := by omega
  simp only [Loops.u32s_rem_div_ok, Loops.u32s_rem_div, remDiv, Loops.u32s_is_zero_ok, gen_is_zero_eq, Bool.true_and,
    hm, h32, decide_true, Nat.sub_zero, ha.1]
  by_cases hzd : isZero d = true
  · simp [hzd]
  · simp only [hzd, Bool.not_false, Bool.true_and, if_false, Bool.false_eq_true]
    rw [Nat.mul_comm N 32, ← h]
    rfl

/-- the two `while add_carry` loops of `mul` are the same text -/
theorem mul_loop4_eq (N i j : Nat) : ∀ fuel res c k,
    Loops.u32s_mul_loop4 N i j fuel res c k = Loops.u32s_mul_loop3 N i j fuel res c k
  | 0, _, _, _ => rfl
  | fuel+1, res, c, k => by
    rw [Loops.u32s_mul_loop4, Loops.u32s_mul_loop3]
    simp only [mul_loop4_eq N i j fuel]

theorem mul_loop4_ok_eq (N i j : Nat) : ∀ fuel res c k,
    Loops.u32s_mul_loop4_ok N i j fuel res c k = Loops.u32s_mul_loop3_ok N i j fuel res c k
  | 0, _, _, _ => rfl
  | fuel+1, res, c, k => by
    rw [Loops.u32s_mul_loop4_ok, Loops.u32s_mul_loop3_ok]
    simp only [mul_loop4_ok_eq N i j fuel]

/-- the `u64` product of two limbs does not wrap, and neither does its high half as a `u32` -/
theorem limb_mul_exact {x y : Nat} (hx : x < 4294967296) (hy : y < 4294967296) :
    x * y % 18446744073709551616 = x * y ∧ x * y / 4294967296 % 4294967296 = x * y / 4294967296 := by
  have h : x * y < 4294967296 * 4294967296 := Nat.mul_lt_mul'' hx hy
  exact ⟨Nat.mod_eq_of_lt (by omega), Nat.mod_eq_of_lt (by omega)⟩

theorem getD_append_cons (pre : List Nat) (x : Nat) (l : List Nat) : (pre ++ x :: l).getD pre.length 0 = x := by
  simp

theorem set_append_cons (pre : List Nat) (x : Nat) (l : List Nat) (w : Nat) :
    (pre ++ x :: l).set pre.length w = pre ++ [w] ++ l := by
  simp

theorem loop3_false (N i j f : Nat) (res : List Nat) (k : Nat) :
    Loops.u32s_mul_loop3 N i j (f + 1) res false k = some (res, false, k) := by
  simp [Loops.u32s_mul_loop3]

theorem loop3_ok_false (N i j f : Nat) (res : List Nat) (k : Nat) :
    Loops.u32s_mul_loop3_ok N i j f res false k = true := by
  cases f <;> simp [Loops.u32s_mul_loop3_ok]

/-- one turn of `while add_carry { assert!(i + j + k < N); (res[i+j+k], add_carry) = res[i+j+k].overflowing_add(1);
    k += 1 }` entered with `add_carry = true`, the `usize` sums being exact -/
theorem loop3_true (N i j f : Nat) (res : List Nat) (k : Nat) (h : i + j + k + 1 < 18446744073709551616) :
    Loops.u32s_mul_loop3 N i j (f + 1) res true k
      = Loops.u32s_mul_loop3 N i j f (res.set (i + j + k) ((res.getD (i + j + k) 0 + 1) % 4294967296))
          (decide (4294967296 ≤ res.getD (i + j + k) 0 + 1)) (k + 1) ∧
    Loops.u32s_mul_loop3_ok N i j (f + 1) res true k
      = (decide (i + j + k < N) && (decide (i + j + k < res.length) &&
          Loops.u32s_mul_loop3_ok N i j f (res.set (i + j + k) ((res.getD (i + j + k) 0 + 1) % 4294967296))
            (decide (4294967296 ≤ res.getD (i + j + k) 0 + 1)) (k + 1))) := by
  have h1 : (i + j) % 18446744073709551616 = i + j := Nat.mod_eq_of_lt (by omega)
  have h2 : (i + j + k) % 18446744073709551616 = i + j + k := Nat.mod_eq_of_lt (by omega)
  have h3 : (k + 1) % 18446744073709551616 = k + 1 := Nat.mod_eq_of_lt (by omega)
  have h5 : i + j < 18446744073709551616 := by omega
  have h6 : i + j + k < 18446744073709551616 := by omega
  have h7 : k + 1 < 18446744073709551616 := by omega
  constructor
  · rw [Loops.u32s_mul_loop3]
    simp only [if_true, h1, h2, h3, ge_iff_le]
  · rw [Loops.u32s_mul_loop3_ok]
    simp only [if_true, h1, h2, h3, h5, h6, h7, ge_iff_le, decide_true, Bool.true_and]
    cases decide (i + j + k < N) <;> cases decide (i + j + k < res.length) <;> rfl

/-- the carry loop entered with `add_carry = true` at position `i + j + k` is the model's `ripple` on the limbs `l` from
    there on; the fuel is enough to reach either the normal exit or the failing `assert!` -/
theorem loop3_carry (N i j : Nat) (hN : N < 576460752303423488) : ∀ (l pre : List Nat) (k fuel : Nat),
    pre.length = i + j + k → pre.length + l.length = N → l.length + 1 ≤ fuel →
    (∀ t, ripple l = some t →
      (∃ k', Loops.u32s_mul_loop3 N i j fuel (pre ++ l) true k = some (pre ++ t, false, k')) ∧
      Loops.u32s_mul_loop3_ok N i j fuel (pre ++ l) true k = true) ∧
    (ripple l = none → Loops.u32s_mul_loop3_ok N i j fuel (pre ++ l) true k = false)
  | [], pre, k, fuel+1, hp, hl, _ => by
    refine ⟨fun t ht => (by cases ht), fun _ => ?_⟩
    rw [(loop3_true N i j fuel _ k (by omega)).2, decide_eq_false (show ¬ i + j + k < N by simp at hl; omega)]; rfl
  | x :: xs, pre, k, fuel+1, hp, hl, hf => by
    have hg := getD_append_cons pre x xs
    have hs := set_append_cons pre x xs
    rw [hp] at hg hs
    simp only [List.length_cons] at hl hf
    obtain ⟨e1, e2⟩ := loop3_true N i j fuel (pre ++ x :: xs) k (by omega)
    rw [e1, e2, hg, hs, decide_eq_true (show i + j + k < N by omega),
      decide_eq_true (show i + j + k < (pre ++ x :: xs).length by rw [List.length_append, List.length_cons]; omega),
      Bool.true_and, Bool.true_and, ripple]
    by_cases hc : x + 1 < 4294967296
    · obtain ⟨f, rfl⟩ : ∃ f, fuel = f + 1 := ⟨fuel - 1, by omega⟩
      rw [if_pos (show x + 1 < W from hc), Nat.mod_eq_of_lt hc, decide_eq_false (Nat.not_le_of_lt hc), loop3_false,
        loop3_ok_false]
      refine ⟨fun t ht => ?_, fun hn => by cases hn⟩
      cases ht
      exact ⟨⟨k + 1, by rw [List.append_assoc]; rfl⟩, rfl⟩
    · obtain ⟨ihs, ihn⟩ := loop3_carry N i j hN xs (pre ++ [(x + 1) % 4294967296]) (k + 1) fuel
        (by rw [List.length_append, hp]; rfl) (by rw [List.length_append]; simp; omega) (by omega)
      rw [if_neg (show ¬ x + 1 < W from hc), decide_eq_true (Nat.le_of_not_lt hc)]
      cases hr : ripple xs with
      | none => exact ⟨fun t ht => (by cases ht), fun _ => ihn hr⟩
      | some t' =>
        refine ⟨fun t ht => ?_, fun hn => by cases hn⟩
        cases ht
        obtain ⟨⟨k', e⟩, ok⟩ := ihs t' hr
        exact ⟨⟨k', by rw [e, List.append_assoc]; rfl⟩, ok⟩

/-- `(res[p], add_carry) = res[p].overflowing_add(v)` followed by the carry loop = the model's `addAt res p v`.  The fuel
    `N + 1` is the one the translator gives the `while` loops inside `u32s_mul_for2` (`TF/Gen/U32sLoops.lean`): one evaluation
    of the loop head per limb above `p`, and the one that leaves the loop. -/
theorem add_carry3 (N i j : Nat) (hN : N < 576460752303423488) (res : List Nat) (v p k0 : Nat)
    (hl : res.length = N) (hp : p < N) (hk : p + 1 = i + j + k0) :
    (∀ t, addAt res p v = some t →
      (∃ k', Loops.u32s_mul_loop3 N i j (N + 1) (res.set p ((res.getD p 0 + v) % 4294967296))
          (decide (res.getD p 0 + v ≥ 4294967296)) k0 = some (t, false, k')) ∧
      Loops.u32s_mul_loop3_ok N i j (N + 1) (res.set p ((res.getD p 0 + v) % 4294967296))
          (decide (res.getD p 0 + v ≥ 4294967296)) k0 = true) ∧
    (addAt res p v = none →
      Loops.u32s_mul_loop3_ok N i j (N + 1) (res.set p ((res.getD p 0 + v) % 4294967296))
          (decide (res.getD p 0 + v ≥ 4294967296)) k0 = false) := by
  have hidx : p < res.length := by omega
  obtain ⟨pre, x, l, rfl, rfl⟩ : ∃ pre x l, res = pre ++ x :: l ∧ pre.length = p :=
    ⟨res.take p, res.getD p 0, res.drop (p + 1),
      by rw [← drop_cons_getD res 0 p hidx, List.take_append_drop], by rw [List.length_take]; omega⟩
  rw [List.length_append, List.length_cons] at hl
  rw [addAt_append, getD_append_cons, set_append_cons, addHere]
  by_cases hc : x + v < 4294967296
  · rw [if_pos (show x + v < W from hc), Nat.mod_eq_of_lt hc, decide_eq_false (Nat.not_le_of_lt hc),
      loop3_false, loop3_ok_false]
    refine ⟨fun t ht => ?_, fun hn => by cases hn⟩
    cases ht
    exact ⟨⟨k0, by rw [List.append_assoc]; rfl⟩, rfl⟩
  · obtain ⟨cs, cn⟩ := loop3_carry N i j hN l (pre ++ [(x + v) % 4294967296]) k0 (N + 1)
      (by rw [List.length_append, ← hk]; rfl) (by rw [List.length_append]; simp; omega) (by omega)
    rw [if_neg (show ¬ x + v < W from hc), decide_eq_true (Nat.le_of_not_lt hc)]
    cases hr : ripple l with
    | none => exact ⟨fun t ht => (by cases ht), fun _ => cn hr⟩
    | some t' =>
      refine ⟨fun t ht => ?_, fun hn => by cases hn⟩
      cases ht
      obtain ⟨⟨k', e⟩, ok⟩ := cs t' hr
      exact ⟨⟨k', by rw [e, List.append_assoc]; rfl⟩, ok⟩

/-- One iteration of the `for j` loop of `mul` is the model's `mulStep`.  Both blocks `(res[p], add_carry) = …; while add_carry
    {…}` are `addAt` (`add_carry3`; the second `while` is the first, `mul_loop4_eq`); the rest follows the guards of `mulStep`
    (`hi == 0 && lo == 0`, `hi == 0`, the two `assert!`s on the position) through the generated value and its `_ok` twin. -/
theorem mul_for2_step (N : Nat) (hN : N < 576460752303423488) (a b : List Nat) (i j n : Nat) (res : List Nat)
    (hres : WF N res) (hi : i < a.length) (hj : j < b.length) (hx : a.getD i 0 < 4294967296)
    (hy : b.getD j 0 < 4294967296) (hiN : i < N) (hjN : j < N) :
    (∀ r, mulStep res (a.getD i 0) (b.getD j 0) (i + j) = some r →
      Loops.u32s_mul_for2 N a b i (n + 1) j res = Loops.u32s_mul_for2 N a b i n (j + 1) r ∧
      Loops.u32s_mul_for2_ok N a b i (n + 1) j res = Loops.u32s_mul_for2_ok N a b i n (j + 1) r) ∧
    (mulStep res (a.getD i 0) (b.getD j 0) (i + j) = none → Loops.u32s_mul_for2_ok N a b i (n + 1) j res = false) := by
  generalize hye : b.getD j 0 = y at hy ⊢
  generalize hxe : a.getD i 0 = x at hx ⊢
  obtain ⟨hl1, hl2⟩ := limb_mul_exact hx hy
  have hU1 : (i + j) % 18446744073709551616 = i + j := Nat.mod_eq_of_lt (by omega)
  have hU2 : (i + j + 1) % 18446744073709551616 = i + j + 1 := Nat.mod_eq_of_lt (by omega)
  have hU3 : i + j < 18446744073709551616 := by omega
  have hU4 : i + j + 1 < 18446744073709551616 := by omega
  have hxy : x * y < 18446744073709551616 := by rw [← hl1]; exact Nat.mod_lt _ (by omega)
  have hlo : x * y % 4294967296 < W := Nat.mod_lt _ W_pos
  have hhi : x * y / 4294967296 < W := Nat.div_lt_of_lt_mul (Nat.mul_lt_mul'' hx hy)
  rw [Loops.u32s_mul_for2, Loops.u32s_mul_for2_ok]
  simp only [hxe, hye, mul_loop4_eq, mul_loop4_ok_eq, mulStep, W, hres.1, hl1, hl2, hU1, hU2, hU3, hU4, hi, hj, hxy,
    decide_true, Bool.true_and]
  by_cases hz : x * y / 4294967296 = 0 ∧ x * y % 4294967296 = 0
  · obtain ⟨z1, z2⟩ := hz
    simp only [z1, z2, and_self, or_true, not_true_eq_false, if_false, if_true, beq_self_eq_true,
      Bool.and_self, Bool.or_true, Bool.true_and, Option.some.injEq, reduceCtorEq, false_imp_iff, and_true]
    rintro r rfl; exact ⟨rfl, rfl⟩
  · have hzb : (x * y / 4294967296 == 0 && x * y % 4294967296 == 0) = false :=
      Bool.eq_false_iff.mpr fun h =>
        hz ⟨beq_iff_eq.mp (Bool.and_eq_true_iff.mp h).1, beq_iff_eq.mp (Bool.and_eq_true_iff.mp h).2⟩
    simp only [hz, hzb, or_false, if_false, Bool.or_false, Bool.false_eq_true]
    by_cases hp : i + j < N
    · obtain ⟨as, an⟩ := add_carry3 N i j hN res (x * y % 4294967296) (i + j) 1 hres.1 hp rfl
      simp only [hp, not_true_eq_false, if_false, decide_true, Bool.true_and]
      cases h1 : addAt res (i + j) (x * y % 4294967296) with
      | none =>
        simp only [an h1, Bool.false_and, Option.bind_none, reduceCtorEq, false_imp_iff, implies_true, true_and]
      | some r1 =>
        obtain ⟨⟨k', e1⟩, ok1⟩ := as r1 h1
        have w1 : WF N r1 := WF_of_norm (addAt_spec hres hlo hp) h1
        simp only [e1, ok1, Option.bind_some, Option.elim_some, Bool.true_and]
        by_cases hh : x * y / 4294967296 = 0
        · simp only [hh, beq_self_eq_true, if_true, Option.some.injEq, reduceCtorEq, false_imp_iff, and_true]
          rintro r rfl; exact ⟨rfl, rfl⟩
        · have hhb : (x * y / 4294967296 == 0) = false := beq_eq_false_iff_ne.mpr hh
          simp only [hh, hhb, if_false, Bool.false_eq_true]
          by_cases hp1 : i + j + 1 < N
          · obtain ⟨as2, an2⟩ := add_carry3 N i j hN r1 (x * y / 4294967296) (i + j + 1) 2 w1.1 hp1 rfl
            simp only [hp1, not_true_eq_false, if_false, decide_true, Bool.true_and, w1.1]
            cases h2 : addAt r1 (i + j + 1) (x * y / 4294967296) with
            | none =>
              simp only [an2 h2, Bool.false_and, reduceCtorEq, false_imp_iff, implies_true, true_and]
            | some r2 =>
              obtain ⟨⟨k'', e2⟩, ok2⟩ := as2 r2 h2
              simp only [e2, ok2, Option.bind_some, Option.elim_some, Bool.true_and, Option.some.injEq, reduceCtorEq,
                false_imp_iff, and_true]
              rintro r rfl; exact ⟨rfl, rfl⟩
          · rw [if_pos hp1, decide_eq_false hp1]
            exact ⟨fun r hr => (by cases hr), fun _ => rfl⟩
    · rw [if_pos hp, decide_eq_false hp]
      exact ⟨fun r hr => (by cases hr), fun _ => rfl⟩

theorem mul_for2_spec (N : Nat) (hN : N < 576460752303423488) (a b : List Nat) (i : Nat) (hb : WF N b)
    (hi : i < a.length) (hx : a.getD i 0 < 4294967296) (hiN : i < N) :
    ∀ n j res, WF N res → j + n = N →
    (∀ r, mulInner res (a.getD i 0) i (b.drop j) j = some r →
      Loops.u32s_mul_for2 N a b i n j res = some r ∧ Loops.u32s_mul_for2_ok N a b i n j res = true) ∧
    (mulInner res (a.getD i 0) i (b.drop j) j = none → Loops.u32s_mul_for2_ok N a b i n j res = false) := by
  have hbl := hb.1
  intro n
  induction n with
  | zero =>
    intro j res _ hj
    rw [List.drop_eq_nil_of_le (by omega)]
    simp [mulInner, Loops.u32s_mul_for2, Loops.u32s_mul_for2_ok]
  | succ n ih =>
    intro j res hres hj
    have hjb : j < b.length := by omega
    have hy : b.getD j 0 < 4294967296 := by
      rw [getD_eq b j hjb]; exact hb.2 _ (List.getElem_mem _)
    obtain ⟨ss, sn⟩ := mul_for2_step N hN a b i j n res hres hi hjb hx hy hiN (by omega)
    rw [drop_cons_getD b 0 j hjb, mulInner]
    cases h : mulStep res (a.getD i 0) (b.getD j 0) (i + j) with
    | none => exact ⟨fun r hr => (by cases hr), fun _ => sn h⟩
    | some r1 =>
      rw [(ss r1 h).1, (ss r1 h).2]
      exact ih (j + 1) r1 (WF_of_norm (mulStep_spec hres hx hy (i + j)) h) (by omega)

theorem mul_for_spec (N : Nat) (hN : N < 576460752303423488) (a b : List Nat) (ha : WF N a) (hb : WF N b) :
    ∀ n i res, WF N res → i + n = N →
    (∀ r, mulOuter b res (a.drop i) i = some r →
      Loops.u32s_mul_for N a b n i res = some r ∧ Loops.u32s_mul_for_ok N a b n i res = true) ∧
    (mulOuter b res (a.drop i) i = none → Loops.u32s_mul_for_ok N a b n i res = false) := by
  have hal := ha.1
  intro n
  induction n with
  | zero =>
    intro i res _ hi
    rw [List.drop_eq_nil_of_le (by omega)]
    simp [mulOuter, Loops.u32s_mul_for, Loops.u32s_mul_for_ok]
  | succ n ih =>
    intro i res hres hi
    have hia : i < a.length := by omega
    have hx : a.getD i 0 < 4294967296 := by
      rw [getD_eq a i hia]; exact ha.2 _ (List.getElem_mem _)
    obtain ⟨fs, fn⟩ := mul_for2_spec N hN a b i hb hia hx (by omega) N 0 res hres (by omega)
    rw [drop_cons_getD a 0 i hia, Loops.u32s_mul_for, Loops.u32s_mul_for_ok]
    simp only [mulOuter, Nat.sub_zero]
    rw [List.drop_zero] at fs fn
    cases h1 : mulInner res (a.getD i 0) i b 0 with
    | none =>
      simp only [fn h1, Bool.false_and, Option.bind_none]
      simp
    | some r1 =>
      obtain ⟨e1, ok1⟩ := fs r1 h1
      simp only [e1, ok1, Option.bind_some, Option.elim_some, Bool.true_and]
      exact ih (i + 1) r1 (WF_of_norm (mulInner_spec hx i b res 0 hres hb.2) h1) (by omega)

/-- `u32s_mul` has fuel (`none` = out of fuel), so both directions are stated: a value of the model is reached within the fuel
    with no `assert!` failing, and a panic of the model is a failing `assert!`/index check -/
theorem gen_mul_eq (N : Nat) (a b : List Nat) (ha : WF N a) (hb : WF N b) (hN : N < 576460752303423488) :
    (∀ r, mul a b = some r → Loops.u32s_mul N a b = some r ∧ Loops.u32s_mul_ok N a b = true) ∧
    (mul a b = none → Loops.u32s_mul_ok N a b = false) := by
  obtain ⟨fs, fn⟩ := mul_for_spec N hN a b ha hb N 0 (List.replicate N 0) (WF_zero N) (by omega)
  rw [List.drop_zero] at fs fn
  simp only [mul, Loops.u32s_mul, Loops.u32s_mul_ok, Nat.sub_zero, zero, ha.1]
  constructor
  · intro r hr
    obtain ⟨e, ok⟩ := fs r hr
    simp [e, ok]
  · exact fn

end TF.GenBridge.U32s2
