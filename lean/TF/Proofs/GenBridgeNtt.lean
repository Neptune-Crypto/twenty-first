import TF.Gen.NttLoops
import TF.Proofs.NttBasic
import TF.Proofs.GenBridgeButterfly
/-!
The loops of `math/ntt.rs` as regenerated from source (`TF/Gen/NttLoops.lean`, written by `tools/rs2lean_ext.py`) against
the model `TF/Model/Ntt.lean` (C06).  The regenerated functions take the field operations as a parameter
`ops : TF.Model.Ntt.Ops σ α` (`u + v` = `ops.add`, `v *= w` = `ops.scale w v`, `w *= w_m` = `ops.smul`, `mod_pow_u32` =
`ops.spow`, …), a slice `&mut [FF]` is a `List α`, and each comes with an `_ok` twin.

This file: every loop on its own, and one butterfly stage.  Most loops occur in `ntt.rs` once with `u32` and once with
`usize` counters; such a loop is a function `F` (with its `_ok` twin) given by its two equations for a word size `M`, and
the regenerated functions are instances whose equations hold by `rfl`.  The in-place butterfly pass and the invariant of
the loop over the blocks of a stage come from `GenBridgeButterfly.lean`.  `GenBridgeNtt2.lean` assembles the functions.
Core Lean only.
-/
namespace TF.GenBridge.Ntt
open TF TF.Gen TF.Model.Ntt

theorem shl_or_bit (r b : Nat) (hb : b < 2) : (r * 2) ||| b = 2 * r + b := by
  have h := Nat.two_pow_add_eq_or_of_lt (i := 1) (b := b) (by simpa using hb) r
  simp only [Nat.pow_one] at h
  rw [Nat.mul_comm r 2, ← h]

/-- the loop `r = (r << 1) | (n & 1); n >>= 1` on words of `w` bits: no shift overflows while `r` has room -/
theorem bitLoop_eq (w M : Nat) (hM : 2^w ≤ M) (F : Nat → Nat → Nat → Nat → Nat × Nat)
    (h0 : ∀ it nv r, F 0 it nv r = (nv, r))
    (hs : ∀ n it nv r, F (n+1) it nv r = F n (it+1) (nv / 2) ((r * 2 % M) ||| (nv &&& 1))) :
    ∀ cnt it nv r, cnt ≤ w → r < 2^(w - cnt) → (F cnt it nv r).2 = bitrevAux cnt nv r := by
  intro cnt
  induction cnt with
  | zero => intro it nv r _ _; rw [h0]; rfl
  | succ c ih =>
    intro it nv r hc hr
    have hp : 2^(w - (c+1)) * 2 = 2^(w - c) := by rw [← Nat.pow_succ]; congr 1; omega
    have hw : 2^(w - c) ≤ 2^w := Nat.pow_le_pow_right (by decide) (Nat.sub_le _ _)
    rw [hs, Nat.mod_eq_of_lt (by omega), Nat.and_one_is_mod, shl_or_bit r _ (Nat.mod_lt _ (by decide)), bitrevAux]
    exact ih _ _ _ (by omega) (by omega)

theorem bitreverse_for_ok : ∀ cnt it nv r, Loops.ntt_bitreverse_for_ok cnt it nv r = true := by
  intro cnt
  induction cnt with
  | zero => intros; rfl
  | succ c ih => intro it nv r; simp only [Loops.ntt_bitreverse_for_ok, ih]

theorem bitreverse_usize_for_ok : ∀ cnt it nv r, Loops.ntt_bitreverse_usize_for_ok cnt it nv r = true := by
  intro cnt
  induction cnt with
  | zero => intros; rfl
  | succ c ih => intro it nv r; simp only [Loops.ntt_bitreverse_usize_for_ok, ih]

theorem gen_bitreverse_eq (n l : Nat) (hl : l ≤ 32) :
    Loops.ntt_bitreverse n l = bitreverse n l ∧ Loops.ntt_bitreverse_ok n l = true :=
  ⟨bitLoop_eq 32 4294967296 (by decide) _ (fun _ _ _ => rfl) (fun _ _ _ _ => rfl) l 0 n 0 hl (Nat.two_pow_pos _),
    bitreverse_for_ok l 0 n 0⟩

theorem gen_bitreverse_usize_eq (n l : Nat) (hl : l ≤ 64) :
    Loops.ntt_bitreverse_usize n l = bitreverse n l ∧ Loops.ntt_bitreverse_usize_ok n l = true :=
  ⟨bitLoop_eq 64 18446744073709551616 (by decide) _ (fun _ _ _ => rfl) (fun _ _ _ _ => rfl) l 0 n 0 hl
    (Nat.two_pow_pos _), bitreverse_usize_for_ok l 0 n 0⟩

variable {σ α : Type}

theorem swap_toList (a : Array α) (i j : Nat) (hi : i < a.size) (hj : j < a.size) :
    (a.swap i j hi hj).toList = TF.RustStd.swap a.toList i j := by
  have e1 : a.toList[i]? = some a[i] := by simp [hi]
  have e2 : a.toList[j]? = some a[j] := by simp [hj]
  simp only [TF.RustStd.swap, e1, e2, Array.swap_def, Array.toList_set]

/-- the loop `for k in 0..len { let rk = br(k); if k < rk { x.swap(rk, k) } }` with either bit-reversal function:
    the model's `swapLoop`, value and panic (`swap` out of bounds ⇔ `_ok = false`) -/
theorem swapLoop_eq (log : Nat) (br : Nat → Nat) (brOk : Nat → Bool) (hbr : ∀ k, br k = bitreverse k log ∧ brOk k = true)
    (F : Nat → Nat → List α → List α) (Fok : Nat → Nat → List α → Bool)
    (h0 : ∀ k x, F 0 k x = x)
    (hs : ∀ n k x, F (n+1) k x = F n (k+1) (if decide (k < br k) then TF.RustStd.swap x (br k) k else x))
    (k0 : ∀ k x, Fok 0 k x = true)
    (ks : ∀ n k x, Fok (n+1) k x = (brOk k &&
      ((if decide (k < br k) then decide (br k < x.length) && decide (k < x.length) else true) &&
        Fok n (k+1) (if decide (k < br k) then TF.RustStd.swap x (br k) k else x)))) :
    ∀ n k (a : Array α),
      (if Fok n k a.toList then some (F n k a.toList) else none) = (swapLoop log n k a).map Array.toList := by
  intro n
  induction n with
  | zero => intro k a; rw [k0, h0]; rfl
  | succ n ih =>
    intro k a
    rw [ks, hs, (hbr k).1, (hbr k).2, Bool.true_and, swapLoop]
    by_cases h : k < bitreverse k log
    · simp only [h, decide_true, if_true]
      by_cases hb : bitreverse k log < a.size ∧ k < a.size
      · rw [dif_pos hb, ← ih, swap_toList a _ _ hb.1 hb.2, Array.length_toList, decide_eq_true hb.1, decide_eq_true hb.2]
        rfl
      · rw [dif_neg hb, Array.length_toList, ← Bool.decide_and, decide_eq_false hb]
        rfl
    · simp only [h, decide_false, Bool.false_eq_true, if_false, Bool.true_and]
      exact ih (k + 1) a

theorem unchecked_for_eq (ops : Ops σ α) (log : Nat) (hl : log ≤ 32) (n k : Nat) (a : Array α) :
    (if Loops.ntt_unchecked_for_ok ops log n k a.toList then some (Loops.ntt_unchecked_for ops log n k a.toList) else none)
      = (swapLoop log n k a).map Array.toList :=
  swapLoop_eq log _ _ (fun k => gen_bitreverse_eq k log hl) _ _ (fun _ _ => rfl) (fun _ _ _ => rfl) (fun _ _ => rfl)
    (fun _ _ _ => rfl) n k a

theorem bitreverse_order_for2_eq (ops : Ops σ α) (log : Nat) (hl : log ≤ 64) (n k : Nat) (a : Array α) :
    (if Loops.ntt_bitreverse_order_for2_ok ops log n k a.toList then
        some (Loops.ntt_bitreverse_order_for2 ops log n k a.toList) else none)
      = (swapLoop log n k a).map Array.toList :=
  swapLoop_eq log _ _ (fun k => gen_bitreverse_usize_eq k log hl) _ _ (fun _ _ => rfl) (fun _ _ _ => rfl) (fun _ _ => rfl)
    (fun _ _ _ => rfl) n k a

/-- the in-place butterfly pass over the block `[k, k + 2m)` with unbounded index arithmetic:
    `u = x[k+j]; v = w · x[k+j+m]; x[k+j] = u + v; x[k+j+m] = u - v; w *= w_m` for `j = j₀ .. j₀+n-1` -/
def refBlock {σ α : Type} (ops : Ops σ α) (m : Nat) (w_m : σ) (k : Nat) : Nat → Nat → List α → σ → List α × σ
  | 0, _, x, w => (x, w)
  | n+1, j, x, w =>
    let u := x.getD (k + j) ops.zero
    let v := ops.scale w (x.getD (k + j + m) ops.zero)
    refBlock ops m w_m k n (j + 1) ((x.set (k + j) (ops.add u v)).set (k + j + m) (ops.sub u v)) (ops.smul w w_m)

/-- the inner `for j` loop with the indices `(k + j) % M`, `((k + j) % M + m) % M` of a word size `M` is `refBlock`, with no
    index out of range and no overflow, whenever the block lies inside the slice -/
theorem bflyLoop_eq (ops : Ops σ α) (M m : Nat) (w_m : σ) (k : Nat)
    (F : Nat → Nat → List α → σ → List α × σ) (Fok : Nat → Nat → List α → σ → Bool)
    (h0 : ∀ j x w, F 0 j x w = (x, w))
    (hs : ∀ n j x w, F (n+1) j x w =
      let a := (k + j) % M
      let b := (a + m) % M
      let u := x.getD a ops.zero
      let v := ops.scale w (x.getD b ops.zero)
      F n (j + 1) ((x.set a (ops.add u v)).set b (ops.sub u v)) (ops.smul w w_m))
    (k0 : ∀ j x w, Fok 0 j x w = true)
    (ks : ∀ n j x w, Fok (n+1) j x w =
      let a := (k + j) % M
      let b := (a + m) % M
      let u := x.getD a ops.zero
      let v := ops.scale w (x.getD b ops.zero)
      let x' := x.set a (ops.add u v)
      ((decide (k + j < M) && decide (a < x.length)) &&
        (((decide (k + j < M) && decide (a + m < M)) && decide (b < x.length)) &&
          ((decide (k + j < M) && decide (a < x.length)) &&
            (((decide (k + j < M) && decide (a + m < M)) && decide (b < x'.length)) &&
              Fok n (j + 1) (x'.set b (ops.sub u v)) (ops.smul w w_m)))))) :
    ∀ n j (x : List α) (w : σ), k + j + n + m ≤ x.length → x.length < M →
      F n j x w = refBlock ops m w_m k n j x w ∧ Fok n j x w = true := by
  intro n
  induction n with
  | zero => intro j x w _ _; exact ⟨h0 j x w, k0 j x w⟩
  | succ n ih =>
    intro j x w hlen hU
    have h6 : k + j + m < x.length := by omega
    have h5 : k + j < x.length := Nat.lt_of_le_of_lt (Nat.le_add_right _ _) h6
    have h4 : k + j + m < M := Nat.lt_trans h6 hU
    have h3 : k + j < M := Nat.lt_trans h5 hU
    have h2 : (k + j + m) % M = k + j + m := Nat.mod_eq_of_lt h4
    have h1 : (k + j) % M = k + j := Nat.mod_eq_of_lt h3
    obtain ⟨e, ok⟩ := ih (j + 1)
      ((x.set (k + j) (ops.add (x.getD (k + j) ops.zero) (ops.scale w (x.getD (k + j + m) ops.zero)))).set (k + j + m)
        (ops.sub (x.getD (k + j) ops.zero) (ops.scale w (x.getD (k + j + m) ops.zero))))
      (ops.smul w w_m)
      (by simp only [List.length_set]; omega) (by simp only [List.length_set]; exact hU)
    constructor
    · simp only [hs, refBlock, h1, h2, e]
    · simp only [ks, h1, h2, h3, h4, h5, h6, List.length_set, decide_true, Bool.and_self, ok]

theorem unchecked_for4_eq (ops : Ops σ α) (m : Nat) (w_m : σ) (k n j : Nat) (x : List α) (w : σ)
    (hlen : k + j + n + m ≤ x.length) (hU : x.length < 4294967296) :
    Loops.ntt_unchecked_for4 ops m w_m k n j x w = refBlock ops m w_m k n j x w ∧
    Loops.ntt_unchecked_for4_ok ops m w_m k n j x w = true :=
  bflyLoop_eq ops 4294967296 m w_m k _ _ (fun _ _ _ => rfl) (fun _ _ _ _ => rfl) (fun _ _ _ => rfl) (fun _ _ _ _ => rfl)
    n j x w hlen hU

theorem intt_noswap_for4_eq (ops : Ops σ α) (root : Nat → Option σ) (m : Nat) (w_m : σ) (k n j : Nat) (x : List α) (w : σ)
    (hlen : k + j + n + m ≤ x.length) (hU : x.length < 18446744073709551616) :
    Loops.intt_noswap_for4 ops root m w_m k n j x w = refBlock ops m w_m k n j x w ∧
    Loops.intt_noswap_for4_ok ops root m w_m k n j x w = true :=
  bflyLoop_eq ops 18446744073709551616 m w_m k _ _ (fun _ _ _ => rfl) (fun _ _ _ _ => rfl) (fun _ _ _ => rfl)
    (fun _ _ _ _ => rfl) n j x w hlen hU

/-- the two results of a butterfly with twiddle `w`; `GenBridgeButterfly.lean` is used with `fun idx => bfAdd ops (tw idx)`,
    `fun idx => bfSub ops (tw idx)` for a twiddle `tw idx` at the position written -/
def bfAdd (ops : Ops σ α) (w : σ) (u v : α) : α := ops.add u (ops.scale w v)
def bfSub (ops : Ops σ α) (w : σ) (u v : α) : α := ops.sub u (ops.scale w v)

/-- `refBlock` is an in-place pass; the twiddle at a position is the running product at its round -/
theorem refBlock_eq_pass (ops : Ops σ α) (m : Nat) (w_m : σ) (k : Nat) : ∀ n j (x : List α) (w : σ),
    refBlock ops m w_m k n j x w =
      (Bfly.pass (fun idx => bfAdd ops (wp ops w_m w (idx - (k + j)))) (fun idx => bfSub ops (wp ops w_m w (idx - (k + j + m))))
        ops.zero m n (k + j) x, wp ops w_m w n) := by
  intro n
  induction n with
  | zero => intro j x w; rfl
  | succ n ih =>
    intro j x w
    rw [refBlock, ih, Bfly.pass, bfAdd, bfSub, Nat.sub_self, Nat.sub_self]
    refine congrArg (·, _) (Bfly.pass_congr _ _ _ _ _ _ _ _ _ (fun idx h _ => ?_) (fun idx h _ => ?_))
    · exact congrArg (bfAdd ops) (by rw [show idx - (k + j) = idx - (k + (j + 1)) + 1 by omega]; rfl)
    · exact congrArg (bfSub ops) (by rw [show idx - (k + j + m) = idx - (k + (j + 1) + m) + 1 by omega]; rfl)

/-- one butterfly stage with half-block size `t` on a list, pointwise; `tw idx` is the twiddle used at position `idx`
    (`ntt_unchecked`, `intt_noswap`: by the offset in the block; `ntt_noswap`: by the block) -/
abbrev stageAt (ops : Ops σ α) (t : Nat) (tw : Nat → σ) : List α → Nat → α :=
  Bfly.stageAt (fun idx => bfAdd ops (tw idx)) (fun idx => bfSub ops (tw idx)) ops.zero t

abbrev BlockInv (ops : Ops σ α) (t : Nat) (tw : Nat → σ) : List α → List α → Nat → Prop :=
  Bfly.BlockInv (fun idx => bfAdd ops (tw idx)) (fun idx => bfSub ops (tw idx)) ops.zero t

theorem mod_half (i t : Nat) (ht : 0 < t) : i % t = if i % (2*t) < t then i % (2*t) else i % (2*t) - t := by
  rw [← Nat.mod_mul_left_mod i 2 t]
  split
  · exact Nat.mod_eq_of_lt ‹_›
  · rename_i h
    have : i % (2*t) < 2*t := Nat.mod_lt _ (by omega)
    rw [Nat.mod_eq_sub_mod (Nat.le_of_not_lt h), Nat.mod_eq_of_lt (by omega)]

/-- the model's functional stage (`Array.ofFn`, twiddle table `powers`) is `stageAt` with the twiddle of the offset in the
    half-block -/
theorem stage_toList (ops : Ops σ α) (m : Nat) (hm : 0 < m) (w_m : σ) (a : Array α) (idx : Nat) (hi : idx < a.size) :
    (stage ops m (powers ops w_m m) a).toList[idx]?
      = some (stageAt ops m (fun i => wp ops w_m ops.sone (i % m)) a.toList idx) := by
  have htw := (powers_wp ops w_m m).2 (idx % m) (Nat.mod_lt _ hm)
  have hle := Nat.mod_le idx (2*m)
  simp only [Array.getElem?_toList, stage, Array.getElem?_ofFn, hi, dite_true, stageAt, Bfly.stageAt, bfAdd, bfSub,
    Array.getD_eq_getD_getElem?, htw, Option.getD_some, List.getD_eq_getElem?_getD]
  rw [mod_half idx m hm]
  split
  · rw [show idx - idx % (2*m) + idx % (2*m) = idx by omega]
  · rw [show idx - idx % (2*m) + (idx % (2*m) - m) = idx - m by omega, show idx - m + m = idx by omega]

theorem stageNoswap_toList (ops : Ops σ α) (t : Nat) (zetas : Array σ) (a : Array α) (idx : Nat) (hi : idx < a.size) :
    (stageNoswap ops t zetas a).toList[idx]?
      = some (stageAt ops t (fun i => zetas.toList.getD (i / (2*t)) ops.szero) a.toList idx) := by
  simp only [Array.getElem?_toList, stageNoswap, Array.getElem?_ofFn, hi, dite_true, stageAt, Bfly.stageAt, bfAdd, bfSub,
    Array.getD_eq_getD_getElem?, List.getD_eq_getElem?_getD]

/-- the block loop `while k < len { <pass>; k += 2 * m }` with counters on words of size `M`, for a body that advances
    `BlockInv` by one block: started at block `b` with `r` blocks left it finishes within `r + 1` evaluations of the loop
    head, nothing overflows, and the invariant holds for all `B` blocks at the end -/
theorem blockLoop_eq (ops : Ops σ α) (M m N : Nat) (hm : 0 < m) (tw : Nat → σ)
    (body : Nat → List α → List α) (bodyOk : Nat → List α → Bool)
    (L : Nat → List α → Nat → Option (List α × Nat)) (Lok : Nat → List α → Nat → Bool)
    (hs : ∀ f x k, L (f+1) x k = if decide (k < N) then L f (body k x) ((k + (2*m) % M) % M) else some (x, k))
    (ks : ∀ f x k, Lok (f+1) x k = if decide (k < N) then
      (bodyOk k x && ((decide (2*m < M) && decide (k + (2*m) % M < M)) && Lok f (body k x) ((k + (2*m) % M) % M)))
      else true)
    (x : List α) (B : Nat) (hlen : x.length = B*(2*m)) (hN : x.length = N) (hM : N < M)
    (hbody : ∀ b y, b*(2*m) + 2*m ≤ x.length → BlockInv ops m tw x y b →
      bodyOk (b*(2*m)) y = true ∧ BlockInv ops m tw x (body (b*(2*m)) y) (b+1)) :
    ∀ r b (y : List α), b + r = B → BlockInv ops m tw x y b → ∀ fuel, r + 1 ≤ fuel →
    ∃ z, L fuel y (b*(2*m)) = some (z, N) ∧ Lok fuel y (b*(2*m)) = true ∧ BlockInv ops m tw x z B := by
  subst hN
  intro r
  induction r with
  | zero =>
    intro b y hb inv fuel hf
    obtain ⟨f, rfl⟩ : ∃ f, fuel = f + 1 := ⟨fuel - 1, by omega⟩
    obtain rfl : b = B := hb
    refine ⟨y, ?_, ?_, inv⟩
    · rw [hs, hlen, decide_eq_false (Nat.lt_irrefl _)]; rfl
    · rw [ks, hlen, decide_eq_false (Nat.lt_irrefl _)]; rfl
  | succ r ih =>
    intro b y hb inv fuel hf
    obtain ⟨f, rfl⟩ : ∃ f, fuel = f + 1 := ⟨fuel - 1, by omega⟩
    have hk : b*(2*m) + 2*m ≤ x.length := by rw [hlen]; exact Blocks.blk_le b B m (by omega)
    obtain ⟨ok, inv'⟩ := hbody b y hk inv
    obtain ⟨z, hz, hzok, hzi⟩ := ih (b+1) _ (by omega) inv' f (by omega)
    have h2m : (2*m) % M = 2*m := Nat.mod_eq_of_lt (by omega)
    have hkk : (b*(2*m) + 2*m) % M = (b+1)*(2*m) := by rw [Nat.add_mul, Nat.one_mul]; exact Nat.mod_eq_of_lt (by omega)
    refine ⟨z, ?_, ?_, hzi⟩
    · rw [hs, decide_eq_true (by omega : b*(2*m) < x.length), if_pos rfl, h2m, hkk, hz]
    · rw [ks, decide_eq_true (by omega : b*(2*m) < x.length), if_pos rfl, h2m, hkk, ok, hzok,
        decide_eq_true (by omega : 2*m < M), decide_eq_true (by omega : b*(2*m) + 2*m < M)]
      rfl

theorem blk_mod_lo (b m r : Nat) (hr : r < m) : (b*(2*m) + r) % m = r := by
  rw [← Nat.mul_assoc, Nat.mul_add_mod_self_right, Nat.mod_eq_of_lt hr]

theorem blk_mod_hi (b m r : Nat) (hr : r < m) : (b*(2*m) + m + r) % m = r := by
  rw [Nat.add_assoc, ← Nat.mul_assoc, Nat.mul_add_mod_self_right, Nat.add_mod_left, Nat.mod_eq_of_lt hr]

/-- the block loop whose body is a butterfly loop `F4` (equal to `refBlock` on blocks inside the slice) computes the model's
    `stage`: within `B + 1` evaluations of the loop head, with no overflow -/
theorem blockLoop_stage (ops : Ops σ α) (M m : Nat) (hm : 0 < m) (w_m : σ) (a : Array α)
    (F4 : Nat → List α → List α × σ) (F4ok : Nat → List α → Bool)
    (h4 : ∀ k y, k + 0 + m + m ≤ y.length → y.length < M →
      F4 k y = refBlock ops m w_m k m 0 y ops.sone ∧ F4ok k y = true)
    (L : Nat → List α → Nat → Option (List α × Nat)) (Lok : Nat → List α → Nat → Bool)
    (hs : ∀ f x k, L (f+1) x k =
      if decide (k < a.size) then L f (F4 k x).1 ((k + (2*m) % M) % M) else some (x, k))
    (ks : ∀ f x k, Lok (f+1) x k = if decide (k < a.size) then
      (F4ok k x && ((decide (2*m < M) && decide (k + (2*m) % M < M)) && Lok f (F4 k x).1 ((k + (2*m) % M) % M)))
      else true)
    (B : Nat) (hlen : a.size = B*(2*m)) (hM : a.size < M) (fuel : Nat) (hf : B + 1 ≤ fuel) :
    L fuel a.toList 0 = some ((stage ops m (powers ops w_m m) a).toList, a.size) ∧ Lok fuel a.toList 0 = true := by
  have hl : a.toList.length = a.size := Array.length_toList
  obtain ⟨z, hz, hzok, hzi⟩ := blockLoop_eq ops M m a.size hm (fun i => wp ops w_m ops.sone (i % m))
    (fun k x => (F4 k x).1) F4ok L Lok hs ks a.toList B (hl.trans hlen) hl hM
    (fun b y hk inv => by
      obtain ⟨e, ok⟩ := h4 (b*(2*m)) y (by rw [inv.1]; omega) (by rw [inv.1, hl]; exact hM)
      refine ⟨ok, ?_⟩
      rw [e, refBlock_eq_pass, Bfly.pass_congr _ _ (fun idx => bfAdd ops (wp ops w_m ops.sone (idx % m)))
        (fun idx => bfSub ops (wp ops w_m ops.sone (idx % m))) _ _ _ _ _
        (fun idx h _ => by
          obtain ⟨r, rfl⟩ := Nat.exists_eq_add_of_le h
          rw [Nat.add_zero, Nat.add_sub_cancel_left, blk_mod_lo b m r (by omega)])
        (fun idx h _ => by
          obtain ⟨r, rfl⟩ := Nat.exists_eq_add_of_le h
          rw [Nat.add_zero, Nat.add_sub_cancel_left, blk_mod_hi b m r (by omega)])]
      exact Bfly.blockInv_step _ _ _ m _ y b inv hk)
    B 0 a.toList (Nat.zero_add _) (Bfly.blockInv_zero _ _ _ _ _) fuel hf
  rw [Nat.zero_mul] at hz hzok
  rw [← Bfly.blockInv_full _ _ _ m a.toList z B (hl.trans hlen) hzi _ (by rw [Array.length_toList, NttProofs.stage_size, hl])
    (fun idx hi => stage_toList ops m hm w_m a idx (hl ▸ hi))]
  exact ⟨hz, hzok⟩

theorem two_mul_mul_two_pow (m n : Nat) : 2*m * 2^n = m * 2^(n+1) := by
  rw [Nat.pow_succ, Nat.mul_comm 2 m, Nat.mul_assoc, Nat.mul_comm 2]

/-- the stage loop `for _ in 0..log { w_m = ω^(len/(2m)); <block loop>; m *= 2 }` on words of size `M`, with a block loop
    `L3` that computes the model's `stage`: the model's `stagesLoop`, for every half-block size `m` with `m·2ⁿ = len`;
    `pre` stands for the overflow checks at the head of the body, `c` for the slack the translator adds to the fuel of the
    block loop (`x.length + 1` in `ntt_unchecked`, `x.length + 65` in `intt_noswap`) -/
theorem stageLoop_eq (ops : Ops σ α) (M c N : Nat) (omega : σ) (hc : 1 ≤ c) (hN : N < M)
    (L3 : Nat → σ → Nat → List α → Nat → Option (List α × Nat)) (L3ok : Nat → σ → Nat → List α → Nat → Bool)
    (h3 : ∀ m w_m (a : Array α) B fuel, 0 < m → a.size = B*(2*m) → a.size = N → B + 1 ≤ fuel →
      L3 m w_m fuel a.toList 0 = some ((stage ops m (powers ops w_m m) a).toList, N) ∧ L3ok m w_m fuel a.toList 0 = true)
    (pre : Nat → Bool) (hpre : ∀ m, 0 < m → 2*m ≤ N → pre m = true)
    (F : Nat → Nat → List α → Nat → Option (List α × Nat)) (Fok : Nat → Nat → List α → Nat → Bool)
    (h0 : ∀ it x m, F 0 it x m = some (x, m))
    (hs : ∀ n it x m, F (n+1) it x m =
      (L3 m (ops.spow omega (N / ((2*m) % M))) (x.length + c) x 0).bind fun t => F n (it+1) t.1 ((m*2) % M))
    (k0 : ∀ it x m, Fok 0 it x m = true)
    (ks : ∀ n it x m, Fok (n+1) it x m =
      (pre m && (L3ok m (ops.spow omega (N / ((2*m) % M))) (x.length + c) x 0 &&
        ((L3 m (ops.spow omega (N / ((2*m) % M))) (x.length + c) x 0).elim true fun t =>
          decide (m*2 < M) && Fok n (it+1) t.1 ((m*2) % M))))) :
    ∀ n m it (a : Array α), 0 < m → m * 2^n = N → a.size = N →
      F n it a.toList m = some ((stagesLoop ops omega N n m a).toList, m * 2^n) ∧ Fok n it a.toList m = true := by
  intro n
  induction n with
  | zero => intro m it a _ _ _; exact ⟨by rw [h0, Nat.pow_zero, Nat.mul_one]; rfl, k0 _ _ _⟩
  | succ n ih =>
    intro m it a hm hmN ha
    have hB : N = 2^n * (2*m) := by rw [← hmN, ← two_mul_mul_two_pow, Nat.mul_comm]
    have h2N : 2*m ≤ N := hB ▸ Nat.le_mul_of_pos_left _ (Nat.two_pow_pos n)
    have hBN : 2^n ≤ N := hB ▸ Nat.le_mul_of_pos_right _ (by omega)
    have e1 : (2*m) % M = 2*m := Nat.mod_eq_of_lt (by omega)
    have e2 : (m*2) % M = 2*m := by rw [Nat.mul_comm]; exact e1
    obtain ⟨e3, ok3⟩ := h3 m (ops.spow omega (N / (2*m))) a (2^n) (a.toList.length + c) hm (ha.trans hB) ha
      (by rw [Array.length_toList, ha]; omega)
    obtain ⟨e, ok⟩ := ih (2*m) (it+1) (stage ops m (powers ops (ops.spow omega (N / (2*m))) m) a) (by omega)
      ((two_mul_mul_two_pow m n).trans hmN) (by rw [NttProofs.stage_size, ha])
    constructor
    · rw [hs, e1, e2, e3, Option.bind_some, e, two_mul_mul_two_pow]; rfl
    · rw [ks, e1, e2, e3, ok3, Option.elim_some, ok, hpre m hm h2N, decide_eq_true (by omega : m*2 < M)]; rfl

theorem shl_one_eq (l : Nat) (h : l < 64) : 1 * 2 ^ (l % 64) % 18446744073709551616 = 2^l := by
  rw [Nat.one_mul, Nat.mod_eq_of_lt h]
  apply Nat.mod_eq_of_lt
  exact (Nat.pow_lt_pow_right (by decide) h : 2^l < 2^64)

theorem lt_of_two_pow_lt (l N : Nat) (h : 2^l < N) (hN : N ≤ 2^63) : l < 63 :=
  (Nat.pow_lt_pow_iff_right (by decide)).1 (Nat.lt_of_lt_of_le h hN)

/-- the loop `while (1 << logn) < len { logn += 1 }` computes the model's `ceilLog2` for every length `≤ 2^63`: it finishes
    within 65 evaluations of its head and the shift never overflows.  (`bitreverse_order`, `intt_noswap` and `ntt_noswap` each have a copy of this loop.) -/
theorem lognLoop_eq (len : Nat) (hN : len ≤ 2^63) (F : Nat → Nat → Option Nat) (Fok : Nat → Nat → Bool)
    (hs : ∀ f l, F (f+1) l = if decide (1 * 2 ^ (l % 64) % 18446744073709551616 < len) then
      F f ((l + 1) % 18446744073709551616) else some l)
    (ks : ∀ f l, Fok (f+1) l = (decide (l < 64) && (if decide (1 * 2 ^ (l % 64) % 18446744073709551616 < len) then
      (decide (l + 1 < 18446744073709551616) && Fok f ((l + 1) % 18446744073709551616)) else true)))
    (fuel : Nat) (hf : 65 ≤ fuel) :
    F fuel 0 = some (ceilLog2 len) ∧ Fok fuel 0 = true ∧ ceilLog2 len ≤ 63 := by
  suffices h : ∀ f l fuel, f + l = len → l ≤ 63 → 65 ≤ fuel + l →
      F fuel l = some (ceilLog2Aux len f l) ∧ Fok fuel l = true ∧ ceilLog2Aux len f l ≤ 63 from
    h len 0 fuel rfl (Nat.zero_le _) hf
  intro f
  induction f with
  | zero =>
    intro l fuel hf hl hfu
    obtain ⟨fu, rfl⟩ : ∃ fu, fuel = fu + 1 := ⟨fuel - 1, by omega⟩
    have hn : ¬ (2^l < len) := by have := Nat.lt_two_pow_self (n := l); omega
    have hl64 : l < 64 := by omega
    rw [hs, ks, shl_one_eq l hl64, decide_eq_false hn, decide_eq_true hl64]
    exact ⟨rfl, rfl, hl⟩
  | succ f ih =>
    intro l fuel hf hl hfu
    obtain ⟨fu, rfl⟩ : ∃ fu, fuel = fu + 1 := ⟨fuel - 1, by omega⟩
    have hl64 : l < 64 := by omega
    rw [hs, ks, shl_one_eq l hl64, decide_eq_true hl64, ceilLog2Aux]
    by_cases hc : 2^l < len
    · have hl63 := lt_of_two_pow_lt l _ hc hN
      obtain ⟨e, ok, hb⟩ := ih (l+1) fu (by omega) (by omega) (by omega)
      rw [decide_eq_true hc, if_pos rfl, if_pos rfl, if_pos hc, Nat.mod_eq_of_lt (by omega), e, ok,
        decide_eq_true (by omega : l + 1 < 18446744073709551616)]
      exact ⟨rfl, rfl, hb⟩
    · rw [decide_eq_false hc, if_neg hc]
      exact ⟨rfl, rfl, hl⟩

/-- `for i in i₀..i₀+n { l[i] = f(l[i]) }` -/
def mapLoop {β : Type} (f : β → β) (z : β) : Nat → Nat → List β → List β
  | 0, _, l => l
  | n+1, i, l => mapLoop f z n (i + 1) (l.set i (f (l.getD i z)))

theorem mapLoop_all {β : Type} (f : β → β) (z : β) (l : List β) : mapLoop f z l.length 0 l = l.map f :=
  List.ext_getElem? fun idx => by
    rw [Bfly.mapLoop_full (fun _ => f) z (mapLoop f z) (fun _ _ => rfl) (fun _ _ _ => rfl) l idx, List.getElem?_map]

theorem mapLoop_eq {β : Type} (f : β → β) (z : β) (F : Nat → Nat → List β → List β)
    (Fok : Nat → Nat → List β → Bool)
    (h0 : ∀ i l, F 0 i l = l) (hs : ∀ n i l, F (n+1) i l = F n (i+1) (l.set i (f (l.getD i z))))
    (k0 : ∀ i l, Fok 0 i l = true)
    (ks : ∀ n i l, Fok (n+1) i l =
      ((decide (i < l.length) && decide (i < l.length)) && Fok n (i+1) (l.set i (f (l.getD i z))))) :
    ∀ n i (l : List β), i + n ≤ l.length → F n i l = mapLoop f z n i l ∧ Fok n i l = true := by
  intro n
  induction n with
  | zero => intro i l _; exact ⟨h0 i l, k0 i l⟩
  | succ n ih =>
    intro i l h
    obtain ⟨e, ok⟩ := ih (i + 1) (l.set i (f (l.getD i z))) (by rw [List.length_set]; omega)
    exact ⟨by rw [hs, e, mapLoop], by rw [ks, ok, decide_eq_true (by omega : i < l.length)]; rfl⟩

end TF.GenBridge.Ntt
