import TF.Proofs.PolyInterp
/-!
The even/odd recursion arm of `fast_modular_coset_interpolate` (C08): codewords longer than the INTT cut-off.
-/
open Polynomial

namespace TF.Model.PolyI
open TF TF.Model.Poly

variable {K : Type} [Field K]
variable (root : Nat → Option K)
local notation "FK" => FieldOps.ofField K root

/-- `a₀, b₀, a₁, b₁, …`: the inverse of splitting into `evens` and `odds` -/
def interleave {α : Type} : List α → List α → List α
  | a :: as, b :: bs => a :: b :: interleave as bs
  | _, _ => []

theorem interleave_evens_odds {α : Type} : ∀ (h : Nat) (l : List α), l.length = 2 * h →
    interleave (evens l) (odds l) = l ∧ (evens l).length = h ∧ (odds l).length = h := by
  intro h
  induction h with
  | zero =>
    intro l hl
    have : l = [] := List.length_eq_zero_iff.1 (by omega)
    subst this
    simp [evens, odds, interleave]
  | succ h ih =>
    intro l hl
    match l, hl with
    | x :: y :: rest, hl =>
      obtain ⟨i1, i2, i3⟩ := ih rest (by simp at hl; omega)
      simp only [evens, odds, interleave, i1, List.length_cons, i2, i3, and_self]

theorem zip_interleave {α β : Type} : ∀ (a b : List α) (c d : List β), a.length = c.length → b.length = d.length →
    (interleave a b).zip (interleave c d) = interleave (a.zip c) (b.zip d)
  | [], _, [], _, _, _ => rfl
  | _ :: _, [], _ :: _, [], _, _ => rfl
  | x :: a, u :: b, y :: c, v :: d, h1, h2 => by
    simp only [interleave, List.zip_cons_cons]
    rw [zip_interleave a b c d (Nat.succ.inj h1) (Nat.succ.inj h2)]
  | [], _, _ :: _, _, h1, _ => by simp at h1
  | _ :: _, _, [], _, h1, _ => by simp at h1
  | _ :: _, [], _ :: _, _ :: _, _, h2 => by simp at h2
  | _ :: _, _ :: _, _ :: _, [], _, h2 => by simp at h2

theorem mem_interleave {α : Type} (p : α) : ∀ (a b : List α), p ∈ interleave a b → p ∈ a ∨ p ∈ b := by
  intro a
  induction a with
  | nil => intro b h; simp [interleave] at h
  | cons x a ih =>
    intro b h
    cases b with
    | nil => simp [interleave] at h
    | cons y b =>
      simp only [interleave, List.mem_cons] at h ⊢
      rcases h with h | h | h
      · exact Or.inl (Or.inl h)
      · exact Or.inr (Or.inl h)
      · rcases ih b h with h | h
        · exact Or.inl (Or.inr h)
        · exact Or.inr (Or.inr h)

theorem geom_interleave (g : K) : ∀ (h : Nat) (x0 : K),
    geom FK x0 g (2 * h) = interleave (geom FK x0 (g ^ 2) h) (geom FK (x0 * g) (g ^ 2) h) := by
  intro h
  induction h with
  | zero => intro x0; rfl
  | succ h ih =>
    intro x0
    rw [show 2 * (h + 1) = (2 * h + 1) + 1 by ring, geom, geom, ih]
    simp only [geom, interleave, FieldOps.ofField_mul]
    congr 3 <;> ring_nf

omit [Field K] in
theorem log2_two_pow (k : Nat) : log2 (2 ^ k) = k := Nat.log2_two_pow

theorem ne_zero_of_pow_eq_neg_one {ω : K} {h : Nat} (hh : 0 < h) (hω : ω ^ h = -1) : ω ≠ 0 := by
  intro h0
  rw [h0, zero_pow (Nat.pos_iff_ne_zero.1 hh)] at hω
  exact neg_ne_zero.2 one_ne_zero hω.symm

section pre
variable {E : Ext K} (hE : E.Lawful)
include hE

theorem modSquares_spec (m : List K) (hm : denote m ≠ 0) : ∀ (k : Nat) (acc : List K) (j : Nat), j < k →
    ∃ s, (modSquares E m k acc)[j]? = some s ∧ denote m ∣ denote s - (denote acc) ^ (2 ^ j) := by
  intro k
  induction k with
  | zero => intro acc j hj; omega
  | succ k ih =>
    intro acc j hj
    cases j with
    | zero => exact ⟨acc, by simp [modSquares], by simp⟩
    | succ j =>
      obtain ⟨s, hs, hd⟩ := ih (E.rem (E.mul acc acc) m) j (by omega)
      refine ⟨s, by simpa [modSquares] using hs, ?_⟩
      have h1 : denote m ∣ denote (E.rem (E.mul acc acc) m) - denote acc ^ 2 := by
        rw [hE.rem _ _ hm, hE.mul, pow_two]
        exact dvd_mod_sub _ _
      have h2 : denote m ∣ denote (E.rem (E.mul acc acc) m) ^ (2 ^ j) - (denote acc ^ 2) ^ (2 ^ j) :=
        dvd_trans h1 (sub_dvd_pow_sub_pow _ _ _)
      have : denote s - denote acc ^ 2 ^ (j + 1) =
          (denote s - denote (E.rem (E.mul acc acc) m) ^ (2 ^ j)) +
          (denote (E.rem (E.mul acc acc) m) ^ (2 ^ j) - (denote acc ^ 2) ^ (2 ^ j)) := by
        rw [← pow_mul, pow_succ 2 j, mul_comm (2 ^ j) 2]; ring
      rw [this]
      exact dvd_add hd h2

omit hE in
theorem sparseZerofiers_get (base : K) (squares : List (List K)) (j : Nat) (sq : List K)
    (h : squares[j]? = some sq) :
    (sparseZerofiers FK base squares)[j]? = some (sub FK (scalarMul FK sq ((FK).pow base (2 ^ j))) (one FK)) := by
  unfold sparseZerofiers
  rw [List.getElem?_map, List.getElem?_zipIdx, h]
  simp

/-- the zerofiers stored by `fast_modular_coset_interpolate_preprocess`, modulo the modulus -/
theorem fmciPreprocess_zerofiers (k : Nat) (offset : K) (modulus : List K) (pre : Pre K) (ω : K)
    (hω : root (2 ^ k) = some ω)
    (h : fmciPreprocess FK E (2 ^ k) offset modulus = some pre) (j : Nat) (hj : j < k) :
    ∃ ez oz, pre.evenZ[j]? = some ez ∧ pre.oddZ[j]? = some oz ∧
      denote modulus ∣ denote ez - (C ((offset⁻¹) ^ (2 ^ j)) * X ^ (2 ^ j) - 1) ∧
      denote modulus ∣ denote oz - (C (((offset * ω)⁻¹) ^ (2 ^ j)) * X ^ (2 ^ j) - 1) := by
  obtain ⟨hm, ω', hω', rfl⟩ := fmciPreprocess_eq_some root _ _ _ _ h
  obtain rfl : ω = ω' := Option.some.inj (hω.symm.trans hω')
  simp only [log2_two_pow]
  obtain ⟨s, hs, hd⟩ := modSquares_spec hE modulus hm k [(FK).zero, (FK).one] j hj
  have hX : denote [(FK).zero, (FK).one] = (X : K[X]) := by simp
  rw [hX] at hd
  refine ⟨_, _, sparseZerofiers_get root _ _ j s hs, sparseZerofiers_get root _ _ j s hs, ?_, ?_⟩
  · rw [denote_sub, denote_scalarMul, denote_one, FieldOps.ofField_pow]
    obtain ⟨q, hq⟩ := hd
    exact ⟨q * C (offset⁻¹ ^ 2 ^ j), by rw [← mul_assoc, ← hq]; ring⟩
  · rw [denote_sub, denote_scalarMul, denote_one, FieldOps.ofField_pow]
    obtain ⟨q, hq⟩ := hd
    exact ⟨q * C ((offset * ω)⁻¹ ^ 2 ^ j), by rw [← mul_assoc, ← hq]; ring⟩

end pre

theorem length_geom (x0 g : K) (n : Nat) : (geom FK x0 g n).length = n := by
  rw [geom_eq]; simp

theorem mem_geom (x0 g : K) (n : Nat) (x : K) (hx : x ∈ geom FK x0 g n) : ∃ i, x = x0 * g ^ i := by
  rw [geom_eq] at hx
  obtain ⟨i, _, rfl⟩ := List.mem_map.1 hx
  exact ⟨i, rfl⟩

theorem degree_mul_sparse_lt (g : K[X]) (c : K) (h : Nat) (hg : g.degree < h) :
    (g * (C c * X ^ h - 1)).degree < ((2 * h : ℕ) : WithBot ℕ) := by
  by_cases hg0 : g = 0
  · rw [hg0, zero_mul, degree_zero]; exact WithBot.bot_lt_coe _
  · have h1 : g.natDegree < h := (natDegree_lt_iff_degree_lt hg0).2 hg
    have h2 : (C c * X ^ h - 1 : K[X]).natDegree ≤ h := by
      refine (natDegree_sub_le _ _).trans (max_le ?_ (by simp))
      exact (natDegree_C_mul_le _ _).trans (by simp)
    have h3 : (g * (C c * X ^ h - 1)).natDegree < 2 * h :=
      lt_of_le_of_lt natDegree_mul_le (by omega)
    exact lt_of_le_of_lt degree_le_natDegree (by exact_mod_cast h3)

/-- value of a sparse zerofier `c⁻ʰ·Xʰ − 1` -/
theorem eval_sparse (c x : K) (h : Nat) : (C (c⁻¹ ^ h) * X ^ h - 1 : K[X]).eval x = (x / c) ^ h - 1 := by
  rw [eval_sub, eval_mul, eval_C, eval_pow, eval_X, eval_one, div_pow, inv_pow, div_eq_inv_mul]

/-- on the even coset `offset·⟨ω²⟩` the sparse zerofier of the odd coset is `-2` and that of the even coset vanishes;
    on the odd coset `offset·ω·⟨ω²⟩` it is the other way round (`ωʰ = -1`) -/
theorem evenodd_combine (h : Nat) (hh : 0 < h) (ω offset m2 : K) (hω : ω ^ h = -1) (hoff : offset ≠ 0)
    (hm2 : m2 * (-2) = 1) (values : List K) (hlen : values.length = 2 * h) (gE gO : K[X])
    (hgE : Interpolates (geom FK offset (ω ^ 2) h) ((evens values).map (fun v => m2 * v)) gE)
    (hgO : Interpolates (geom FK (offset * ω) (ω ^ 2) h) ((odds values).map (fun v => m2 * v)) gO) :
    Interpolates (geom FK offset ω (2 * h)) values
      (gE * (C (((offset * ω)⁻¹) ^ h) * X ^ h - 1) + gO * (C ((offset⁻¹) ^ h) * X ^ h - 1)) := by
  obtain ⟨hil, hel, hol⟩ := interleave_evens_odds h values hlen
  have hω0 : ω ≠ 0 := ne_zero_of_pow_eq_neg_one hh hω
  have hw2 : ∀ i : Nat, ((ω ^ 2) ^ i) ^ h = 1 := by
    intro i
    rw [← pow_mul, ← pow_mul, show 2 * (i * h) = h * 2 * i by ring, pow_mul, pow_mul, hω, neg_one_sq, one_pow]
  refine ⟨?_, ?_⟩
  · rw [length_geom]
    have d1 := degree_mul_sparse_lt gE (((offset * ω)⁻¹) ^ h) h (by simpa [length_geom] using hgE.1)
    have d2 := degree_mul_sparse_lt gO ((offset⁻¹) ^ h) h (by simpa [length_geom] using hgO.1)
    exact lt_of_le_of_lt (degree_add_le _ _) (max_lt d1 d2)
  · intro p hp
    rw [geom_interleave] at hp
    conv at hp => rw [← hil]
    rw [zip_interleave _ _ _ _ (by rw [length_geom, hel]) (by rw [length_geom, hol])] at hp
    rw [eval_add, eval_mul, eval_mul, eval_sparse, eval_sparse]
    rcases mem_interleave p _ _ hp with hp | hp
    · -- a point `offset·u`, `uʰ = 1`, of the even coset
      have hv : gE.eval p.1 = m2 * p.2 :=
        hgE.2 (p.1, m2 * p.2) (by rw [List.zip_map_right]; exact List.mem_map.2 ⟨p, hp, rfl⟩)
      obtain ⟨i, hi⟩ := mem_geom root _ _ _ _ (List.of_mem_zip hp).1
      rw [hv, hi, mul_div_cancel_left₀ _ hoff, mul_div_mul_left _ _ hoff, div_pow, hw2, hω, sub_self, mul_zero,
        add_zero, show (1 : K) / -1 - 1 = -2 by norm_num, mul_right_comm, hm2, one_mul]
    · -- a point `offset·ω·u`, `uʰ = 1`, of the odd coset
      have hv : gO.eval p.1 = m2 * p.2 :=
        hgO.2 (p.1, m2 * p.2) (by rw [List.zip_map_right]; exact List.mem_map.2 ⟨p, hp, rfl⟩)
      obtain ⟨i, hi⟩ := mem_geom root _ _ _ _ (List.of_mem_zip hp).1
      rw [hv, hi, mul_div_cancel_left₀ _ (mul_ne_zero hoff hω0), mul_assoc, mul_div_cancel_left₀ _ hoff, mul_pow, hw2,
        hω, sub_self, mul_zero, zero_add, show (-1 : K) * 1 - 1 = -2 by norm_num, mul_right_comm, hm2, one_mul]

/-- what C06 proves about the table of roots of unity: `root (2^(k+1))` squares to `root (2^k)`, its `2^k`-th power
    is `-1`, and the `2^k` powers of `root (2^k)` are pairwise distinct -/
structure RootsOK : Prop where
  sq : ∀ k ω, root (2 ^ (k + 1)) = some ω → root (2 ^ k) = some (ω ^ 2)
  neg : ∀ k ω, root (2 ^ (k + 1)) = some ω → ω ^ (2 ^ k) = -1
  prim : ∀ k ω, root (2 ^ k) = some ω → ((List.range (2 ^ k)).map (fun i => ω ^ i)).Nodup

section recursion
variable {E : Ext K} (hE : E.Lawful) (hN : Ext.LawfulNtt root E) (hR : RootsOK root)
include hE hN hR

/-- **all three arms** of `fast_modular_coset_interpolate…`, every cut-off value, every codeword length `2^k`.
    `hm2`: the translated constant `MINUS_TWO_INVERSE` is `(-2)⁻¹` in `K`; the even/odd recombination divides by `-2`. -/
theorem fmciWithFuel_sound (t : Thr) (hT : 2 ≤ t.zf) (modulus : List K)
    (hm2 : ((TF.Gen.MINUS_TWO_INVERSE : ℕ) : K) * (-2) = 1) :
    ∀ (fuel k : Nat) (values : List K) (offset : K) (pre : Pre K) (r : List K) (ω : K),
      values.length = 2 ^ k → offset ≠ 0 → root (2 ^ k) = some ω →
      fmciPreprocess FK E (2 ^ k) offset modulus = some pre →
      fmciWithFuel FK E t fuel values offset modulus pre = some r →
      ∃ g : K[X], Interpolates (cosetDomain offset ω (2 ^ k)) values g ∧ denote r = g % denote modulus := by
  intro fuel
  induction fuel with
  | zero => intro k values offset pre r ω _ _ _ _ h; simp [fmciWithFuel] at h
  | succ fuel ih =>
    intro k values offset pre r ω hlen hoff hω hpre h
    obtain ⟨hpm, hmne⟩ := fmciPreprocess_modulus root _ _ _ _ hpre
    by_cases hsmall : values.length ≤ t.intt ∨ values.length < t.lag
    · have := fmciWithFuel_sound_small root hN hE t hT fuel values offset modulus pre hpm hoff hsmall ω
        (by rw [hlen]; exact hω) (by rw [hlen]; exact hR.prim k ω hω) r h
      rw [hlen] at this
      exact this
    · -- even/odd split
      have hnl : ¬ values.length < t.lag := fun h' => hsmall (Or.inr h')
      have hni : ¬ values.length ≤ t.intt := fun h' => hsmall (Or.inl h')
      rw [fmciWithFuel, if_neg (fun hz => hmne ((isZero_iff root modulus).1 hz))] at h
      simp only [FieldOps.ofField_rootOfUnity] at h
      rw [hlen, hω] at h
      rw [hlen] at hnl hni
      simp only [if_neg hnl, if_neg hni] at h
      cases k with
      | zero => rw [if_pos (by decide)] at h; cases h
      | succ k' =>
          have hdiv : 2 ^ (k' + 1) / 2 = 2 ^ k' := by rw [pow_succ]; exact Nat.mul_div_cancel _ (by norm_num)
          rw [hdiv, if_neg (by simp)] at h
          have hlen2 : values.length = 2 * 2 ^ k' := by rw [hlen, pow_succ]; ring
          obtain ⟨hil, hel, hol⟩ := interleave_evens_odds (2 ^ k') values hlen2
          simp only [List.length_map, hel, hol] at h
          obtain ⟨preE, hpreE, h⟩ := Option.bind_eq_some_iff.1 h
          obtain ⟨ei, hei, h⟩ := Option.bind_eq_some_iff.1 h
          obtain ⟨preO, hpreO, h⟩ := Option.bind_eq_some_iff.1 h
          obtain ⟨oi, hoi, h⟩ := Option.bind_eq_some_iff.1 h
          obtain ⟨oz, hoz, h⟩ := Option.bind_eq_some_iff.1 h
          obtain ⟨ez, hez, h⟩ := Option.bind_eq_some_iff.1 h
          obtain ⟨_, rfl⟩ := reduce_eq_some root _ modulus r h
          have hωneg := hR.neg k' ω hω
          have hω2 := hR.sq k' ω hω
          have hω0 : ω ≠ 0 := ne_zero_of_pow_eq_neg_one (Nat.two_pow_pos k') hωneg
          obtain ⟨gE, hgE, hEm⟩ := ih k' _ offset preE ei (ω ^ 2) (by simp [hel]) hoff hω2 hpreE hei
          obtain ⟨gO, hgO, hOm⟩ := ih k' _ ((FK).mul offset ω) preO oi (ω ^ 2) (by simp [hol])
            (by simpa using mul_ne_zero hoff hω0) hω2 hpreO hoi
          rw [log2_two_pow] at hoz hez
          obtain ⟨ez', oz', hez', hoz', hde, hdo⟩ :=
            fmciPreprocess_zerofiers root hE (k' + 1) offset modulus pre ω hω hpre k' (by omega)
          rw [hez'] at hez; rw [hoz'] at hoz
          simp only [Option.some.injEq] at hez hoz
          subst hez; subst hoz
          simp only [FieldOps.ofField_mul, FieldOps.ofField_ofNat] at hgE hgO hEm hOm
          rw [cosetDomain, ← geom_eq root] at hgE hgO
          have hcomb := evenodd_combine root (2 ^ k') (by positivity) ω offset _ hωneg hoff hm2 values hlen2 gE gO
            hgE hgO
          refine ⟨gE * (C (((offset * ω)⁻¹) ^ 2 ^ k') * X ^ 2 ^ k' - 1) + gO * (C ((offset⁻¹) ^ 2 ^ k') * X ^ 2 ^ k' - 1),
            ?_, ?_⟩
          · rw [cosetDomain, ← geom_eq root, show 2 ^ (k' + 1) = 2 * 2 ^ k' by rw [pow_succ]; ring]
            exact hcomb
          · rw [hE.rem _ _ hmne, denote_add, hE.mul, hE.mul, hEm, hOm]
            apply mod_eq_of_dvd_sub
            have e1 := dvd_mod_sub gE (denote modulus)
            have e2 := dvd_mod_sub gO (denote modulus)
            have key : ∀ (a a' b b' c c' d d' : K[X]),
                a * b + c * d - (a' * b' + c' * d') = a * (b - b') + (a - a') * b' + c * (d - d') + (c - c') * d' := by
              intros; ring
            rw [key]
            exact dvd_add (dvd_add (dvd_add (Dvd.dvd.mul_left hdo _) (Dvd.dvd.mul_right e1 _))
              (Dvd.dvd.mul_left hde _)) (Dvd.dvd.mul_right e2 _)

theorem fmci_sound (t : Thr) (hT : 2 ≤ t.zf) (modulus : List K)
    (hm2 : ((TF.Gen.MINUS_TWO_INVERSE : ℕ) : K) * (-2) = 1) (k : Nat) (values : List K) (offset : K)
    (hlen : values.length = 2 ^ k) (hoff : offset ≠ 0) (ω : K) (hω : root (2 ^ k) = some ω) (r : List K)
    (h : fmci FK E t values offset modulus = some r) :
    ∃ g : K[X], Interpolates (cosetDomain offset ω (2 ^ k)) values g ∧ denote r = g % denote modulus := by
  unfold fmci at h
  obtain ⟨pre, hpre, h⟩ := Option.bind_eq_some_iff.1 h
  rw [hlen] at hpre
  exact fmciWithFuel_sound root hE hN hR t hT modulus hm2 _ k values offset pre r ω hlen hoff hω hpre h

theorem fmciOK_full (t : Thr) (hT : 2 ≤ t.zf) (hm2 : ((TF.Gen.MINUS_TWO_INVERSE : ℕ) : K) * (-2) = 1) (k : Nat)
    (offset : K) (hoff : offset ≠ 0) (ω : K) (hω : root (2 ^ k) = some ω) : FmciOK root E t offset ω (2 ^ k) :=
  fun modulus pre cw mi hlen hpre hmi =>
    fmciWithFuel_sound root hE hN hR t hT modulus hm2 _ k cw offset pre mi ω hlen hoff hω hpre hmi

/-- `coset_extrapolate`: every strategy, every arm, every cut-off value, every codeword length `2^k` -/
theorem cosetExtrapolateWith_sound_full (t : Thr) (hT : 2 ≤ t.zf)
    (hm2 : ((TF.Gen.MINUS_TWO_INVERSE : ℕ) : K) * (-2) = 1) (k : Nat) (offset : K) (codeword points : List K)
    (hlen : codeword.length = 2 ^ k) (hoff : offset ≠ 0) (ω : K) (hω : root (2 ^ k) = some ω)
    (out : List K) (h : cosetExtrapolateWith FK E t offset codeword points = some out) :
    ∃ g : K[X], Interpolates (cosetDomain offset ω (2 ^ k)) codeword g ∧ out = points.map (fun x => g.eval x) := by
  have := cosetExtrapolateWith_sound_of root hN hE t offset codeword points ω (by rw [hlen]; exact hω)
    (by rw [hlen]; exact hR.prim k ω hω) (by rw [hlen]; exact fmciOK_full root hE hN hR t hT hm2 k offset hoff ω hω)
    out h
  rwa [hlen] at this

/-- `batch_coset_extrapolate` / `par_batch_coset_extrapolate`: every strategy, arm, cut-off value, length `2^k` -/
theorem batchCosetExtrapolateWith_sound_full (t : Thr) (hT : 2 ≤ t.zf)
    (hm2 : ((TF.Gen.MINUS_TWO_INVERSE : ℕ) : K) * (-2) = 1) (k : Nat) (offset : K) (codewords points : List K)
    (hoff : offset ≠ 0) (ω : K) (hω : root (2 ^ k) = some ω)
    (out : List K) (h : batchCosetExtrapolateWith FK E t offset (2 ^ k) codewords points = some out) :
    ∃ parts, List.Forall₂ (SliceOK offset ω (2 ^ k) points) (codewordSlices (2 ^ k) codewords) parts ∧
      out = parts.flatten :=
  batchCosetExtrapolateWith_sound_of root hN hE t offset (2 ^ k) codewords points ω hω (hR.prim k ω hω)
    (fmciOK_full root hE hN hR t hT hm2 k offset hoff ω hω) out h

end recursion

end TF.Model.PolyI
