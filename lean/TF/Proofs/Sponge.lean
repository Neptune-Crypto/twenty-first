import TF.Model.Sponge
import TF.Spec.Sponge
namespace TF.Sponge
open TF.Gen (RATE STATE_SIZE CAPACITY DIGEST_LEN P)

theorem RATE_eq : RATE = 10 := rfl
theorem STATE_eq : STATE_SIZE = 16 := rfl

theorem nextMultipleOf_eq (n : Nat) : nextMultipleOf (n + 1) RATE = n + 1 + padK n := by
  unfold nextMultipleOf padK
  rw [RATE_eq]
  split <;> omega

theorem padK_spec (n : Nat) :
    padK n < RATE ∧ (n + 1 + padK n) % RATE = 0 ∧ ∀ j, (n + 1 + j) % RATE = 0 → padK n ≤ j := by
  unfold padK
  rw [RATE_eq]
  refine ⟨by omega, by omega, fun j hj => by omega⟩

theorem padded_eq (input : List Nat) : padded input = padSpec input := by
  unfold padded padSpec
  simp only [nextMultipleOf_eq]
  rw [List.take_append]
  have h1 : (input ++ [1]).length = input.length + 1 := by simp
  rw [List.take_of_length_le (by rw [h1]; omega), h1, List.take_replicate]
  congr 2
  omega

theorem padSpec_length (input : List Nat) : (padSpec input).length = RATE * ((input.length + 1 + padK input.length) / RATE) := by
  have := (padK_spec input.length).2.1
  unfold padSpec
  simp only [List.length_append, List.length_replicate, List.length_singleton]
  rw [RATE_eq] at *
  omega

theorem chunksOf_spec {k : Nat} (hk : 0 < k) :
    ∀ (f m : Nat) (l : List Nat), l.length = k * m → m ≤ f →
      (chunksOf k f l).flatten = l ∧ (chunksOf k f l).length = m ∧ ∀ c ∈ chunksOf k f l, c.length = k
  | 0, m, l, hl, hm => by
    have : m = 0 := by omega
    subst this
    have : l = [] := List.length_eq_zero_iff.mp (by simpa using hl)
    subst this; simp [chunksOf]
  | f+1, m, l, hl, hm => by
    rw [chunksOf]
    cases m with
    | zero =>
      have : l = [] := List.length_eq_zero_iff.mp (by simpa using hl)
      subst this; simp
    | succ m =>
      have hge : k ≤ l.length := by rw [hl, Nat.mul_succ]; omega
      have hne : l.isEmpty = false := by
        cases l with
        | nil => simp at hge; omega
        | cons _ _ => rfl
      rw [hne]
      simp only [Bool.false_eq_true, if_false]
      have hd : (l.drop k).length = k * m := by rw [List.length_drop, hl, Nat.mul_succ]; omega
      obtain ⟨h1, h2, h3⟩ := chunksOf_spec hk f m (l.drop k) hd (by omega)
      refine ⟨?_, ?_, ?_⟩
      · rw [List.flatten_cons, h1, List.take_append_drop]
      · rw [List.length_cons, h2]
      · intro c hc
        rcases List.mem_cons.mp hc with h | h
        · subst h; rw [List.length_take]; omega
        · exact h3 c h

theorem padBlocks_spec (input : List Nat) :
    (padBlocks input).flatten = padSpec input ∧ (∀ b ∈ padBlocks input, b.length = RATE) ∧
      (padBlocks input).length = (input.length + 1 + padK input.length) / RATE := by
  unfold padBlocks
  rw [padded_eq]
  have hl := padSpec_length input
  have hm : (input.length + 1 + padK input.length) / RATE ≤ (padSpec input).length := by
    rw [hl, RATE_eq]; omega
  obtain ⟨h1, h2, h3⟩ := chunksOf_spec (k := RATE) (by decide) _ _ (padSpec input) hl hm
  exact ⟨h1, h3, h2⟩

theorem foldl_blocks {σ : Type} (ab : σ → List Nat → σ) :
    ∀ (blocks : List (List Nat)) (s : σ), (∀ b ∈ blocks, b.length = RATE) →
      blocks.foldl (fun acc c => acc.bind fun st => if c.length = RATE then some (ab st c) else none) (some s)
        = some (blocks.foldl ab s)
  | [], s, _ => rfl
  | b :: bs, s, h => by
    rw [List.foldl_cons, List.foldl_cons, Option.bind_some, if_pos (h b (List.mem_cons_self))]
    exact foldl_blocks ab bs (ab s b) (fun c hc => h c (List.mem_cons_of_mem _ hc))

theorem padAndAbsorbAll_eq {σ : Type} (ab : σ → List Nat → σ) (s : σ) (input : List Nat) :
    padAndAbsorbAll ab s input = some ((padBlocks input).foldl ab s) := by
  unfold padAndAbsorbAll
  exact foldl_blocks ab _ s (padBlocks_spec input).2.1

theorem strip_zeros : ∀ (k m : Nat) (x y : List Nat),
    List.replicate k 0 ++ 1 :: x = List.replicate m 0 ++ 1 :: y → x = y
  | 0, 0, x, y, h => by simpa using h
  | 0, m+1, x, y, h => by simp [List.replicate_succ] at h
  | k+1, 0, x, y, h => by simp [List.replicate_succ] at h
  | k+1, m+1, x, y, h => by
    simp only [List.replicate_succ, List.cons_append, List.cons.injEq, true_and] at h
    exact strip_zeros k m x y h

theorem padSpec_injective {a b : List Nat} (h : padSpec a = padSpec b) : a = b := by
  unfold padSpec at h
  have h' := congrArg List.reverse h
  simp only [List.reverse_append, List.reverse_replicate, List.reverse_cons, List.append_assoc,
    List.singleton_append] at h'
  have := strip_zeros _ _ _ _ h'
  exact List.reverse_inj.mp this

/-- the permutation keeps the state width -/
def Pres (perm : List Nat → List Nat) : Prop := ∀ s, s.length = STATE_SIZE → (perm s).length = STATE_SIZE

/-- the elements produced by `K` successive squeezes, in order -/
def stream (perm : List Nat → List Nat) (K : Nat) (st : List Nat) : List Nat := (squeezeN perm K st).1
/-- the sponge state after `K` squeezes -/
def stateAfter (perm : List Nat → List Nat) (K : Nat) (st : List Nat) : List Nat := (squeezeN perm K st).2

variable {perm : List Nat → List Nat}

theorem stream_zero (st : List Nat) : stream perm 0 st = [] := rfl
theorem stateAfter_zero (st : List Nat) : stateAfter perm 0 st = st := rfl
theorem stream_succ (K : Nat) (st : List Nat) : stream perm (K + 1) st = st.take RATE ++ stream perm K (perm st) := rfl
theorem stateAfter_succ (K : Nat) (st : List Nat) : stateAfter perm (K + 1) st = stateAfter perm K (perm st) := rfl

theorem stream_length (hp : Pres perm) : ∀ (K : Nat) (st : List Nat), st.length = STATE_SIZE →
    (stream perm K st).length = RATE * K ∧ (stateAfter perm K st).length = STATE_SIZE
  | 0, st, h => ⟨rfl, h⟩
  | K+1, st, h => by
    obtain ⟨h1, h2⟩ := stream_length hp K (perm st) (hp st h)
    rw [stream_succ, stateAfter_succ, List.length_append, h1, List.length_take, h, RATE_eq, STATE_eq]
    exact ⟨by omega, h2⟩

theorem take_rate_cons {st : List Nat} (hst : st.length = STATE_SIZE) :
    ∃ e rest, st.take RATE = e :: rest ∧ rest.length = 9 := by
  match st, hst with
  | e :: t, h =>
    rw [STATE_eq, List.length_cons] at h
    exact ⟨e, t.take 9, rfl, by rw [List.length_take]; omega⟩

def usableCount (xs : List Nat) : Nat := (xs.filter usable).length

theorem usableCount_cons (x : Nat) (xs : List Nat) :
    usableCount (x :: xs) = (if usable x then 1 else 0) + usableCount xs := by
  unfold usableCount
  rw [List.filter_cons]
  split
  · rw [List.length_cons]; omega
  · omega

/-- an element is looked at whether it is usable or not; a usable one is one of the `n + 1` wanted -/
theorem usedCount_cons (x : Nat) (xs : List Nat) (n : Nat) :
    usedCount (x :: xs) (n + 1) = (usedCount xs (n + 1 - if usable x then 1 else 0)).map (· + 1) := by
  rw [usedCount]
  split <;> rfl

theorem usedCount_some : ∀ (xs : List Nat) (n u : Nat), usedCount xs n = some u →
    u ≤ xs.length ∧ usableCount (xs.take u) = n ∧ ∀ v, v < u → usableCount (xs.take v) < n
  | xs, 0, u, h => by
    have : u = 0 := by cases xs <;> simp [usedCount] at h <;> omega
    subst this
    exact ⟨Nat.zero_le _, by simp [usableCount], fun v hv => absurd hv (Nat.not_lt_zero v)⟩
  | [], n+1, u, h => by simp [usedCount] at h
  | x :: xs, n+1, u, h => by
    rw [usedCount_cons] at h
    obtain ⟨u', hc, rfl⟩ := Option.map_eq_some_iff.mp h
    obtain ⟨h1, h2, h3⟩ := usedCount_some xs _ u' hc
    refine ⟨Nat.succ_le_succ h1, ?_, fun v hv => ?_⟩
    · rw [List.take_succ_cons, usableCount_cons, h2]
      split <;> omega
    · cases v with
      | zero => exact Nat.succ_pos n
      | succ v =>
        have := h3 v (by omega)
        rw [List.take_succ_cons, usableCount_cons]
        split at * <;> omega

theorem usedCount_isSome : ∀ (xs : List Nat) (n : Nat), n ≤ usableCount xs → ∃ u, usedCount xs n = some u
  | xs, 0, _ => ⟨0, by cases xs <;> rfl⟩
  | [], n+1, h => by simp [usableCount] at h
  | x :: xs, n+1, h => by
    rw [usableCount_cons] at h
    obtain ⟨u, hu⟩ := usedCount_isSome xs (n + 1 - if usable x then 1 else 0) (by
      by_cases hx : usable x = true
      · rw [if_pos hx] at h ⊢; omega
      · rw [if_neg hx] at h ⊢; omega)
    exact ⟨u + 1, by rw [usedCount_cons, hu]; rfl⟩

theorem usedCount_of_take : ∀ (xs : List Nat) (f n u : Nat), usedCount (xs.take f) n = some u → usedCount xs n = some u
  | xs, f, 0, u, h => by
    have : u = 0 := by cases xs.take f <;> simp [usedCount] at h <;> omega
    subst this
    cases xs <;> rfl
  | [], f, n+1, u, h => by simp [usedCount] at h
  | x :: xs, 0, n+1, u, h => by simp [usedCount] at h
  | x :: xs, f+1, n+1, u, h => by
    rw [List.take_succ_cons, usedCount_cons] at h
    obtain ⟨u', hc, rfl⟩ := Option.map_eq_some_iff.mp h
    rw [usedCount_cons, usedCount_of_take xs f _ u' hc]
    rfl

theorem toIndex_eq (bound e : Nat) : toIndex bound e = (e % 2 ^ 32) % bound := rfl

theorem usable_iff (e : Nat) : usable e = true ↔ e ≠ P - 1 := by
  unfold usable; simp

theorem sel_nil (b : Nat) : sel b [] = [] := rfl
theorem sel_cons_usable {b e : Nat} (xs : List Nat) (h : e ≠ P - 1) : sel b (e :: xs) = toIndex b e :: sel b xs := by
  unfold sel
  rw [List.filter_cons, if_pos ((usable_iff e).mpr h), List.map_cons, toIndex_eq]
theorem sel_cons_unusable {b e : Nat} (xs : List Nat) (h : ¬ e ≠ P - 1) : sel b (e :: xs) = sel b xs := by
  unfold sel
  rw [List.filter_cons, if_neg (fun hh => h ((usable_iff e).mp hh))]

/-- result of the loop in terms of the stream, `u` elements consumed: the indices selected from them, and the state after
    `⌈(u − buf.length) / RATE⌉` squeezes (`RATE = 10`): the buffer is used up first, then every squeeze supplies ten elements -/
def loopResult (perm : List Nat → List Nat) (bound : Nat) (st buf acc xs : List Nat) (u : Nat) :
    List Nat × List Nat :=
  (acc ++ sel bound (xs.take u), stateAfter perm ((u - buf.length + 9) / 10) st)

theorem sampleLoop_done {bound num fuel : Nat} {st buf acc : List Nat} (h : acc.length = num) :
    sampleLoop perm bound num fuel st buf acc = some (acc, st) := by
  cases fuel <;> simp [sampleLoop, h]

theorem sampleLoop_refill {bound num f : Nat} {st acc rest : List Nat} {e : Nat} (h : acc.length ≠ num)
    (hout : st.take RATE = e :: rest) :
    sampleLoop perm bound num (f + 1) st [] acc = sampleLoop perm bound num (f + 1) (perm st) (e :: rest) acc := by
  rw [sampleLoop, sampleLoop, if_neg h, if_neg h]
  simp only [List.isEmpty_nil, if_true, squeeze, hout, List.isEmpty_cons, Bool.false_eq_true, if_false]

/-- one iteration with a non-empty buffer, given the statement for the remaining fuel -/
theorem sampleLoop_step {bound num f K : Nat} {st rest acc : List Nat} {e : Nat}
    (hacc : acc.length < num)
    (ih : ∀ (acc' : List Nat), acc'.length ≤ num →
      sampleLoop perm bound num f st rest acc' =
        (usedCount ((rest ++ stream perm K st).take f) (num - acc'.length)).map
          (loopResult perm bound st rest acc' (rest ++ stream perm K st))) :
    sampleLoop perm bound num (f + 1) st (e :: rest) acc =
      (usedCount (((e :: rest) ++ stream perm K st).take (f + 1)) (num - acc.length)).map
        (loopResult perm bound st (e :: rest) acc ((e :: rest) ++ stream perm K st)) := by
  obtain ⟨m, hm⟩ : ∃ m, num - acc.length = m + 1 := ⟨num - acc.length - 1, by omega⟩
  rw [sampleLoop, if_neg (by omega)]
  simp only [List.isEmpty_cons, Bool.false_eq_true, if_false, List.cons_append, List.take_succ_cons, hm, usedCount]
  by_cases hu : e ≠ P - 1
  · rw [if_pos hu, if_pos ((usable_iff e).mpr hu), ih _ (by simp; omega)]
    have : num - (acc ++ [toIndex bound e]).length = m := by simp; omega
    rw [this, Option.map_map]
    congr 1
    funext u
    simp only [Function.comp, loopResult, List.take_succ_cons, sel_cons_usable _ hu, List.length_cons,
      List.append_assoc, List.singleton_append]
    congr 3
    omega
  · rw [if_neg hu, if_neg (fun hh => hu ((usable_iff e).mp hh)), ih _ (by omega), hm, Option.map_map]
    congr 1
    funext u
    simp only [Function.comp, loopResult, List.take_succ_cons, sel_cons_unusable _ hu, List.length_cons]
    congr 3
    omega

/-- `K` is any number of squeezes that covers the fuel (`fuel ≤ buf.length + RATE * K`): the loop never looks beyond the
    first `fuel` elements of `buf ++ stream perm K st`, so the statement does not depend on which such `K` is taken; leaving
    it free lets the induction use `K` with a full buffer and `K + 1` at a refill. -/
theorem sampleLoop_spec (hp : Pres perm) (bound num : Nat) :
    ∀ (fuel K : Nat) (st buf acc : List Nat), st.length = STATE_SIZE → acc.length ≤ num →
      fuel ≤ buf.length + RATE * K →
      sampleLoop perm bound num fuel st buf acc =
        (usedCount ((buf ++ stream perm K st).take fuel) (num - acc.length)).map
          (loopResult perm bound st buf acc (buf ++ stream perm K st))
  | 0, K, st, buf, acc, hst, hacc, hf => by
    rw [List.take_zero]
    by_cases h : acc.length = num
    · rw [sampleLoop_done h, h, Nat.sub_self]
      simp [usedCount, loopResult, sel_nil, stateAfter_zero]
    · obtain ⟨m, hm⟩ : ∃ m, num - acc.length = m + 1 := ⟨num - acc.length - 1, by omega⟩
      rw [hm]; simp [sampleLoop, h, usedCount]
  | f+1, K, st, buf, acc, hst, hacc, hf => by
    by_cases h : acc.length = num
    · rw [sampleLoop_done h, h, Nat.sub_self]
      simp [usedCount, loopResult, sel_nil, stateAfter_zero]
    · have hlt : acc.length < num := by omega
      cases buf with
      | cons e rest =>
        exact sampleLoop_step hlt (fun acc' ha' =>
          sampleLoop_spec hp bound num f K st rest acc' hst ha' (by simp at hf; omega))
      | nil =>
        cases K with
        | zero => simp at hf
        | succ K =>
          -- the squeeze happens now; afterwards the iteration is the one with the fresh block as buffer
          obtain ⟨e, rest, hout, hrest⟩ := take_rate_cons hst
          rw [sampleLoop_refill h hout, List.nil_append, stream_succ, hout]
          rw [sampleLoop_step hlt (K := K) (fun acc' ha' =>
            sampleLoop_spec hp bound num f K (perm st) rest acc' (hp st hst) ha' (by
              rw [hrest]
              simp at hf
              rw [RATE_eq] at *
              omega))]
          -- same consumption count `u ≥ 1`, one more squeeze
          cases hc : usedCount (((e :: rest) ++ stream perm K (perm st)).take (f + 1)) (num - acc.length) with
          | none => rfl
          | some u =>
            have hpos : u ≠ 0 := fun h0 => by
              have := (usedCount_some _ _ _ hc).2.1
              rw [h0] at this
              simp [usableCount] at this
              omega
            simp only [Option.map_some, loopResult, List.length_cons, List.length_nil, hrest]
            congr 2
            have e1 : (u - 0 + 9) / 10 = (u - (9 + 1) + 9) / 10 + 1 := by omega
            rw [e1, stateAfter_succ]

theorem sampleIndices_exact (hp : Pres perm) {st : List Nat} (hst : st.length = STATE_SIZE) (bound num fuel K : Nat)
    (hf : fuel ≤ RATE * K) :
    sampleIndices perm fuel st bound num =
      (usedCount ((stream perm K st).take fuel) num).map fun u =>
        (sel bound ((stream perm K st).take u), stateAfter perm ((u + 9) / 10) st) := by
  unfold sampleIndices
  rw [sampleLoop_spec hp bound num fuel K st [] [] hst (Nat.zero_le _) (by simpa using hf)]
  simp only [List.nil_append, List.length_nil, Nat.sub_zero]
  congr 1

theorem chunks3_eq_chunksOf : ∀ (f : Nat) (l : List Nat), chunks3 f l = chunksOf 3 f l
  | 0, _ => rfl
  | f+1, l => by rw [chunks3, chunksOf, chunks3_eq_chunksOf f]

theorem chunks3_take : ∀ (n f : Nat) (l : List Nat), 3 * n ≤ l.length → n ≤ f →
    ∃ groups : List (Nat × Nat × Nat),
      ((chunks3 f l).take n).mapM toTriple = some groups ∧
      groups.length = n ∧ (groups.flatMap fun t => [t.1, t.2.1, t.2.2]) = l.take (3 * n)
  | 0, f, l, _, _ => ⟨[], by simp, rfl, by simp⟩
  | n+1, 0, l, _, hf => by omega
  | n+1, f+1, l, hl, hf => by
    match l, hl with
    | a :: b :: c :: l', hl =>
      obtain ⟨g, h1, h2, h3⟩ := chunks3_take n f l' (by simp at hl; omega) (by omega)
      refine ⟨(a, b, c) :: g, ?_, by simp [h2], ?_⟩
      · rw [chunks3]
        simp only [List.isEmpty_cons, Bool.false_eq_true, if_false, List.take_succ_cons, List.take_zero,
          List.drop_succ_cons, List.drop_zero, List.mapM_cons, toTriple]
        rw [h1]; rfl
      · rw [List.flatMap_cons, h3]
        have : 3 * (n + 1) = 3 * n + 1 + 1 + 1 := by omega
        rw [this]; rfl
    | [], hl => simp at hl
    | [_], hl => simp at hl; omega
    | [_, _], hl => simp at hl; omega

theorem sampleScalars_eq (hp : Pres perm) {st : List Nat} (hst : st.length = STATE_SIZE) (num : Nat) :
    ∃ groups : List (Nat × Nat × Nat),
      sampleScalars perm st num = some (groups, stateAfter perm ((num * 3 + 9) / 10) st) ∧
      groups.length = num ∧
      (groups.flatMap fun t => [t.1, t.2.1, t.2.2]) = (stream perm ((num * 3 + 9) / 10) st).take (3 * num) := by
  have hlen := (stream_length hp ((num * 3 + 9) / 10) st hst).1
  rw [RATE_eq] at hlen
  obtain ⟨g, h1, h2, h3⟩ := chunks3_take num (stream perm ((num * 3 + 9) / 10) st).length
    (stream perm ((num * 3 + 9) / 10) st) (by rw [hlen]; omega) (by rw [hlen]; omega)
  refine ⟨g, ?_, h2, h3⟩
  unfold sampleScalars
  have e : (num * 3 + RATE - 1) / RATE = (num * 3 + 9) / 10 := by rw [RATE_eq]; omega
  simp only [e]
  unfold stream at h1
  rw [h1]; rfl
end TF.Sponge
