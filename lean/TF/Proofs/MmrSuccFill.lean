import Mathlib.Tactic.ByContra
import TF.Proofs.MmrSuccUnfold
/-!
C12, `new_from_batch_append`: the fill-in bookkeeping.  Per old peak the routine keeps the list `needed` of
`Some((position, node index))` entries and the path under construction; whenever a node `(index, digest)` becomes known,
the first still-open entry with that node index is filled and cleared.  `InvP val S tg p nd`, the invariant of one path:
`tg` are the target node indices (pairwise different), `S` the node indices seen so far, an entry is open iff its index
has not been seen, a closed entry carries `val index`.
-/
namespace TF.MmrE
open TF TF.Gen TF.Model.Mmr TF.Model.MmrE

variable {D : Type}

structure InvP (val : Nat → D) (S : Nat → Prop) (tg : List Nat) (p : List D) (nd : List (Option (Nat × Nat))) : Prop where
  inj : ∀ (i j y : Nat), tg[i]? = some y → tg[j]? = some y → i = j
  plen : p.length = tg.length
  nlen : nd.length = tg.length
  opn : ∀ (pos y : Nat), tg[pos]? = some y → ¬ S y → nd[pos]? = some (some (pos, y))
  done : ∀ (pos y : Nat), tg[pos]? = some y → S y → nd[pos]? = some none ∧ p[pos]? = some (val y)

/-- the test of `.find(|definitely| definitely.unwrap().1 == index)` on the still-open entries -/
def entryIs (x : Nat) : Option (Nat × Nat) → Bool := fun e => match e with | some (_, s) => s == x | none => false

theorem fillOne_eq (x : Nat) (node : D) (path : List D) (needed : List (Option (Nat × Nat))) :
    fillOne x node path needed =
      match needed.findIdx? (entryIs x) with
      | none => some (path, needed)
      | some j =>
        match needed[j]? with
        | some (some (pos, _)) => if pos < path.length then some (path.set pos node, needed.set j none) else none
        | _ => some (path, needed) := by
  unfold fillOne entryIs
  rfl

theorem fillOne_inv (val : Nat → D) (S : Nat → Prop) (tg : List Nat) (p : List D) (nd : List (Option (Nat × Nat)))
    (x : Nat) (h : InvP val S tg p nd) :
    ∃ p' nd', fillOne x (val x) p nd = some (p', nd') ∧ InvP val (fun y => S y ∨ y = x) tg p' nd' := by
  rw [fillOne_eq]
  by_cases hcase : ¬ S x ∧ ∃ j : Nat, tg[j]? = some x
  · -- the index is needed here and has not been seen: entry `j` is filled
    obtain ⟨hS, j, hj⟩ := hcase
    have hjlt : j < tg.length := by
      rcases Nat.lt_or_ge j tg.length with h1 | h1
      · exact h1
      · rw [List.getElem?_eq_none h1] at hj; cases hj
    have hndj := h.opn j x hj hS
    have hfind : nd.findIdx? (entryIs x) = some j := by
      rw [List.findIdx?_eq_some_iff_getElem]
      refine ⟨by rw [h.nlen]; exact hjlt, ?_, ?_⟩
      · have : nd[j]'(by rw [h.nlen]; exact hjlt) = some (j, x) := by
          have := List.getElem?_eq_getElem (l := nd) (i := j) (by rw [h.nlen]; exact hjlt)
          rw [hndj] at this
          exact (Option.some.inj this).symm
        rw [this]; simp [entryIs]
      · intro i hij
        have hilt : i < tg.length := by omega
        have hi := List.getElem?_eq_getElem (l := tg) hilt
        have hnd := List.getElem?_eq_getElem (l := nd) (i := i) (by rw [h.nlen]; exact hilt)
        by_cases hSi : S tg[i]
        · have := (h.done i _ hi hSi).1
          rw [hnd] at this
          rw [Option.some.inj this]; simp [entryIs]
        · have := h.opn i _ hi hSi
          rw [hnd] at this
          rw [Option.some.inj this]
          simp only [entryIs, beq_iff_eq]
          intro heq
          have := h.inj i j x (by rw [hi, heq]) hj
          omega
    rw [hfind]
    simp only [hndj]
    rw [if_pos (by rw [h.plen]; exact hjlt)]
    refine ⟨_, _, rfl, ?_⟩
    constructor
    · exact h.inj
    · rw [List.length_set]; exact h.plen
    · rw [List.length_set]; exact h.nlen
    · intro pos y hy hnS
      have hne : j ≠ pos := by
        intro he; subst he
        rw [hj] at hy
        exact hnS (Or.inr (Option.some.inj hy).symm)
      rw [List.getElem?_set_ne hne]
      exact h.opn pos y hy (fun hs => hnS (Or.inl hs))
    · intro pos y hy hSy
      by_cases he : j = pos
      · subst he
        rw [hj] at hy
        have : y = x := (Option.some.inj hy).symm
        subst this
        exact ⟨List.getElem?_set_self (by rw [h.nlen]; exact hjlt), List.getElem?_set_self (by rw [h.plen]; exact hjlt)⟩
      · rw [List.getElem?_set_ne he, List.getElem?_set_ne he]
        rcases hSy with hs | hs
        · exact h.done pos y hy hs
        · subst hs
          exact absurd (h.inj j pos y hj hy) he
  · -- nothing to fill: the index was seen before, or is not needed by this path
    have hfind : nd.findIdx? (entryIs x) = none := by
      rw [List.findIdx?_eq_none_iff]
      intro e he
      obtain ⟨i, hi, rfl⟩ := List.mem_iff_getElem.mp he
      have hilt : i < tg.length := by rw [← h.nlen]; exact hi
      have hti := List.getElem?_eq_getElem (l := tg) hilt
      have hnd := List.getElem?_eq_getElem (l := nd) hi
      by_cases hSi : S tg[i]
      · have := (h.done i _ hti hSi).1
        rw [hnd] at this
        rw [Option.some.inj this]; simp [entryIs]
      · have := h.opn i _ hti hSi
        rw [hnd] at this
        rw [Option.some.inj this]
        simp only [entryIs, beq_eq_false_iff_ne, ne_eq]
        intro heq
        apply hcase
        exact ⟨by rw [← heq]; exact hSi, i, by rw [hti, heq]⟩
    rw [hfind]
    refine ⟨_, _, rfl, ?_⟩
    have hiff : ∀ (pos y : Nat), tg[pos]? = some y → (S y ∨ y = x) → S y := by
      intro pos y hy hs
      rcases hs with hs | hs
      · exact hs
      · subst hs
        by_contra hn
        exact hcase ⟨hn, pos, hy⟩
    constructor
    · exact h.inj
    · exact h.plen
    · exact h.nlen
    · intro pos y hy hnS
      exact h.opn pos y hy (fun hs => hnS (Or.inl hs))
    · intro pos y hy hSy
      exact h.done pos y hy (hiff pos y hy hSy)

theorem InvP.congr {val : Nat → D} {S S' : Nat → Prop} {tg : List Nat} {p : List D} {nd : List (Option (Nat × Nat))}
    (h : InvP val S tg p nd) (hS : ∀ y, S y ↔ S' y) : InvP val S' tg p nd := by
  have : S = S' := funext fun y => propext (hS y)
  subst this; exact h

inductive InvAll (val : Nat → D) (S : Nat → Prop) :
    List (List Nat) → List (List D) → List (List (Option (Nat × Nat))) → Prop
  | nil : InvAll val S [] [] []
  | cons {tg tgs p ps nd nds} : InvP val S tg p nd → InvAll val S tgs ps nds → InvAll val S (tg :: tgs) (p :: ps) (nd :: nds)

theorem InvAll.congr {val : Nat → D} {S S' : Nat → Prop} {tgs : List (List Nat)} {ps : List (List D)}
    {nds : List (List (Option (Nat × Nat)))} (h : InvAll val S tgs ps nds) (hS : ∀ y, S y ↔ S' y) :
    InvAll val S' tgs ps nds := by
  have : S = S' := funext fun y => propext (hS y)
  subst this; exact h

/-- one known node against all paths: the `for (path, path_indices) in paths.iter_mut().zip(…)` loop -/
theorem fillAll_inv (val : Nat → D) (S : Nat → Prop) (x : Nat) {tgs : List (List Nat)} {ps : List (List D)}
    {nds : List (List (Option (Nat × Nat)))} (h : InvAll val S tgs ps nds) :
    ∃ ps' nds', fillAll x (val x) ps nds = some (ps', nds') ∧ InvAll val (fun y => S y ∨ y = x) tgs ps' nds' := by
  induction h with
  | nil => exact ⟨[], [], fillAll_nil x (val x), InvAll.nil⟩
  | cons hp _ ih =>
    obtain ⟨p', nd', h1, h2⟩ := fillOne_inv val S _ _ _ x hp
    obtain ⟨ps', nds', h3, h4⟩ := ih
    refine ⟨p' :: ps', nd' :: nds', ?_, InvAll.cons h2 h4⟩
    rw [fillAll_cons, h1, h3]
    rfl

theorem fillMany_inv (val : Nat → D) : ∀ (items : List (Nat × D)) (S : Nat → Prop) {tgs : List (List Nat)}
    {ps : List (List D)} {nds : List (List (Option (Nat × Nat)))}, (∀ it ∈ items, it.2 = val it.1) →
    InvAll val S tgs ps nds →
    ∃ ps' nds', fillMany items ps nds = some (ps', nds') ∧
      InvAll val (fun y => S y ∨ ∃ it ∈ items, it.1 = y) tgs ps' nds' := by
  intro items
  induction items with
  | nil =>
    intro S tgs ps nds _ h
    exact ⟨ps, nds, fillMany_nil ps nds, h.congr (fun y => by simp)⟩
  | cons it items ih =>
    intro S tgs ps nds hval h
    obtain ⟨x, d⟩ := it
    have hd : d = val x := hval (x, d) (by simp)
    subst hd
    obtain ⟨ps1, nds1, h1, h2⟩ := fillAll_inv val S x h
    obtain ⟨ps2, nds2, h3, h4⟩ := ih (fun y => S y ∨ y = x) (fun it hit => hval it (by simp [hit])) h2
    refine ⟨ps2, nds2, ?_, h4.congr (fun y => ?_)⟩
    · rw [fillMany_cons, h1]; exact h3
    · simp only [List.mem_cons, exists_eq_or_imp]
      constructor
      · rintro ((h | h) | h)
        · exact Or.inl h
        · exact Or.inr (Or.inl h.symm)
        · exact Or.inr (Or.inr h)
      · rintro (h | h | h)
        · exact Or.inl (Or.inl h)
        · exact Or.inl (Or.inr h.symm)
        · exact Or.inr h

theorem enumFrom0_getElem? {α : Type} : ∀ (l : List α) (k i : Nat),
    (enumFrom0 l k)[i]? = (l[i]?).map (fun x => (k + i, x)) := by
  intro l
  induction l with
  | nil => intro k i; simp [enumFrom0]
  | cons a l ih =>
    intro k i
    cases i with
    | zero => simp [enumFrom0]
    | succ i =>
      simp only [enumFrom0, List.getElem?_cons_succ]
      rw [ih]
      congr 1
      funext x
      congr 1; omega

theorem enumFrom0_length {α : Type} : ∀ (l : List α) (k : Nat), (enumFrom0 l k).length = l.length := by
  intro l
  induction l with
  | nil => intro k; simp [enumFrom0]
  | cons a l ih => intro k; simp [enumFrom0, ih]

/-- the initial state of `new_from_batch_append`: every entry open, paths filled with `Digest::default()` -/
theorem InvAll_init (val : Nat → D) (dflt : D) : ∀ (tgs : List (List Nat)),
    (∀ tg ∈ tgs, ∀ (i j y : Nat), tg[i]? = some y → tg[j]? = some y → i = j) →
    InvAll val (fun _ => False) tgs (tgs.map (fun l => l.map (fun _ => dflt)))
      (tgs.map (fun l => (enumFrom0 l 0).map some)) := by
  intro tgs
  induction tgs with
  | nil => intro _; exact InvAll.nil
  | cons tg tgs ih =>
    intro h
    simp only [List.map_cons]
    refine InvAll.cons ?_ (ih (fun tg' htg' => h tg' (by simp [htg'])))
    constructor
    · exact h tg (by simp)
    · simp
    · simp [enumFrom0_length]
    · intro pos y hy _
      rw [List.getElem?_map, enumFrom0_getElem?, hy]
      simp
    · intro pos y _ hf; exact hf.elim

theorem InvAll_final (val : Nat → D) (S : Nat → Prop) {tgs : List (List Nat)} {ps : List (List D)}
    {nds : List (List (Option (Nat × Nat)))} (h : InvAll val S tgs ps nds) (hall : ∀ tg ∈ tgs, ∀ y ∈ tg, S y) :
    ps = tgs.map (fun tg => tg.map val) := by
  induction h with
  | nil => rfl
  | @cons tg tgs p ps nd nds hp _ ih =>
    simp only [List.map_cons]
    congr 1
    · apply List.ext_getElem?
      intro i
      rw [List.getElem?_map]
      rcases Nat.lt_or_ge i tg.length with hi | hi
      · have hti := List.getElem?_eq_getElem (l := tg) hi
        rw [(hp.done i _ hti (hall tg (by simp) _ (List.getElem_mem hi))).2, hti]
        rfl
      · rw [List.getElem?_eq_none (by rw [hp.plen]; exact hi), List.getElem?_eq_none hi]
        rfl
    · exact ih (fun tg' htg' => hall tg' (by simp [htg']))

end TF.MmrE
