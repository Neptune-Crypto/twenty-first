import TF.Proofs.XFieldMore
import Mathlib.FieldTheory.Finite.Basic
/-!
The extension field `K = F_p[X]/(X³ − X + 1)` (`TF/Proofs/Shah.lean`) is finite (a finite-dimensional vector space over
the finite field `F_p`), so every non-zero element has a multiplicative order dividing `P³ − 1`.
-/
open Polynomial

namespace TF.XK
open TF TF.Gen TF.Spec TF.Shah TF.Model TF.XFInvProofs TF.BF

instance : Finite K := by
  have : Module.Finite F K := shah_monic.finite_adjoinRoot
  exact Module.finite_of_finite F

theorem card_K : Nat.card K = 18446744069414584321 ^ 3 := by
  have : Module.Finite F K := shah_monic.finite_adjoinRoot
  let : Fintype K := Fintype.ofFinite K
  rw [Nat.card_eq_fintype_card, Module.card_eq_pow_finrank (K := F) (V := K), ZMod.card,
    (AdjoinRoot.powerBasis' shah_monic).finrank, AdjoinRoot.powerBasis'_dim, shah_natDegree]

theorem pow_card_sub_one (a : K) (ha : a ≠ 0) : a ^ (18446744069414584321 ^ 3 - 1) = 1 := by
  let : Fintype K := Fintype.ofFinite K
  have h := FiniteField.pow_card_sub_one_eq_one a ha
  rwa [← Nat.card_eq_fintype_card, card_K] at h

theorem orderOf_pos_of_ne_zero (a : K) (ha : a ≠ 0) : 0 < orderOf a := by
  rw [orderOf_pos_iff, isOfFinOrder_iff_pow_eq_one]
  exact ⟨18446744069414584321 ^ 3 - 1, by norm_num, pow_card_sub_one a ha⟩

theorem orderOf_dvd_card_sub_one (a : K) (ha : a ≠ 0) : orderOf a ∣ 18446744069414584321 ^ 3 - 1 :=
  orderOf_dvd_of_pow_eq_one (pow_card_sub_one a ha)

end TF.XK
