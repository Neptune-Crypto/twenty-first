import TF.Gen.LatticeLoops
import TF.Proofs.LatticeEmbed
import TF.Proofs.GenBridgeButterfly
/-!
The loops of `math/lattice.rs` as regenerated from source (`TF/Gen/LatticeLoops.lean`, written by
`tools/rs2lean_lattice.py` on every run) are the hand-written model (C18).  The two coset transforms are translated over a
parameter record `ops : Ops σ α` (table entries and `N_INV` through `ops.sofNat <literal>`) and bridged for every `ops`
and every array of length 64; `embed_msg`, `extract_msg` and the ring operations are translated and bridged on canonical
values.  Lengths are bounded by `2^63 = 9223372036854775808` so that `2·len`, `m·2`, `b·t·2` stay below `2^64`.  Each statement also
says that the `_ok` twin is true (no index out of range, no overflow of the index arithmetic) and that `while` loops
finish within their fuel.  Core Lean only.
-/
namespace TF.GenBridge.Lattice
open TF TF.Gen TF.Model.Ntt TF.Model.Lattice TF.LatticeProofs TF.GenBridge.Bfly TF.Blocks

variable {σ α : Type}

/-- `for j in j₀..j₀+n { l[j] = g j }`; the embed loop writes two positions per iteration, and `fill g (2*(n+1))` unfolds
    to two steps by `rfl` -/
def fill (g : Nat → α) : Nat → Nat → List α → List α
  | 0, _, l => l
  | n+1, j, l => fill g n (j+1) (l.set j (g j))

section transforms
variable (ops : Ops σ α) (psi : List σ)

theorem ntt_for3_eq (t : Nat) (zeta : σ) : ∀ n j (x : List α),
    j + n + t ≤ x.length → x.length < 18446744073709551616 →
    Loops.lat_coset_ntt_noswap_64_for3 ops t zeta n j x
      = pass (fun _ u v => ops.add u (ops.scale zeta v)) (fun _ u v => ops.sub u (ops.scale zeta v)) ops.zero t n j x ∧
    Loops.lat_coset_ntt_noswap_64_for3_ok ops t zeta n j x = true := by
  intro n
  induction n with
  | zero => intros; exact ⟨rfl, rfl⟩
  | succ n ih =>
    intro j x hlen hU
    have h2 : (j + t) % 18446744073709551616 = j + t := Nat.mod_eq_of_lt (by omega)
    have h4 : j + t < 18446744073709551616 := by omega
    have h5 : j < x.length := by omega
    have h6 : j + t < x.length := by omega
    obtain ⟨e, ok⟩ := ih (j + 1) ((x.set j (ops.add (x.getD j ops.zero) (ops.scale zeta (x.getD (j + t) ops.zero)))).set
      (j + t) (ops.sub (x.getD j ops.zero) (ops.scale zeta (x.getD (j + t) ops.zero))))
      (by simp only [List.length_set]; omega) (by simp only [List.length_set]; omega)
    constructor
    · simp only [Loops.lat_coset_ntt_noswap_64_for3, pass, h2, e]
    · simp only [Loops.lat_coset_ntt_noswap_64_for3_ok, h2, h4, h5, h6, List.length_set, decide_true, Bool.and_self, ok]

theorem intt_for3_eq (t : Nat) (zeta : σ) : ∀ n j (x : List α),
    j + n + t ≤ x.length → x.length < 18446744073709551616 →
    Loops.lat_coset_intt_noswap_64_for3 ops t zeta n j x
      = pass (fun _ u v => ops.add u v) (fun _ u v => ops.scale zeta (ops.sub u v)) ops.zero t n j x ∧
    Loops.lat_coset_intt_noswap_64_for3_ok ops t zeta n j x = true := by
  intro n
  induction n with
  | zero => intros; exact ⟨rfl, rfl⟩
  | succ n ih =>
    intro j x hlen hU
    have h2 : (j + t) % 18446744073709551616 = j + t := Nat.mod_eq_of_lt (by omega)
    have h4 : j + t < 18446744073709551616 := by omega
    have h5 : j < x.length := by omega
    have h6 : j + t < x.length := by omega
    obtain ⟨e, ok⟩ := ih (j + 1) ((x.set j (ops.add (x.getD j ops.zero) (x.getD (j + t) ops.zero))).set
      (j + t) (ops.scale zeta (ops.sub (x.getD j ops.zero) (x.getD (j + t) ops.zero))))
      (by simp only [List.length_set]; omega) (by simp only [List.length_set]; omega)
    constructor
    · simp only [Loops.lat_coset_intt_noswap_64_for3, pass, h2, e]
    · simp only [Loops.lat_coset_intt_noswap_64_for3_ok, h2, h4, h5, h6, List.length_set, decide_true, Bool.and_self, ok]

/-- the butterflies of block `b` of a forward stage: `zeta = psi[m + b]` -/
def nttF (m b : Nat) : α → α → α :=
  fun u v => ops.add u (ops.scale (psi.getD (m + b) ops.szero) v)
def nttG (m b : Nat) : α → α → α :=
  fun u v => ops.sub u (ops.scale (psi.getD (m + b) ops.szero) v)

theorem ntt_for2_eq (m t r b : Nat) (y : List α) (ht : 0 < t) (hb : b + (r+1) = m)
    (hy : y.length = m*(2*t)) (hU : y.length < 9223372036854775808) (hpsi : 2*m ≤ psi.length) :
    Loops.lat_coset_ntt_noswap_64_for2 ops psi m t (r+1) b y
      = Loops.lat_coset_ntt_noswap_64_for2 ops psi m t r (b+1)
          (pass (perBlock t (nttF ops psi m)) (perBlock t (nttG ops psi m)) ops.zero t t (b*(2*t)) y) ∧
    Loops.lat_coset_ntt_noswap_64_for2_ok ops psi m t (r+1) b y
      = Loops.lat_coset_ntt_noswap_64_for2_ok ops psi m t r (b+1)
          (pass (perBlock t (nttF ops psi m)) (perBlock t (nttG ops psi m)) ops.zero t t (b*(2*t)) y) := by
  have hk := blk_le b m t (by omega)
  have hmle : m ≤ m*(2*t) := Nat.le_mul_of_pos_right m (by omega)
  have hbt : b * t * 2 = b * (2 * t) := by rw [Nat.mul_assoc, Nat.mul_comm t 2]
  obtain ⟨c1, c2, c3, c4, c5⟩ : b * t < 18446744073709551616 ∧ b * t * 2 < 18446744073709551616 ∧
      m + b < 18446744073709551616 ∧ m + b < psi.length ∧ b * (2 * t) + t < 18446744073709551616 := by omega
  have e1 : (b * t) % 18446744073709551616 = b * t := Nat.mod_eq_of_lt c1
  have e2 : (b * t * 2) % 18446744073709551616 = b * (2 * t) := hbt ▸ Nat.mod_eq_of_lt c2
  have e3 : (m + b) % 18446744073709551616 = m + b := Nat.mod_eq_of_lt c3
  have e5 : (b * (2 * t) + t) % 18446744073709551616 - b * (2 * t) = t := by
    rw [Nat.mod_eq_of_lt c5, Nat.add_sub_cancel_left]
  obtain ⟨e, ok⟩ := ntt_for3_eq ops t (psi.getD (m + b) ops.szero) t (b*(2*t)) y (by omega) (by omega)
  replace e := e.trans (pass_block (nttF ops psi m) (nttG ops psi m) ops.zero t b y)
  constructor
  · simp only [Loops.lat_coset_ntt_noswap_64_for2, e1, e2, e3, e5, e]
  · simp only [Loops.lat_coset_ntt_noswap_64_for2_ok, e1, e2, e3, e5, e, ok, c1, c2, c3, c4, c5, decide_true,
      Bool.and_self, Bool.true_and]

theorem nttStage_toList (m t : Nat) (a : Array α) :
    (cosetNttStage ops m t psi.toArray a).toList.length = a.toList.length ∧
    ∀ idx, idx < a.toList.length → (cosetNttStage ops m t psi.toArray a).toList[idx]?
      = some (stageAt (perBlock t (nttF ops psi m)) (perBlock t (nttG ops psi m)) ops.zero t a.toList idx) := by
  refine ⟨by rw [Array.length_toList, Array.length_toList, cosetNttStage_size], fun idx hi => ?_⟩
  have hi' : idx < a.size := by rwa [Array.length_toList] at hi
  simp only [Array.getElem?_toList, cosetNttStage, Array.getElem?_ofFn, hi', dite_true, stageAt, perBlock, nttF, nttG,
    Array.getD_eq_getD_getElem?, List.getD_eq_getElem?_getD, List.getElem?_toArray]

theorem ntt_stage_eq (m t : Nat) (ht : 0 < t) (a : Array α) (hlen : a.size = m*(2*t))
    (hU : a.size < 9223372036854775808) (hpsi : 2*m ≤ psi.length) :
    Loops.lat_coset_ntt_noswap_64_for2 ops psi m t m 0 a.toList = (cosetNttStage ops m t psi.toArray a).toList ∧
    Loops.lat_coset_ntt_noswap_64_for2_ok ops psi m t m 0 a.toList = true := by
  have hl : a.toList.length = m*(2*t) := by rw [Array.length_toList, hlen]
  obtain ⟨sl, sp⟩ := nttStage_toList ops psi m t a
  exact blockLoop_eq _ _ ops.zero t m a.toList _ hl sl sp (Loops.lat_coset_ntt_noswap_64_for2 ops psi m t)
    (Loops.lat_coset_ntt_noswap_64_for2_ok ops psi m t) (fun _ _ => ⟨rfl, rfl⟩)
    (fun r b y hb hy => ntt_for2_eq ops psi m t r b y ht hb (hy.trans hl) (by rw [hy, hl, ← hlen]; exact hU) hpsi)

theorem ntt_loop_step (N m t f : Nat) (a : Array α) (hmN : m < N) (ht : 0 < t/2)
    (hlen : a.size = m*(2*(t/2))) (hU : a.size < 9223372036854775808) (hpsi : 2*m ≤ psi.length) :
    Loops.lat_coset_ntt_noswap_64_loop ops N psi (f+1) a.toList m t
      = Loops.lat_coset_ntt_noswap_64_loop ops N psi f (cosetNttStage ops m (t/2) psi.toArray a).toList (2*m) (t/2) ∧
    Loops.lat_coset_ntt_noswap_64_loop_ok ops N psi (f+1) a.toList m t
      = Loops.lat_coset_ntt_noswap_64_loop_ok ops N psi f (cosetNttStage ops m (t/2) psi.toArray a).toList (2*m) (t/2) := by
  obtain ⟨e, ok⟩ := ntt_stage_eq ops psi m (t/2) ht a hlen hU hpsi
  have hmle : m ≤ a.size := by rw [hlen]; exact Nat.le_mul_of_pos_right m (by omega)
  have c1 : m * 2 < 18446744073709551616 := by omega
  have e1 : (m * 2) % 18446744073709551616 = 2 * m := by rw [Nat.mod_eq_of_lt c1]; omega
  constructor
  · simp only [Loops.lat_coset_ntt_noswap_64_loop, hmN, decide_true, if_true, Nat.sub_zero, e, e1]
  · simp only [Loops.lat_coset_ntt_noswap_64_loop_ok, hmN, decide_true, if_true, Nat.sub_zero, e, ok, e1, c1,
      Bool.true_and]

/-- the table literal of the function body is the regenerated `PSI_POWERS_BITREVERSED` (written by another code path of
    the translator) mapped through `BFieldElement::new`; the fuel 8 covers the six stages and the final test of `m < N` -/
theorem ntt_unfold (x : List α) :
    Loops.lat_coset_ntt_noswap_64 ops x
      = (Loops.lat_coset_ntt_noswap_64_loop ops 64 (PSI_POWERS_BITREVERSED.map ops.sofNat) 8 x 1 64).bind
          (fun r => some r.1) := rfl

theorem ntt_ok_unfold (x : List α) :
    Loops.lat_coset_ntt_noswap_64_ok ops x
      = Loops.lat_coset_ntt_noswap_64_loop_ok ops 64 (PSI_POWERS_BITREVERSED.map ops.sofNat) 8 x 1 64 := rfl

/-- the `while m < N` loop for `N = m·2^k`, `t = 2^k`: `k` stages, then one more evaluation of the loop head; any fuel
    above `k` will do on either side -/
theorem ntt_loop_eq (N : Nat) (hN : N < 9223372036854775808) (hpsi : N ≤ psi.length) :
    ∀ k m t f g (a : Array α), t = 2^k → k < f → k ≤ g → 0 < m → m * t = N → a.size = N →
    Loops.lat_coset_ntt_noswap_64_loop ops N psi f a.toList m t
      = some ((cosetNttLoop ops psi.toArray N g m t a).toList, N, 1) ∧
    Loops.lat_coset_ntt_noswap_64_loop_ok ops N psi f a.toList m t = true := by
  intro k
  induction k with
  | zero =>
    intro m t f g a ht hf _ _ hm _
    obtain ⟨f, rfl⟩ := Nat.exists_eq_add_of_lt hf
    subst ht
    rw [Nat.pow_zero, Nat.mul_one] at hm
    subst hm
    cases g <;>
      simp only [Loops.lat_coset_ntt_noswap_64_loop, Loops.lat_coset_ntt_noswap_64_loop_ok, cosetNttLoop, Nat.lt_irrefl,
        decide_false, Bool.false_eq_true, if_false, Nat.zero_add, Nat.pow_zero, and_self]
  | succ k ih =>
    intro m t f g a ht hf hg hm0 hm ha
    obtain ⟨f, rfl⟩ : ∃ f', f = f' + 1 := ⟨f - 1, by omega⟩
    obtain ⟨g, rfl⟩ : ∃ g', g = g' + 1 := ⟨g - 1, by omega⟩
    have hk : 0 < 2^k := Nat.two_pow_pos k
    have h2 : t / 2 = 2^k := by rw [ht, Nat.pow_succ, Nat.mul_div_cancel _ (by decide)]
    have hmk : m * (2 * 2^k) = N := by rw [← hm, ht, Nat.pow_succ, Nat.mul_comm 2]
    have hmN : m < N := by rw [← hmk]; exact (Nat.lt_mul_iff_one_lt_right hm0).2 (by omega)
    have h2m : 2 * m ≤ psi.length := by
      have : m * 2 ≤ m * (2 * 2^k) := Nat.mul_le_mul_left m (by omega)
      omega
    obtain ⟨e, ok⟩ := ntt_loop_step ops psi N m t f a hmN (by rw [h2]; exact hk) (by rw [h2, ha, hmk]) (by rw [ha]; exact hN) h2m
    obtain ⟨i1, i2⟩ := ih (2*m) (t/2) f g (cosetNttStage ops m (t/2) psi.toArray a) h2 (by omega) (by omega) (by omega)
      (by rw [h2, ← hmk, Nat.mul_comm 2 m, Nat.mul_assoc]) (by rw [cosetNttStage_size, ha])
    rw [e, ok, cosetNttLoop, if_pos hmN]
    exact ⟨i1, i2⟩

/-- stated for a variable table, so that rewriting with it does not unfold `cosetNtt` against the 64 table literals -/
theorem cosetNtt_eq_loop (psi : Array σ) (x : Array α) :
    cosetNtt ops psi x = cosetNttLoop ops psi 64 64 1 64 x := rfl

/-- `coset_ntt_noswap_64` regenerated from source is the model's `cosetNtt` with the table
    `PSI_POWERS_BITREVERSED.map ops.sofNat`, for every operation record and every array of length 64 -/
theorem gen_coset_ntt_eq (x : Array α) (hx : x.size = 64) :
    Loops.lat_coset_ntt_noswap_64 ops x.toList
      = some (cosetNtt ops (PSI_POWERS_BITREVERSED.map ops.sofNat).toArray x).toList ∧
    Loops.lat_coset_ntt_noswap_64_ok ops x.toList = true := by
  obtain ⟨e, ok⟩ := ntt_loop_eq ops (PSI_POWERS_BITREVERSED.map ops.sofNat) 64 (by decide) (by rw [List.length_map]; decide)
    6 1 64 8 64 x (by decide) (by decide) (by decide) (by decide) (by decide) hx
  exact ⟨by rw [ntt_unfold, e, Option.bind_some, cosetNtt_eq_loop], by rw [ntt_ok_unfold, ok]⟩

/-- the butterflies of block `b` of an inverse stage, `zeta = psi_inv[h + b]`; `inttF` ignores its table arguments and has
    them only to be of the shape `perBlock t (F h)` that `pass_block` and `blockLoop_eq` expect of both results -/
def inttF (ops : Ops σ α) (_psi : List σ) (_h _b : Nat) : α → α → α := fun u v => ops.add u v
def inttG (h b : Nat) : α → α → α :=
  fun u v => ops.scale (psi.getD (h + b) ops.szero) (ops.sub u v)

theorem intt_for2_eq (h t r b : Nat) (y : List α) (ht : 0 < t) (hb : b + (r+1) = h)
    (hy : y.length = h*(2*t)) (hU : y.length < 9223372036854775808) (hpsi : 2*h ≤ psi.length) :
    Loops.lat_coset_intt_noswap_64_for2 ops psi t h (r+1) b y (b*(2*t))
      = Loops.lat_coset_intt_noswap_64_for2 ops psi t h r (b+1)
          (pass (perBlock t (inttF ops psi h)) (perBlock t (inttG ops psi h)) ops.zero t t (b*(2*t)) y) ((b+1)*(2*t)) ∧
    Loops.lat_coset_intt_noswap_64_for2_ok ops psi t h (r+1) b y (b*(2*t))
      = Loops.lat_coset_intt_noswap_64_for2_ok ops psi t h r (b+1)
          (pass (perBlock t (inttF ops psi h)) (perBlock t (inttG ops psi h)) ops.zero t t (b*(2*t)) y) ((b+1)*(2*t)) := by
  have hk := blk_le b h t (by omega)
  have hmle : h ≤ h*(2*t) := Nat.le_mul_of_pos_right h (by omega)
  obtain ⟨c3, c4, c5, c6, c7⟩ : h + b < 18446744073709551616 ∧ h + b < psi.length ∧
      b * (2 * t) + t < 18446744073709551616 ∧ 2 * t < 18446744073709551616 ∧
      b * (2 * t) + 2 * t < 18446744073709551616 := by omega
  have e3 : (h + b) % 18446744073709551616 = h + b := Nat.mod_eq_of_lt c3
  have e5 : (b * (2 * t) + t) % 18446744073709551616 - b * (2 * t) = t := by
    rw [Nat.mod_eq_of_lt c5, Nat.add_sub_cancel_left]
  have e6 : (2 * t) % 18446744073709551616 = 2 * t := Nat.mod_eq_of_lt c6
  have e7 : (b * (2 * t) + 2 * t) % 18446744073709551616 = (b + 1) * (2 * t) := by
    rw [Nat.mod_eq_of_lt c7]; exact (Nat.succ_mul b (2 * t)).symm
  obtain ⟨e, ok⟩ := intt_for3_eq ops t (psi.getD (h + b) ops.szero) t (b*(2*t)) y (by omega) (by omega)
  replace e := e.trans (pass_block (inttF ops psi h) (inttG ops psi h) ops.zero t b y)
  constructor
  · simp only [Loops.lat_coset_intt_noswap_64_for2, e3, e5, e6, e7, e]
  · simp only [Loops.lat_coset_intt_noswap_64_for2_ok, e3, e5, e6, e7, e, ok, c3, c4, c5, c6, c7, decide_true,
      Bool.and_self, Bool.true_and]

theorem inttStage_toList (h t : Nat) (a : Array α) :
    (cosetInttStage ops h t psi.toArray a).toList.length = a.toList.length ∧
    ∀ idx, idx < a.toList.length → (cosetInttStage ops h t psi.toArray a).toList[idx]?
      = some (stageAt (perBlock t (inttF ops psi h)) (perBlock t (inttG ops psi h)) ops.zero t a.toList idx) := by
  refine ⟨by rw [Array.length_toList, Array.length_toList, cosetInttStage_size], fun idx hi => ?_⟩
  have hi' : idx < a.size := by rwa [Array.length_toList] at hi
  simp only [Array.getElem?_toList, cosetInttStage, Array.getElem?_ofFn, hi', dite_true, stageAt, perBlock, inttF, inttG,
    Array.getD_eq_getD_getElem?, List.getD_eq_getElem?_getD, List.getElem?_toArray]

theorem intt_stage_eq (h t : Nat) (ht : 0 < t) (a : Array α) (hlen : a.size = h*(2*t))
    (hU : a.size < 9223372036854775808) (hpsi : 2*h ≤ psi.length) :
    (Loops.lat_coset_intt_noswap_64_for2 ops psi t h h 0 a.toList 0).1 = (cosetInttStage ops h t psi.toArray a).toList ∧
    Loops.lat_coset_intt_noswap_64_for2_ok ops psi t h h 0 a.toList 0 = true := by
  have hl : a.toList.length = h*(2*t) := by rw [Array.length_toList, hlen]
  obtain ⟨sl, sp⟩ := inttStage_toList ops psi h t a
  have := blockLoop_eq _ _ ops.zero t h a.toList _ hl sl sp
    (fun r b y => (Loops.lat_coset_intt_noswap_64_for2 ops psi t h r b y (b*(2*t))).1)
    (fun r b y => Loops.lat_coset_intt_noswap_64_for2_ok ops psi t h r b y (b*(2*t))) (fun _ _ => ⟨rfl, rfl⟩)
    (fun r b y hb hy => by
      obtain ⟨e, ok⟩ := intt_for2_eq ops psi h t r b y ht hb (hy.trans hl) (by rw [hy, hl, ← hlen]; exact hU) hpsi
      exact ⟨congrArg Prod.fst e, ok⟩)
  rwa [Nat.zero_mul] at this

theorem intt_for_step (n it t h : Nat) (a : Array α) (ht : 0 < t) (hh : 0 < h)
    (hlen : a.size = h*(2*t)) (hU : a.size < 9223372036854775808) (hpsi : 2*h ≤ psi.length) :
    Loops.lat_coset_intt_noswap_64_for ops psi (n+1) it a.toList t h
      = Loops.lat_coset_intt_noswap_64_for ops psi n (it+1) (cosetInttStage ops h t psi.toArray a).toList (2*t) (h/2) ∧
    Loops.lat_coset_intt_noswap_64_for_ok ops psi (n+1) it a.toList t h
      = Loops.lat_coset_intt_noswap_64_for_ok ops psi n (it+1) (cosetInttStage ops h t psi.toArray a).toList (2*t) (h/2) := by
  obtain ⟨e, ok⟩ := intt_stage_eq ops psi h t ht a hlen hU hpsi
  have c1 : t * 2 < 18446744073709551616 := by
    have : 1 * (2*t) ≤ h * (2*t) := Nat.mul_le_mul_right _ hh
    omega
  have e1 : (t * 2) % 18446744073709551616 = 2 * t := by rw [Nat.mod_eq_of_lt c1]; omega
  constructor
  · simp only [Loops.lat_coset_intt_noswap_64_for, Nat.sub_zero, e, e1]
  · simp only [Loops.lat_coset_intt_noswap_64_for_ok, Nat.sub_zero, e, ok, e1, c1, decide_true, Bool.true_and]

theorem scale_for4_ok (c : σ) : ∀ n ix (y : List α), ix + n ≤ y.length →
    Loops.lat_coset_intt_noswap_64_for4_ok ops c n ix y = true
  | 0, _, _, _ => rfl
  | n+1, ix, y, h => by
    have hix : ix < y.length := by omega
    simp only [Loops.lat_coset_intt_noswap_64_for4_ok, hix, decide_true, Bool.and_self, Bool.true_and]
    exact scale_for4_ok c n (ix + 1) _ (by rw [List.length_set]; omega)

theorem scale_for4_eq (c : σ) (a : Array α) :
    Loops.lat_coset_intt_noswap_64_for4 ops c a.toList.length 0 a.toList = (a.map (ops.scale c)).toList ∧
    Loops.lat_coset_intt_noswap_64_for4_ok ops c a.toList.length 0 a.toList = true := by
  refine ⟨List.ext_getElem? fun idx => ?_, scale_for4_ok ops c _ 0 _ (by omega)⟩
  rw [mapLoop_full (fun _ v => ops.scale c v) ops.zero (Loops.lat_coset_intt_noswap_64_for4 ops c) (fun _ _ => rfl)
    (fun _ _ _ => rfl), Array.toList_map, List.getElem?_map]

/-- the table literal and `N_INV` of the function body are the regenerated `PSI_INV_POWERS_BITREVERSED`, `LATTICE_N_INV`;
    `h = N / 2` is spelt `2^(0+6) / 2`, the form in which `intt_for_eq` produces it -/
theorem intt_unfold (x : List α) :
    Loops.lat_coset_intt_noswap_64 ops x
      = Loops.lat_coset_intt_noswap_64_for4 ops (ops.sofNat LATTICE_N_INV)
          ((Loops.lat_coset_intt_noswap_64_for ops (PSI_INV_POWERS_BITREVERSED.map ops.sofNat) 6 0 x 1 (2^(0+6) / 2)).1.length - 0) 0
          (Loops.lat_coset_intt_noswap_64_for ops (PSI_INV_POWERS_BITREVERSED.map ops.sofNat) 6 0 x 1 (2^(0+6) / 2)).1 := rfl

theorem intt_ok_unfold (x : List α) :
    Loops.lat_coset_intt_noswap_64_ok ops x
      = ((2 != 0) && (Loops.lat_coset_intt_noswap_64_for_ok ops (PSI_INV_POWERS_BITREVERSED.map ops.sofNat) 6 0 x 1 (2^(0+6) / 2) &&
          Loops.lat_coset_intt_noswap_64_for4_ok ops (ops.sofNat LATTICE_N_INV)
            ((Loops.lat_coset_intt_noswap_64_for ops (PSI_INV_POWERS_BITREVERSED.map ops.sofNat) 6 0 x 1 (2^(0+6) / 2)).1.length - 0) 0
            (Loops.lat_coset_intt_noswap_64_for ops (PSI_INV_POWERS_BITREVERSED.map ops.sofNat) 6 0 x 1 (2^(0+6) / 2)).1)) := rfl

/-- the stage loop `for _ in 0..LOGN` with `n` stages to go; `h = 2^(d+n)/2` keeps `h >>= 1` exact down to `h = 0` -/
theorem intt_for_eq : ∀ n d t it (a : Array α), 0 < t → a.size = 2^(d+n) * t →
    a.size < 9223372036854775808 → a.size ≤ psi.length →
    (Loops.lat_coset_intt_noswap_64_for ops psi n it a.toList t (2^(d+n) / 2)).1
      = (cosetInttLoop ops psi.toArray n t (2^(d+n) / 2) a).toList ∧
    Loops.lat_coset_intt_noswap_64_for_ok ops psi n it a.toList t (2^(d+n) / 2) = true := by
  intro n
  induction n with
  | zero => intros; exact ⟨rfl, rfl⟩
  | succ n ih =>
    intro d t it a ht ha hU hpsi
    have hh : 2^(d+(n+1)) / 2 = 2^(d+n) := by rw [← Nat.add_assoc, Nat.pow_succ, Nat.mul_div_cancel _ (by decide)]
    have hsz : a.size = 2^(d+n) * (2*t) := by rw [ha, ← Nat.add_assoc, Nat.pow_succ, Nat.mul_assoc]
    have hp : 2 * 2^(d+n) ≤ psi.length := by
      have : 2^(d+n) * 2 ≤ 2^(d+n) * (2*t) := Nat.mul_le_mul_left _ (by omega)
      omega
    obtain ⟨e, ok⟩ := intt_for_step ops psi n it t (2^(d+n)) a ht (Nat.two_pow_pos _) hsz hU hp
    have hs := cosetInttStage_size ops (2^(d+n)) t psi.toArray a
    obtain ⟨i1, i2⟩ := ih d (2*t) (it+1) (cosetInttStage ops (2^(d+n)) t psi.toArray a) (by omega)
      (by rw [hs, hsz]) (by rw [hs]; exact hU) (by rw [hs]; exact hpsi)
    rw [hh, e, ok, cosetInttLoop]
    exact ⟨i1, i2⟩

theorem cosetIntt_eq_loop (psi : Array σ) (ninv : σ) (x : Array α) :
    cosetIntt ops psi ninv x = (cosetInttLoop ops psi 6 1 (2^(0+6) / 2) x).map (ops.scale ninv) := rfl

/-- `coset_intt_noswap_64` regenerated from source is the model's `cosetIntt` with the table
    `PSI_INV_POWERS_BITREVERSED.map ops.sofNat` and the scalar `ops.sofNat LATTICE_N_INV`, for every operation record and
    every array of length 64 -/
theorem gen_coset_intt_eq (x : Array α) (hx : x.size = 64) :
    Loops.lat_coset_intt_noswap_64 ops x.toList
      = (cosetIntt ops (PSI_INV_POWERS_BITREVERSED.map ops.sofNat).toArray (ops.sofNat LATTICE_N_INV) x).toList ∧
    Loops.lat_coset_intt_noswap_64_ok ops x.toList = true := by
  obtain ⟨e, ok⟩ := intt_for_eq ops (PSI_INV_POWERS_BITREVERSED.map ops.sofNat) 6 0 1 0 x (by decide) (by rw [hx])
    (by rw [hx]; decide) (by rw [hx, List.length_map]; decide)
  obtain ⟨e4, ok4⟩ := scale_for4_eq ops (ops.sofNat LATTICE_N_INV)
    (cosetInttLoop ops (PSI_INV_POWERS_BITREVERSED.map ops.sofNat).toArray 6 1 (2^(0+6) / 2) x)
  constructor
  · rw [intt_unfold, cosetIntt_eq_loop, e, Nat.sub_zero, e4]
  · rw [intt_ok_unfold, ok, e, Nat.sub_zero, ok4]
    rfl

end transforms

theorem psi_bOps : (PSI_POWERS_BITREVERSED.map (bOps.sofNat)).toArray = psi := by
  have h : PSI_POWERS_BITREVERSED.map (bOps.sofNat) = PSI_POWERS_BITREVERSED := by decide +kernel
  rw [h]; rfl

theorem psiInv_bOps : (PSI_INV_POWERS_BITREVERSED.map (bOps.sofNat)).toArray = psiInv := by
  have h : PSI_INV_POWERS_BITREVERSED.map (bOps.sofNat) = PSI_INV_POWERS_BITREVERSED := by decide +kernel
  rw [h]; rfl

theorem nInv_bOps : bOps.sofNat LATTICE_N_INV = LATTICE_N_INV := by decide +kernel

theorem gen_ntt64 (x : Ring) (hx : x.size = 64) :
    Loops.lat_coset_ntt_noswap_64 bOps x.toList = some (ntt64 x).toList ∧
    Loops.lat_coset_ntt_noswap_64_ok bOps x.toList = true := by
  rw [ntt64, ← psi_bOps]; exact gen_coset_ntt_eq bOps x hx

theorem gen_intt64 (x : Ring) (hx : x.size = 64) :
    Loops.lat_coset_intt_noswap_64 bOps x.toList = (intt64 x).toList ∧
    Loops.lat_coset_intt_noswap_64_ok bOps x.toList = true := by
  rw [intt64, ← psiInv_bOps, ← nInv_bOps]; exact gen_coset_intt_eq bOps x hx

/-- the two bit loops read the message only through the byte `msg[i]` -/
theorem embed_for2_congr (msg : List Nat) (i : Nat) (hi : i < msg.length) : ∀ n j acc,
    Loops.lat_embed_msg_for2 msg i n j acc = Loops.lat_embed_msg_for2 [msg.getD i 0] 0 n j acc ∧
    Loops.lat_embed_msg_for2_ok msg i n j acc = Loops.lat_embed_msg_for2_ok [msg.getD i 0] 0 n j acc := by
  intro n
  induction n with
  | zero => intros; exact ⟨rfl, rfl⟩
  | succ n ih =>
    intro j acc
    constructor
    · simp only [Loops.lat_embed_msg_for2, List.getD_cons_zero, (ih _ _).1]
    · simp only [Loops.lat_embed_msg_for2_ok, List.getD_cons_zero, (ih _ _).2, hi, List.length_singleton, Nat.zero_lt_one]

theorem embed_for3_congr (msg : List Nat) (i : Nat) (hi : i < msg.length) : ∀ n j acc,
    Loops.lat_embed_msg_for3 msg i n j acc = Loops.lat_embed_msg_for3 [msg.getD i 0] 0 n j acc ∧
    Loops.lat_embed_msg_for3_ok msg i n j acc = Loops.lat_embed_msg_for3_ok [msg.getD i 0] 0 n j acc := by
  intro n
  induction n with
  | zero => intros; exact ⟨rfl, rfl⟩
  | succ n ih =>
    intro j acc
    constructor
    · simp only [Loops.lat_embed_msg_for3, List.getD_cons_zero, (ih _ _).1]
    · simp only [Loops.lat_embed_msg_for3_ok, List.getD_cons_zero, (ih _ _).2, hi, List.length_singleton, Nat.zero_lt_one]

/-- all 256 bytes: the two bit loops compute the model's nibbles (values `< 2^63 + 2^47 + 2^31 + 2^15 < P`, so
    `BFieldElement::new` does not reduce) -/
theorem embed_byte_table : ∀ b, b < 256 →
    Loops.lat_embed_msg_for2 [b] 0 4 0 0 % P = embedNibble b 0 ∧ Loops.lat_embed_msg_for2_ok [b] 0 4 0 0 = true ∧
    Loops.lat_embed_msg_for3 [b] 0 4 0 0 % P = embedNibble b 4 ∧ Loops.lat_embed_msg_for3_ok [b] 0 4 0 0 = true := by
  decide +kernel

/-- the value the model puts at position `idx` -/
def embedAt (msg : List Nat) (idx : Nat) : Nat := embedNibble (msg.getD (idx / 2) 0) (if idx % 2 = 0 then 0 else 4)

theorem getD_lt_256 (msg : List Nat) (hb : ∀ b ∈ msg, b < 256) (i : Nat) : msg.getD i 0 < 256 := by
  rw [List.getD_eq_getElem?_getD]
  by_cases h : i < msg.length
  · rw [List.getElem?_eq_getElem h]; exact hb _ (List.getElem_mem h)
  · rw [List.getElem?_eq_none (by omega)]; decide

theorem embed_for_step (msg : List Nat) (hb : ∀ b ∈ msg, b < 256) (n i : Nat) (emb : List Nat) (hi : i < msg.length)
    (hU : 2 * i + 1 < 18446744073709551616) :
    Loops.lat_embed_msg_for msg (n+1) i emb
      = Loops.lat_embed_msg_for msg n (i+1) ((emb.set (2*i) (embedAt msg (2*i))).set (2*i+1) (embedAt msg (2*i+1))) := by
  obtain ⟨t1, -, t3, -⟩ := embed_byte_table _ (getD_lt_256 msg hb i)
  have d1 : embedAt msg (2*i) = embedNibble (msg.getD i 0) 0 := by
    rw [embedAt, Nat.mul_div_cancel_left i (by decide), if_pos (Nat.mul_mod_right 2 i)]
  have d2 : embedAt msg (2*i+1) = embedNibble (msg.getD i 0) 4 := by
    rw [embedAt, show (2*i+1)/2 = i by omega, if_neg (by omega)]
  simp only [Loops.lat_embed_msg_for, Nat.sub_zero, (embed_for2_congr msg i hi 4 0 0).1, (embed_for3_congr msg i hi 4 0 0).1,
    t1, t3, Nat.mod_eq_of_lt (show 2 * i < 18446744073709551616 by omega), Nat.mod_eq_of_lt hU, d1, d2]

theorem embed_for_eq_fill (msg : List Nat) (hb : ∀ b ∈ msg, b < 256) : ∀ n i (emb : List Nat),
    i + n ≤ msg.length → msg.length < 9223372036854775808 →
    Loops.lat_embed_msg_for msg n i emb = fill (embedAt msg) (2*n) (2*i) emb
  | 0, _, _, _, _ => rfl
  | n+1, i, emb, h, hU => by
    rw [embed_for_step msg hb n i emb (by omega) (by omega), embed_for_eq_fill msg hb n (i+1) _ (by omega) hU]
    rfl

theorem embed_for_ok (msg : List Nat) (hb : ∀ b ∈ msg, b < 256) : ∀ n i (emb : List Nat),
    i + n ≤ msg.length → 2 * msg.length ≤ emb.length → emb.length < 9223372036854775808 →
    Loops.lat_embed_msg_for_ok msg n i emb = true
  | 0, _, _, _, _, _ => rfl
  | n+1, i, emb, h, hlen, hU => by
    have hi : i < msg.length := by omega
    obtain ⟨t1, t2, t3, t4⟩ := embed_byte_table _ (getD_lt_256 msg hb i)
    obtain ⟨g1, g2⟩ := embed_for2_congr msg i hi 4 0 0
    obtain ⟨g3, g4⟩ := embed_for3_congr msg i hi 4 0 0
    obtain ⟨c1, c2, c3, c4⟩ : 2 * i < 18446744073709551616 ∧ 2 * i + 1 < 18446744073709551616 ∧ 2 * i < emb.length ∧
        2 * i + 1 < emb.length := by omega
    have e1 : (2 * i) % 18446744073709551616 = 2 * i := Nat.mod_eq_of_lt c1
    have e2 : (2 * i + 1) % 18446744073709551616 = 2 * i + 1 := Nat.mod_eq_of_lt c2
    simp only [Loops.lat_embed_msg_for_ok, Nat.sub_zero, g1, g2, g3, g4, t1, t2, t3, t4, e1, e2, c1, c2, c3, c4,
      List.length_set, decide_true, Bool.and_self, Bool.true_and]
    exact embed_for_ok msg hb n (i + 1) _ (by omega) (by rw [List.length_set, List.length_set]; exact hlen)
      (by rw [List.length_set, List.length_set]; exact hU)

/-- `embed_msg` regenerated from source is the model's `embedMsg`, for every message of 32 bytes -/
theorem gen_embed_msg_eq (msg : List Nat) (hlen : msg.length = 32) (hb : ∀ b ∈ msg, b < 256) :
    Loops.lat_embed_msg msg = (embedMsg msg).toList ∧ Loops.lat_embed_msg_ok msg = true := by
  refine ⟨?_, embed_for_ok msg hb _ 0 _ (by omega) (by rw [hlen, List.length_replicate]; decide)
    (by rw [List.length_replicate]; decide)⟩
  rw [Loops.lat_embed_msg, Nat.sub_zero, embed_for_eq_fill msg hb _ 0 _ (by omega) (by rw [hlen]; decide), hlen]
  apply List.ext_getElem?
  intro idx
  have h := mapLoop_full (fun j _ => embedAt msg j) 0 (fill (embedAt msg)) (fun _ _ => rfl) (fun _ _ _ => rfl)
    (List.replicate 64 0) idx
  rw [List.length_replicate] at h
  rw [h, List.getElem?_replicate, embedMsg, Array.getElem?_toList, Array.getElem?_ofFn]
  split <;> rfl

theorem gen_embed_msg_getD (msg : List Nat) (hlen : msg.length = 32) (hb : ∀ b ∈ msg, b < 256) (k : Nat) :
    (Loops.lat_embed_msg msg).getD k 0 = (embedMsg msg).getD k 0 := by
  rw [(gen_embed_msg_eq msg hlen hb).1, List.getD_eq_getElem?_getD, Array.getElem?_toList, Array.getD_eq_getD_getElem?]

theorem and_mask16 (v : Nat) : v &&& 65535 = v % 65536 := Nat.and_two_pow_sub_one_eq_mod v 16

/-- the left side is the generated text of `chunk < 2^14 || 2^16 - chunk < 2^14` with wrapping `usize` subtraction -/
theorem lane_eq (v : Nat) :
    (if (decide (v % 65536 < 16384) ||
        decide ((65536 + 18446744073709551616 - v % 65536) % 18446744073709551616 < 16384)) = true then 0 else 1)
      = laneBit (v % 65536) := by
  have h : (65536 + 18446744073709551616 - v % 65536) % 18446744073709551616 = 65536 - v % 65536 := by omega
  simp only [laneBit, h, Bool.or_eq_true, decide_eq_true_eq, Nat.reducePow]

theorem chunk_le (v : Nat) : v % 65536 ≤ 65536 := Nat.le_of_lt (Nat.mod_lt v (by decide))

theorem laneBit_lt (c : Nat) : laneBit c < 2 := by
  unfold laneBit; split <;> omega

theorem ext_for2_step (n j byte v : Nat) :
    Loops.lat_extract_msg_for2 (n+1) j byte v
      = Loops.lat_extract_msg_for2 n (j+1) (byte ||| (laneBit (v % 65536) * 2 ^ (j % 8) % 256)) (v / 65536) := by
  simp only [Loops.lat_extract_msg_for2, and_mask16, Nat.one_mul, Nat.reduceMod, lane_eq]

theorem ext_for2_ok_step (n j byte v : Nat) :
    Loops.lat_extract_msg_for2_ok (n+1) j byte v
      = (decide (j < 8) && Loops.lat_extract_msg_for2_ok n (j+1) (byte ||| (laneBit (v % 65536) * 2 ^ (j % 8) % 256)) (v / 65536)) := by
  simp only [Loops.lat_extract_msg_for2_ok, and_mask16, Nat.one_mul, Nat.reduceMod, lane_eq, chunk_le, decide_true, ite_self,
    Bool.true_and]

theorem ext_for3_step (n j byte v : Nat) :
    Loops.lat_extract_msg_for3 (n+1) j byte v
      = Loops.lat_extract_msg_for3 n (j+1) (byte ||| (laneBit (v % 65536) * 2 ^ ((4 + j) % 2147483648 % 8) % 256)) (v / 65536) := by
  simp only [Loops.lat_extract_msg_for3, and_mask16, Nat.one_mul, Nat.reduceMod, lane_eq]

theorem ext_for3_ok_step (n j byte v : Nat) :
    Loops.lat_extract_msg_for3_ok (n+1) j byte v
      = ((decide (4 + j < 2147483648) && decide ((4 + j) % 2147483648 < 8)) &&
          Loops.lat_extract_msg_for3_ok n (j+1) (byte ||| (laneBit (v % 65536) * 2 ^ ((4 + j) % 2147483648 % 8) % 256)) (v / 65536)) := by
  simp only [Loops.lat_extract_msg_for3_ok, and_mask16, Nat.one_mul, Nat.reduceMod, lane_eq, chunk_le, decide_true, ite_self,
    Bool.true_and]

/-- setting bit `j` of a byte that has no bits from `j` on -/
theorem or_bit (y b j : Nat) (hy : y < 2^j) (hb : b < 2) (hj : j < 8) : y ||| (b * 2^j % 256) = y + b * 2^j := by
  have h2 : 2^j * 2 ≤ 2^7 * 2 := Nat.mul_le_mul_right 2 (Nat.pow_le_pow_right (by decide) (by omega))
  have hlt : b * 2^j < 256 := by
    have : b * 2^j ≤ 1 * 2^j := Nat.mul_le_mul_right _ (by omega)
    omega
  rw [Nat.mod_eq_of_lt hlt, Nat.or_comm, Nat.mul_comm, ← Nat.two_pow_add_eq_or_of_lt hy b, Nat.add_comm]

theorem extractNibble_lt (v : Nat) : extractNibble v < 16 := by
  rw [extractNibble_lanes]
  have := laneBit_lt (v % 65536)
  have := laneBit_lt (v / 65536 % 65536)
  have := laneBit_lt (v / 65536 / 65536 % 65536)
  have := laneBit_lt (v / 65536 / 65536 / 65536 % 65536)
  omega

theorem ext_for2_eq (v : Nat) :
    (Loops.lat_extract_msg_for2 4 0 0 v).1 = extractNibble v ∧ Loops.lat_extract_msg_for2_ok 4 0 0 v = true := by
  constructor
  · have h0 := laneBit_lt (v % 65536)
    have h1 := laneBit_lt (v / 65536 % 65536)
    have h2 := laneBit_lt (v / 65536 / 65536 % 65536)
    have h3 := laneBit_lt (v / 65536 / 65536 / 65536 % 65536)
    rw [ext_for2_step, ext_for2_step, ext_for2_step, ext_for2_step, extractNibble_lanes]
    simp only [Loops.lat_extract_msg_for2, Nat.zero_add, Nat.reduceAdd, Nat.reduceMod]
    rw [or_bit _ _ 0 (by omega) h0 (by decide), or_bit _ _ 1 (by omega) h1 (by decide),
      or_bit _ _ 2 (by omega) h2 (by decide), or_bit _ _ 3 (by omega) h3 (by decide)]
    omega
  · rw [ext_for2_ok_step, ext_for2_ok_step, ext_for2_ok_step, ext_for2_ok_step]
    simp only [Loops.lat_extract_msg_for2_ok, Nat.zero_add, Nat.reduceAdd, Nat.reduceLT, decide_true, Bool.and_self]

theorem ext_for3_eq (y v : Nat) (hy : y < 16) :
    (Loops.lat_extract_msg_for3 4 0 y v).1 = y + 16 * extractNibble v ∧ Loops.lat_extract_msg_for3_ok 4 0 y v = true := by
  constructor
  · have h0 := laneBit_lt (v % 65536)
    have h1 := laneBit_lt (v / 65536 % 65536)
    have h2 := laneBit_lt (v / 65536 / 65536 % 65536)
    have h3 := laneBit_lt (v / 65536 / 65536 / 65536 % 65536)
    rw [ext_for3_step, ext_for3_step, ext_for3_step, ext_for3_step, extractNibble_lanes]
    simp only [Loops.lat_extract_msg_for3, Nat.zero_add, Nat.reduceAdd, Nat.reduceMod]
    rw [or_bit _ _ 4 (by omega) h0 (by decide), or_bit _ _ 5 (by omega) h1 (by decide),
      or_bit _ _ 6 (by omega) h2 (by decide), or_bit _ _ 7 (by omega) h3 (by decide)]
    omega
  · rw [ext_for3_ok_step, ext_for3_ok_step, ext_for3_ok_step, ext_for3_ok_step]
    simp only [Loops.lat_extract_msg_for3_ok, Nat.zero_add, Nat.reduceAdd, Nat.reduceMod, Nat.reduceLT, decide_true, Bool.and_self]

/-- the byte the model extracts from the coefficient pair `c` -/
def byteAt (e : List Nat) (c : Nat) : Nat := extractNibble (e.getD (2 * c) 0) + 16 * extractNibble (e.getD (2 * c + 1) 0)

theorem extract_for_step (e : List Nat) (n ctr : Nat) (msg : List Nat) :
    Loops.lat_extract_msg_for e (n+1) ctr msg = Loops.lat_extract_msg_for e n (ctr+1) (msg.set ctr (byteAt e ctr)) := by
  simp only [Loops.lat_extract_msg_for, Nat.sub_zero, Nat.add_zero, (ext_for2_eq _).1,
    (ext_for3_eq _ _ (extractNibble_lt _)).1]
  rfl

theorem extract_for_ok (e : List Nat) : ∀ n ctr (msg : List Nat), 2 * (ctr + n) ≤ e.length → ctr + n ≤ msg.length →
    Loops.lat_extract_msg_for_ok e n ctr msg = true
  | 0, _, _, _, _ => rfl
  | n+1, ctr, msg, he, hm => by
    obtain ⟨c1, c2, c3⟩ : 2 * ctr < e.length ∧ 2 * ctr + 1 < e.length ∧ ctr < msg.length := by omega
    simp only [Loops.lat_extract_msg_for_ok, Nat.sub_zero, Nat.add_zero, (ext_for2_eq _).1, (ext_for2_eq _).2,
      (ext_for3_eq _ _ (extractNibble_lt _)).1, (ext_for3_eq _ _ (extractNibble_lt _)).2, c1, c2, c3, decide_true,
      Bool.true_and]
    exact extract_for_ok e n (ctr + 1) _ (by omega) (by rw [List.length_set]; omega)

/-- `extract_msg` regenerated from source is the model's `extractMsg`, for every ring element (any coefficient values) -/
theorem gen_extract_msg_eq (x : Ring) (hx : x.size = 64) :
    Loops.lat_extract_msg x.toList = extractMsg x ∧ Loops.lat_extract_msg_ok x.toList = true := by
  have hl : x.toList.length = 64 := by rw [Array.length_toList, hx]
  have hcnt : (x.toList.length + 1) / 2 - 0 = 32 := by rw [hl]
  refine ⟨?_, by
    simp only [Loops.lat_extract_msg_ok, hcnt]
    exact extract_for_ok x.toList 32 0 _ (by rw [hl]; decide) (by rw [List.length_replicate]; decide)⟩
  simp only [Loops.lat_extract_msg, hcnt]
  apply List.ext_getElem?
  intro idx
  have h := mapLoop_full (fun c _ => byteAt x.toList c) 0 (Loops.lat_extract_msg_for x.toList) (fun _ _ => rfl)
    (extract_for_step x.toList) (List.replicate 32 0) idx
  rw [List.length_replicate] at h
  rw [h, List.getElem?_replicate, extractMsg, List.getElem?_map]
  by_cases hi : idx < 32
  · rw [if_pos hi, List.getElem?_range hi]
    simp only [Option.map_some, byteAt, Array.getD_eq_getD_getElem?, List.getD_eq_getElem?_getD, Array.getElem?_toList]
  · rw [if_neg hi, List.getElem?_eq_none (by rw [List.length_range]; omega)]; rfl

theorem ringZip_toList_getElem? (f : Nat → Nat → Nat) (a b : Ring) (idx : Nat) :
    (ringZip f a b).toList[idx]? = if idx < 64 then some (f (a.toList.getD idx 0) (b.toList.getD idx 0)) else none := by
  by_cases hi : idx < 64
  · simp only [ringZip, Array.getElem?_toList, Array.getElem?_ofFn, hi, dite_true, if_true,
      Array.getD_eq_getD_getElem?, List.getD_eq_getElem?_getD]
  · rw [if_neg hi, List.getElem?_eq_none (by rw [Array.length_toList, ringZip, Array.size_ofFn]; omega)]

theorem range_map_getElem? (g : Nat → Nat) (idx : Nat) :
    ((List.range' 0 (64 - 0)).map g)[idx]? = if idx < 64 then some (g idx) else none := by
  by_cases hi : idx < 64
  · rw [if_pos hi, List.getElem?_map, List.getElem?_range' (by omega)]; simp
  · rw [if_neg hi, List.getElem?_eq_none (by simp; omega)]

/-- `add` and `sub`: `(0..64).map(|i| f(self[i], rhs[i]))` -/
theorem rangeZip_eq (f : Nat → Nat → Nat) (a b : Ring) :
    ((List.range' 0 (64 - 0)).map fun i => f (a.toList.getD i 0) (b.toList.getD i 0)) = (ringZip f a b).toList :=
  List.ext_getElem? fun idx => by rw [range_map_getElem?, ringZip_toList_getElem?]

theorem rangeZip_ok (a b : Ring) (ha : a.size = 64) (hb : b.size = 64) :
    (((List.range' 0 (64 - 0)).all fun i => decide (i < a.toList.length) && decide (i < b.toList.length)) &&
      decide (64 - 0 = 64)) = true := by
  rw [Bool.and_eq_true, List.all_eq_true]
  refine ⟨fun i hi => ?_, rfl⟩
  have : i < 64 := by simpa [List.mem_range'_1] using hi
  simp only [Array.length_toList, ha, hb, this, decide_true, Bool.and_self]

theorem gen_ring_add_eq (a b : Ring) (ha : a.size = 64) (hb : b.size = 64) :
    Loops.lat_ring_add a.toList b.toList = (ringAdd a b).toList ∧ Loops.lat_ring_add_ok a.toList b.toList = true :=
  ⟨rangeZip_eq Spec.fadd a b, rangeZip_ok a b ha hb⟩

theorem gen_ring_sub_eq (a b : Ring) (ha : a.size = 64) (hb : b.size = 64) :
    Loops.lat_ring_sub a.toList b.toList = (ringSub a b).toList ∧ Loops.lat_ring_sub_ok a.toList b.toList = true :=
  ⟨rangeZip_eq Spec.fsub a b, rangeZip_ok a b ha hb⟩

theorem hadamard_for_ok (a b : List Nat) : ∀ n i (c : List Nat), i + n ≤ c.length → i + n ≤ a.length → i + n ≤ b.length →
    Loops.lat_ring_hadamard_for_ok a b n i c = true
  | 0, _, _, _, _, _ => rfl
  | n+1, i, c, hc, ha, hb => by
    obtain ⟨h1, h2, h3⟩ : i < c.length ∧ i < a.length ∧ i < b.length := by omega
    simp only [Loops.lat_ring_hadamard_for_ok, h1, h2, h3, decide_true, Bool.and_self, Bool.true_and]
    exact hadamard_for_ok a b n (i + 1) _ (by rw [List.length_set]; omega) (by omega) (by omega)

theorem hadamard_for_eq (a b : Ring) (ha : a.size = 64) (hb : b.size = 64) :
    Loops.lat_ring_hadamard_for a.toList b.toList 64 0 (List.replicate 64 0) = (ringHadamard a b).toList ∧
    Loops.lat_ring_hadamard_for_ok a.toList b.toList 64 0 (List.replicate 64 0) = true := by
  refine ⟨List.ext_getElem? fun idx => ?_, hadamard_for_ok _ _ 64 0 _ (by rw [List.length_replicate]; decide)
    (by rw [Array.length_toList, ha]; decide) (by rw [Array.length_toList, hb]; decide)⟩
  have h := mapLoop_full (fun i _ => Spec.fmul (a.toList.getD i 0) (b.toList.getD i 0)) 0
    (Loops.lat_ring_hadamard_for a.toList b.toList) (fun _ _ => rfl) (fun _ _ _ => rfl) (List.replicate 64 0) idx
  rw [List.length_replicate] at h
  rw [h, ringHadamard, ringZip_toList_getElem?, List.getElem?_replicate]
  split <;> rfl

theorem gen_ring_hadamard_eq (a b : Ring) (ha : a.size = 64) (hb : b.size = 64) :
    Loops.lat_ring_hadamard a.toList b.toList = (ringHadamard a b).toList ∧
    Loops.lat_ring_hadamard_ok a.toList b.toList = true := by
  obtain ⟨e, ok⟩ := hadamard_for_eq a b ha hb
  exact ⟨e, by simp only [Loops.lat_ring_hadamard_ok, Loops.lat_ring_zero_ok, Loops.lat_ring_zero, Nat.sub_zero, ok, Bool.and_self]⟩

/-- the product loop inside `mul` is the same loop as `hadamard`'s -/
theorem mul_for_eq (a b : List Nat) : ∀ n i (c : List Nat),
    Loops.lat_ring_mul_for a b n i c = Loops.lat_ring_hadamard_for a b n i c ∧
    Loops.lat_ring_mul_for_ok a b n i c = Loops.lat_ring_hadamard_for_ok a b n i c := by
  intro n
  induction n with
  | zero => intros; exact ⟨rfl, rfl⟩
  | succ n ih =>
    intro i c
    exact ⟨by simp only [Loops.lat_ring_mul_for, Loops.lat_ring_hadamard_for, (ih _ _).1],
      by simp only [Loops.lat_ring_mul_for_ok, Loops.lat_ring_hadamard_for_ok, (ih _ _).2]⟩

theorem ring_mul_unfold (x y : List Nat) :
    Loops.lat_ring_mul x y = (Loops.lat_coset_ntt_noswap_64 bOps x).bind fun A =>
      (Loops.lat_coset_ntt_noswap_64 bOps y).bind fun B =>
        some (Loops.lat_coset_intt_noswap_64 bOps (Loops.lat_ring_mul_for A B (64 - 0) 0 (List.replicate 64 0))) := rfl

theorem ring_mul_ok_unfold (x y : List Nat) :
    Loops.lat_ring_mul_ok x y = (Loops.lat_coset_ntt_noswap_64_ok bOps x &&
      (Loops.lat_coset_ntt_noswap_64 bOps x).elim true fun A =>
        Loops.lat_coset_ntt_noswap_64_ok bOps y && (Loops.lat_coset_ntt_noswap_64 bOps y).elim true fun B =>
          Loops.lat_ring_mul_for_ok A B (64 - 0) 0 (List.replicate 64 0) &&
            Loops.lat_coset_intt_noswap_64_ok bOps (Loops.lat_ring_mul_for A B (64 - 0) 0 (List.replicate 64 0))) := rfl

/-- `Mul for CyclotomicRingElement` regenerated from source is the model's `ringMul`; both forward transforms finish -/
theorem gen_ring_mul_eq (a b : Ring) (ha : a.size = 64) (hb : b.size = 64) :
    Loops.lat_ring_mul a.toList b.toList = some (ringMul a b).toList ∧ Loops.lat_ring_mul_ok a.toList b.toList = true := by
  obtain ⟨n1, k1⟩ := gen_ntt64 a ha
  obtain ⟨n2, k2⟩ := gen_ntt64 b hb
  obtain ⟨hh, ok⟩ := hadamard_for_eq (ntt64 a) (ntt64 b) (ntt64_size a ha) (ntt64_size b hb)
  obtain ⟨i1, i2⟩ := gen_intt64 _ (ringHadamard_size (ntt64 a) (ntt64 b))
  obtain ⟨m1, m2⟩ := mul_for_eq (ntt64 a).toList (ntt64 b).toList 64 0 (List.replicate 64 0)
  constructor
  · rw [ring_mul_unfold, n1, Option.bind_some, n2, Option.bind_some, Nat.sub_zero, m1, hh, i1]; rfl
  · rw [ring_mul_ok_unfold, n1, n2, k1, k2, Option.elim_some, Option.elim_some, Nat.sub_zero, m1, m2, ok, hh, i2]; rfl

end TF.GenBridge.Lattice
