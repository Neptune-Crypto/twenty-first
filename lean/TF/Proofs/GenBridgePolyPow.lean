import TF.Proofs.GenBridgePolyMul
/-!
Bridge for `Polynomial::pow` and `fast_pow` regenerated from source (`TF/Gen/PolyLoops.lean`; `fast_pow` on top of the
regenerated dispatchers `square` / `multiply`, at the end of the file).  For `pow` (`pow` / `pow_for`): the `let … else` on
`checked_ilog2`, the zero-base early return and the square-and-multiply `for i in 0..=bit_length` loop with
`pow >> (bit_length - i) & 1` are the hand model `pow` / `powLoop` of `TF/Model/PolyMul.lean`, for every exponent that is a
`u32`.  `gen = some model` also says that nothing panics: the subtraction `bit_length - i` never underflows, the shift amount
stays below 32 and `slow_square` / `*` have no index panic.  Uses the double-loop bridges (hence `AddLaws`).
-/
namespace TF.GenBridge.Poly
open TF TF.Model.Poly TF.PolyStd

variable {α : Type}

/-- a loop with the step of the regenerated `pow_for` / `fast_pow_for` (square; bit `bit_length - i` of the exponent, the
    subtraction and the shift checked; multiply if it is set), run over `i = bl + 1 - n, …, bl`, is `powLoop` with `n` steps
    left: the subtraction does not underflow and the shift amount stays below 32 -/
theorem powLoop_of_step (loop : List Nat → List α → Option (List α)) (sq ml : List α → Option (List α)) (e bl : Nat)
    (hbl : bl < 32) (h0 : ∀ acc, loop [] acc = some acc)
    (hs : ∀ i rest acc, loop (i :: rest) acc =
      (sq acc).bind fun a => (usub? bl i).bind fun t => (ushr? 32 e t).bind fun u =>
        (if ((u &&& 1) == 1) = true then (ml a).bind some else some a).bind (loop rest)) :
    ∀ n acc, n ≤ bl + 1 → loop (List.range' (bl + 1 - n) n) acc = powLoop sq ml e bl n acc := by
  intro n
  induction n with
  | zero => intro acc _; exact h0 acc
  | succ n ih =>
    intro acc hn
    rw [List.range'_succ, hs, Hom.powLoop_succ, show bl + 1 - (n + 1) + 1 = bl + 1 - n by omega]
    refine congrArg _ (funext fun a => ?_)
    simp only [usub?, ushr?, if_pos (show bl + 1 - (n + 1) ≤ bl by omega),
      if_pos (show bl - (bl + 1 - (n + 1)) < 32 by omega), Option.bind_some]
    split
    · rw [Option.bind_fun_some]; exact congrArg _ (funext fun a' => ih a' (by omega))
    · exact ih a (by omega)

theorem pow_for_eq (F : FieldOps α) (hL : AddLaws F) (p : List α) (e bl : Nat) (hbl : bl < 32) :
    ∀ (n : Nat) (acc : List α), n ≤ bl + 1 →
      TF.Gen.Poly.pow_for F p e bl (List.range' (bl + 1 - n) n) acc
        = powLoop (fun acc => some (slowSquare F acc)) (fun acc => some (mul F acc p)) e bl n acc := by
  have hsq : TF.Gen.Poly.slow_square F = fun acc => some (slowSquare F acc) := funext (slow_square_eq F hL)
  have hml : (fun a => TF.Gen.Poly.mul F F F F.mul a p) = fun acc => some (mul F acc p) :=
    funext fun a => (mul_eq_naive F F F F.mul a p).trans (naive_multiply_eq F F F hL F.mul a p)
  rw [← hsq, ← hml]
  exact powLoop_of_step _ _ _ e bl hbl (fun _ => rfl) (fun _ _ _ => rfl)

/-- **regenerated `pow` = hand model `pow`** for every `u32` exponent, every storage of the base; it never panics -/
theorem pow_eq (F : FieldOps α) (hL : AddLaws F) (p : List α) (e : Nat) (he : e < 2 ^ 32) :
    TF.Gen.Poly.pow F p e = some (pow F p e) := by
  by_cases h0 : e = 0
  · subst h0; simp [TF.Gen.Poly.pow, pow, one_eq]
  · have hbl : Nat.log2 e < 32 := by
      have := (Nat.log2_lt h0).2 he; exact this
    have hfor := pow_for_eq F hL p e (Nat.log2 e) hbl (Nat.log2 e + 1) (one F) (Nat.le_refl _)
    simp only [Nat.sub_self] at hfor
    have hb : (e == 0) = false := by simpa using h0
    simp only [TF.Gen.Poly.pow, pow, hb, Bool.false_eq_true, if_false, degree_eq, Option.bind_some, one_eq, zero_eq,
      Nat.sub_zero, hfor]
    by_cases hd : degree F p < 0
    · simp [hd, zero]
    · simp only [hd, decide_false, Bool.false_eq_true, if_false]
      -- the steps of the hand model are total, so the `none` arm of its `match` is not reached
      obtain ⟨r, hr⟩ := Option.isSome_iff_exists.1 (Hom.powLoop_isSome (fun a => some (slowSquare F a))
        (fun a => some (mul F a p)) (fun _ => rfl) (fun _ => rfl) e (Nat.log2 e) (Nat.log2 e + 1) (one F))
      simp only [hr, Option.bind_some]

/-- regenerated dispatcher `square` on top of the regenerated `fast_square` = hand model `square` at the cut-off 64 -/
theorem square_full_eq (F : FieldOps α) (hL : AddLaws F) (T : Transform α) (p : List α) :
    TF.Gen.Poly.square F (TF.Gen.Poly.fast_square F T.ntt T.intt) p = square F 64 T p := by
  rw [square_dispatch, slow_square_eq F hL, fast_square_eq]
  unfold square slowSquare degree
  cases h : normalize F p with
  | nil => simp
  | cons c cs =>
    have h1 : ¬ (((c :: cs).length : Int) - 1 = -1) := by simp only [List.length_cons]; omega
    have h2 : (((c :: cs).length : Int) - 1).toNat = cs.length := by simp only [List.length_cons]; omega
    simp only [h1, if_false, h2]

/-- regenerated dispatcher `multiply` on top of the regenerated `fast_multiply` = hand model `multiply` at the regenerated
    threshold -/
theorem multiply_full_eq (F : FieldOps α) (hL : AddLaws F) (T : Transform α) (a b : List α) :
    TF.Gen.Poly.multiply F F F F.mul (TF.Gen.Poly.fast_multiply F F F F.mul T.ntt T.ntt T.intt) a b
      = multiply F (TF.Gen.FAST_MULTIPLY_CUTOFF_THRESHOLD : Int) T a b := by
  rw [multiply_dispatch, naive_multiply_eq F F F hL, fast_multiply_eq]
  rfl

theorem fast_pow_for_eq (F : FieldOps α) (hL : AddLaws F) (T : Transform α) (p : List α) (e bl : Nat) (hbl : bl < 32) :
    ∀ (n : Nat) (acc : List α), n ≤ bl + 1 →
      TF.Gen.Poly.fast_pow_for F (TF.Gen.Poly.fast_square F T.ntt T.intt)
          (TF.Gen.Poly.fast_multiply F F F F.mul T.ntt T.ntt T.intt) p e bl (List.range' (bl + 1 - n) n) acc
        = powLoop (square F 64 T) (fun acc => multiply F (TF.Gen.FAST_MULTIPLY_CUTOFF_THRESHOLD : Int) T p acc) e bl n acc := by
  rw [← funext (square_full_eq F hL T), ← funext fun acc => multiply_full_eq F hL T p acc]
  exact powLoop_of_step _ _ _ e bl hbl (fun _ => rfl) (fun _ _ _ => rfl)

/-- **regenerated `fast_pow` (on top of the regenerated `square`, `multiply`, `fast_square`, `fast_multiply` and arbitrary
    transforms) = hand model `fastPow`** at the cut-off 64 and the regenerated multiplication threshold, for every `u32`
    exponent and every storage, including every panic of the transforms -/
theorem fast_pow_eq (F : FieldOps α) (hL : AddLaws F) (T : Transform α) (p : List α) (e : Nat) (he : e < 2 ^ 32) :
    TF.Gen.Poly.fast_pow F (TF.Gen.Poly.fast_square F T.ntt T.intt)
        (TF.Gen.Poly.fast_multiply F F F F.mul T.ntt T.ntt T.intt) p e
      = fastPow F 64 (TF.Gen.FAST_MULTIPLY_CUTOFF_THRESHOLD : Int) T p e := by
  by_cases h0 : e = 0
  · subst h0; simp [TF.Gen.Poly.fast_pow, fastPow, one_eq]
  · have hbl : Nat.log2 e < 32 := (Nat.log2_lt h0).2 he
    have hfor := fast_pow_for_eq F hL T p e (Nat.log2 e) hbl (Nat.log2 e + 1) (one F) (Nat.le_refl _)
    simp only [Nat.sub_self] at hfor
    have hb : (e == 0) = false := by simpa using h0
    simp only [TF.Gen.Poly.fast_pow, fastPow, hb, Bool.false_eq_true, if_false, degree_eq, Option.bind_some, one_eq, zero_eq,
      Nat.sub_zero, hfor]
    by_cases hd : degree F p < 0
    · simp [hd, zero]
    · simp only [hd, decide_false, Bool.false_eq_true, if_false]
      cases powLoop (square F 64 T) (fun acc => multiply F (TF.Gen.FAST_MULTIPLY_CUTOFF_THRESHOLD : Int) T p acc) e
        (Nat.log2 e) (Nat.log2 e + 1) (one F) <;> rfl

end TF.GenBridge.Poly
