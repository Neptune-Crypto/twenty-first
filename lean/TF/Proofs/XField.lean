import TF.Proofs.BFieldZMod
import TF.Model.XField
import Mathlib.Tactic.Ring
-- not used in this file; part of the import closure in front of `ev`
import Mathlib.Tactic.LinearCombination
/-!
Extension field: the three result expressions of `XFieldElement::mul` (model `TF.Model.XF.mul`, on raw words) are the
coefficients of the product modulo `X³ − X + 1`.
-/
namespace TF.XFp
open TF.Gen TF.Model TF.BF

/-- the polynomial identity behind the product formula, in any commutative ring, for any element `t` -/
theorem mul_formula {R : Type} [CommRing R] (a0 a1 a2 b0 b1 b2 t : R) :
    (a0 + a1 * t + a2 * t^2) * (b0 + b1 * t + b2 * t^2)
      = (a0 * b0 - a2 * b1 - a1 * b2)
        + (a1 * b0 + a0 * b1 - a2 * b2 + a2 * b1 + a1 * b2) * t
        + (a2 * b0 + a1 * b1 + a0 * b2 + a2 * b2) * t^2
        + (t^3 - t + 1) * ((a2 * b1 + a1 * b2) + a2 * b2 * t) := by
  ring

def canon3 (x : XF.X3) : Prop := canon x.1 ∧ canon x.2.1 ∧ canon x.2.2

/-- `XFieldElement * XFieldElement` on raw words: canonical coefficients with the values of the product formula -/
theorem mul_coeffs (x y : XF.X3) (hx : canon3 x) (hy : canon3 y) :
    canon3 (XF.mul x y) ∧
    toF (XF.mul x y).1 = toF x.1 * toF y.1 - toF x.2.2 * toF y.2.1 - toF x.2.1 * toF y.2.2 ∧
    toF (XF.mul x y).2.1 = toF x.2.1 * toF y.1 + toF x.1 * toF y.2.1 - toF x.2.2 * toF y.2.2
        + toF x.2.2 * toF y.2.1 + toF x.2.1 * toF y.2.2 ∧
    toF (XF.mul x y).2.2 = toF x.2.2 * toF y.1 + toF x.2.1 * toF y.2.1 + toF x.1 * toF y.2.2
        + toF x.2.2 * toF y.2.2 := by
  obtain ⟨c, b, a⟩ := x
  obtain ⟨f, e, d⟩ := y
  obtain ⟨hc, hb, ha⟩ := hx
  obtain ⟨hf, he, hd⟩ := hy
  simp only at hc hb ha hf he hd
  have m (p q : Nat) (hp : canon p) (hq : canon q) := canon_mul p q hp hq
  simp only [XF.mul, canon3]
  refine ⟨⟨?_, ?_, ?_⟩, ?_, ?_, ?_⟩
  · exact canon_sub _ _ (canon_sub _ _ (m _ _ hc hf) (m _ _ ha he)) (m _ _ hb hd)
  · exact canon_add _ _ (canon_add _ _ (canon_sub _ _ (canon_add _ _ (m _ _ hb hf) (m _ _ hc he)) (m _ _ ha hd)) (m _ _ ha he)) (m _ _ hb hd)
  · exact canon_add _ _ (canon_add _ _ (canon_add _ _ (m _ _ ha hf) (m _ _ hb he)) (m _ _ hc hd)) (m _ _ ha hd)
  · rw [toF_sub _ _ (canon_sub _ _ (m _ _ hc hf) (m _ _ ha he)) (m _ _ hb hd),
      toF_sub _ _ (m _ _ hc hf) (m _ _ ha he), toF_mul _ _ hc hf, toF_mul _ _ ha he, toF_mul _ _ hb hd]
  · rw [toF_add _ _ (canon_add _ _ (canon_sub _ _ (canon_add _ _ (m _ _ hb hf) (m _ _ hc he)) (m _ _ ha hd)) (m _ _ ha he)) (m _ _ hb hd),
      toF_add _ _ (canon_sub _ _ (canon_add _ _ (m _ _ hb hf) (m _ _ hc he)) (m _ _ ha hd)) (m _ _ ha he),
      toF_sub _ _ (canon_add _ _ (m _ _ hb hf) (m _ _ hc he)) (m _ _ ha hd),
      toF_add _ _ (m _ _ hb hf) (m _ _ hc he),
      toF_mul _ _ hb hf, toF_mul _ _ hc he, toF_mul _ _ ha hd, toF_mul _ _ ha he, toF_mul _ _ hb hd]
  · rw [toF_add _ _ (canon_add _ _ (canon_add _ _ (m _ _ ha hf) (m _ _ hb he)) (m _ _ hc hd)) (m _ _ ha hd),
      toF_add _ _ (canon_add _ _ (m _ _ ha hf) (m _ _ hb he)) (m _ _ hc hd),
      toF_add _ _ (m _ _ ha hf) (m _ _ hb he),
      toF_mul _ _ ha hf, toF_mul _ _ hb he, toF_mul _ _ hc hd, toF_mul _ _ ha hd]

/-- evaluation of an extension element at `t` -/
def ev (t : Fp) (x : XF.X3) : Fp := toF x.1 + toF x.2.1 * t + toF x.2.2 * t^2

/-- extension-field multiplication is polynomial multiplication modulo `X³ − X + 1`: for every `t` (in particular
    the indeterminate of `F_p[X]`, since the identity is a ring identity) the product of the evaluations differs from the
    evaluation of the product by an explicit multiple of `t³ − t + 1`. -/
theorem mul_is_product_mod_shah (x y : XF.X3) (hx : canon3 x) (hy : canon3 y) (t : Fp) :
    ev t x * ev t y = ev t (XF.mul x y)
      + (t^3 - t + 1) * ((toF x.2.2 * toF y.2.1 + toF x.2.1 * toF y.2.2) + toF x.2.2 * toF y.2.2 * t) := by
  obtain ⟨_, h0, h1, h2⟩ := mul_coeffs x y hx hy
  unfold ev
  rw [h0, h1, h2]
  exact mul_formula _ _ _ _ _ _ t

theorem ev_add (x y : XF.X3) (hx : canon3 x) (hy : canon3 y) (t : Fp) :
    canon3 (XF.add x y) ∧ ev t (XF.add x y) = ev t x + ev t y := by
  obtain ⟨hc, hb, ha⟩ := hx
  obtain ⟨hf, he, hd⟩ := hy
  refine ⟨⟨canon_add _ _ hc hf, canon_add _ _ hb he, canon_add _ _ ha hd⟩, ?_⟩
  simp only [ev, XF.add, toF_add _ _ hc hf, toF_add _ _ hb he, toF_add _ _ ha hd]; ring

theorem ev_sub (x y : XF.X3) (hx : canon3 x) (hy : canon3 y) (t : Fp) :
    canon3 (XF.sub x y) ∧ ev t (XF.sub x y) = ev t x - ev t y := by
  obtain ⟨hc, hb, ha⟩ := hx
  obtain ⟨hf, he, hd⟩ := hy
  refine ⟨⟨canon_sub _ _ hc hf, canon_sub _ _ hb he, canon_sub _ _ ha hd⟩, ?_⟩
  simp only [ev, XF.sub, toF_sub _ _ hc hf, toF_sub _ _ hb he, toF_sub _ _ ha hd]; ring

end TF.XFp
