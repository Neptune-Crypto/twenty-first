import TF.Proofs.NttInverse
import TF.Proofs.NttBasic
import Mathlib.Tactic.Ring
import Mathlib.Algebra.Order.Ring.Nat
/-!
Connects the executable array model `TF/Model/Ntt.lean` (instantiated with the operations of a commutative ring)
to the functional stage model of `TF/Proofs/NttDft.lean`.
-/
namespace TF.NttProofs
open TF.Model.Ntt TF.NttFn

theorem bitrevAux_eq (l n r : Nat) : bitrevAux l n r = r * 2^l + bitrev l n := by
  induction l generalizing n r with
  | zero => simp [bitrevAux, bitrev]
  | succ l ih =>
    rw [bitrevAux, ih, bitrev, pow_succ]
    ring

theorem bitreverse_eq (n l : Nat) : bitreverse n l = bitrev l n := by
  simp [bitreverse, bitrevAux_eq]

theorem bitrev_lt (l n : Nat) : bitrev l n < 2^l := by
  induction l generalizing n with
  | zero => exact Nat.one_pos
  | succ l ih =>
    rw [bitrev, pow_succ]
    have := ih (n / 2)
    rcases Nat.mod_two_eq_zero_or_one n with h | h <;> rw [h] <;> omega

/-- the dual recursion: peel the top bit -/
theorem bitrev_top (l b r : Nat) (hr : r < 2^l) : bitrev (l+1) (b * 2^l + r) = 2 * bitrev l r + b % 2 := by
  induction l generalizing r with
  | zero =>
    obtain rfl : r = 0 := Nat.lt_one_iff.1 hr
    simp [bitrev]
  | succ l ih =>
    rw [pow_succ] at hr
    rw [bitrev, show b * 2^(l+1) = b * 2^l * 2 by rw [pow_succ, Nat.mul_assoc], Nat.mul_add_mod_self_right,
      Nat.add_comm _ r, Nat.add_mul_div_right _ _ (by decide), Nat.add_comm (r / 2), ih (r / 2) (by omega), bitrev, pow_succ]
    ring

theorem bitrev_involutive (l n : Nat) (hn : n < 2^l) : bitrev l (bitrev l n) = n := by
  induction l generalizing n with
  | zero => exact (Nat.lt_one_iff.1 hn).symm
  | succ l ih =>
    rw [pow_succ] at hn
    rw [show bitrev (l+1) n = n % 2 * 2^l + bitrev l (n / 2) from rfl, bitrev_top l _ _ (bitrev_lt l _),
      ih (n / 2) (by omega)]
    omega

/-- the swap loop is the bit-reversal permutation.  Invariant before round `k`: position `i` already holds its final entry
    `a0[bitrev L i]` iff `i < k` or `bitrev L i < k` (the pair `{i, bitrev L i}` is swapped in round `min i (bitrev L i)`),
    all other positions still hold `a0[i]`. -/
theorem swapLoop_spec {α : Type} (L : Nat) (a0 : Array α) :
    ∀ fuel k (a : Array α), a.size = 2^L → k + fuel = 2^L →
    (∀ i, i < 2^L → a[i]? = if (i < k ∨ bitrev L i < k) then a0[bitrev L i]? else a0[i]?) →
    ∃ b, swapLoop L fuel k a = some b ∧ b.size = 2^L ∧ ∀ i, i < 2^L → b[i]? = a0[bitrev L i]? := by
  intro fuel
  induction fuel with
  | zero =>
    intro k a ha hk inv
    refine ⟨a, rfl, ha, ?_⟩
    intro i hi
    rw [inv i hi, if_pos (Or.inl (by omega))]
  | succ fuel ih =>
    intro k a ha hk inv
    have hkn : k < 2^L := by omega
    have hrk : bitrev L k < 2^L := bitrev_lt L k
    have hinv : bitrev L (bitrev L k) = k := bitrev_involutive L k hkn
    -- only `k` and `bitrev L k` change sides when the bound moves from `k` to `k + 1`
    have hne : ∀ i, i < 2^L → i ≠ bitrev L k → bitrev L i ≠ k :=
      fun i hi h e => h (by rw [← e, bitrev_involutive L i hi])
    rw [swapLoop]
    simp only [bitreverse_eq]
    by_cases hlt : k < bitrev L k
    · rw [if_pos hlt, dif_pos ⟨by omega, by omega⟩]
      refine ih (k+1) _ (by rw [Array.size_swap, ha]) (by omega) fun i hi => ?_
      rw [Array.getElem?_swap]
      by_cases h1 : k = i
      · subst h1
        rw [if_pos rfl, if_pos (Or.inl (Nat.lt_succ_self _)), ← Array.getElem?_eq_getElem, inv _ hrk, hinv,
          if_neg (by omega)]
      · by_cases h2 : bitrev L k = i
        · subst h2
          rw [if_neg h1, if_pos rfl, hinv, if_pos (Or.inr (Nat.lt_succ_self _)), ← Array.getElem?_eq_getElem, inv k hkn,
            if_neg (by omega)]
        · have := hne i hi (Ne.symm h2)
          rw [if_neg h1, if_neg h2, inv i hi]
          exact if_congr (by omega) rfl rfl
    · rw [if_neg hlt]
      refine ih (k+1) a ha (by omega) fun i hi => ?_
      rw [inv i hi]
      by_cases h1 : i = k
      · subst h1
        rw [if_pos (Or.inl (Nat.lt_succ_self _))]
        split
        · rfl
        · rw [show bitrev L i = i by omega]
      · by_cases h2 : i = bitrev L k
        · rw [if_pos (Or.inl (by omega)), if_pos (Or.inl (by omega))]
        · have := hne i hi h2
          exact if_congr (by omega) rfl rfl

variable {R : Type} [CommRing R]

/-- the operations of a commutative ring (twiddles and elements in the same ring) -/
def ringOps (R : Type) [CommRing R] (inv : R → Option R) (inv0 : R → R) : Ops R R where
  szero := 0
  sone := 1
  smul := (· * ·)
  spow := (· ^ ·)
  sinv := inv
  sinv0 := inv0
  sofNat := fun n => (n : R)
  zero := 0
  add := (· + ·)
  sub := (· - ·)
  scale := (· * ·)

variable (inv : R → Option R) (inv0 : R → R)

theorem wp_ringOps (w : R) : ∀ j (c : R), TF.GenBridge.Ntt.wp (ringOps R inv inv0) w c j = c * w^j := by
  intro j
  induction j with
  | zero => intro c; rw [pow_zero, mul_one]; rfl
  | succ j ih => intro c; rw [TF.GenBridge.Ntt.wp, ih, pow_succ', ← mul_assoc]; rfl

theorem powers_spec (w : R) (m : Nat) :
    (powers (ringOps R inv inv0) w m).size = m ∧
    ∀ j, j < m → (powers (ringOps R inv inv0) w m)[j]? = some (w^j) := by
  have h := TF.GenBridge.Ntt.powers_wp (ringOps R inv inv0) w m
  refine ⟨h.1, fun j hj => ?_⟩
  rw [h.2 j hj, wp_ringOps]
  exact congrArg some (one_mul _)

/-- an array as a total function -/
def toFn (x : Array R) : Nat → R := fun i => x.getD i 0

theorem blk_base (i m q : Nat) (hi : i < q*(2*m)) : i - i % (2*m) + 2*m ≤ q*(2*m) := by
  have hd : (i / (2*m) + 1) * (2*m) ≤ q*(2*m) :=
    Nat.mul_le_mul_right _ (Nat.div_lt_of_lt_mul (by rwa [Nat.mul_comm] at hi))
  have := Nat.div_add_mod i (2*m)
  rw [Nat.add_mul, Nat.one_mul, Nat.mul_comm] at hd
  omega

theorem two_pow_blocks (L s : Nat) (h : s < L) : 2^L = 2^(L-s-1) * (2 * 2^s) := by
  rw [← pow_succ', ← pow_add]; congr 1; omega

/-- one array stage is the functional stage of any `f` that describes the array (`q` blocks of size `2m`) -/
theorem stage_fn (m q : Nat) (hm : 0 < m) (w : R) (x : Array R) (hx : x.size = q*(2*m)) (f : Nat → R)
    (hf : ∀ i, i < x.size → toFn x i = f i) (i : Nat) (hi : i < x.size) :
    toFn (stage (ringOps R inv inv0) m (powers (ringOps R inv inv0) w m) x) i = TF.NttFn.stage m w f i := by
  have hj : i % m < m := Nat.mod_lt _ hm
  have hb := blk_base i m q (hx ▸ hi)
  have htw := (powers_spec inv inv0 w m).2 (i % m) hj
  simp only [TF.NttFn.stage, ← hf (i - i % (2*m) + i % m) (by omega), ← hf (i - i % (2*m) + i % m + m) (by omega)]
  simp only [toFn, TF.Model.Ntt.stage, Array.getD_eq_getD_getElem?, Array.getElem?_ofFn, hi, dite_true, htw,
    Option.getD_some]
  simp [ringOps]

theorem stagesLoop_spec (L : Nat) (ω : R) (y0 : Nat → R) : ∀ f s (x : Array R), s + f ≤ L → x.size = 2^L →
    (∀ i, i < 2^L → toFn x i = nttStages L ω s y0 i) →
    (stagesLoop (ringOps R inv inv0) ω (2^L) f (2^s) x).size = 2^L ∧
    ∀ i, i < 2^L → toFn (stagesLoop (ringOps R inv inv0) ω (2^L) f (2^s) x) i = nttStages L ω (s+f) y0 i := by
  intro f
  induction f with
  | zero => intro s x _ hx h; exact ⟨hx, h⟩
  | succ f ih =>
    intro s x hs hx h
    have hq := two_pow_blocks L s (by omega)
    have hexp : 2^L / (2 * 2^s) = 2^(L-s-1) := by rw [hq, Nat.mul_div_cancel _ (Nat.mul_pos (by decide) (Nat.two_pow_pos s))]
    rw [stagesLoop, hexp, ← pow_succ', ← Nat.add_assoc s f 1, Nat.add_right_comm]
    refine ih (s+1) _ (by omega) (by rw [stage_size, hx]) fun i hi => ?_
    exact stage_fn inv inv0 (2^s) _ (Nat.two_pow_pos s) _ x (hx.trans hq) _ (fun i hi => h i (hx ▸ hi)) i (hx ▸ hi)

theorem toFn_eq_of_getElem? (a b : Array R) (i j : Nat) (h : a[i]? = b[j]?) : toFn a i = toFn b j := by
  simp [toFn, Array.getD_eq_getD_getElem?, h]

theorem nttUnchecked_eq_dft (L : Nat) (ω : R) (hω : 0 < L → ω^(2^(L-1)) = -1) (x : Array R) (hx : x.size = 2^L) :
    ∃ y, nttUnchecked (ringOps R inv inv0) x ω L = some y ∧ y.size = 2^L ∧
      ∀ i, i < 2^L → toFn y i = dft (2^L) ω (toFn x) i := by
  obtain ⟨b, hb, hbs, hbi⟩ := swapLoop_spec L x (2^L) 0 x hx (by omega) (by intro i _; simp)
  have hst := stagesLoop_spec inv inv0 L ω (fun i => toFn x (bitrev L i)) L 0 b (by omega) hbs
    (by intro i hi; simp only [nttStages]; exact toFn_eq_of_getElem? _ _ _ _ (hbi i hi))
  refine ⟨stagesLoop (ringOps R inv inv0) ω (2^L) L 1 b, ?_, ?_, ?_⟩
  · simp [nttUnchecked, bitrevPermute, hx, hb]
  · simpa using hst.1
  · intro i hi
    have := hst.2 i hi
    simp only [pow_zero, Nat.zero_add] at this
    rw [this]
    exact ntt_eq_dft' L ω hω (toFn x) i hi

theorem toFn_map_scale (c : R) (y : Array R) (i : Nat) (hi : i < y.size) :
    toFn (y.map ((ringOps R inv inv0).scale c)) i = c * toFn y i := by
  simp [toFn, Array.getD_eq_getD_getElem?, hi, ringOps]

theorem ntt_eq_dft_model (root : Nat → Option R) (L : Nat) (hL : L ≤ 31) (ω : R) (hr : root (2^L) = some ω)
    (hω : 0 < L → ω^(2^(L-1)) = -1) (x : Array R) (hx : x.size = 2^L) :
    ∃ y, ntt (ringOps R inv inv0) root x = some y ∧ y.size = 2^L ∧
      ∀ i, i < 2^L → toFn y i = dft (2^L) ω (toFn x) i := by
  rw [ntt_unfold _ root x L hL hx ω hr]
  exact nttUnchecked_eq_dft inv inv0 L ω hω x hx

theorem intt_eq_dft_model (root : Nat → Option R) (L : Nat) (hL : L ≤ 31) (ω ωi : R) (hr : root (2^L) = some ω)
    (hi : inv ω = some ωi) (hinv : ωi * ω = 1)
    (hω : 0 < L → ω^(2^(L-1)) = -1) (x : Array R) (hx : x.size = 2^L) :
    ∃ y, intt (ringOps R inv inv0) root x = some y ∧ y.size = 2^L ∧
      ∀ i, i < 2^L → toFn y i = inv0 ((2^L : ℕ) : R) * dft (2^L) ωi (toFn x) i := by
  rw [intt_unfold _ root x L hL hx ω ωi hr hi]
  have hωi : 0 < L → ωi^(2^(L-1)) = -1 := fun h => inv_pow_half L ω ωi (hω h) hinv
  obtain ⟨y, hy, hys, hyi⟩ := nttUnchecked_eq_dft inv inv0 L ωi hωi x hx
  refine ⟨_, by rw [hy]; rfl, by simp [hys], ?_⟩
  intro i hi'
  rw [toFn_map_scale inv inv0 _ y i (by omega), hyi i hi']
  rfl

theorem array_ext_toFn (a b : Array R) (n : Nat) (ha : a.size = n) (hb : b.size = n)
    (h : ∀ i, i < n → toFn a i = toFn b i) : a = b := by
  apply Array.ext (by omega)
  intro i h1 h2
  have := h i (by omega)
  simpa [toFn, Array.getD_eq_getD_getElem?, h1, h2] using this

theorem dft_congr (n : Nat) (z : R) (f g : Nat → R) (h : ∀ i, i < n → f i = g i) (j : Nat) : dft n z f j = dft n z g j := by
  unfold dft
  apply Finset.sum_congr rfl
  intro i hi; rw [h i (Finset.mem_range.1 hi)]

theorem intt_ntt_model (root : Nat → Option R) (L : Nat) (hL : L ≤ 31) (ω ωi : R) (hr : root (2^L) = some ω)
    (hi : inv ω = some ωi) (hinv : ωi * ω = 1) (hn : inv0 ((2^L : ℕ) : R) * ((2^L : ℕ) : R) = 1)
    (hω : 0 < L → ω^(2^(L-1)) = -1) (x : Array R) (hx : x.size = 2^L) :
    ∃ y, ntt (ringOps R inv inv0) root x = some y ∧ intt (ringOps R inv inv0) root y = some x := by
  obtain ⟨y, hy, hys, hyi⟩ := ntt_eq_dft_model inv inv0 root L hL ω hr hω x hx
  obtain ⟨z, hz, hzs, hzi⟩ := intt_eq_dft_model inv inv0 root L hL ω ωi hr hi hinv hω y hys
  refine ⟨y, hy, ?_⟩
  rw [hz]; congr 1
  apply array_ext_toFn z x (2^L) hzs hx
  intro i hi'
  rw [hzi i hi', dft_congr (2^L) ωi (toFn y) _ hyi, dft_inv L ω ωi hω hinv (toFn x) i hi', ← mul_assoc, hn, one_mul]

theorem ntt_intt_model (root : Nat → Option R) (L : Nat) (hL : L ≤ 31) (ω ωi : R) (hr : root (2^L) = some ω)
    (hi : inv ω = some ωi) (hinv : ωi * ω = 1) (hn : inv0 ((2^L : ℕ) : R) * ((2^L : ℕ) : R) = 1)
    (hω : 0 < L → ω^(2^(L-1)) = -1) (x : Array R) (hx : x.size = 2^L) :
    ∃ y, intt (ringOps R inv inv0) root x = some y ∧ ntt (ringOps R inv inv0) root y = some x := by
  obtain ⟨y, hy, hys, hyi⟩ := intt_eq_dft_model inv inv0 root L hL ω ωi hr hi hinv hω x hx
  obtain ⟨z, hz, hzs, hzi⟩ := ntt_eq_dft_model inv inv0 root L hL ω hr hω y hys
  refine ⟨y, hy, ?_⟩
  rw [hz]; congr 1
  apply array_ext_toFn z x (2^L) hzs hx
  intro i hi'
  have hωi : 0 < L → ωi^(2^(L-1)) = -1 := fun h => inv_pow_half L ω ωi (hω h) hinv
  have hinv' : ω * ωi = 1 := by rw [mul_comm]; exact hinv
  have hsc : ∀ j, dft (2^L) ω (fun k => inv0 ((2^L : ℕ) : R) * dft (2^L) ωi (toFn x) k) j
      = inv0 ((2^L : ℕ) : R) * dft (2^L) ω (dft (2^L) ωi (toFn x)) j := by
    intro j; unfold dft; rw [Finset.mul_sum]; apply Finset.sum_congr rfl; intro k _; ring
  rw [hzi i hi', dft_congr (2^L) ω (toFn y) _ hyi, hsc, dft_inv L ωi ω hωi hinv' (toFn x) i hi', ← mul_assoc, hn, one_mul]

/-- `ntt`/`intt` panic on every length that is not 0 or a power of two below `2^32` -/
theorem ntt_rejects {σ α : Type} (ops : Ops σ α) (root : Nat → Option σ) (x : Array α)
    (h : ¬ (x.size = 0 ∨ ∃ k, k ≤ 31 ∧ x.size = 2^k)) : ntt ops root x = none ∧ intt ops root x = none := by
  rw [← admissible_iff, not_and] at h
  unfold ntt intt
  by_cases hbig : 2^32 ≤ x.size
  · exact ⟨if_pos hbig, if_pos hbig⟩
  · rw [if_neg hbig, if_neg hbig, Bool.eq_false_iff.2 (h hbig)]
    exact ⟨rfl, rfl⟩

end TF.NttProofs
