import Mathlib.Tactic.Ring
import TF.Proofs.MmrE
/-!
Aligned blocks of leaves: the block `x / 2^t` of level `t` around leaf `x`, its sibling `sibBlk`, where it ends, and when
it lies inside an MMR of `n` leaves (in terms of `locate`, `TF/Spec/MmrE.lean`).  Arithmetic only.
-/
namespace TF.MmrE
open TF TF.Spec.MmrE

theorem div_pow_succ (x t : Nat) : x / 2 ^ (t + 1) = x / 2 ^ t / 2 := by
  rw [Nat.pow_succ, Nat.div_div_eq_div_mul]

theorem div_pow_succ' (x t : Nat) : x / 2 ^ (t + 1) = x / 2 / 2 ^ t := by
  rw [Nat.pow_succ', Nat.div_div_eq_div_mul]

theorem div_pow_add (x a b : Nat) : x / 2 ^ (a + b) = x / 2 ^ a / 2 ^ b := by
  rw [Nat.pow_add, Nat.div_div_eq_div_mul]

/-- a list over the levels `l, l+1, …` above block `b`, split off at the first level -/
theorem map_range_succ_up {α : Type} (g : Nat → Nat → α) (l b d : Nat) :
    (List.range (d + 1)).map (fun k => g (l + k) (b / 2 ^ k))
      = g l b :: (List.range d).map (fun k => g (l + 1 + k) (b / 2 / 2 ^ k)) := by
  rw [List.range_succ_eq_map, List.map_cons, List.map_map, Nat.add_zero, Nat.pow_zero, Nat.div_one]
  refine congrArg _ (List.map_congr_left fun t _ => ?_)
  show g (l + (t + 1)) (b / 2 ^ (t + 1)) = _
  rw [div_pow_succ', show l + (t + 1) = l + 1 + t by omega]

theorem sibBlk_even {x : Nat} (h : x % 2 = 0) : sibBlk x = x + 1 := if_pos h

theorem sibBlk_odd {x : Nat} (h : x % 2 = 1) : sibBlk x = x - 1 := if_neg (by omega)

theorem sibBlk_ne (x : Nat) : sibBlk x ≠ x := by
  rcases Nat.mod_two_eq_zero_or_one x with h | h
  · rw [sibBlk_even h]; omega
  · rw [sibBlk_odd h]; omega

theorem sibBlk_half (x : Nat) : sibBlk x / 2 = x / 2 := by
  rcases Nat.mod_two_eq_zero_or_one x with h | h
  · rw [sibBlk_even h]; omega
  · rw [sibBlk_odd h]; omega

theorem sibBlk_sibBlk (x : Nat) : sibBlk (sibBlk x) = x := by
  rcases Nat.mod_two_eq_zero_or_one x with h | h
  · rw [sibBlk_even h, sibBlk_odd (by omega)]; omega
  · rw [sibBlk_odd h, sibBlk_even (by omega)]; omega

theorem succ_le_block (x t : Nat) : x + 1 ≤ (x / 2 ^ t + 1) * 2 ^ t := by
  have hp : 0 < 2 ^ t := Nat.pow_pos (by omega)
  have hdm := Nat.div_add_mod x (2 ^ t)
  have hml := Nat.mod_lt x hp
  have : (x / 2 ^ t + 1) * 2 ^ t = 2 ^ t * (x / 2 ^ t) + 2 ^ t := by
    rw [Nat.add_mul, Nat.one_mul, Nat.mul_comm]
  omega

/-- the number of leaves up to the end of block `(l, b)` -/
def bend (l b : Nat) : Nat := (b + 1) * 2 ^ l

theorem bend_eq (l b : Nat) : bend l b = b * 2 ^ l + 2 ^ l := by unfold bend; ring

theorem bend_succ (l b : Nat) : bend (l + 1) b = 2 * bend l b := by unfold bend; rw [Nat.pow_succ]; ring

theorem bend_le_anc (l b d : Nat) : bend l b ≤ bend (l + d) (b / 2 ^ d) :=
  calc (b + 1) * 2 ^ l ≤ ((b / 2 ^ d + 1) * 2 ^ d) * 2 ^ l := Nat.mul_le_mul_right _ (succ_le_block b d)
    _ = (b / 2 ^ d + 1) * 2 ^ (l + d) := by rw [Nat.pow_add]; ac_rfl

theorem bend_le_parent (l b : Nat) : bend l b ≤ bend (l + 1) (b / 2) := by
  simpa using bend_le_anc l b 1

/-- blocks are nested: the end of the level-`t` block of `x` is at most the end of its level-`(t+d)` block -/
theorem block_mono (x t d : Nat) : (x / 2 ^ t + 1) * 2 ^ t ≤ (x / 2 ^ (t + d) + 1) * 2 ^ (t + d) := by
  have h := bend_le_anc t (x / 2 ^ t) d
  rwa [← div_pow_add] at h

theorem sib_block_le (y t : Nat) : (sibBlk y + 1) * 2 ^ t ≤ (y / 2 + 1) * 2 ^ (t + 1) := by
  have h1 : sibBlk y + 1 ≤ (y / 2 + 1) * 2 := by have := sibBlk_half y; omega
  calc (sibBlk y + 1) * 2 ^ t ≤ ((y / 2 + 1) * 2) * 2 ^ t := Nat.mul_le_mul_right _ h1
    _ = (y / 2 + 1) * 2 ^ (t + 1) := by rw [Nat.pow_succ]; ac_rfl

theorem lt_of_two_pow_le {l n K : Nat} (h : 2 ^ l ≤ n) (hn : n < 2 ^ K) : l < K :=
  (Nat.pow_lt_pow_iff_right (by omega)).mp (Nat.lt_of_le_of_lt h hn)

/-- below `2^63` leaves (the domain on which every node index fits a `u64`) no tree is higher than 62 -/
theorem height_le_62 (n i : Nat) (h : i < n) (hn : n < 2 ^ 63) : (locate n i).1 ≤ 62 :=
  Nat.le_of_lt_succ (lt_of_two_pow_le (two_pow_height_le n i h) hn)

theorem tree_block_le (n i : Nat) (h : i < n) : (i / 2 ^ (locate n i).1 + 1) * 2 ^ (locate n i).1 ≤ n := by
  have h1 := locate_block_le n i h
  have hp : 0 < 2 ^ (locate n i).1 := Nat.pow_pos (by omega)
  have hdm := Nat.div_add_mod i (2 ^ (locate n i).1)
  have : (i / 2 ^ (locate n i).1 + 1) * 2 ^ (locate n i).1
      = 2 ^ (locate n i).1 * (i / 2 ^ (locate n i).1) + 2 ^ (locate n i).1 := by
    rw [Nat.add_mul, Nat.one_mul, Nat.mul_comm]
  omega

theorem anc_block_le (n i t : Nat) (h : i < n) (ht : t ≤ (locate n i).1) : (i / 2 ^ t + 1) * 2 ^ t ≤ n := by
  obtain ⟨d, hd⟩ : ∃ d, (locate n i).1 = t + d := ⟨(locate n i).1 - t, by omega⟩
  have := block_mono i t d
  have h2 := tree_block_le n i h
  rw [hd] at h2
  omega

/-- a leaf whose level-`h` block lies inside the range sits in a tree of height at least `h` -/
theorem locate_height_ge' : ∀ (h n j : Nat), (j / 2 ^ h + 1) * 2 ^ h ≤ n → h ≤ (locate n j).1 := by
  intro h
  induction h with
  | zero => intros; omega
  | succ h ih =>
    intro n j hb
    have hj := succ_le_block j (h + 1)
    have hn : n ≠ 0 := by omega
    rw [locate_unfold n j hn]
    have hb2 : (j / 2 / 2 ^ h + 1) * 2 ^ h ≤ n / 2 := by
      rw [div_pow_succ', Nat.pow_succ] at hb
      have : (j / 2 / 2 ^ h + 1) * (2 ^ h * 2) = 2 * ((j / 2 / 2 ^ h + 1) * 2 ^ h) := by ac_rfl
      omega
    have hj2 := succ_le_block (j / 2) h
    by_cases hc : n % 2 = 1 ∧ j = n - 1
    · omega
    · rw [if_neg hc]
      have := ih (n / 2) (j / 2) hb2
      simp only
      omega

/-- meeting points are unique: if leaf `j` lies under the sibling block of `i` at level `t`, it lies under the
    ancestor blocks of `i` at all higher levels -/
theorem meet_above (i j t t' : Nat) (h : sibBlk (i / 2 ^ t) = j / 2 ^ t) (ht : t < t') : j / 2 ^ t' = i / 2 ^ t' := by
  obtain ⟨d, rfl⟩ : ∃ d, t' = t + 1 + d := ⟨t' - t - 1, by omega⟩
  rw [div_pow_add j, div_pow_add i, div_pow_succ j, div_pow_succ i, ← h, sibBlk_half]

theorem meet_unique (i j t t' : Nat) (h : sibBlk (i / 2 ^ t) = j / 2 ^ t) (h' : sibBlk (i / 2 ^ t') = j / 2 ^ t') :
    t = t' := by
  rcases Nat.lt_trichotomy t t' with hlt | heq | hgt
  · have := meet_above i j t t' h hlt
    rw [this] at h'; exact absurd h' (sibBlk_ne _)
  · exact heq
  · have := meet_above i j t' t h' hgt
    rw [this] at h; exact absurd h (sibBlk_ne _)

theorem bend_odd (l b : Nat) (hb : b % 2 = 1) : bend l b = bend (l + 1) (b / 2) := by
  unfold bend
  have e : (b / 2 + 1) * 2 ^ (l + 1) = (2 * (b / 2) + 2) * 2 ^ l := by rw [Nat.pow_succ]; ring
  rw [e]
  congr 1; omega

theorem two_pow_le_bend (l b : Nat) : 2 ^ l ≤ bend l b := by
  unfold bend; exact Nat.le_mul_of_pos_left _ (by omega)

theorem lt_bend_div (c l : Nat) : c < bend l (c / 2 ^ l) := succ_le_block c l

end TF.MmrE
