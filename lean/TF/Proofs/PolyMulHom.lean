import TF.Model.PolyMul
import Mathlib.Data.List.Basic
import Mathlib.Data.List.Forall2
/-!
What holds of the polynomial-product model (`TF/Model/PolyMul.lean`) for every record of operations: the shape of a
successful run of each partial operation, and naturality along a map of operation records (`OpsMap`, `TransMap`): every
product strategy maps operands with `ok` entries to the image of its result, with `ok` entries (`MapRel`).  The batch
products are treated for an arbitrary relation between two runs (`MulRel`).
-/
namespace TF.Model.Poly.Hom
open TF TF.Model.Poly

variable {α β : Type}

/-- `f` commutes with `0, 1, +, −, ·` of the records `F`, `G` unconditionally, and with the zero test on the elements
    satisfying `ok`; every result of an operation of `F` satisfies `ok`.  (Instance: `F = bfieldOps` on naturals,
    `G = FieldOps.ofField (ZMod P)`, `f = Nat.cast`, `ok a = a < P`: the operations reduce modulo `P`, so they commute with
    the cast for all naturals and return canonical values; only the zero test `a == 0` needs a canonical argument.)  `neg` and `inv` are not asked for: the products do not
    use them (`FieldOps.Hom` of `TF/Proofs/PolyHom.lean`, for division and `xgcd`, does). -/
structure OpsMap (F : FieldOps α) (G : FieldOps β) (f : α → β) (ok : α → Prop) : Prop where
  zero : f F.zero = G.zero
  one : f F.one = G.one
  add : ∀ a b, f (F.add a b) = G.add (f a) (f b)
  sub : ∀ a b, f (F.sub a b) = G.sub (f a) (f b)
  mul : ∀ a b, f (F.mul a b) = G.mul (f a) (f b)
  isZero : ∀ a, ok a → F.isZero a = G.isZero (f a)
  ok_zero : ok F.zero
  ok_one : ok F.one
  ok_add : ∀ a b, ok (F.add a b)
  ok_sub : ∀ a b, ok (F.sub a b)
  ok_mul : ∀ a b, ok (F.mul a b)

/-- the transform pairs correspond under `f`, and `T.intt` returns `ok` elements -/
structure TransMap (T : Transform α) (T' : Transform β) (f : α → β) (ok : α → Prop) : Prop where
  ntt : ∀ xs, (T.ntt xs).map (List.map f) = T'.ntt (xs.map f)
  intt : ∀ xs, (T.intt xs).map (List.map f) = T'.intt (xs.map f)
  ok_intt : ∀ xs ys, T.intt xs = some ys → ∀ y ∈ ys, ok y

/-- without a side condition (`ok = True`) only the six equations are left -/
theorem OpsMap.of_true {F : FieldOps α} {G : FieldOps β} {f : α → β} (zero : f F.zero = G.zero) (one : f F.one = G.one)
    (add : ∀ a b, f (F.add a b) = G.add (f a) (f b)) (sub : ∀ a b, f (F.sub a b) = G.sub (f a) (f b))
    (mul : ∀ a b, f (F.mul a b) = G.mul (f a) (f b)) (isZero : ∀ a, F.isZero a = G.isZero (f a)) :
    OpsMap F G f (fun _ => True) :=
  ⟨zero, one, add, sub, mul, fun a _ => isZero a, trivial, trivial, fun _ _ => trivial, fun _ _ => trivial,
    fun _ _ => trivial⟩

theorem OpsMap.id (F : FieldOps α) : OpsMap F F id (fun _ => True) :=
  .of_true rfl rfl (fun _ _ => rfl) (fun _ _ => rfl) (fun _ _ => rfl) (fun _ => rfl)

/-- all entries satisfy `ok` -/
def AllOk (ok : α → Prop) (l : List α) : Prop := ∀ x ∈ l, ok x

/-- a polynomial-or-panic with `ok` entries -/
def AllOkO (ok : α → Prop) (p : Option (List α)) : Prop := ∀ l, p = some l → AllOk ok l

theorem allOk_nil (ok : α → Prop) : AllOk ok [] := fun _ h => by cases h

theorem allOk_cons {ok : α → Prop} {x : α} {l : List α} (hx : ok x) (hl : AllOk ok l) : AllOk ok (x :: l) := by
  intro z hz
  rcases List.mem_cons.1 hz with rfl | hz
  exacts [hx, hl z hz]

theorem allOk_map {δ : Type} {ok : α → Prop} {g : δ → α} (h : ∀ y, ok (g y)) (l : List δ) : AllOk ok (l.map g) := by
  intro z hz
  obtain ⟨y, _, rfl⟩ := List.mem_map.1 hz
  exact h y

theorem allOk_take {ok : α → Prop} {l : List α} (h : AllOk ok l) (n : Nat) : AllOk ok (l.take n) :=
  fun x hx => h x (List.mem_of_mem_take hx)

theorem allOkO_some {ok : α → Prop} {l : List α} (h : AllOk ok l) : AllOkO ok (some l) := by
  intro l' hl
  cases hl
  exact h

theorem allOkO_none (ok : α → Prop) : AllOkO ok none := fun _ hl => by cases hl

/-- the shape all the partial operations share: the second run is the image of the first under `f`, and the first run
    returns `ok` entries -/
def MapRel (f : α → β) (ok : α → Prop) (p : Option (List α)) (q : Option (List β)) : Prop :=
  p.map (List.map f) = q ∧ AllOkO ok p

theorem MapRel.of_some {f : α → β} {ok : α → Prop} {p : Option (List α)} {q : Option (List β)} {r : List α}
    (h : MapRel f ok p q) (hp : p = some r) : q = some (r.map f) ∧ AllOk ok r :=
  ⟨by rw [← h.1, hp]; rfl, h.2 r hp⟩

theorem mapRel_some {f : α → β} {ok : α → Prop} {l : List α} (h : AllOk ok l) : MapRel f ok (some l) (some (l.map f)) :=
  ⟨rfl, allOkO_some h⟩

theorem TransMap.id (T : Transform α) : TransMap T T id (fun _ => True) :=
  ⟨fun xs => by rw [List.map_id_fun, Option.map_id_fun]; rfl, fun xs => by rw [List.map_id_fun, Option.map_id_fun]; rfl,
    fun _ _ _ _ _ => trivial⟩

theorem length_resize' (xs : List α) (n : Nat) (z : α) : (resize xs n z).length = n := by
  simp only [resize, List.length_append, List.length_take, List.length_replicate]; omega

theorem length_zipLongestWith {γ : Type} (f : γ → γ → γ) (g : γ → γ) (a b : List γ) :
    (zipLongestWith f g a b).length = max a.length b.length := by
  induction a generalizing b with
  | nil => simp [zipLongestWith]
  | cons x a ih =>
    cases b with
    | nil => simp [zipLongestWith]
    | cons y b => simp only [zipLongestWith, List.length_cons, ih]; omega

theorem length_mulRows {γ : Type} (F3 : FieldOps γ) (mul : α → β → γ) (b : List β) (hb : b ≠ []) :
    ∀ (a : List α), a ≠ [] → (mulRows F3 mul a b).length = a.length + b.length - 1 := by
  have hbl : 0 < b.length := List.length_pos_of_ne_nil hb
  intro a
  induction a with
  | nil => intro h; exact absurd rfl h
  | cons a0 as ih =>
    intro _
    cases as with
    | nil => simp [mulRows]
    | cons a1 as =>
      have := ih (by simp)
      simp only [mulRows, length_zipLongestWith, List.length_map, List.length_cons] at this ⊢
      omega

theorem length_squareRows (F : FieldOps α) : ∀ (c : List α), c ≠ [] → (squareRows F c).length = 2 * c.length - 1 := by
  intro c
  induction c with
  | nil => intro h; exact absurd rfl h
  | cons c0 cs ih =>
    intro _
    cases cs with
    | nil => simp [squareRows]
    | cons c1 cs =>
      have := ih (by simp)
      simp only [squareRows, length_zipLongestWith, List.length_map, List.length_cons] at this ⊢
      omega

theorem powLoop_succ (sq mulSelf : List α → Option (List α)) (e bl n : Nat) (acc : List α) :
    powLoop sq mulSelf e bl (n + 1) acc =
      (sq acc).bind fun a =>
        if (e >>> (bl - (bl + 1 - (n + 1))) &&& 1 == 1) = true then (mulSelf a).bind (powLoop sq mulSelf e bl n)
        else powLoop sq mulSelf e bl n a := rfl

/-- steps that never panic: the loop never panics -/
theorem powLoop_isSome (sq mulSelf : List α → Option (List α))
    (hsq : ∀ acc, (sq acc).isSome) (hmul : ∀ acc, (mulSelf acc).isSome) (e bl n : Nat) (acc : List α) :
    (powLoop sq mulSelf e bl n acc).isSome := by
  induction n generalizing acc with
  | zero => rfl
  | succ n ih =>
    obtain ⟨a1, h1⟩ := Option.isSome_iff_exists.1 (hsq acc)
    rw [powLoop_succ, h1, Option.bind_some]
    split
    · obtain ⟨a2, h2⟩ := Option.isSome_iff_exists.1 (hmul a1)
      rw [h2, Option.bind_some]
      exact ih a2
    · exact ih a1

theorem isPow2_iff (n : Nat) : isPow2 n = true ↔ n ≠ 0 ∧ n = 2 ^ Nat.log2 n := by
  simp [isPow2]

theorem isPow2_pow (k : Nat) : isPow2 (2 ^ k) = true :=
  (isPow2_iff _).2 ⟨Nat.ne_of_gt (Nat.two_pow_pos k), by rw [Nat.log2_two_pow]⟩

theorem specNtt_two_pow (F : FieldOps α) (k : Nat) (w : α) (xs : List α) (hlen : xs.length = 2 ^ k)
    (hle : 2 ^ k ≤ 4294967295) (hr : F.rootOfUnity (2 ^ k) = some w) :
    specNtt F xs = some (evalAtPowers F k w xs) := by
  unfold specNtt
  simp only [hlen, hr, isPow2_pow, if_neg (Nat.not_lt.2 hle), beq_iff_eq, Nat.ne_of_gt (Nat.two_pow_pos k), if_false,
    Bool.not_true, Bool.false_eq_true, Nat.log2_two_pow]

theorem specIntt_two_pow (F : FieldOps α) (k : Nat) (w : α) (xs : List α) (hlen : xs.length = 2 ^ k)
    (hle : 2 ^ k ≤ 4294967295) (hr : F.rootOfUnity (2 ^ k) = some w) :
    specIntt F xs = some ((evalAtPowers F k (F.inv w) xs).map
      (fun c => F.mul c (if F.isZero (F.ofNat (2 ^ k)) then F.zero else F.inv (F.ofNat (2 ^ k))))) := by
  unfold specIntt
  simp only [hlen, hr, isPow2_pow, if_neg (Nat.not_lt.2 hle), beq_iff_eq, Nat.ne_of_gt (Nat.two_pow_pos k), if_false,
    Bool.not_true, Bool.false_eq_true, Nat.log2_two_pow]

/-- a successful `specNtt` ran on the empty vector, or on a vector as in `specNtt_two_pow` -/
theorem specNtt_eq_some {F : FieldOps α} {xs ys : List α} (h : specNtt F xs = some ys) :
    (xs = [] ∧ ys = []) ∨ ∃ k w, xs.length = 2 ^ k ∧ 2 ^ k ≤ 4294967295 ∧ F.rootOfUnity (2 ^ k) = some w := by
  unfold specNtt at h
  simp only at h
  split at h
  · cases h
  · next hle =>
    split at h
    · next h0 => exact .inl ⟨List.length_eq_zero_iff.1 (beq_iff_eq.1 h0), (Option.some.inj h).symm⟩
    · split at h
      · cases h
      · next hp =>
        obtain ⟨_, hk⟩ := (isPow2_iff _).1 (by simpa using hp)
        rw [hk] at hle
        cases hr : F.rootOfUnity xs.length with
        | none => rw [hr] at h; cases h
        | some w => exact .inr ⟨_, w, hk, Nat.not_lt.1 hle, hk ▸ hr⟩

section Some
variable {γ : Type} {F1 : FieldOps α} {F2 : FieldOps β} {mul : α → β → γ}
  {T1 : Transform α} {T2 : Transform β} {T3 : Transform γ}

theorem fastMultiplyG_some {a : List α} {b : List β} {r : List γ}
    (h : fastMultiplyG F1 F2 mul T1 T2 T3 a b = some r) :
    (degree F1 a + degree F2 b < 0 ∧ r = []) ∨
    ¬ degree F1 a + degree F2 b < 0 ∧
      ∃ l rr c, T1.ntt (resize a (nextPowerOfTwo ((degree F1 a + degree F2 b).toNat + 1)) F1.zero) = some l ∧
        T2.ntt (resize b (nextPowerOfTwo ((degree F1 a + degree F2 b).toNat + 1)) F2.zero) = some rr ∧
        T3.intt (List.zipWith mul l rr) = some c ∧ r = c.take ((degree F1 a + degree F2 b).toNat + 1) := by
  unfold fastMultiplyG at h
  simp only at h
  split at h
  · next hd => exact .inl ⟨hd, (Option.some.inj h).symm⟩
  · next hd =>
    simp only [Option.bind_eq_bind, Option.bind_eq_some_iff, Option.pure_def, Option.some.injEq] at h
    obtain ⟨l, hl, rr, hr, c, hc, rfl⟩ := h
    exact .inr ⟨hd, l, rr, c, hl, hr, hc, rfl⟩

theorem fastSquare_some {F : FieldOps α} {T : Transform α} {p r : List α} (h : fastSquare F T p = some r) :
    (normalize F p = [] ∧ r = []) ∨ (∃ c, normalize F p = [c] ∧ r = [F.mul c c]) ∨
    ∃ c c1 cs v w, normalize F p = c :: c1 :: cs ∧
      T.ntt (resize p (nextPowerOfTwo (2 * (cs.length + 1) + 1)) F.zero) = some v ∧
      T.intt (v.map (fun e => F.mul e e)) = some w ∧ r = w.take (2 * (cs.length + 1) + 1) := by
  unfold fastSquare at h
  split at h
  · next hn => exact .inl ⟨hn, (Option.some.inj h).symm⟩
  · next c hn => exact .inr (.inl ⟨c, hn, (Option.some.inj h).symm⟩)
  · next c cs hn1 hn =>
    cases cs with
    | nil => exact absurd rfl hn1
    | cons c1 cs =>
      simp only [Option.bind_eq_bind, Option.bind_eq_some_iff, Option.pure_def, Option.some.injEq, List.length_cons] at h
      obtain ⟨v, hv, w, hw, rfl⟩ := h
      exact .inr (.inr ⟨c, c1, cs, v, w, hn, hv, hw, rfl⟩)

end Some

/-! Batch products, two runs on related inputs: `R` relates the polynomials-or-panics of two runs (possibly over different element types, with different binary products).
If the products of related operands are related (`MulRel`) and the units are, then so are the results of the tree
reduction and of its chunked parallel variant, for every thread count. -/
section Rel
variable {F : FieldOps α} {G : FieldOps β}
variable {mulf : List α → List α → Option (List α)} {mulf' : List β → List β → Option (List β)}
variable {R : Option (List α) → Option (List β) → Prop}

/-- the products of related operands-or-panics are related -/
def MulRel (R : Option (List α) → Option (List β) → Prop) (mulf : List α → List α → Option (List α))
    (mulf' : List β → List β → Option (List β)) : Prop :=
  ∀ p p' q q', R p p' → R q q' →
    R (p.bind fun a => q.bind fun b => mulf a b) (p'.bind fun a => q'.bind fun b => mulf' a b)

theorem pairUp_rel (hm : MulRel R mulf mulf') {ps : List (Option (List α))} {qs : List (Option (List β))}
    (h : List.Forall₂ R ps qs) : List.Forall₂ R (pairUp mulf ps) (pairUp mulf' qs) := by
  fun_induction pairUp mulf ps generalizing qs with
  | case1 => cases h; exact .nil
  | case2 p => cases h with | cons h1 h2 => cases h2; exact .cons h1 .nil
  | case3 p q rest ih =>
    cases h with
    | cons h1 h2 =>
      cases h2 with
      | cons h3 h4 => exact .cons (hm _ _ _ _ h1 h3) (ih h4)

theorem batchLoop_rel (hm : MulRel R mulf mulf') {ps : List (Option (List α))} {qs : List (Option (List β))}
    (h : List.Forall₂ R ps qs) (hne : ps ≠ []) : R (batchLoop mulf ps) (batchLoop mulf' qs) := by
  induction ps using batchLoop.induct mulf generalizing qs with
  | case1 => exact absurd rfl hne
  | case2 p => cases h with | cons h1 h2 => cases h2; simpa only [batchLoop] using h1
  | case3 p q rest ih =>
    have hne' : pairUp mulf (p :: q :: rest) ≠ [] := fun h0 => by
      have := congrArg List.length h0
      rw [pairUp_length, List.length_cons, List.length_cons, List.length_nil] at this
      omega
    cases h with
    | cons h1 h2 =>
      cases h2 with
      | cons h3 h4 =>
        rw [batchLoop, batchLoop]
        exact ih (pairUp_rel hm (.cons h1 (.cons h3 h4))) hne'

theorem batchMultiplyWith_rel (hm : MulRel R mulf mulf') (hone : R (some (one F)) (some (one G)))
    {ps : List (Option (List α))} {qs : List (Option (List β))} (h : List.Forall₂ R ps qs) :
    R (batchMultiplyWith F mulf ps) (batchMultiplyWith G mulf' qs) := by
  unfold batchMultiplyWith
  cases h with
  | nil => exact hone
  | cons h1 h2 => exact batchLoop_rel hm (.cons h1 h2) (List.cons_ne_nil _ _)

theorem chunksAux_rel {γ δ : Type} {S : γ → δ → Prop} (n fuel : Nat) {xs : List γ} {ys : List δ} (h : List.Forall₂ S xs ys) :
    List.Forall₂ (List.Forall₂ S) (chunksAux n fuel xs) (chunksAux n fuel ys) := by
  induction fuel generalizing xs ys with
  | zero => exact .nil
  | succ fuel ih =>
    unfold chunksAux
    cases h with
    | nil => exact .nil
    | cons h1 h2 =>
      exact .cons (List.forall₂_take n (.cons h1 h2)) (ih (List.forall₂_drop n (.cons h1 h2)))

theorem chunksAux_ne_nil {γ : Type} (n fuel : Nat) (xs : List γ) (hx : xs ≠ []) (hf : 0 < fuel) :
    chunksAux n fuel xs ≠ [] := by
  cases fuel with
  | zero => omega
  | succ fuel =>
    unfold chunksAux
    rw [if_neg (by simpa using hx)]
    exact List.cons_ne_nil _ _

theorem parBatchLoop_rel (hm : MulRel R mulf mulf') (hone : R (some (one F)) (some (one G))) (numThreads : Nat)
    {ps : List (Option (List α))} {qs : List (Option (List β))} (h : List.Forall₂ R ps qs) (hne : ps ≠ []) :
    R (parBatchLoop F mulf numThreads ps) (parBatchLoop G mulf' numThreads qs) := by
  fun_induction parBatchLoop F mulf numThreads ps generalizing qs with
  | case1 => exact absurd rfl hne
  | case2 p => cases h with | cons h1 h2 => cases h2; simpa only [parBatchLoop] using h1
  | case3 p q rest chunkSize =>
    rename_i ih
    cases h with
    | cons h1 h2 =>
      cases h2 with
      | cons h3 h4 =>
        have hall := List.Forall₂.cons h1 (.cons h3 h4)
        rw [parBatchLoop, ← hall.length_eq]
        refine ih ?_ ?_
        · unfold chunks
          rw [← hall.length_eq, List.forall₂_map_left_iff, List.forall₂_map_right_iff]
          exact (chunksAux_rel _ _ hall).imp (fun _ _ hc => batchMultiplyWith_rel hm hone hc)
        · rw [Ne, List.map_eq_nil_iff]
          exact chunksAux_ne_nil _ _ _ (List.cons_ne_nil _ _) (Nat.succ_pos _)

theorem parBatchMultiplyWith_rel (hm : MulRel R mulf mulf') (hone : R (some (one F)) (some (one G))) (numThreads : Nat)
    {ps : List (Option (List α))} {qs : List (Option (List β))} (h : List.Forall₂ R ps qs) :
    R (parBatchMultiplyWith F mulf numThreads ps) (parBatchMultiplyWith G mulf' numThreads qs) := by
  unfold parBatchMultiplyWith
  cases h with
  | nil => exact hone
  | cons h1 h2 => exact parBatchLoop_rel hm hone numThreads (.cons h1 h2) (List.cons_ne_nil _ _)

end Rel

section
variable {F : FieldOps α} {G : FieldOps β} {f : α → β} {ok : α → Prop}

theorem dropWhile_congr_mem (p q : α → Bool) (l : List α) (h : ∀ x ∈ l, p x = q x) :
    l.dropWhile p = l.dropWhile q := by
  induction l with
  | nil => rfl
  | cons x xs ih =>
    simp only [List.dropWhile_cons]
    rw [h x List.mem_cons_self]
    split
    · exact ih (fun y hy => h y (List.mem_cons_of_mem _ hy))
    · rfl

theorem normalize_map (H : OpsMap F G f ok) (a : List α) (ha : AllOk ok a) :
    (normalize F a).map f = normalize G (a.map f) := by
  unfold normalize
  have e : (a.map f).reverse = a.reverse.map f := List.map_reverse.symm
  rw [List.map_reverse, e, List.dropWhile_map]
  congr 2
  apply dropWhile_congr_mem
  intro x hx
  exact H.isZero x (ha x (List.mem_reverse.1 hx))

theorem normalize_subset (F : FieldOps α) (a : List α) : ∀ x ∈ normalize F a, x ∈ a := by
  intro x hx
  unfold normalize at hx
  rw [List.mem_reverse] at hx
  exact List.mem_reverse.1 ((List.dropWhile_sublist F.isZero).subset hx)

theorem normalize_ok (F : FieldOps α) (a : List α) (ha : AllOk ok a) : AllOk ok (normalize F a) :=
  fun x hx => ha x (normalize_subset F a x hx)

theorem degree_map (H : OpsMap F G f ok) (a : List α) (ha : AllOk ok a) : degree G (a.map f) = degree F a := by
  unfold degree
  rw [← normalize_map H a ha, List.length_map]

theorem resize_map (H : OpsMap F G f ok) (a : List α) (n : Nat) :
    (resize a n F.zero).map f = resize (a.map f) n G.zero := by
  simp only [resize, List.map_append, List.map_take, List.map_replicate, List.length_map, H.zero]

theorem zipLongestWith_map (op : α → α → α) (g : α → α) (op' : β → β → β) (g' : β → β)
    (hop : ∀ a b, f (op a b) = op' (f a) (f b)) (hg : ∀ a, f (g a) = g' (f a)) (xs ys : List α) :
    (zipLongestWith op g xs ys).map f = zipLongestWith op' g' (xs.map f) (ys.map f) := by
  induction xs generalizing ys with
  | nil => simp [zipLongestWith, hg]
  | cons x xs ih =>
    cases ys with
    | nil => simp [zipLongestWith]
    | cons y ys => simp [zipLongestWith, hop, ih]

theorem zipLongestWith_ok (op : α → α → α) (g : α → α) (hop : ∀ a b, ok (op a b)) (xs ys : List α)
    (hx : AllOk ok xs) (hy : ∀ y ∈ ys, ok (g y)) : AllOk ok (zipLongestWith op g xs ys) := by
  induction xs generalizing ys with
  | nil =>
    intro z hz
    simp only [zipLongestWith, List.mem_map] at hz
    obtain ⟨y, hy', rfl⟩ := hz
    exact hy y hy'
  | cons x xs ih =>
    cases ys with
    | nil => simpa [zipLongestWith] using hx
    | cons y ys =>
      intro z hz
      simp only [zipLongestWith, List.mem_cons] at hz
      rcases hz with rfl | hz
      · exact hop _ _
      · exact ih ys (fun w hw => hx w (List.mem_cons_of_mem _ hw)) (fun w hw => hy w (List.mem_cons_of_mem _ hw)) z hz

end

/-! Operands over different element types (`FF: Mul<FF2>`); the same-type products below are instances. -/
section Mixed
variable {α₁ α₂ α₃ β₁ β₂ β₃ : Type}
variable {F1 : FieldOps α₁} {F2 : FieldOps α₂} {F3 : FieldOps α₃}
variable {G1 : FieldOps β₁} {G2 : FieldOps β₂} {G3 : FieldOps β₃}
variable {f1 : α₁ → β₁} {f2 : α₂ → β₂} {f3 : α₃ → β₃}
variable {ok1 : α₁ → Prop} {ok2 : α₂ → Prop} {ok3 : α₃ → Prop}
variable {mul : α₁ → α₂ → α₃} {mul' : β₁ → β₂ → β₃}

theorem mulRows_map (H3 : OpsMap F3 G3 f3 ok3) (hmul : ∀ x y, f3 (mul x y) = mul' (f1 x) (f2 y))
    (a : List α₁) (b : List α₂) :
    (mulRows F3 mul a b).map f3 = mulRows G3 mul' (a.map f1) (b.map f2) := by
  have hrow : ∀ a0, (b.map (mul a0)).map f3 = (b.map f2).map (mul' (f1 a0)) := fun a0 => by
    simp only [List.map_map]
    exact List.map_congr_left (fun x _ => hmul a0 x)
  induction a with
  | nil => rfl
  | cons a0 as ih =>
    cases as with
    | nil => exact hrow a0
    | cons a1 as =>
      simp only [mulRows, List.map_cons]
      rw [zipLongestWith_map F3.add id G3.add id H3.add (fun _ => rfl), hrow, List.map_cons, H3.zero, ih]
      rfl

theorem mulRows_ok (H3 : OpsMap F3 G3 f3 ok3) (hok : ∀ x y, ok3 (mul x y)) (a : List α₁) (b : List α₂) :
    AllOk ok3 (mulRows F3 mul a b) := by
  induction a with
  | nil => exact allOk_nil ok3
  | cons a0 as ih =>
    cases as with
    | nil => exact allOk_map (hok a0) b
    | cons a1 as =>
      exact zipLongestWith_ok F3.add id H3.ok_add _ _ (allOk_map (hok a0) b) (allOk_cons H3.ok_zero ih)

theorem naiveMultiplyG_map (H1 : OpsMap F1 G1 f1 ok1) (H2 : OpsMap F2 G2 f2 ok2) (H3 : OpsMap F3 G3 f3 ok3)
    (hmul : ∀ x y, f3 (mul x y) = mul' (f1 x) (f2 y)) (a : List α₁) (b : List α₂)
    (ha : AllOk ok1 a) (hb : AllOk ok2 b) :
    (naiveMultiplyG F1 F2 F3 mul a b).map f3 = naiveMultiplyG G1 G2 G3 mul' (a.map f1) (b.map f2) := by
  unfold naiveMultiplyG
  rw [← normalize_map H1 a ha, ← normalize_map H2 b hb]
  cases normalize F1 a with
  | nil => rfl
  | cons x xs =>
    cases normalize F2 b with
    | nil => rfl
    | cons y ys => exact mulRows_map H3 hmul (x :: xs) (y :: ys)

theorem naiveMultiplyG_ok (H3 : OpsMap F3 G3 f3 ok3) (hok : ∀ x y, ok3 (mul x y)) (a : List α₁) (b : List α₂) :
    AllOk ok3 (naiveMultiplyG F1 F2 F3 mul a b) := by
  unfold naiveMultiplyG
  split
  · exact allOk_nil ok3
  · exact allOk_nil ok3
  · exact mulRows_ok H3 hok _ _

variable {T1 : Transform α₁} {T2 : Transform α₂} {T3 : Transform α₃}
variable {T1' : Transform β₁} {T2' : Transform β₂} {T3' : Transform β₃}

/-- only the correspondences of the transforms that `fast_multiply` runs are needed: `ntt` on either operand type, `intt`
    on the result type -/
theorem fastMultiplyG_rel (H1 : OpsMap F1 G1 f1 ok1) (H2 : OpsMap F2 G2 f2 ok2)
    (h1 : ∀ xs, (T1.ntt xs).map (List.map f1) = T1'.ntt (xs.map f1))
    (h2 : ∀ xs, (T2.ntt xs).map (List.map f2) = T2'.ntt (xs.map f2)) (M3 : TransMap T3 T3' f3 ok3)
    (hmul : ∀ x y, f3 (mul x y) = mul' (f1 x) (f2 y)) (a : List α₁) (b : List α₂)
    (ha : AllOk ok1 a) (hb : AllOk ok2 b) :
    MapRel f3 ok3 (fastMultiplyG F1 F2 mul T1 T2 T3 a b) (fastMultiplyG G1 G2 mul' T1' T2' T3' (a.map f1) (b.map f2)) := by
  refine ⟨?_, fun r h => ?_⟩
  · unfold fastMultiplyG
    simp only [degree_map H1 a ha, degree_map H2 b hb, ← resize_map H1, ← resize_map H2, ← h1, ← h2]
    split
    · rfl
    · cases T1.ntt (resize a _ F1.zero) with
      | none => rfl
      | some l =>
        cases T2.ntt (resize b _ F2.zero) with
        | none => rfl
        | some r =>
          have hz : List.zipWith mul' (l.map f1) (r.map f2) = (List.zipWith mul l r).map f3 := by
            rw [List.zipWith_map, List.map_zipWith]
            congr 1
            funext x y
            exact (hmul x y).symm
          simp only [Option.map_some, Option.bind_eq_bind, Option.bind_some, hz, ← M3.intt]
          cases T3.intt (List.zipWith mul l r) with
          | none => rfl
          | some c => simp only [Option.map_some, Option.bind_some, Option.pure_def, List.map_take]
  · rcases fastMultiplyG_some h with ⟨_, rfl⟩ | ⟨_, l, rr, c, _, _, hc, rfl⟩
    · exact allOk_nil ok3
    · exact allOk_take (M3.ok_intt _ _ hc) _

theorem multiplyG_rel (H1 : OpsMap F1 G1 f1 ok1) (H2 : OpsMap F2 G2 f2 ok2) (H3 : OpsMap F3 G3 f3 ok3)
    (h1 : ∀ xs, (T1.ntt xs).map (List.map f1) = T1'.ntt (xs.map f1))
    (h2 : ∀ xs, (T2.ntt xs).map (List.map f2) = T2'.ntt (xs.map f2)) (M3 : TransMap T3 T3' f3 ok3)
    (hmul : ∀ x y, f3 (mul x y) = mul' (f1 x) (f2 y)) (hok : ∀ x y, ok3 (mul x y)) (threshold : Int)
    (a : List α₁) (b : List α₂) (ha : AllOk ok1 a) (hb : AllOk ok2 b) :
    MapRel f3 ok3 (multiplyG F1 F2 F3 mul threshold T1 T2 T3 a b)
      (multiplyG G1 G2 G3 mul' threshold T1' T2' T3' (a.map f1) (b.map f2)) := by
  unfold multiplyG
  rw [degree_map H1 a ha, degree_map H2 b hb]
  split
  · rw [← naiveMultiplyG_map H1 H2 H3 hmul a b ha hb]
    exact mapRel_some (naiveMultiplyG_ok H3 hok a b)
  · exact fastMultiplyG_rel H1 H2 h1 h2 M3 hmul a b ha hb

end Mixed

section
variable {F : FieldOps α} {G : FieldOps β} {f : α → β} {ok : α → Prop}
variable {T : Transform α} {T' : Transform β}

theorem naiveMultiply_map (H : OpsMap F G f ok) (a b : List α) (ha : AllOk ok a) (hb : AllOk ok b) :
    (naiveMultiply F a b).map f = naiveMultiply G (a.map f) (b.map f) :=
  naiveMultiplyG_map H H H H.mul a b ha hb

theorem fastMultiply_rel (H : OpsMap F G f ok) (M : TransMap T T' f ok) (a b : List α)
    (ha : AllOk ok a) (hb : AllOk ok b) :
    MapRel f ok (fastMultiply F T a b) (fastMultiply G T' (a.map f) (b.map f)) :=
  fastMultiplyG_rel H H M.ntt M.ntt M H.mul a b ha hb

theorem multiply_rel (H : OpsMap F G f ok) (M : TransMap T T' f ok) (threshold : Int) (a b : List α)
    (ha : AllOk ok a) (hb : AllOk ok b) :
    MapRel f ok (multiply F threshold T a b) (multiply G threshold T' (a.map f) (b.map f)) :=
  multiplyG_rel H H H M.ntt M.ntt M H.mul H.ok_mul threshold a b ha hb

theorem squareRows_map (H : OpsMap F G f ok) (c : List α) :
    (squareRows F c).map f = squareRows G (c.map f) := by
  induction c with
  | nil => rfl
  | cons c0 cs ih =>
    cases cs with
    | nil => simp [squareRows, H.mul]
    | cons c1 cs =>
      simp only [squareRows, List.map_cons]
      rw [zipLongestWith_map F.add id G.add id H.add (fun _ => rfl)]
      have ih' := ih
      simp only [List.map_cons] at ih'
      simp only [List.map_cons, List.map_map, H.zero, H.mul, H.add, H.one, ih', Function.comp_def]

theorem squareRows_ok (H : OpsMap F G f ok) (c : List α) : AllOk ok (squareRows F c) := by
  induction c with
  | nil => exact allOk_nil ok
  | cons c0 cs ih =>
    cases cs with
    | nil => exact allOk_cons (H.ok_mul _ _) (allOk_nil ok)
    | cons c1 cs =>
      exact zipLongestWith_ok F.add id H.ok_add _ _ (allOk_cons (H.ok_mul _ _) (allOk_map (fun _ => H.ok_mul _ _) _))
        (allOk_cons H.ok_zero (allOk_cons H.ok_zero ih))

theorem fastSquare_rel (H : OpsMap F G f ok) (M : TransMap T T' f ok) (p : List α) (hp : AllOk ok p) :
    MapRel f ok (fastSquare F T p) (fastSquare G T' (p.map f)) := by
  refine ⟨?_, fun r h => ?_⟩
  · unfold fastSquare
    rw [← normalize_map H p hp]
    cases hn : normalize F p with
    | nil => rfl
    | cons c cs =>
      cases cs with
      | nil => simp [H.mul]
      | cons c1 cs =>
        simp only [List.map_cons, List.length_cons, List.length_map, ← resize_map H, ← M.ntt]
        cases T.ntt (resize p _ F.zero) with
        | none => rfl
        | some v =>
          have hz : (v.map f).map (fun e => G.mul e e) = (v.map (fun e => F.mul e e)).map f := by
            simp [List.map_map, Function.comp_def, H.mul]
          simp only [Option.map_some, Option.bind_eq_bind, Option.bind_some, hz, ← M.intt]
          cases T.intt (v.map (fun e => F.mul e e)) with
          | none => rfl
          | some w => simp [List.map_take]
  · rcases fastSquare_some h with ⟨_, rfl⟩ | ⟨c, _, rfl⟩ | ⟨_, _, _, _, w, _, _, hw, rfl⟩
    · exact allOk_nil ok
    · exact allOk_cons (H.ok_mul _ _) (allOk_nil ok)
    · exact allOk_take (M.ok_intt _ _ hw) _

theorem square_rel (H : OpsMap F G f ok) (M : TransMap T T' f ok) (cutoff : Nat) (p : List α) (hp : AllOk ok p) :
    MapRel f ok (square F cutoff T p) (square G cutoff T' (p.map f)) := by
  unfold square
  rw [← normalize_map H p hp]
  cases hn : normalize F p with
  | nil => exact mapRel_some (allOk_nil ok)
  | cons c cs =>
    simp only [List.map_cons, List.length_map]
    split
    · exact fastSquare_rel H M p hp
    · rw [← List.map_cons, ← squareRows_map H (c :: cs)]
      exact mapRel_some (squareRows_ok H _)

theorem powLoop_rel (sq mulSelf : List α → Option (List α)) (sq' mulSelf' : List β → Option (List β))
    (hsq : ∀ acc, AllOk ok acc → MapRel f ok (sq acc) (sq' (acc.map f)))
    (hmul : ∀ acc, AllOk ok acc → MapRel f ok (mulSelf acc) (mulSelf' (acc.map f)))
    (e bl : Nat) : ∀ (n : Nat) (acc : List α), AllOk ok acc →
      MapRel f ok (powLoop sq mulSelf e bl n acc) (powLoop sq' mulSelf' e bl n (acc.map f)) := by
  intro n
  induction n with
  | zero => intro acc hacc; exact mapRel_some hacc
  | succ n ih =>
    intro acc hacc
    obtain ⟨h1, h1ok⟩ := hsq acc hacc
    rw [powLoop_succ, powLoop_succ, ← h1]
    cases hs : sq acc with
    | none => exact ⟨rfl, allOkO_none ok⟩
    | some s =>
      have hsok : AllOk ok s := h1ok s hs
      simp only [Option.map_some, Option.bind_some]
      split
      · obtain ⟨h2, h2ok⟩ := hmul s hsok
        rw [← h2]
        cases hm : mulSelf s with
        | none => exact ⟨rfl, allOkO_none ok⟩
        | some m => exact ih m (h2ok m hm)
      · exact ih s hsok

theorem one_map (H : OpsMap F G f ok) : (one F).map f = one G := congrArg (· :: []) H.one

theorem one_ok (H : OpsMap F G f ok) : AllOk ok (one F) := allOk_cons H.ok_one (allOk_nil ok)

theorem fastPow_rel (H : OpsMap F G f ok) (M : TransMap T T' f ok) (sqCutoff : Nat) (threshold : Int)
    (p : List α) (hp : AllOk ok p) (e : Nat) :
    MapRel f ok (fastPow F sqCutoff threshold T p e) (fastPow G sqCutoff threshold T' (p.map f) e) := by
  unfold fastPow
  rw [degree_map H p hp, ← one_map H]
  split
  · exact mapRel_some (one_ok H)
  · split
    · exact mapRel_some (allOk_nil ok)
    · exact powLoop_rel (square F sqCutoff T) (fun acc => multiply F threshold T p acc)
        (square G sqCutoff T') (fun acc => multiply G threshold T' (p.map f) acc)
        (fun acc hacc => square_rel H M sqCutoff acc hacc) (fun acc hacc => multiply_rel H M threshold p acc hp hacc)
        e (Nat.log2 e) (Nat.log2 e + 1) (one F) (one_ok H)

variable {mulf : List α → List α → Option (List α)} {mulf' : List β → List β → Option (List β)}

theorem mapRel_mulRel (hm : ∀ a b, AllOk ok a → AllOk ok b → MapRel f ok (mulf a b) (mulf' (a.map f) (b.map f))) :
    MulRel (MapRel f ok) mulf mulf' := by
  rintro p _ q _ ⟨rfl, hp⟩ ⟨rfl, hq⟩
  cases p with
  | none => exact ⟨rfl, allOkO_none ok⟩
  | some a =>
    cases q with
    | none => exact ⟨rfl, allOkO_none ok⟩
    | some b => exact hm a b (hp a rfl) (hq b rfl)

theorem mapRel_map_some (fs : List (List α)) (h : ∀ p ∈ fs, AllOk ok p) :
    List.Forall₂ (MapRel f ok) (fs.map some) ((fs.map (List.map f)).map some) := by
  rw [List.map_map, List.forall₂_map_left_iff, List.forall₂_map_right_iff]
  exact List.forall₂_same.2 (fun l hl => mapRel_some (h l hl))

theorem batchMultiply_rel (H : OpsMap F G f ok) (M : TransMap T T' f ok) (threshold : Int)
    (fs : List (List α)) (hfs : ∀ p ∈ fs, AllOk ok p) :
    MapRel f ok (batchMultiply F threshold T fs) (batchMultiply G threshold T' (fs.map (List.map f))) :=
  batchMultiplyWith_rel (mapRel_mulRel (multiply_rel H M threshold)) (one_map H ▸ mapRel_some (one_ok H))
    (mapRel_map_some fs hfs)

theorem parBatchMultiply_rel (H : OpsMap F G f ok) (M : TransMap T T' f ok) (threshold : Int) (numThreads : Nat)
    (fs : List (List α)) (hfs : ∀ p ∈ fs, AllOk ok p) :
    MapRel f ok (parBatchMultiply F threshold T numThreads fs)
      (parBatchMultiply G threshold T' numThreads (fs.map (List.map f))) :=
  parBatchMultiplyWith_rel (mapRel_mulRel (multiply_rel H M threshold)) (one_map H ▸ mapRel_some (one_ok H)) numThreads
    (mapRel_map_some fs hfs)

/-- the transform pair is defined on vectors of length `n` and preserves the length -/
def DefinedAt (T : Transform α) (n : Nat) : Prop :=
  (∀ xs : List α, xs.length = n → ∃ ys, T.ntt xs = some ys ∧ ys.length = n) ∧
  (∀ xs : List α, xs.length = n → ∃ ys, T.intt xs = some ys ∧ ys.length = n)

theorem fastMultiply_isSome_of (F : FieldOps α) (T : Transform α) (a b : List α)
    (hT : DefinedAt T (nextPowerOfTwo ((degree F a + degree F b).toNat + 1))) :
    (fastMultiply F T a b).isSome := by
  unfold fastMultiply fastMultiplyG
  simp only
  split
  · rfl
  · obtain ⟨l, hl, hll⟩ := hT.1 _ (length_resize' a _ F.zero)
    obtain ⟨r, hr, hrl⟩ := hT.1 _ (length_resize' b _ F.zero)
    obtain ⟨c, hc, _⟩ := hT.2 (List.zipWith F.mul l r) (by simp [hll, hrl])
    simp [hl, hr, hc]

theorem fastSquare_isSome_of (F : FieldOps α) (T : Transform α) (p : List α)
    (hT : DefinedAt T (nextPowerOfTwo (2 * ((normalize F p).length - 1) + 1))) :
    (fastSquare F T p).isSome := by
  unfold fastSquare
  split
  · rfl
  · rfl
  · next c cs hn =>
    rw [hn] at hT
    simp only [List.length_cons, Nat.add_sub_cancel] at hT
    obtain ⟨v, hv, hvl⟩ := hT.1 _ (length_resize' p _ F.zero)
    obtain ⟨w, hw, _⟩ := hT.2 (v.map (fun e => F.mul e e)) (by simp [hvl])
    simp [hv, hw]

theorem DefinedAt.of_transMap {T : Transform α} {T' : Transform β} {f : α → β} {ok : α → Prop}
    (M : TransMap T T' f ok) (n : Nat) (h : DefinedAt T' n) : DefinedAt T n := by
  constructor
  · intro xs hx
    obtain ⟨ys', hy', hl'⟩ := h.1 (xs.map f) (by simpa using hx)
    have := M.ntt xs
    rw [hy'] at this
    obtain ⟨ys, hys, rfl⟩ := Option.map_eq_some_iff.1 this
    exact ⟨ys, hys, by simpa using hl'⟩
  · intro xs hx
    obtain ⟨ys', hy', hl'⟩ := h.2 (xs.map f) (by simpa using hx)
    have := M.intt xs
    rw [hy'] at this
    obtain ⟨ys, hys, rfl⟩ := Option.map_eq_some_iff.1 this
    exact ⟨ys, hys, by simpa using hl'⟩

end

end TF.Model.Poly.Hom
