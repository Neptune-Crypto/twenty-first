import TF.Proofs.Lattice
import TF.Proofs.LatticeEmbed
/-!
The KEM of `lattice.rs`: the accept condition of `dec`, and correctness of decapsulation under the noise bound.
-/
namespace TF.LatticeProofs
open TF.Gen TF.Model.Ntt TF.Model.Lattice TF.NttFn TF.LatFn TF.NttProofs TF.Spec

theorem dec_unfold (O : Oracles) (sk : SecretKey) (c : Ciphertext) :
    dec O sk c = if generateCiphertext O (derivePublicKey O sk.key sk.seed) (decPayload O sk c) = c
      then some (O.hash (decPayload O sk c)) else none := rfl

theorem dec_eq_some_iff (O : Oracles) (sk : SecretKey) (c : Ciphertext) (k : List Nat) :
    dec O sk c = some k ↔
      c = generateCiphertext O (derivePublicKey O sk.key sk.seed) (decPayload O sk c) ∧
      k = O.hash (decPayload O sk c) := by
  rw [dec_unfold]
  split
  next h => exact ⟨fun hk => ⟨h.symm, (Option.some.inj hk).symm⟩, fun ⟨_, hk⟩ => by rw [hk]⟩
  next h => exact ⟨(fun hk => nomatch hk), fun ⟨hc, _⟩ => absurd hc.symm h⟩

theorem dec_eq_none_iff (O : Oracles) (sk : SecretKey) (c : Ciphertext) :
    dec O sk c = none ↔
      c ≠ generateCiphertext O (derivePublicKey O sk.key sk.seed) (decPayload O sk c) := by
  rw [dec_unfold]
  split
  next h => exact ⟨(fun hk => nomatch hk), fun hne => absurd h.symm hne⟩
  next h => exact ⟨fun _ hc => h hc.symm, fun _ => rfl⟩

theorem zvec_modMultiplyHadamard (H I W : Nat) (l r : Module) (idx : Nat) (hidx : idx < H * W) (k : Nat) (hk : k < 64) :
    zvec ((modMultiplyHadamard H I W l r).getD idx ringZero) k
      = ∑ i ∈ Finset.range I, zvec (l.getD (idx / W * I + i) ringZero) k * zvec (r.getD (i * W + idx % W) ringZero) k := by
  rw [modMultiplyHadamard, modMulWith_getD _ _ _ _ _ _ _ hidx,
    foldl_range_sum (fun x : Ring => zvec x k) _ _
      (fun acc i => by rw [zvec_ringAdd _ _ k hk, zvec_ringHadamard _ _ k hk]), zvec_ringZero, zero_add]

theorem ev_modMulWith_negacyclic (H I W : Nat) (l r : Module) (idx : Nat) (hidx : idx < H * W) (k : Nat) (hk : k < 64) :
    ev ((modMulWith negacyclic H I W l r).getD idx ringZero) k
      = ∑ i ∈ Finset.range I, ev (l.getD (idx / W * I + i) ringZero) k * ev (r.getD (i * W + idx % W) ringZero) k := by
  rw [modMulWith_getD _ _ _ _ _ _ _ hidx,
    foldl_range_sum (fun x : Ring => ev x k) _ _ (fun acc i => by rw [ev_add, ev_negacyclic _ _ k hk]), ev_zero, zero_add]

theorem zvec_modNtt (n : Nat) (m : Module) (hm : Shaped n m) (i : Nat) (hi : i < n) (k : Nat) (hk : k < 64) :
    zvec ((modNtt m).getD i ringZero) k = ev (m.getD i ringZero) k := by
  rw [modNtt_getD m i (by rw [hm.1]; exact hi), zvec_ntt64 _ (hm.2 i hi) k hk]

/-- the noise of an honest ciphertext, `Σ b_i·c_i − Σ d_i·a_i`: negacyclic products of the short secret vectors `(a, c)` of
    key generation and `(b, d)` of encapsulation -/
def noise (a c b d : Module) : Ring :=
  (modSub (modMulWith negacyclic 1 4 1 b c) (modMulWith negacyclic 1 4 1 d a)).getD 0 ringZero

theorem noise_canon (a c b d : Module) : Canon (noise a c b d) := by
  rw [noise, modSub, modZip_getD _ _ _ 0 (by rw [modMulWith_size]; decide)]
  exact ringSub_canon _ _

/-- The ring element `dec` extracts from, for an honest ciphertext, is `embed_msg payload + noise`: in the NTT domain
    `b·(G·a + c) + m − (b·G + d)·a`, coefficient by coefficient, and every term with an entry of the public matrix `G`
    cancels. -/
theorem dec_element_honest (g a c b d : Module) (ha : Shaped 4 a) (hc : Shaped 4 c)
    (hb : Shaped 4 b) (hd : Shaped 4 d) (m : Ring) (hm : m.size = 64) :
    let ga := modAdd (modMultiplyHadamard 4 4 1 g (modNtt a)) (modNtt c)
    let bg := modAdd (modMultiplyHadamard 1 4 4 (modNtt b) g) (modNtt d)
    let bgaM := modAdd (modMultiplyHadamard 1 4 1 (modNtt b) ga) (modNtt #[m])
    let bga := modMultiplyHadamard 1 4 1 bg (modNtt a)
    (modIntt (modSub bgaM bga)).getD 0 ringZero = ringAdd m (noise a c b d) := by
  intro ga bg bgaM bga
  have hs1 : ∀ (x y : Module), (modAdd (modMultiplyHadamard 1 4 1 x y) (modNtt #[m])).size = 1 := fun x y => by
    rw [modAdd, modZip_size, modMultiplyHadamard, modMulWith_size]
  rw [modIntt_getD _ 0 (by rw [modSub, modZip_size, hs1]; decide), modSub, modZip_getD _ bgaM bga 0 (by rw [hs1]; decide)]
  apply intt64_eq_of_ev _ _ (ringSub_size _ _) (ringAdd_size _ _) (ringAdd_canon _ _)
  intro k hk
  have hm1 := shaped_singleton m hm
  -- coefficient `k` of the public-key and ciphertext entries
  have hga : ∀ i, i < 4 → zvec (ga.getD i ringZero) k
      = (∑ j ∈ Finset.range 4, zvec (g.getD (i * 4 + j) ringZero) k * ev (a.getD j ringZero) k)
        + ev (c.getD i ringZero) k := by
    intro i hi
    rw [show ga = modAdd (modMultiplyHadamard 4 4 1 g (modNtt a)) (modNtt c) from rfl, modAdd,
      modZip_getD _ _ _ i (by rw [modMultiplyHadamard, modMulWith_size]; omega), zvec_ringAdd _ _ k hk,
      zvec_modMultiplyHadamard 4 4 1 g (modNtt a) i (by omega) k hk, zvec_modNtt 4 c hc i hi k hk]
    refine congrArg (· + ev (c.getD i ringZero) k) (Finset.sum_congr rfl fun j hj => ?_)
    rw [Nat.div_one, Nat.mod_one, Nat.add_zero, Nat.mul_one, zvec_modNtt 4 a ha j (Finset.mem_range.1 hj) k hk]
  have hbg : ∀ w, w < 4 → zvec (bg.getD w ringZero) k
      = (∑ i ∈ Finset.range 4, ev (b.getD i ringZero) k * zvec (g.getD (i * 4 + w) ringZero) k)
        + ev (d.getD w ringZero) k := by
    intro w hw
    rw [show bg = modAdd (modMultiplyHadamard 1 4 4 (modNtt b) g) (modNtt d) from rfl, modAdd,
      modZip_getD _ _ _ w (by rw [modMultiplyHadamard, modMulWith_size]; omega), zvec_ringAdd _ _ k hk,
      zvec_modMultiplyHadamard 1 4 4 (modNtt b) g w (by omega) k hk, zvec_modNtt 4 d hd w hw k hk]
    refine congrArg (· + ev (d.getD w ringZero) k) (Finset.sum_congr rfl fun i hi => ?_)
    rw [Nat.div_eq_of_lt hw, Nat.zero_mul, Nat.zero_add, Nat.mod_eq_of_lt hw,
      zvec_modNtt 4 b hb i (Finset.mem_range.1 hi) k hk]
  have hrow : ∀ (x y : Module) (fx fy : Nat → ZMod P), (∀ i, i < 4 → zvec (x.getD i ringZero) k = fx i) →
      (∀ i, i < 4 → zvec (y.getD i ringZero) k = fy i) →
      zvec ((modMultiplyHadamard 1 4 1 x y).getD 0 ringZero) k = ∑ i ∈ Finset.range 4, fx i * fy i := by
    intro x y fx fy hx hy
    rw [zvec_modMultiplyHadamard 1 4 1 x y 0 (by decide) k hk]
    refine Finset.sum_congr rfl fun i hi => ?_
    rw [Nat.div_one, Nat.zero_mul, Nat.zero_add, Nat.mod_one, Nat.add_zero, Nat.mul_one,
      hx i (Finset.mem_range.1 hi), hy i (Finset.mem_range.1 hi)]
  have hrowE : ∀ (x y : Module), ev ((modMulWith negacyclic 1 4 1 x y).getD 0 ringZero) k
      = ∑ i ∈ Finset.range 4, ev (x.getD i ringZero) k * ev (y.getD i ringZero) k := by
    intro x y
    rw [ev_modMulWith_negacyclic 1 4 1 x y 0 (by decide) k hk]
    refine Finset.sum_congr rfl fun i _ => ?_
    rw [Nat.div_one, Nat.zero_mul, Nat.zero_add, Nat.mod_one, Nat.add_zero, Nat.mul_one]
  rw [zvec_ringSub _ _ k hk, ev_add,
    show bgaM = modAdd (modMultiplyHadamard 1 4 1 (modNtt b) ga) (modNtt #[m]) from rfl, modAdd,
    modZip_getD _ _ _ 0 (by rw [modMultiplyHadamard, modMulWith_size]; decide), zvec_ringAdd _ _ k hk,
    hrow (modNtt b) ga _ _ (fun i hi => zvec_modNtt 4 b hb i hi k hk) hga,
    zvec_modNtt 1 #[m] hm1 0 (by decide) k hk,
    show bga = modMultiplyHadamard 1 4 1 bg (modNtt a) from rfl,
    hrow bg (modNtt a) _ _ hbg (fun i hi => zvec_modNtt 4 a ha i hi k hk),
    noise, modSub,
    modZip_getD _ _ _ 0 (by rw [modMulWith_size]; decide), ev_sub, hrowE, hrowE]
  -- both sides as polynomials in the 4 + 4 + 4 + 4 + 16 + 1 scalars; `#[m].getD 0` is `m`
  simp only [Finset.sum_range_succ, Finset.sum_range_zero, zero_add]
  show (_ : ZMod P) = _
  simp only [Array.getD_eq_getD_getElem?, List.getElem?_toArray, List.getElem?_cons_zero, Option.getD_some]
  ring

/-- a canonical value read as a signed integer around 0 -/
def signedRep (e : Nat) : Int := if e < 16384 then (e : Int) else (e : Int) - (P : Nat)

theorem fadd_eq_addNoise (v e : Nat) (he : e < P) : fadd v e = addNoise v (signedRep e) := by
  have hP : (P : Nat) = 18446744069414584321 := rfl
  unfold fadd addNoise signedRep
  rw [hP] at he ⊢
  split
  · omega
  · rw [← Int.add_sub_assoc, Int.sub_emod_right]
    omega

theorem signedRep_small (e : Nat) (he : e < P) (hsmall : e < 16384 ∨ P - 16384 < e) :
    -16384 < signedRep e ∧ signedRep e < 16384 := by
  have hP : (P : Nat) = 18446744069414584321 := rfl
  unfold signedRep
  rw [hP] at he hsmall ⊢
  split <;> omega

theorem canon_getD_lt {x : Ring} (cx : Canon x) (k : Nat) : x.getD k 0 < P := by
  rw [Array.getD_eq_getD_getElem?]
  by_cases h : k < x.size
  · rw [Array.getElem?_eq_getElem h]
    exact cx k h
  · rw [Array.getElem?_eq_none (by omega)]
    exact P_pos

/-- extraction from `embed_msg m + E` recovers `m` when every coefficient of `E` is small as a signed field element -/
theorem extract_of_small (m : List Nat) (hlen : m.length = 32) (hb : ∀ x ∈ m, x < 256) (E : Ring) (hcan : Canon E)
    (hE : ∀ k, k < 64 → E.getD k 0 < 16384 ∨ P - 16384 < E.getD k 0) :
    extractMsg (ringAdd (embedMsg m) E) = m := by
  refine extract_embed_noise m hlen hb (fun k => signedRep (E.getD k 0))
    (fun k hk => signedRep_small _ (canon_getD_lt hcan k) (hE k hk)) _ (fun k hk => ?_)
  rw [ringAdd, ringZip_get _ _ _ k hk]
  exact fadd_eq_addNoise _ _ (canon_getD_lt hcan k)

theorem decPayload_honest (O : Oracles) (key seed payload : List Nat) :
    decPayload O ⟨key, seed⟩ (generateCiphertext O (derivePublicKey O key seed) payload)
      = extractMsg (ringAdd (embedMsg payload)
          (noise (deriveSecretVectors O key).1 (deriveSecretVectors O key).2
            (deriveSecretVectors O payload).1 (deriveSecretVectors O payload).2)) := by
  have h := dec_element_honest (derivePublicMatrix O seed) (deriveSecretVectors O key).1 (deriveSecretVectors O key).2
    (deriveSecretVectors O payload).1 (deriveSecretVectors O payload).2
    (sampleShortModule_shaped _ _) (sampleShortModule_shaped _ _)
    (sampleShortModule_shaped _ _) (sampleShortModule_shaped _ _) (embedMsg payload) (embedMsg_size _)
  simp only at h
  rw [← h]
  rfl

/-- decapsulation of the honest ciphertext returns the encapsulated key as soon as extraction recovers the payload -/
theorem dec_of_decPayload (O : Oracles) (rk r : List Nat)
    (h : decPayload O (keygen O rk).1 (enc O (keygen O rk).2 r).2 = O.xof r 32) :
    dec O (keygen O rk).1 (enc O (keygen O rk).2 r).2 = some (enc O (keygen O rk).2 r).1 := by
  rw [dec_eq_some_iff, h]
  exact ⟨rfl, rfl⟩

theorem kem_correct_noise (O : Oracles) (rk r : List Nat)
    (hlen : (O.xof r 32).length = 32) (hb : ∀ x ∈ O.xof r 32, x < 256)
    (hE : ∀ k, k < 64 →
      (noise (deriveSecretVectors O (keygen O rk).1.key).1 (deriveSecretVectors O (keygen O rk).1.key).2
        (deriveSecretVectors O (O.xof r 32)).1 (deriveSecretVectors O (O.xof r 32)).2).getD k 0 < 16384 ∨
      P - 16384 < (noise (deriveSecretVectors O (keygen O rk).1.key).1 (deriveSecretVectors O (keygen O rk).1.key).2
        (deriveSecretVectors O (O.xof r 32)).1 (deriveSecretVectors O (O.xof r 32)).2).getD k 0) :
    dec O (keygen O rk).1 (enc O (keygen O rk).2 r).2 = some (enc O (keygen O rk).2 r).1 :=
  dec_of_decPayload O rk r <|
    (decPayload_honest O (O.xof (rk ++ [1]) 32) (O.xof (rk ++ [0]) 32) (O.xof r 32)).trans
      (extract_of_small _ hlen hb _ (noise_canon _ _ _ _) hE)

end TF.LatticeProofs
