import TF.Gen.Tip5Loops
import TF.Proofs.Tip5
import TF.Proofs.ListBasics
/-!
The Tip5 functions as regenerated from `tip5.rs` (`TF/Gen/Tip5Loops.lean`: the state is the list of its 16 raw words,
every `for` loop a recursion on the number of remaining iterations) equal the hand model (`TF/Model/Tip5.lean`, on
`Vector Nat 16`) on **every** state: `Loops.tip5_f s.toList = (Model.f s).toList`, no bound, no canonicity hypothesis.
Each loop is `updRange f n i l` (`eq_updRange`), `updRange_getD` gives every lane, lists are compared lane by lane.
Identity wrappers (`bfe_from_raw_u64`) are rewritten away before any `rfl` over terms with 39-digit literals.
-/
namespace TF.GenBridge.Tip5
open TF TF.Gen TF.Model.Tip5 TF.Tip5P

/-- "for k in i .. i+n: l[k] := f k l[k]" -/
def updRange (f : Nat → Nat → Nat) : Nat → Nat → List Nat → List Nat
  | 0, _, l => l
  | n+1, i, l => updRange f n (i+1) (l.set i (f i (l.getD i 0)))

theorem updRange_length (f : Nat → Nat → Nat) : ∀ n i l, (updRange f n i l).length = l.length := by
  intro n
  induction n with
  | zero => intros; rfl
  | succ n ih => intro i l; simp only [updRange, ih, List.length_set]

theorem updRange_getD (f : Nat → Nat → Nat) : ∀ n i l k,
    (updRange f n i l).getD k 0 = if i ≤ k ∧ k < i + n ∧ k < l.length then f k (l.getD k 0) else l.getD k 0 := by
  intro n
  induction n with
  | zero => intro i l k; simp only [updRange]; rw [if_neg (by omega)]
  | succ n ih =>
    intro i l k
    simp only [updRange, ih, List.length_set]
    by_cases hk : k = i
    · subst hk
      by_cases hl : k < l.length
      · simp [hl, List.getD_eq_getElem?_getD]
      · simp [hl, List.getD_eq_getElem?_getD]
    · have : (l.set i (f i (l.getD i 0))).getD k 0 = l.getD k 0 := by
        simp [List.getD_eq_getElem?_getD, Ne.symm hk]
      rw [this]
      by_cases h1 : i + 1 ≤ k ∧ k < i + 1 + n ∧ k < l.length
      · have h2 : i ≤ k ∧ k < i + (n + 1) ∧ k < l.length := by omega
        rw [if_pos h1, if_pos h2]
      · have h2 : ¬ (i ≤ k ∧ k < i + (n + 1) ∧ k < l.length) := by omega
        rw [if_neg h1, if_neg h2]

theorem eq_updRange {F : Nat → Nat → List Nat → List Nat} {f : Nat → Nat → Nat} (h0 : ∀ i l, F 0 i l = l)
    (hs : ∀ n i l, F (n + 1) i l = F n (i + 1) (l.set i (f i (l.getD i 0)))) :
    ∀ n i l, F n i l = updRange f n i l
  | 0, i, l => h0 i l
  | n+1, i, l => by rw [hs, eq_updRange h0 hs n, updRange]

theorem list_ext_getD (a b : List Nat) (hl : a.length = b.length)
    (h : ∀ k, k < a.length → a.getD k 0 = b.getD k 0) : a = b := by
  apply List.ext_getElem hl
  intro k h1 h2
  rw [← getD_eq a k h1, ← getD_eq b k h2]
  exact h k h1

theorem updRange_full (g : Nat → Nat) (l : List Nat) : updRange (fun _ b => g b) l.length 0 l = l.map g := by
  apply list_ext_getD
  · rw [updRange_length, List.length_map]
  · intro k hk
    rw [updRange_length] at hk
    rw [updRange_getD, if_pos (by omega), getD_eq _ k hk, getD_eq _ k (by rw [List.length_map]; exact hk),
      List.getElem_map]

theorem toLeBytes_length : ∀ n w, (toLeBytes n w).length = n := by
  intro n
  induction n with
  | zero => intro w; rfl
  | succ n ih => intro w; simp only [toLeBytes, List.length_cons, ih]

theorem toLeBytes_lt : ∀ n w, ∀ b ∈ toLeBytes n w, b < 256 := by
  intro n
  induction n with
  | zero => intro w b hb; simp [toLeBytes] at hb
  | succ n ih =>
    intro w b hb
    simp only [toLeBytes, List.mem_cons] at hb
    rcases hb with rfl | hb
    · exact Nat.mod_lt _ (by decide)
    · exact ih _ b hb

theorem lookup_getD (b : Nat) (h : b < 256) : LOOKUP_TABLE.getD b 0 = lookup ⟨b, h⟩ := by
  unfold lookup
  rw [getD_eq _ _ (by rw [lookup_table_len]; exact h)]

theorem ofLe_map_toLe : ∀ n w, ofLeBytes ((toLeBytes n w).map fun b => LOOKUP_TABLE.getD b 0) = mapBytes lookup n w := by
  intro n
  induction n with
  | zero => intro w; rfl
  | succ n ih =>
    intro w
    simp only [toLeBytes, List.map_cons, ofLeBytes, mapBytes, ih]
    rw [lookup_getD _ (Nat.mod_lt _ (by decide))]

theorem sl_for_eq : ∀ n i bytes,
    Loops.tip5_split_and_lookup_for n i bytes = updRange (fun _ b => LOOKUP_TABLE.getD b 0) n i bytes :=
  eq_updRange (fun _ _ => rfl) (fun _ _ _ => rfl)

theorem gen_split_and_lookup_eq (w : Nat) : Loops.tip5_split_and_lookup w = split_and_lookup w := by
  have h := updRange_full (fun b => LOOKUP_TABLE.getD b 0) (toLeBytes 8 w)
  rw [toLeBytes_length] at h
  simp only [Loops.tip5_split_and_lookup, Loops.bfe_raw_bytes, Loops.bfe_from_raw_bytes, Nat.sub_zero, sl_for_eq, h,
    ofLe_map_toLe, split_and_lookup]

theorem vec_getD (s : State) (k : Nat) (h : k < 16) : s.toList.getD k 0 = s[k] := by
  rw [getD_eq _ _ (by simpa using h), Vector.getElem_toList]

theorem sbox_for_eq : ∀ n i l,
    Loops.tip5_sbox_layer_for n i l = updRange (fun _ x => Loops.tip5_split_and_lookup x) n i l :=
  eq_updRange (fun _ _ => rfl) (fun _ _ _ => rfl)

theorem sbox_for2_eq : ∀ n i l, Loops.tip5_sbox_layer_for2 n i l = updRange (fun _ x => pow7 x) n i l :=
  eq_updRange (fun _ _ => rfl) (fun _ _ _ => rfl)

theorem gen_sbox_layer_eq (s : State) : Loops.tip5_sbox_layer s.toList = (sbox_layer s).toList := by
  apply list_ext_getD
  · simp only [Loops.tip5_sbox_layer, sbox_for_eq, sbox_for2_eq, updRange_length, Vector.length_toList]
  · intro k hk
    simp only [Loops.tip5_sbox_layer, sbox_for_eq, sbox_for2_eq, updRange_length, Vector.length_toList] at hk
    rw [vec_getD _ k hk, sbox_getElem s k hk]
    simp only [Loops.tip5_sbox_layer, sbox_for_eq, sbox_for2_eq, updRange_getD, updRange_length,
      Vector.length_toList, vec_getD s k hk, gen_split_and_lookup_eq]
    by_cases h4 : k < 4
    · rw [if_neg (by omega), if_pos (by omega), if_pos h4]
    · rw [if_pos (by omega), if_neg (by omega), if_neg h4]

theorem raw_id (e : Nat) : Loops.bfe_raw_u64 e = e := rfl
theorem from_raw_id (e : Nat) : Loops.bfe_from_raw_u64 e = e := rfl

theorem mds_for_eq (self : List Nat) : ∀ n i lo hi,
    Loops.tip5_mds_generated_for self n i lo hi =
      (updRange (fun k _ => self.getD k 0 &&& 4294967295) n i lo, updRange (fun k _ => self.getD k 0 / 4294967296) n i hi) := by
  intro n
  induction n with
  | zero => intros; rfl
  | succ n ih => intro i lo hi; simp only [Loops.tip5_mds_generated_for, raw_id, updRange, ih]

/-- one iteration of the recombination loop: the regenerated loop body is, term for term, the loop-free translation
    `mds_recombine` of the same source lines (identity wrappers are rewritten away first: `rfl` must not unfold them) -/
theorem mds_for2_step (lo hi : List Nat) (n r : Nat) (l : List Nat) :
    Loops.tip5_mds_generated_for2 lo hi (n + 1) r l
      = Loops.tip5_mds_generated_for2 lo hi n (r + 1) (l.set r (mds_recombine (lo.getD r 0) (hi.getD r 0))) := by
  rw [Loops.tip5_mds_generated_for2, from_raw_id]
  rfl

theorem mds_for2_eq (lo hi : List Nat) : ∀ n r l,
    Loops.tip5_mds_generated_for2 lo hi n r l
      = updRange (fun k _ => mds_recombine (lo.getD k 0) (hi.getD k 0)) n r l :=
  eq_updRange (fun _ _ => rfl) (mds_for2_step lo hi)

theorem and_mask (w : Nat) : w &&& 4294967295 = w % 4294967296 := Nat.and_two_pow_sub_one_eq_mod w 32

theorem limbs_lo (s : State) (k : Nat) (h : k < 16) :
    UInt64.ofNat ((updRange (fun k _ => s.toList.getD k 0 &&& 4294967295) 16 0 (List.replicate 16 0)).getD k 0)
      = (s.map limbLo)[k] := by
  rw [updRange_getD, if_pos (by simp; omega), vec_getD s k h, and_mask, Vector.getElem_map]
  rfl

theorem limbs_hi (s : State) (k : Nat) (h : k < 16) :
    UInt64.ofNat ((updRange (fun k _ => s.toList.getD k 0 / 4294967296) 16 0 (List.replicate 16 0)).getD k 0)
      = (s.map limbHi)[k] := by
  rw [updRange_getD, if_pos (by simp; omega), vec_getD s k h, Vector.getElem_map]
  rfl

theorem generated_function_nat_eq (l : List Nat) (v : Vector UInt64 16)
    (h : ∀ (k : Nat) (hk : k < 16), UInt64.ofNat (l.getD k 0) = v[k]) :
    Loops.generated_function_nat l = (genFn v).toList.map UInt64.toNat := by
  unfold Loops.generated_function_nat genFn
  simp (disch := decide) only [h, Vector.toList_mk]

theorem genfn_nat_lo (s : State) :
    Loops.generated_function_nat (updRange (fun k _ => s.toList.getD k 0 &&& 4294967295) 16 0 (List.replicate 16 0))
      = (genFn (s.map limbLo)).toList.map UInt64.toNat :=
  generated_function_nat_eq _ _ (limbs_lo s)

theorem genfn_nat_hi (s : State) :
    Loops.generated_function_nat (updRange (fun k _ => s.toList.getD k 0 / 4294967296) 16 0 (List.replicate 16 0))
      = (genFn (s.map limbHi)).toList.map UInt64.toNat :=
  generated_function_nat_eq _ _ (limbs_hi s)

theorem map_toNat_getD (v : Vector UInt64 16) (k : Nat) (h : k < 16) :
    (v.toList.map UInt64.toNat).getD k 0 = v[k].toNat := by
  rw [getD_eq _ _ (by simpa using h), List.getElem_map, Vector.getElem_toList]

theorem gen_mds_generated_eq (s : State) : Loops.tip5_mds_generated s.toList = (mds_generated s).toList := by
  simp only [Loops.tip5_mds_generated, Nat.sub_zero, mds_for_eq, mds_for2_eq, genfn_nat_lo, genfn_nat_hi]
  apply list_ext_getD
  · simp only [updRange_length, Vector.length_toList]
  · intro k hk
    simp only [updRange_length, Vector.length_toList] at hk
    rw [updRange_getD, if_pos (by simp; omega), map_toNat_getD _ k hk, map_toNat_getD _ k hk, vec_getD _ k hk,
      mds_getElem s k hk]
    rfl

theorem round_for_eq (ri : Nat) : ∀ n i l,
    Loops.tip5_round_for ri n i l
      = updRange (fun k x => bfe_add x (bfe_new (ROUND_CONSTANTS.getD
          ((ri * 16 % 18446744073709551616 + k) % 18446744073709551616) 0))) n i l :=
  eq_updRange (fun _ _ => rfl) (fun _ _ _ => rfl)

theorem gen_round_eq (s : State) (r : Nat) (hr : r < 5) :
    Loops.tip5_round s.toList r = (round ⟨r, hr⟩ s).toList := by
  simp only [Loops.tip5_round, gen_sbox_layer_eq, gen_mds_generated_eq, Nat.sub_zero, round_for_eq]
  apply list_ext_getD
  · simp only [updRange_length, Vector.length_toList]
  · intro k hk
    simp only [updRange_length, Vector.length_toList] at hk
    rw [updRange_getD, if_pos (by simp; omega), vec_getD _ k hk, vec_getD _ k hk, round_getElem _ s k hk]
    have e : (r * 16 % 18446744073709551616 + k) % 18446744073709551616 = r * 16 + k := by omega
    rw [e]
    unfold roundConstant
    rw [getD_eq _ _ (by rw [round_constants_len]; omega)]

theorem permutation_unfold (s : State) :
    permutation s = round 4 (round 3 (round 2 (round 1 (round 0 s)))) := rfl

theorem gen_permutation_eq (s : State) : Loops.tip5_permutation s.toList = (permutation s).toList := by
  simp only [Loops.tip5_permutation, Loops.tip5_permutation_for, Nat.sub_zero, Nat.zero_add, Nat.reduceAdd]
  rw [gen_round_eq s 0 (by decide), gen_round_eq _ 1 (by decide), gen_round_eq _ 2 (by decide),
    gen_round_eq _ 3 (by decide), gen_round_eq _ 4 (by decide), permutation_unfold]
  rfl

theorem trace_unfold (s : State) :
    trace s = [s, round 0 s, round 1 (round 0 s), round 2 (round 1 (round 0 s)),
      round 3 (round 2 (round 1 (round 0 s))), round 4 (round 3 (round 2 (round 1 (round 0 s))))] := rfl

theorem gen_trace_eq (s : State) :
    (Loops.tip5_trace s.toList).1 = (trace s).map Vector.toList ∧
    (Loops.tip5_trace s.toList).2 = (permutation s).toList := by
  simp only [Loops.tip5_trace, Loops.tip5_trace_for, Nat.sub_zero, Nat.zero_add, Nat.reduceAdd, Nat.reduceMod,
    List.replicate_succ, List.replicate_zero, List.set_cons_zero, List.set_cons_succ]
  rw [gen_round_eq s 0 (by decide), gen_round_eq _ 1 (by decide), gen_round_eq _ 2 (by decide),
    gen_round_eq _ 3 (by decide), gen_round_eq _ 4 (by decide), permutation_unfold, trace_unfold]
  exact ⟨rfl, rfl⟩

theorem gen_new_eq :
    Loops.tip5_new 0 = some varlenState.toList ∧
    Loops.tip5_new 1 = some (List.replicate 10 zero ++ List.replicate 6 one) := by decide +kernel

theorem fixedLengthState_toList (input : Vector Nat 10) :
    (fixedLengthState input).toList = input.toList ++ List.replicate 6 one := by
  apply List.ext_getElem (by simp)
  intro i h1 h2
  rw [Vector.getElem_toList, List.getElem_append]
  unfold fixedLengthState
  simp only [Vector.getElem_ofFn, Vector.length_toList, Vector.getElem_toList, List.getElem_replicate]

theorem toList_take {α : Type} {n : Nat} (t : Vector α n) (m : Nat) (hm : m ≤ n) :
    t.toList.take m = (Vector.ofFn fun i : Fin m => t[i.val]).toList := by
  apply List.ext_getElem (by simp [hm])
  intro i h1 h2
  rw [List.getElem_take, Vector.getElem_toList, Vector.getElem_toList, Vector.getElem_ofFn]

theorem gen_hash_10_eq (input : Vector Nat 10) :
    Loops.tip5_hash_10 input.toList = some (hash_10 input).toList := by
  unfold Loops.tip5_hash_10
  rw [gen_new_eq.2, Option.bind_some]
  dsimp only
  rw [List.drop_left' List.length_replicate, ← fixedLengthState_toList, gen_permutation_eq, toList_take _ 5 (by decide)]
  rfl

end TF.GenBridge.Tip5
