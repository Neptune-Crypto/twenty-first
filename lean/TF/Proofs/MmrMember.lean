import TF.Proofs.MmrDigests
/-!
C05 (membership proofs): the model of `MmrMembershipProof::verify` equals the reference verifier; from-scratch
authentication paths verify and are the only ones that do (up to collisions); `append` returns the from-scratch path of
the new leaf; a leaf mutation keeps the leaf's own path; how a path changes under an append.  At the end, what the
routines and histories over lists of proofs share: `mapIdxM_spec`, `chgFrom` (the positions a batch routine reports).
-/
namespace TF.MmrE
open TF.Gen TF.Spec.MmrE TF.Model.MmrE TF.Model.Mmr

section
variable {D : Type} (H : D → D → D)

theorem foldMt_spec : ∀ (k fuel mt : Nat) (acc : D) (path : List D),
    2 ^ k ≤ mt → mt < 2 ^ (k + 1) → k < fuel → path.length = k →
    foldMt H fuel mt acc path = some (foldBlk H mt acc path) := by
  intro k
  induction k with
  | zero =>
    intro fuel mt acc path h1 h2 hf hl
    have : mt = 1 := by simp at h1 h2; omega
    subst this
    have : path = [] := List.eq_nil_of_length_eq_zero hl
    subst this
    cases fuel with
    | zero => omega
    | succ f => simp [foldMt, foldBlk]
  | succ k ih =>
    intro fuel mt acc path h1 h2 hf hl
    cases fuel with
    | zero => omega
    | succ f =>
      rw [Nat.pow_succ] at h1 h2
      have hm : mt ≠ 1 := by have : 0 < 2 ^ k := Nat.pow_pos (by omega); omega
      match path, hl with
      | s :: ss, hl =>
        rw [foldMt]; simp only [hm, if_false]
        rw [ih f (mt / 2) _ ss (by omega) (by rw [Nat.pow_succ]; omega) (by omega) (by simpa using hl), foldBlk]

theorem authPathOf_length (f : Nat → D) (n i : Nat) : (authPathOf H f n i).length = (locate n i).1 := by
  unfold authPathOf; rw [sibPath_length]

theorem log2_two_pow_add (h r : Nat) (hr : r < 2 ^ h) : Nat.log2 (2 ^ h + r) = h := by
  have hpos : 0 < 2 ^ h := Nat.pow_pos (by omega)
  have hne : 2 ^ h + r ≠ 0 := by omega
  have h1 : h ≤ Nat.log2 (2 ^ h + r) := (Nat.le_log2 hne).mpr (by omega)
  have h2 : Nat.log2 (2 ^ h + r) < h + 1 := (Nat.log2_lt hne).mpr (by rw [Nat.pow_succ]; omega)
  omega

/-- the loop started at the Merkle-tree index `2^h + i % 2^h` of leaf `i` folds a path of `h` digests like `foldBlk i` -/
theorem foldMt_leaf (h i fuel : Nat) (v : D) (path : List D) (hf : h < fuel) (hl : path.length = h) :
    foldMt H fuel (2 ^ h + i % 2 ^ h) v path = some (foldBlk H i v path) := by
  have hr : i % 2 ^ h < 2 ^ h := Nat.mod_lt _ (Nat.pow_pos (by omega))
  rw [foldMt_spec H h fuel _ v path (by omega) (by rw [Nat.pow_succ]; omega) hf hl,
    foldBlk_mod H path (2 ^ h + i % 2 ^ h), foldBlk_mod H path i, hl, Nat.add_mod_left, Nat.mod_mod]

section Verify
variable [DecidableEq D]

theorem memberVerify_eq_spec (path : List D) (i : Nat) (leaf : D) (pks : List D) (n : Nat) (hn : n < 2 ^ 64)
    (hlen : pks.length < 2 ^ 32) :
    memberVerify H path i leaf pks n = some (memberVerifyRef H path i leaf pks n) := by
  unfold memberVerify memberVerifyRef
  have hf : 64 < descentFuel := by decide
  generalize descentFuel = fuel at hf ⊢
  by_cases h1 : i ≥ n
  · have : ¬ i < n := by omega
    rw [if_pos h1]; simp [this]
  · have hlt : i < n := by omega
    have hl : ¬ (pks.length ≥ 2 ^ 32) := by omega
    rw [if_neg h1]
    simp only [hl, if_false, hlt, decide_true, Bool.true_and]
    by_cases h2 : TF.popCount n ≠ pks.length
    · have : ¬ pks.length = TF.popCount n := fun e => h2 e.symm
      rw [if_pos h2]; simp [this]
    · have h2' : pks.length = TF.popCount n := (not_not.mp h2).symm
      rw [if_neg h2]
      simp only [h2', decide_true, Bool.true_and]
      have hgen := (gen_locate i n hlt hn).1
      have hh := height_lt_64 n i hlt hn
      have hpos : 0 < 2 ^ (locate n i).1 := Nat.pow_pos (by omega)
      have hr : i % 2 ^ (locate n i).1 < 2 ^ (locate n i).1 := Nat.mod_lt _ hpos
      have hlog := log2_two_pow_add (locate n i).1 _ hr
      rw [hgen]
      simp only [hlog]
      by_cases h3 : (locate n i).1 ≠ path.length
      · have : ¬ path.length = (locate n i).1 := fun e => h3 e.symm
        rw [if_pos h3]; simp [this]
      · have h3' : path.length = (locate n i).1 := (not_not.mp h3).symm
        rw [if_neg h3]
        have hpk := locate_pk_lt n i hlt
        have hpk' : (locate n i).2.2 < pks.length := by omega
        rw [foldMt_leaf H (locate n i).1 i fuel leaf path (by omega) h3', List.getElem?_eq_getElem hpk']
        simp [h3']

theorem member_complete (g : Nat → D) (n i : Nat) (hlt : i < n) :
    memberVerifyRef H (authPathOf H g n i) i (g i) (peaks H n g) n = true := by
  unfold memberVerifyRef authPathOf
  have h := foldBlk_sibPath H g (locate n i).1 0 i
  simp only [sub, Nat.zero_add] at h
  simp only [hlt, peaks_length, sibPath_length, decide_true, Bool.true_and, beq_iff_eq]
  rw [peaks_getElem_locate H n g i hlt, h]

theorem member_sound (g : Nat → D) (path : List D) (n i : Nat) (leaf : D)
    (h : memberVerifyRef H path i leaf (peaks H n g) n = true) :
    (i < n ∧ leaf = g i ∧ path = authPathOf H g n i) ∨ Collision H := by
  unfold memberVerifyRef at h
  simp only [Bool.and_eq_true, decide_eq_true_eq, beq_iff_eq] at h
  obtain ⟨⟨⟨hlt, _⟩, hl⟩, hp⟩ := h
  rw [peaks_getElem_locate H n g i hlt] at hp
  have hf := (Option.some.inj hp).symm
  have hf' : foldBlk H i leaf path = sub H g (0 + path.length) (i / 2 ^ path.length) := by
    rw [hf, hl, Nat.zero_add]
  rcases foldBlk_sound H g path 0 i leaf hf' with ⟨h1, h2⟩ | hc
  · refine Or.inl ⟨hlt, by simpa [sub] using h1, ?_⟩
    unfold authPathOf; rw [← hl]; exact h2
  · exact Or.inr hc

end Verify

theorem locate_succ_self : ∀ n : Nat, (locate (n + 1) n).1 = TF.trailingOnes n := by
  intro n
  induction n using Nat.strongRecOn with
  | _ n ih =>
    rw [locate_unfold (n + 1) n (by omega)]
    by_cases h : n % 2 = 0
    · have : (n + 1) % 2 = 1 ∧ n = n + 1 - 1 := ⟨by omega, by omega⟩
      rw [if_pos this, TF.Mmr.trailingOnes_even n h]
    · have hne : ¬ ((n + 1) % 2 = 1 ∧ n = n + 1 - 1) := by omega
      rw [if_neg hne, TF.Mmr.trailingOnes_odd n (by omega)]
      have e : (n + 1) / 2 = n / 2 + 1 := by omega
      simp only [e]
      rw [ih (n / 2) (by omega)]

theorem calcAppend_spec (n : Nat) (f : Nat → D) (hn : n + 1 < 2 ^ 64) :
    calculateNewPeaksFromAppend H n (peaks H n f) (f n) = some (peaks H (n + 1) f, authPathOf H f (n + 1) n) := by
  have := calcAppend_dg H n (fun l j => sub H f l j) (nodeEq_sub H f n) hn
  rwa [dpeaks_sub, dpeaks_sub, dgs_sub_sibBlks, ← locate_succ_self] at this

theorem append_spec (n : Nat) (f : Nat → D) (hn : n + 1 < 2 ^ 64) :
    Acc.append H ⟨n, peaks H n f⟩ (f n) = some (⟨n + 1, peaks H (n + 1) f⟩, authPathOf H f (n + 1) n) := by
  have := append_dg H n (fun l j => sub H f l j) (nodeEq_sub H f n) hn
  rwa [dpeaks_sub, dpeaks_sub, dgs_sub_sibBlks, ← locate_succ_self] at this

end

section
variable {D : Type} [DecidableEq D] (H : D → D → D)

theorem appendAll_spec (f : Nat → D) (k m : Nat) (h : m + k < 2 ^ 64) :
    Acc.appendAll H ((List.range k).map (fun i => f (m + i))) ⟨m, peaks H m f⟩ = some ⟨m + k, peaks H (m + k) f⟩ := by
  have := appendAll_dg H (fun l j => sub H f l j) ((List.range k).map (fun i => f (m + i))) m (nodeEq_sub H f m)
    (by simpa using h) (fun i x hx => by
      rw [List.getElem?_map] at hx
      by_cases hi : i < k
      · rw [List.getElem?_range hi] at hx; exact Option.some.inj hx
      · rw [List.getElem?_eq_none (by simpa using hi)] at hx; cases hx)
  rwa [List.length_map, List.length_range, dpeaks_sub, dpeaks_sub] at this

end

section
variable {D : Type} (H : D → D → D)

/-- a block only looks at its own leaves -/
theorem sub_congr_block (f f' : Nat → D) : ∀ (l j : Nat), (∀ k, k / 2 ^ l = j → f k = f' k) →
    sub H f l j = sub H f' l j := by
  intro l
  induction l with
  | zero =>
    intro j h
    simp only [sub]
    exact h j (by simp)
  | succ l ih =>
    intro j h
    simp only [sub]
    rw [ih (2 * j) (fun k hk => h k (by rw [div_pow_succ, hk]; omega)),
      ih (2 * j + 1) (fun k hk => h k (by rw [div_pow_succ, hk]; omega))]

theorem sub_update_ne (g : Nat → D) (i : Nat) (d : D) (l j : Nat) (hj : j ≠ i / 2 ^ l) :
    sub H (Function.update g i d) l j = sub H g l j :=
  sub_congr_block H _ g l j fun k hk => Function.update_of_ne (fun e => hj (e ▸ hk).symm) d g

theorem sibPath_update_self (g : Nat → D) (i : Nat) (d : D) : ∀ (u l : Nat),
    sibPath H (Function.update g i d) l u (i / 2 ^ l) = sibPath H g l u (i / 2 ^ l) := by
  intro u
  induction u with
  | zero => intros; simp [sibPath]
  | succ u ih =>
    intro l
    simp only [sibPath]
    rw [sub_update_ne H g i d l _ (sibBlk_ne _), ← div_pow_succ, ih (l + 1)]

theorem authPathOf_update_self (g : Nat → D) (n i : Nat) (d : D) :
    authPathOf H (Function.update g i d) n i = authPathOf H g n i := by
  unfold authPathOf
  have := sibPath_update_self H g i d (locate n i).1 0
  simpa using this

theorem peaks_congr : ∀ (n : Nat) (f f' : Nat → D), (∀ j < n, f j = f' j) → peaks H n f = peaks H n f' := by
  intro n
  induction n using Nat.strongRecOn with
  | _ n ih =>
    intro f f' hff
    by_cases hn : n = 0
    · subst hn; simp [peaks_zero]
    · rw [peaks_unfold H n f hn, peaks_unfold H n f' hn, hff (n - 1) (by omega)]
      congr 1
      apply ih (n / 2) (by omega)
      intro j hj
      unfold pair
      rw [hff (2 * j) (by omega), hff (2 * j + 1) (by omega)]

theorem pair_update (g : Nat → D) (i : Nat) (d : D) :
    pair H (Function.update g i d) = Function.update (pair H g) (i / 2) (pair H (Function.update g i d) (i / 2)) := by
  funext j
  by_cases hj : j = i / 2
  · subst hj; simp
  · rw [Function.update_of_ne hj]
    unfold pair
    rw [Function.update_of_ne (by omega), Function.update_of_ne (by omega)]

/-- the from-scratch peaks after changing leaf `i`: only the peak above `i` changes, to the new root of its tree -/
theorem peaks_update : ∀ (n : Nat) (g : Nat → D) (i : Nat) (d : D), i < n →
    peaks H n (Function.update g i d)
      = (peaks H n g).set (locate n i).2.2
          (sub H (Function.update g i d) (locate n i).1 (i / 2 ^ (locate n i).1)) := by
  intro n
  induction n using Nat.strongRecOn with
  | _ n ih =>
    intro g i d hlt
    have hn : n ≠ 0 := by omega
    rw [peaks_unfold H n _ hn, peaks_unfold H n g hn]
    have hloc := locate_unfold n i hn
    have hlen := peaks_length H (n / 2) (pair H g)
    have hpc := TF.Mmr.popCount_eq n
    by_cases hc : n % 2 = 1 ∧ i = n - 1
    · rw [if_pos hc] at hloc
      obtain ⟨h1, h2⟩ := hc
      rw [hloc]
      simp only [h1, if_true, sub, Nat.pow_zero, Nat.div_one]
      have hp : peaks H (n / 2) (pair H (Function.update g i d)) = peaks H (n / 2) (pair H g) := by
        apply peaks_congr
        intro j hj
        unfold pair
        rw [Function.update_of_ne (by omega), Function.update_of_ne (by omega)]
      rw [hp, ← h2, Function.update_self]
      have hidx : TF.popCount n - 1 = (peaks H (n / 2) (pair H g)).length := by omega
      rw [hidx, List.set_append_right _ _ (by omega)]
      simp
    · rw [if_neg hc] at hloc
      rw [hloc]
      have hlt2 : i / 2 < n / 2 := by omega
      have hpk := locate_pk_lt (n / 2) (i / 2) hlt2
      have hlast : (if n % 2 = 1 then [Function.update g i d (n - 1)] else []) = (if n % 2 = 1 then [g (n - 1)] else []) := by
        by_cases h1 : n % 2 = 1
        · simp only [h1, if_true]; rw [Function.update_of_ne (by omega)]
        · simp [h1]
      rw [hlast, pair_update H g i d, ih (n / 2) (by omega) (pair H g) (i / 2) _ hlt2, ← pair_update H g i d]
      simp only
      rw [List.set_append_left _ _ (by omega), sub_pair, Nat.div_div_eq_div_mul, ← Nat.pow_succ']

theorem calcMutation_spec (g : Nat → D) (n i : Nat) (d : D) (hlt : i < n) (hn : n < 2 ^ 64) :
    calculateNewPeaksFromLeafMutation H (peaks H n g) n d i (authPathOf H g n i)
      = some (peaks H n (Function.update g i d)) := by
  unfold calculateNewPeaksFromLeafMutation
  have hf : 64 < descentFuel := by decide
  generalize descentFuel = fuel at hf ⊢
  have hgen := (gen_locate i n hlt hn).1
  have hh := height_lt_64 n i hlt hn
  have hpos : 0 < 2 ^ (locate n i).1 := Nat.pow_pos (by omega)
  have hr : i % 2 ^ (locate n i).1 < 2 ^ (locate n i).1 := Nat.mod_lt _ hpos
  have hl := authPathOf_length H g n i
  have hpk := locate_pk_lt n i hlt
  have hfold : foldBlk H i d (authPathOf H g n i)
      = sub H (Function.update g i d) (locate n i).1 (i / 2 ^ (locate n i).1) := by
    have h := foldBlk_sibPath H (Function.update g i d) (locate n i).1 0 i
    have hs := sibPath_update_self H g i d (locate n i).1 0
    simp only [Nat.pow_zero, Nat.div_one] at hs
    simp only [sub, Nat.zero_add, Function.update_self, hs] at h
    exact h
  simp only [hlt, decide_true, Bool.not_true, Bool.false_eq_true, if_false, hgen, Option.bind_eq_bind,
    Option.pure_def]
  rw [foldMt_leaf H (locate n i).1 i fuel d _ (by omega) hl, hfold]
  simp only [Option.bind_some, peaks_length, hpk, if_true]
  rw [peaks_update H n g i d hlt]

theorem mutateLeaf_spec (g : Nat → D) (n i : Nat) (d : D) (hlt : i < n) (hn : n < 2 ^ 64) :
    Acc.mutateLeaf H ⟨n, peaks H n g⟩ i d (authPathOf H g n i) = some ⟨n, peaks H n (Function.update g i d)⟩ := by
  unfold Acc.mutateLeaf
  rw [calcMutation_spec H g n i d hlt hn]
  rfl

/-- the height of the tree above an old leaf after an append: the merged trees (heights below `TF.trailingOnes n`) end
    up in the new tree of height `TF.trailingOnes n`, the others are untouched -/
theorem locate_succ_height : ∀ (n i : Nat), i < n →
    (locate (n + 1) i).1 = if (locate n i).1 < TF.trailingOnes n then TF.trailingOnes n else (locate n i).1 := by
  intro n
  induction n using Nat.strongRecOn with
  | _ n ih =>
    intro i hlt
    rw [locate_unfold n i (by omega), locate_unfold (n + 1) i (by omega)]
    have hne : ¬ ((n + 1) % 2 = 1 ∧ i = n + 1 - 1) := by omega
    rw [if_neg hne]
    by_cases h2 : n % 2 = 0
    · have e : (n + 1) / 2 = n / 2 := by omega
      have hc : ¬ (n % 2 = 1 ∧ i = n - 1) := by omega
      rw [if_neg hc, e, TF.Mmr.trailingOnes_even n h2]
      simp
    · have hodd : n % 2 = 1 := by omega
      have e : (n + 1) / 2 = n / 2 + 1 := by omega
      rw [e, TF.Mmr.trailingOnes_odd n hodd]
      by_cases hc : n % 2 = 1 ∧ i = n - 1
      · rw [if_pos hc]
        have hi : i / 2 = n / 2 := by omega
        simp only [hi, locate_succ_self]
        simp
      · rw [if_neg hc]
        have := ih (n / 2) (by omega) (i / 2) (by omega)
        simp only [this]
        by_cases h : (locate (n / 2) (i / 2)).1 < TF.trailingOnes (n / 2)
        · rw [if_pos h, if_pos (Nat.succ_lt_succ h)]
        · rw [if_neg h, if_neg (fun h' => h (Nat.lt_of_succ_lt_succ h'))]

theorem locate_height_mono (n i : Nat) (h : i < n) : (locate n i).1 ≤ (locate (n + 1) i).1 := by
  rw [locate_succ_height n i h]
  split <;> omega

theorem sibPath_split (f : Nat → D) : ∀ (u v l j : Nat),
    sibPath H f l (u + v) j = sibPath H f l u j ++ sibPath H f (l + u) v (j / 2 ^ u) := by
  intro u
  induction u with
  | zero => intro v l j; simp [sibPath]
  | succ u ih =>
    intro v l j
    have e : u + 1 + v = (u + v) + 1 := by omega
    rw [e]
    simp only [sibPath, List.cons_append]
    rw [ih v (l + 1) (j / 2), Nat.div_div_eq_div_mul, ← Nat.pow_succ']
    congr 3; omega

theorem authPathOf_append (g : Nat → D) (n i : Nat) (hlt : i < n) :
    (locate n i).1 ≤ (locate (n + 1) i).1 ∧
    authPathOf H g (n + 1) i = authPathOf H g n i ++
      sibPath H g (locate n i).1 ((locate (n + 1) i).1 - (locate n i).1) (i / 2 ^ (locate n i).1) := by
  have hm := locate_height_mono n i hlt
  refine ⟨hm, ?_⟩
  unfold authPathOf
  have e : (locate (n + 1) i).1 = (locate n i).1 + ((locate (n + 1) i).1 - (locate n i).1) := by omega
  conv => lhs; rw [e]
  rw [sibPath_split H g _ _ 0 i, Nat.zero_add]

theorem sub_congr (f f' : Nat → D) (n : Nat) (hff : ∀ j < n, f j = f' j) (l j : Nat) (h : (j + 1) * 2 ^ l ≤ n) :
    sub H f l j = sub H f' l j :=
  sub_congr_block H f f' l j fun k hk => hff k (by have := succ_le_block k l; rw [hk] at this; omega)

theorem sibPath_congr (f f' : Nat → D) (n : Nat) (hff : ∀ j < n, f j = f' j) : ∀ (u l j : Nat),
    (j / 2 ^ u + 1) * 2 ^ (l + u) ≤ n → sibPath H f l u j = sibPath H f' l u j := by
  intro u
  induction u with
  | zero => intros; simp [sibPath]
  | succ u ih =>
    intro l j h
    simp only [sibPath]
    rw [div_pow_succ', show l + (u + 1) = l + 1 + u by omega] at h
    rw [ih (l + 1) (j / 2) h]
    congr 1
    apply sub_congr H f f' n hff
    -- the sibling block lies inside the parent block, which lies inside the block of level `l + 1 + u`
    have h1 := sib_block_le j l
    have h2 := block_mono (j / 2 * 2 ^ (l + 1)) (l + 1) u
    rw [div_pow_add (j / 2 * 2 ^ (l + 1)) (l + 1) u, Nat.mul_div_cancel _ (Nat.pow_pos (by omega))] at h2
    omega

theorem authPathOf_congr (f f' : Nat → D) (n i : Nat) (hlt : i < n) (hff : ∀ j < n, f j = f' j) :
    authPathOf H f n i = authPathOf H f' n i := by
  unfold authPathOf
  apply sibPath_congr H f f' n hff
  rw [Nat.zero_add]
  exact tree_block_le n i hlt

theorem mapIdxM_spec (f : Nat → List D → Option (List D)) (P Q : Nat → List D) : ∀ (m s : Nat),
    (∀ k, s ≤ k → k < s + m → f k (P k) = some (Q k)) →
    mapIdxM f ((List.range' s m).map P) s = some ((List.range' s m).map Q) := by
  intro m
  induction m with
  | zero => intro s _; simp [mapIdxM]
  | succ m ih =>
    intro s h
    rw [List.range'_succ, List.map_cons, mapIdxM, h s (Nat.le_refl _) (by omega)]
    simp only [Option.bind_some]
    rw [ih (s + 1) (fun k h1 h2 => h k (by omega) (by omega))]
    simp

theorem range_map_getElem? (P : Nat → List D) (n i : Nat) (h : i < n) :
    ((List.range n).map P)[i]? = some (P i) := by
  simp [h]

end

/-- positions (counted from `s`) of the list elements satisfying `p` -/
def chgFrom (p : Nat → Bool) : List Nat → Nat → List Nat
  | [], _ => []
  | li :: lis, s => if p li then s :: chgFrom p lis (s + 1) else chgFrom p lis (s + 1)

theorem chgFrom_eq (p : Nat → Bool) : ∀ (lis : List Nat) (s : Nat),
    chgFrom p lis s = ((List.range lis.length).filter fun k => p (lis.getD k 0)).map (· + s) := by
  intro lis
  induction lis with
  | nil => intro s; simp [chgFrom]
  | cons li lis ih =>
    intro s
    rw [chgFrom, ih (s + 1), List.length_cons, List.range_succ_eq_map, List.filter_cons]
    have h0 : (li :: lis).getD 0 0 = li := rfl
    have htail : (List.filter (fun k => p ((li :: lis).getD k 0)) (List.map Nat.succ (List.range lis.length))).map (· + s)
        = (List.filter (fun k => p (lis.getD k 0)) (List.range lis.length)).map (· + (s + 1)) := by
      rw [List.filter_map, List.map_map]
      apply congrArg₂ _ _ rfl
      · funext k
        simp only [Function.comp, Nat.succ_eq_add_one]
        omega
    rw [h0]
    by_cases hp : p li = true
    · simp only [hp, if_true, List.map_cons, Nat.zero_add]
      rw [htail]
    · simp only [hp, Bool.false_eq_true, if_false]
      rw [htail]

theorem chgFrom_nil (p : Nat → Bool) : ∀ (lis : List Nat) (s : Nat), (∀ i ∈ lis, p i = false) → chgFrom p lis s = [] := by
  intro lis
  induction lis with
  | nil => intro s _; rfl
  | cons li lis ih =>
    intro s h
    rw [chgFrom, h li (by simp), ih (s + 1) (fun i hi => h i (by simp [hi]))]
    simp

theorem chgFrom_zero (p : Nat → Bool) (lis : List Nat) :
    chgFrom p lis 0 = (List.range lis.length).filter fun k => p (lis.getD k 0) := by
  rw [chgFrom_eq]; simp

end TF.MmrE
