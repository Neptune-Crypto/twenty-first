import TF.Proofs.NttNoswapModel

/-! naturality of the generic model: a pair of maps commuting with the operations commutes with every function of the model -/
namespace TF.NttProofs
open TF.Model.Ntt TF.NttFn

structure OpsHom {σ α σ' α' : Type} (o : Ops σ α) (o' : Ops σ' α') (fs : σ → σ') (fa : α → α') : Prop where
  szero : fs o.szero = o'.szero
  sone : fs o.sone = o'.sone
  smul : ∀ a b, fs (o.smul a b) = o'.smul (fs a) (fs b)
  spow : ∀ a e, fs (o.spow a e) = o'.spow (fs a) e
  sinv : ∀ a, (o.sinv a).map fs = o'.sinv (fs a)
  sinv0 : ∀ a, fs (o.sinv0 a) = o'.sinv0 (fs a)
  sofNat : ∀ n, fs (o.sofNat n) = o'.sofNat n
  zero : fa o.zero = o'.zero
  add : ∀ a b, fa (o.add a b) = o'.add (fa a) (fa b)
  sub : ∀ a b, fa (o.sub a b) = o'.sub (fa a) (fa b)
  scale : ∀ c a, fa (o.scale c a) = o'.scale (fs c) (fa a)

section
variable {σ α σ' α' : Type} {o : Ops σ α} {o' : Ops σ' α'} {fs : σ → σ'} {fa : α → α'}

theorem swap_map {α β : Type} (g : α → β) (a : Array α) (i j : Nat) (hi : i < a.size) (hj : j < a.size) :
    (a.swap i j hi hj).map g = (a.map g).swap i j (by simpa using hi) (by simpa using hj) := by
  apply Array.ext (by simp)
  intro k h1 h2
  simp only [Array.getElem_map, Array.getElem_swap]
  split
  · rfl
  · split <;> rfl

theorem swapLoop_map {α β : Type} (g : α → β) (log : Nat) : ∀ fuel k (a : Array α),
    (swapLoop log fuel k a).map (Array.map g) = swapLoop log fuel k (a.map g) := by
  intro fuel
  induction fuel with
  | zero => intro k a; rfl
  | succ f ih =>
    intro k a
    simp only [swapLoop]
    split
    · by_cases h : bitreverse k log < a.size ∧ k < a.size
      · rw [dif_pos h, dif_pos (by simpa using h), ih, swap_map]
      · rw [dif_neg h, dif_neg (by simpa using h)]; rfl
    · exact ih _ _

theorem bitrevPermute_map {α β : Type} (g : α → β) (a : Array α) (log : Nat) :
    (bitrevPermute a log).map (Array.map g) = bitrevPermute (a.map g) log := by
  simp [bitrevPermute, swapLoop_map]

theorem powersAux_map (h : OpsHom o o' fs fa) (w : σ) : ∀ k cur (acc : Array σ),
    (powersAux o w k cur acc).map fs = powersAux o' (fs w) k (fs cur) (acc.map fs) := by
  intro k
  induction k with
  | zero => intro cur acc; rfl
  | succ k ih => intro cur acc; simp [powersAux, ih, h.smul]

theorem powers_map (h : OpsHom o o' fs fa) (w : σ) (m : Nat) : (powers o w m).map fs = powers o' (fs w) m := by
  simp [powers, powersAux_map h, h.sone]

theorem getD_map {α β : Type} (g : α → β) (a : Array α) (i : Nat) (d : α) : (a.map g).getD i (g d) = g (a.getD i d) := by
  simp [Array.getD_eq_getD_getElem?]

theorem stage_map (h : OpsHom o o' fs fa) (m : Nat) (tw : Array σ) (x : Array α) :
    (stage o m tw x).map fa = stage o' m (tw.map fs) (x.map fa) := by
  apply Array.ext (by rw [Array.size_map, stage_size, stage_size, Array.size_map])
  intro i h1 h2
  simp only [TF.Model.Ntt.stage, Array.getElem_map, Array.getElem_ofFn]
  rw [← h.zero, ← h.szero, getD_map, getD_map, getD_map, ← h.scale, ← h.add, ← h.sub]
  split <;> rfl

theorem stagesLoop_map (h : OpsHom o o' fs fa) (omega : σ) (n : Nat) : ∀ f m (x : Array α),
    (stagesLoop o omega n f m x).map fa = stagesLoop o' (fs omega) n f m (x.map fa) := by
  intro f
  induction f with
  | zero => intro m x; rfl
  | succ f ih => intro m x; simp only [stagesLoop, ih, stage_map h, powers_map h, h.spow]

theorem nttUnchecked_map (h : OpsHom o o' fs fa) (x : Array α) (omega : σ) (log : Nat) :
    (nttUnchecked o x omega log).map (Array.map fa) = nttUnchecked o' (x.map fa) (fs omega) log := by
  simp only [nttUnchecked, ← bitrevPermute_map, Option.map_map, Array.size_map]
  congr 1
  funext y
  exact stagesLoop_map h omega x.size log 1 y

theorem ntt_map (h : OpsHom o o' fs fa) (root : Nat → Option σ) (x : Array α) :
    (ntt o root x).map (Array.map fa) = ntt o' (fun n => (root n).map fs) (x.map fa) := by
  simp only [ntt, Array.size_map]
  split
  · rfl
  · split
    · rfl
    · cases root x.size with
      | none => rfl
      | some w => simp only [Option.map_some]; exact nttUnchecked_map h x w _

theorem intt_map (h : OpsHom o o' fs fa) (root : Nat → Option σ) (x : Array α) :
    (intt o root x).map (Array.map fa) = intt o' (fun n => (root n).map fs) (x.map fa) := by
  simp only [intt, Array.size_map]
  split
  · rfl
  · split
    · rfl
    · cases root x.size with
      | none => rfl
      | some w =>
        simp only [Option.map_some, ← h.sinv]
        cases o.sinv w with
        | none => rfl
        | some wi =>
          simp only [Option.map_some, ← nttUnchecked_map h]
          cases nttUnchecked o x wi _ with
          | none => rfl
          | some y =>
            simp only [Option.map_some, Array.map_map, ← h.sofNat, ← h.sinv0]
            congr 2
            funext a; simp [h.scale]

theorem powersBitrevAux_map (h : OpsHom o o' fs fa) (omega : σ) (lg : Nat) : ∀ f i cur (acc : Array σ),
    (powersBitrevAux o omega lg f i cur acc).map (Array.map fs)
      = powersBitrevAux o' (fs omega) lg f i (fs cur) (acc.map fs) := by
  intro f
  induction f with
  | zero => intro i cur acc; rfl
  | succ f ih =>
    intro i cur acc
    simp only [powersBitrevAux, Array.size_map]
    split
    · rw [ih, h.smul, Array.map_setIfInBounds]
    · rfl

theorem powersBitrev_map (h : OpsHom o o' fs fa) (omega : σ) (n logn : Nat) :
    (powersBitrev o omega n logn).map (Array.map fs) = powersBitrev o' (fs omega) n logn := by
  simp only [powersBitrev, powersBitrevAux_map h, h.sone, ← h.szero]
  congr 1
  simp

theorem stageNoswap_map (h : OpsHom o o' fs fa) (t : Nat) (zetas : Array σ) (x : Array α) :
    (stageNoswap o t zetas x).map fa = stageNoswap o' t (zetas.map fs) (x.map fa) := by
  apply Array.ext (by rw [Array.size_map, stageNoswap_size, stageNoswap_size, Array.size_map])
  intro i h1 h2
  simp only [stageNoswap, Array.getElem_map, Array.getElem_ofFn]
  rw [← h.zero, ← h.szero, getD_map, getD_map, getD_map, getD_map, ← h.scale, ← h.scale, ← h.add, ← h.sub]
  split <;> rfl

theorem noswapLoop_map (h : OpsHom o o' fs fa) (zetas : Array σ) (n : Nat) : ∀ f m t (x : Array α),
    (noswapLoop o zetas n f m t x).map fa = noswapLoop o' (zetas.map fs) n f m t (x.map fa) := by
  intro f
  induction f with
  | zero => intro m t x; rfl
  | succ f ih =>
    intro m t x
    simp only [noswapLoop]
    split
    · rw [ih, stageNoswap_map h]
    · rfl

theorem nttNoswap_map (h : OpsHom o o' fs fa) (root : Nat → Option σ) (x : Array α) :
    (nttNoswap o root x).map (Array.map fa) = nttNoswap o' (fun n => (root n).map fs) (x.map fa) := by
  simp only [nttNoswap, Array.size_map]
  cases root x.size with
  | none => rfl
  | some w =>
    simp only [Option.map_some, ← powersBitrev_map h]
    cases powersBitrev o w x.size (ceilLog2 x.size) with
    | none => rfl
    | some z => simp only [Option.map_some, noswapLoop_map h]

theorem inttNoswap_map (h : OpsHom o o' fs fa) (root : Nat → Option σ) (x : Array α) :
    (inttNoswap o root x).map (Array.map fa) = inttNoswap o' (fun n => (root n).map fs) (x.map fa) := by
  simp only [inttNoswap, Array.size_map]
  cases root x.size with
  | none => rfl
  | some w =>
    simp only [Option.map_some, ← h.sinv]
    cases o.sinv w with
    | none => rfl
    | some wi => simp only [Option.map_some, stagesLoop_map h]

theorem unscale_map (h : OpsHom o o' fs fa) (x : Array α) :
    (unscale o x).map (Array.map fa) = unscale o' (x.map fa) := by
  simp only [unscale, Array.size_map, ← h.sofNat, ← h.sinv]
  cases o.sinv (o.sofNat x.size) with
  | none => rfl
  | some c =>
    simp only [Option.map_some, Array.map_map]
    congr 2
    funext a; simp [h.scale]

end
end TF.NttProofs
