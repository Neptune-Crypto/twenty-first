import TF.Gen.SpongeLoops
import TF.Proofs.Sponge
import TF.Proofs.GenBridgeTip5Ok
/-!
The sponge functions as regenerated from `tip5.rs` / `sponge.rs` (`TF/Gen/SpongeLoops.lean`) work on raw Montgomery words
and call the regenerated `tip5_permutation`; the hand model (`TF/Model/Sponge.lean`) works on canonical values over an
abstract permutation.  With `enc = map bfe_new` and the model instantiated at `permV vs = dec (tip5_permutation (enc vs))`,
every theorem reads `Loops.tip5_f (enc x) = enc (Model.f permV x)` for canonical `x`, `none` (out of fuel) included.
-/
namespace TF.GenBridge.Sponge
open TF TF.Gen TF.Sponge TF.BF TF.Model.Tip5 TF.Tip5P TF.GenBridge.Tip5 TF.GenBridge.Tip5Ok

/-- values → raw Montgomery words -/
def enc (l : List Nat) : List Nat := l.map bfe_new
/-- raw Montgomery words → values -/
def dec (l : List Nat) : List Nat := l.map bfe_value
/-- every element is a canonical value / a canonical word -/
def CanonL (l : List Nat) : Prop := ∀ x ∈ l, x < Pn

/-- the regenerated Tip5 permutation, read on canonical values -/
def permV (vs : List Nat) : List Nat := dec (Loops.tip5_permutation (enc vs))

theorem enc_length (l : List Nat) : (enc l).length = l.length := List.length_map _
theorem enc_append (a b : List Nat) : enc (a ++ b) = enc a ++ enc b := List.map_append
theorem enc_take (n : Nat) (a : List Nat) : enc (a.take n) = (enc a).take n := List.map_take
theorem enc_drop (n : Nat) (a : List Nat) : enc (a.drop n) = (enc a).drop n := List.map_drop

theorem canon_append {a b : List Nat} (ha : CanonL a) (hb : CanonL b) : CanonL (a ++ b) := by
  intro x hx
  rcases List.mem_append.mp hx with h | h
  · exact ha x h
  · exact hb x h
theorem canon_take {a : List Nat} (n : Nat) (ha : CanonL a) : CanonL (a.take n) :=
  fun x hx => ha x (List.mem_of_mem_take hx)
theorem canon_drop {a : List Nat} (n : Nat) (ha : CanonL a) : CanonL (a.drop n) :=
  fun x hx => ha x (List.mem_of_mem_drop hx)
theorem canon_replicate (n v : Nat) (hv : v < P) : CanonL (List.replicate n v) := by
  intro x hx
  rw [List.eq_of_mem_replicate hx]; exact hv

theorem dec_enc : ∀ {l : List Nat}, CanonL l → dec (enc l) = l := by
  intro l h
  unfold dec enc
  rw [List.map_map]
  exact (List.map_congr_left fun a ha => value_new a (h a ha)).trans (List.map_id l)

theorem enc_dec {l : List Nat} (h : CanonL l) : enc (dec l) = l := by
  unfold dec enc
  rw [List.map_map]
  exact (List.map_congr_left fun a ha => new_value a (h a ha)).trans (List.map_id l)

def toState (l : List Nat) (h : l.length = 16) : State := ⟨l.toArray, by simpa using h⟩
theorem toState_toList (l : List Nat) (h : l.length = 16) : (toState l h).toList = l := by
  simp [toState, Vector.toList]

theorem perm_length (l : List Nat) (h : l.length = 16) : (Loops.tip5_permutation l).length = 16 := by
  rw [← toState_toList l h, gen_permutation_eq]; simp

theorem toState_enc_canon {vs : List Nat} (hc : CanonL vs) (hel : (enc vs).length = 16) :
    CanonV (toState (enc vs) hel) := by
  apply (forall_mem_toList (p := fun x => x < Pn) _).mp
  rw [toState_toList]
  intro x hx
  obtain ⟨v, hv, rfl⟩ := List.mem_map.mp hx
  exact new_canon (hc v hv)

/-- on a canonical state the regenerated permutation returns canonical words: it is `enc` of its reading on values -/
theorem perm_enc {vs : List Nat} (hl : vs.length = 16) (hc : CanonL vs) :
    Loops.tip5_permutation (enc vs) = enc (permV vs) ∧ CanonL (permV vs) ∧ (permV vs).length = 16 := by
  have hel : (enc vs).length = 16 := by rw [enc_length, hl]
  have hcanon : CanonV (permutation (toState (enc vs) hel)) :=
    (fold_refines (List.finRange 5) (toState (enc vs) hel) (toState_enc_canon hc hel)).1
  have hlt : ∀ w ∈ Loops.tip5_permutation (enc vs), w < Pn := by
    rw [← toState_toList (enc vs) hel, gen_permutation_eq]
    exact (forall_mem_toList (p := fun x => x < Pn) _).mpr hcanon
  refine ⟨?_, ?_, ?_⟩
  · unfold permV
    exact (enc_dec hlt).symm
  · intro x hx
    unfold permV dec at hx
    obtain ⟨w, hw, rfl⟩ := List.mem_map.mp hx
    exact value_lt w (Nat.lt_trans (hlt w hw) Pn_lt_W)
  · unfold permV dec
    rw [List.length_map, perm_length _ hel]

theorem permutation_ok_enc {vs : List Nat} (hl : vs.length = 16) (hc : CanonL vs) :
    Loops.tip5_permutation_ok (enc vs) = true := by
  have hel : (enc vs).length = 16 := by rw [enc_length, hl]
  have := permutation_ok (toState (enc vs) hel) (toState_enc_canon hc hel)
  rwa [toState_toList] at this

theorem permV_pres : Pres permV := by
  intro s hs
  unfold permV dec
  rw [List.length_map, perm_length _ (by rw [enc_length, hs, STATE_eq]), STATE_eq]

attribute [local irreducible] permV

theorem initState_length : initState.length = 16 := rfl
theorem initState_canon : CanonL initState := canon_replicate 16 0 (by decide)

theorem gen_init_eq : Loops.tip5_init = some (enc initState) ∧ Loops.tip5_init_ok = true := by decide +kernel

theorem gen_absorb_eq {st block : List Nat} (hl : st.length = 16) (hc : CanonL st) (hbl : block.length = 10)
    (hbc : CanonL block) :
    Loops.tip5_absorb (enc st) (enc block) = enc (absorb permV st block) ∧
      CanonL (absorb permV st block) ∧ (absorb permV st block).length = 16 := by
  have hlen : (block ++ st.drop 10).length = 16 := by simp [hbl, hl]
  have hcan : CanonL (block ++ st.drop 10) := canon_append hbc (canon_drop 10 hc)
  have h := perm_enc hlen hcan
  refine ⟨?_, h.2.1, h.2.2⟩
  show Loops.tip5_permutation (enc block ++ (enc st).drop 10) = enc (permV (block ++ st.drop 10))
  rw [← enc_drop, ← enc_append]
  exact h.1

theorem gen_squeeze_eq {st : List Nat} (hl : st.length = 16) (hc : CanonL st) :
    Loops.tip5_squeeze (enc st) = (enc (squeeze permV st).1, enc (squeeze permV st).2) ∧
      CanonL (squeeze permV st).2 ∧ (squeeze permV st).2.length = 16 := by
  have h := perm_enc hl hc
  have e1 : ∀ p : List Nat → List Nat, (squeeze p st).1 = st.take 10 := fun _ => rfl
  have e2 : ∀ p : List Nat → List Nat, (squeeze p st).2 = p st := fun _ => rfl
  rw [e1 permV, e2 permV]
  refine ⟨?_, h.2.1, h.2.2⟩
  unfold Loops.tip5_squeeze
  dsimp only
  rw [h.1, enc_take]

theorem chunks_enc (k : Nat) : ∀ (f : Nat) (l : List Nat),
    TF.RustIter.chunksAux k f (enc l) = (chunksOf k f l).map enc := by
  intro f
  induction f with
  | zero => intro l; rfl
  | succ f ih =>
    intro l
    unfold TF.RustIter.chunksAux chunksOf
    cases l with
    | nil => rfl
    | cons a t =>
      have h1 : (enc (a :: t)).isEmpty = false := by simp [enc]
      have h2 : (a :: t).isEmpty = false := rfl
      rw [h1, h2]
      simp only [Bool.false_eq_true, if_false, List.map_cons]
      rw [← enc_drop, ih, enc_take]

theorem take_cons_replicate {α : Type} (a b : α) (n m : Nat) (h : m ≤ n + 1) :
    (a :: List.replicate n b).take m = [a].take m ++ List.replicate (m - 1) b := by
  cases m with
  | zero => rfl
  | succ m =>
    rw [List.take_succ_cons, List.take_replicate, Nat.min_eq_left (by omega)]
    simp

theorem take_chain_once_rept {α : Type} (l : List α) (a b : α) (n : Nat) :
    TF.RustIter.take n (TF.RustIter.chain (TF.RustIter.ofList l)
        (TF.RustIter.chain (TF.RustIter.once a) (TF.RustIter.rept b)))
      = (l ++ [a] ++ List.replicate n b).take n := by
  show (l ++ ([a] ++ [])).take n ++ List.replicate (n - (l ++ ([a] ++ [])).length) b = _
  rw [List.append_nil, List.append_assoc, List.take_append, List.take_append]
  rw [List.append_assoc]
  congr 1
  rw [List.singleton_append, take_cons_replicate a b n _ (by omega)]
  congr 2
  simp only [List.length_append, List.length_singleton]
  omega

theorem padded_enc (input : List Nat) :
    TF.RustIter.take (nextMultipleOf (input.length + 1) RATE)
        (TF.RustIter.chain (TF.RustIter.ofList (enc input))
          (TF.RustIter.chain (TF.RustIter.once (bfe_new 1)) (TF.RustIter.rept (bfe_new 0))))
      = enc (padded input) := by
  unfold padded
  rw [take_chain_once_rept, enc_take, enc_append, enc_append]
  simp only [enc, List.map_cons, List.map_nil, List.map_replicate]

theorem for_eq : ∀ (cs : List (List Nat)) (st : List Nat), st.length = 16 → CanonL st →
    (∀ c ∈ cs, c.length = 10 ∧ CanonL c) →
    Loops.tip5_pad_and_absorb_all_for (cs.map enc) (enc st) = enc (cs.foldl (absorb permV) st) ∧
      CanonL (cs.foldl (absorb permV) st) ∧ (cs.foldl (absorb permV) st).length = 16 := by
  intro cs
  induction cs with
  | nil => intro st hl hc _; exact ⟨rfl, hc, hl⟩
  | cons c cs ih =>
    intro st hl hc hcs
    have hc1 := hcs c (List.mem_cons_self)
    have ha := gen_absorb_eq hl hc hc1.1 hc1.2
    have := ih (absorb permV st c) ha.2.2 ha.2.1 (fun c' hc' => hcs c' (List.mem_cons_of_mem _ hc'))
    simp only [List.map_cons, List.foldl_cons, Loops.tip5_pad_and_absorb_all_for]
    rw [ha.1]
    exact this

theorem padBlocks_canon {input : List Nat} (hi : CanonL input) : ∀ c ∈ padBlocks input, c.length = 10 ∧ CanonL c := by
  intro c hc
  have hs := padBlocks_spec input
  refine ⟨hs.2.1 c hc, ?_⟩
  intro x hx
  have hmem : x ∈ (padBlocks input).flatten := List.mem_flatten.mpr ⟨c, hc, hx⟩
  rw [hs.1] at hmem
  rcases List.mem_append.mp hmem with h | h
  · rcases List.mem_append.mp h with h | h
    · exact hi x h
    · rw [List.mem_singleton.mp h]
      decide
  · rw [List.eq_of_mem_replicate h]
    decide

/-- the padded length fits `usize`, and the chunks handed to the `for` loop of the regenerated `pad_and_absorb_all` are the
    encoded blocks of the model -/
theorem pad_chunks_enc (input : List Nat) (hlen : input.length + 10 < 2 ^ 64) :
    nextMultipleOf (input.length + 1) RATE < 18446744073709551616 ∧
    TF.RustIter.chunks 10 (TF.RustIter.take
        (TF.RustIter.nextMultipleOf (((enc input).length + 1) % 18446744073709551616) 10 % 18446744073709551616)
        (TF.RustIter.chain (TF.RustIter.ofList (enc input))
          (TF.RustIter.chain (TF.RustIter.once (bfe_new 1)) (TF.RustIter.rept (bfe_new 0)))))
      = (padBlocks input).map enc := by
  have hnm : nextMultipleOf (input.length + 1) RATE < 18446744073709551616 := by
    rw [nextMultipleOf_eq]
    have := (padK_spec input.length).1
    rw [RATE_eq] at this
    omega
  have e1 : ((enc input).length + 1) % 18446744073709551616 = input.length + 1 := by
    rw [enc_length]
    exact Nat.mod_eq_of_lt (by omega)
  have e2 : TF.RustIter.nextMultipleOf (input.length + 1) 10 = nextMultipleOf (input.length + 1) RATE := rfl
  refine ⟨hnm, ?_⟩
  rw [e1, e2, Nat.mod_eq_of_lt hnm, padded_enc, TF.RustIter.chunks, enc_length, chunks_enc]
  rfl

theorem gen_pad_and_absorb_all_eq {st input : List Nat} (hl : st.length = 16) (hc : CanonL st) (hi : CanonL input)
    (hlen : input.length + 10 < 2 ^ 64) :
    some (Loops.tip5_pad_and_absorb_all (enc st) (enc input)) = (padAndAbsorbAll (absorb permV) st input).map enc ∧
      CanonL ((padBlocks input).foldl (absorb permV) st) ∧ ((padBlocks input).foldl (absorb permV) st).length = 16 := by
  have hf := for_eq (padBlocks input) st hl hc (padBlocks_canon hi)
  refine ⟨?_, hf.2.1, hf.2.2⟩
  rw [padAndAbsorbAll_eq, Option.map_some, ← hf.1, ← (pad_chunks_enc input hlen).2]
  rfl

theorem gen_hash_varlen_eq {input : List Nat} (hi : CanonL input) (hlen : input.length + 10 < 2 ^ 64) :
    Loops.tip5_hash_varlen (enc input) = (hashVarlen permV input).map enc := by
  have hp := gen_pad_and_absorb_all_eq initState_length initState_canon hi hlen
  unfold Loops.tip5_hash_varlen hashVarlen
  rw [gen_init_eq.1, Option.bind_some]
  have h1 := hp.1
  rw [padAndAbsorbAll_eq] at h1 ⊢
  simp only [Option.map_some, Option.some.injEq] at h1 ⊢
  rw [h1, (gen_squeeze_eq hp.2.2 hp.2.1).1]
  simp only [squeeze]
  rw [← enc_take]
  rfl

theorem gen_hash_pair_eq {l r : List Nat} (hl : l.length = 5) (hr : r.length = 5) (hlc : CanonL l) (hrc : CanonL r) :
    Loops.tip5_hash_pair (enc l) (enc r) = some (enc (hashPair permV l r)) := by
  have hnew : Loops.tip5_new 1 = some (enc (newState true)) := by decide +kernel
  have hlen : (l ++ r ++ (newState true).drop RATE).length = 16 := by
    simp only [List.length_append, hl, hr]; decide
  have hcan : CanonL (l ++ r ++ (newState true).drop RATE) :=
    canon_append (canon_append hlc hrc) (canon_replicate 6 1 (by decide))
  have hp := perm_enc hlen hcan
  unfold Loops.tip5_hash_pair
  rw [hnew, Option.bind_some]
  have e10 : (2 * 5) % 18446744073709551616 = 10 := by decide
  simp only [e10]
  have h5 : (enc l).length = 5 := by rw [enc_length, hl]
  have hst : (enc l ++ (enc (newState true)).drop 5).take 5 ++ enc r ++ (enc l ++ (enc (newState true)).drop 5).drop 10
      = enc (l ++ r ++ (newState true).drop RATE) := by
    rw [List.take_left' h5]
    have : (enc l ++ (enc (newState true)).drop 5).drop 10 = (enc (newState true)).drop 10 := by
      rw [List.drop_append, h5, List.drop_drop]
      have : List.drop 10 (enc l) = [] := List.drop_of_length_le (by rw [h5]; decide)
      rw [this]; rfl
    rw [this, enc_append, enc_append, enc_drop]
    rfl
  rw [hst, hp.1, ← enc_take]
  rfl

theorem P_sub_one_eq : (18446744069414584320 : Nat) = P - 1 := rfl

theorem new_inj {a b : Nat} (ha : a < Pn) (hb : b < Pn) (h : bfe_new a = bfe_new b) : a = b := by
  have := congrArg bfe_value h
  rwa [value_new a ha, value_new b hb] at this

theorem popVal_reverse_cons (a : Nat) (l : List Nat) (d : Nat) : TF.RustIter.popVal ((a :: l).reverse) d = a := by
  simp [TF.RustIter.popVal]

theorem dropLast_reverse_cons (a : Nat) (l : List Nat) : ((a :: l).reverse).dropLast = l.reverse := by
  simp

/-- one iteration of both loops, given the statement for the remaining fuel.  `hsel`: after the refill decision the
    regenerated loop holds the state `enc st` and the non-empty buffer `e :: rest` (the Rust code keeps the squeezed buffer
    reversed, `into_iter().rev().collect_vec()`, and `pop()`s from its end) -/
theorem sample_loop_step (bound num f : Nat) {self sq st rest acc : List Nat} {e : Nat}
    (hsel : (if sq.isEmpty then ((Loops.tip5_squeeze self).2, (Loops.tip5_squeeze self).1.reverse) else (self, sq))
      = (enc st, (enc (e :: rest)).reverse))
    (ih : ∀ acc', (Loops.tip5_sample_indices_loop bound num (f + 1) (enc st) acc' (enc rest).reverse).map
        (fun t => (t.2.1, t.1)) = (sampleLoop permV bound num f st rest acc').map (fun r => (r.1, enc r.2)))
    (he : e < Pn) (h : acc.length ≠ num) :
    (Loops.tip5_sample_indices_loop bound num (f + 2) self acc sq).map (fun t => (t.2.1, t.1))
      = (sampleLoop permV bound num (f + 1) st (e :: rest) acc).map (fun r => (r.1, enc r.2)) := by
  have h' : (acc.length != num) = true := by simpa using h
  have hx1 : TF.RustIter.popVal (enc (e :: rest)).reverse 0 = bfe_new e := popVal_reverse_cons _ _ _
  have hx2 : ((enc (e :: rest)).reverse).dropLast = (enc rest).reverse := dropLast_reverse_cons _ _
  rw [Loops.tip5_sample_indices_loop, sampleLoop, if_pos h', if_neg h]
  simp only [hsel, List.isEmpty_cons, Bool.false_eq_true, if_false, hx1, hx2]
  by_cases hmax : e = P - 1
  · have hm : (bfe_new e != bfe_new 18446744069414584320) = false := by
      rw [hmax, ← P_sub_one_eq]; exact bne_self_eq_false _
    rw [hm, if_neg (not_not.mpr hmax)]
    exact ih acc
  · have hm : (bfe_new e != bfe_new 18446744069414584320) = true := by
      simp only [bne_iff_ne, ne_eq]
      intro hh
      rw [P_sub_one_eq] at hh
      exact hmax (new_inj he (by unfold P Pn; omega) hh)
    have hv : (Loops.bfe_value_fn (bfe_new e) % 4294967296) % bound = toIndex bound e := by
      unfold Loops.bfe_value_fn toIndex
      rw [value_new e he]
    rw [hm, if_pos hmax]
    simp only [if_true, hv]
    exact ih (acc ++ [toIndex bound e])

/-- the regenerated rejection loop with `f + 1` evaluations of the loop head = the hand model's loop with `f` iterations -/
theorem sample_loop_eq (bound num : Nat) : ∀ (f : Nat) (st buf acc : List Nat), st.length = 16 → CanonL st → CanonL buf →
    (Loops.tip5_sample_indices_loop bound num (f + 1) (enc st) acc (enc buf).reverse).map (fun t => (t.2.1, t.1))
      = (sampleLoop permV bound num f st buf acc).map (fun r => (r.1, enc r.2)) := by
  intro f
  induction f with
  | zero =>
    intro st buf acc hl hc hb
    unfold Loops.tip5_sample_indices_loop sampleLoop
    by_cases h : acc.length = num
    · simp [h]
    · have h' : (acc.length != num) = true := by simpa using h
      rw [if_pos h', if_neg h]
      simp only [Loops.tip5_sample_indices_loop]
      rfl
  | succ f ih =>
    intro st buf acc hl hc hb
    by_cases h : acc.length = num
    · rw [Loops.tip5_sample_indices_loop, sampleLoop]
      simp [h]
    · cases buf with
      | cons e rest =>
        exact sample_loop_step bound num f (if_neg (by simp [enc]))
          (fun acc' => ih st rest acc' hl hc fun x hx => hb x (List.mem_cons_of_mem _ hx)) (hb e List.mem_cons_self) h
      | nil =>
        -- the refill: both loops squeeze and go on with the fresh block
        obtain ⟨hsq, hc', hl'⟩ := gen_squeeze_eq hl hc
        obtain ⟨e, rest, her, _⟩ := take_rate_cons (show st.length = STATE_SIZE from hl)
        have hcr : CanonL (e :: rest) := by rw [← her]; exact canon_take 10 hc
        rw [sampleLoop_refill h her]
        have hsel : (if ((enc []).reverse).isEmpty then ((Loops.tip5_squeeze (enc st)).2, (Loops.tip5_squeeze (enc st)).1.reverse)
            else (enc st, (enc []).reverse)) = (enc (permV st), (enc (e :: rest)).reverse) := by
          rw [if_pos (show ((enc []).reverse).isEmpty = true from rfl), hsq, show (squeeze permV st).1 = e :: rest from her]
          rfl
        exact sample_loop_step bound num f hsel
          (fun acc' => ih _ rest acc' hl' hc' fun x hx => hcr x (List.mem_cons_of_mem _ hx)) (hcr e List.mem_cons_self) h

theorem gen_sample_indices_eq {st : List Nat} (hl : st.length = 16) (hc : CanonL st) (fuel bound num : Nat) :
    Loops.tip5_sample_indices (fuel + 1) (enc st) bound num
      = (sampleIndices permV fuel st bound num).map (fun r => (r.1, enc r.2)) ∧
    Loops.tip5_sample_indices 0 (enc st) bound num = none := by
  refine ⟨?_, rfl⟩
  have h := sample_loop_eq bound num fuel st [] [] hl hc (by intro x hx; cases hx)
  have e : (enc ([] : List Nat)).reverse = [] := rfl
  rw [e] at h
  show (Loops.tip5_sample_indices_loop bound num (fuel + 1) (enc st) [] []).bind (fun t => some (t.2.1, t.1)) = _
  show _ = (sampleLoop permV bound num fuel st [] []).map (fun r => (r.1, enc r.2))
  rw [← h]
  cases Loops.tip5_sample_indices_loop bound num (fuel + 1) (enc st) [] [] with
  | none => rfl
  | some t => rfl

/-- an extension-field element: the three coefficients as raw words -/
def encTriple (t : Nat × Nat × Nat) : List Nat := [bfe_new t.1, bfe_new t.2.1, bfe_new t.2.2]

/-- the inner `for x in squeeze_output { v.push(x) }` is `v.extend(squeeze_output)` -/
theorem scalars_for2_eq : ∀ (xs acc : List Nat),
    Loops.tip5_sample_scalars_for2 xs acc = acc ++ xs ∧ Loops.tip5_sample_scalars_for2_ok xs acc = true
  | [], acc => ⟨by rw [Loops.tip5_sample_scalars_for2, List.append_nil], rfl⟩
  | x :: xs, acc => by
    obtain ⟨h1, h2⟩ := scalars_for2_eq xs (acc ++ [x])
    constructor
    · rw [Loops.tip5_sample_scalars_for2, h1, List.append_assoc]; rfl
    · rw [Loops.tip5_sample_scalars_for2_ok]; exact h2

/-- `k` rounds of the `flat_map` closure = `k` successive squeezes of the hand model -/
theorem scalars_for_eq : ∀ (k i : Nat) (st acc : List Nat), st.length = 16 → CanonL st →
    Loops.tip5_sample_scalars_for k i (enc st) acc
      = (enc (squeezeN permV k st).2, acc ++ enc (squeezeN permV k st).1) := by
  intro k
  induction k with
  | zero =>
    intro i st acc _ _
    rw [Loops.tip5_sample_scalars_for, squeezeN]
    show (enc st, acc) = (enc st, acc ++ enc [])
    rw [show enc [] = [] from rfl, List.append_nil]
  | succ k ih =>
    intro i st acc hl hc
    obtain ⟨hs, hc', hl'⟩ := gen_squeeze_eq hl hc
    have h1 := ih (i + 1) (squeeze permV st).2 (acc ++ enc (squeeze permV st).1) hl' hc'
    rw [Loops.tip5_sample_scalars_for]
    show Loops.tip5_sample_scalars_for k (i + 1) (Loops.tip5_squeeze (enc st)).2
      (Loops.tip5_sample_scalars_for2 (Loops.tip5_squeeze (enc st)).1 acc) = _
    rw [hs, (scalars_for2_eq _ _).1, h1, squeezeN]
    show _ = (_, acc ++ enc ((squeeze permV st).1 ++ (squeezeN permV k (squeeze permV st).2).1))
    rw [enc_append, List.append_assoc]

theorem squeeze_ok {st : List Nat} (hl : st.length = 16) (hc : CanonL st) : Loops.tip5_squeeze_ok (enc st) = true := by
  have hlen : decide (10 ≤ (enc st).length) = true := decide_eq_true (by rw [enc_length, hl]; omega)
  show (((decide (10 ≤ (enc st).length)) && (10 == 10)) && (Loops.tip5_permutation_ok (enc st))) = true
  rw [hlen, permutation_ok_enc hl hc]
  rfl

theorem scalars_for_ok : ∀ (k i : Nat) (st acc : List Nat), st.length = 16 → CanonL st →
    Loops.tip5_sample_scalars_for_ok k i (enc st) acc = true := by
  intro k
  induction k with
  | zero => intro i st acc _ _; rfl
  | succ k ih =>
    intro i st acc hl hc
    obtain ⟨hs, hc', hl'⟩ := gen_squeeze_eq hl hc
    have h2 := ih (i + 1) (squeeze permV st).2 (acc ++ enc (squeeze permV st).1) hl' hc'
    have hsq := squeeze_ok hl hc
    rw [Loops.tip5_sample_scalars_for_ok]
    show (Loops.tip5_squeeze_ok (enc st) && (Loops.tip5_sample_scalars_for2_ok (Loops.tip5_squeeze (enc st)).1 acc &&
      Loops.tip5_sample_scalars_for_ok k (i + 1) (Loops.tip5_squeeze (enc st)).2
        (Loops.tip5_sample_scalars_for2 (Loops.tip5_squeeze (enc st)).1 acc))) = true
    rw [hsq, hs, (scalars_for2_eq _ _).1, (scalars_for2_eq _ _).2, h2]; rfl

theorem toTriple_some {c : List Nat} {t : Nat × Nat × Nat} (h : toTriple c = some t) : c = [t.1, t.2.1, t.2.2] := by
  unfold toTriple at h
  split at h
  · cases h; rfl
  · cases h

/-- the regenerated closure `|elem| XFieldElement::new([elem[0], elem[1], elem[2]])` with its checks -/
def tripleFn (elem : List Nat) : List Nat := [(elem.getD 0 0), (elem.getD 1 0), (elem.getD 2 0)]
def tripleOk (elem : List Nat) : Bool :=
  ((decide (0 < elem.length)) && (decide (1 < elem.length)) && (decide (2 < elem.length))) &&
    ([(elem.getD 0 0), (elem.getD 1 0), (elem.getD 2 0)].length == 3)

-- for any `f`: with `bfe_new` in its place `rfl` would make the kernel unfold Montgomery arithmetic on variables
theorem tripleFn_map (f : Nat → Nat) (a b c : Nat) : tripleFn (List.map f [a, b, c]) = [f a, f b, f c] := rfl
theorem tripleOk_map (f : Nat → Nat) (a b c : Nat) : tripleOk (List.map f [a, b, c]) = true := rfl

theorem triple_enc (t : Nat × Nat × Nat) :
    tripleFn (enc [t.1, t.2.1, t.2.2]) = encTriple t ∧ tripleOk (enc [t.1, t.2.1, t.2.2]) = true := by
  unfold enc encTriple
  exact ⟨tripleFn_map bfe_new _ _ _, tripleOk_map bfe_new _ _ _⟩

theorem triples_enc : ∀ (cs : List (List Nat)) (groups : List (Nat × Nat × Nat)), cs.mapM toTriple = some groups →
    (cs.map enc).map tripleFn = groups.map encTriple ∧ (cs.map enc).all tripleOk = true := by
  intro cs
  induction cs with
  | nil =>
    intro groups h
    have : groups = [] := by simpa using h.symm
    subst this; exact ⟨rfl, rfl⟩
  | cons c cs ih =>
    intro groups h
    rw [List.mapM_cons] at h
    cases ht : toTriple c with
    | none => rw [ht] at h; cases h
    | some t =>
      rw [ht] at h
      cases hm : cs.mapM toTriple with
      | none => rw [hm] at h; cases h
      | some gs =>
        rw [hm] at h
        cases h
        obtain ⟨h1, h2⟩ := ih gs hm
        rw [toTriple_some ht]
        constructor
        · rw [List.map_cons, List.map_cons, h1, (triple_enc t).1, List.map_cons]
        · rw [List.map_cons, List.all_cons, h2, (triple_enc t).2]; rfl

theorem gen_sample_scalars_eq {st : List Nat} (hl : st.length = 16) (hc : CanonL st) (num : Nat)
    (hnum : num * 3 < 18446744073709551616) :
    some (Loops.tip5_sample_scalars (enc st) num)
      = (sampleScalars permV st num).map (fun r => (r.1.map encTriple, enc r.2)) ∧
    ((∀ s : List Nat, s.length = 16 → CanonL s → Loops.tip5_permutation_ok (enc s) = true) →
      Loops.tip5_sample_scalars_ok (enc st) num = true) := by
  have e1 : (num * 3) % 18446744073709551616 = num * 3 := Nat.mod_eq_of_lt hnum
  have e2 : (num * 3 + RATE - 1) / RATE = (num * 3 + 10 - 1) / 10 := rfl
  obtain ⟨groups, hg, _, _⟩ := sampleScalars_eq permV_pres (st := st) (by rw [hl]; rfl) num
  have hg' := hg
  unfold sampleScalars at hg'
  simp only [e2] at hg'
  cases hm : ((chunks3 (squeezeN permV ((num * 3 + 10 - 1) / 10) st).1.length
      (squeezeN permV ((num * 3 + 10 - 1) / 10) st).1).take num).mapM toTriple with
  | none => rw [hm] at hg'; cases hg'
  | some gs =>
    have hch : TF.RustIter.chunks 3 (enc (squeezeN permV ((num * 3 + 10 - 1) / 10) st).1)
        = (chunks3 (squeezeN permV ((num * 3 + 10 - 1) / 10) st).1.length
            (squeezeN permV ((num * 3 + 10 - 1) / 10) st).1).map enc := by
      rw [TF.RustIter.chunks, enc_length, chunks_enc, chunks3_eq_chunksOf]
    obtain ⟨t1, t2⟩ := triples_enc _ gs hm
    rw [List.map_take] at t1 t2
    have f1 := scalars_for_eq ((num * 3 + 10 - 1) / 10) 0 st [] hl hc
    rw [List.nil_append] at f1
    constructor
    · unfold sampleScalars
      simp only [e2, hm, Option.map_some]
      show some (((TF.RustIter.chunks 3 (Loops.tip5_sample_scalars_for
          (((num * 3) % 18446744073709551616 + 10 - 1) / 10 - 0) 0 (enc st) []).2).take num).map tripleFn,
        (Loops.tip5_sample_scalars_for (((num * 3) % 18446744073709551616 + 10 - 1) / 10 - 0) 0 (enc st) []).1) = _
      rw [e1, Nat.sub_zero, f1, hch, t1]
    · intro _
      have f2 := scalars_for_ok ((num * 3 + 10 - 1) / 10) 0 st [] hl hc
      have c1 : decide (num * 3 < 18446744073709551616) = true := decide_eq_true hnum
      show ((decide (num * 3 < 18446744073709551616) && (10 != 0)) &&
        (Loops.tip5_sample_scalars_for_ok (((num * 3) % 18446744073709551616 + 10 - 1) / 10 - 0) 0 (enc st) [] &&
          ((3 != 0) && ((TF.RustIter.chunks 3 (Loops.tip5_sample_scalars_for
            (((num * 3) % 18446744073709551616 + 10 - 1) / 10 - 0) 0 (enc st) []).2).take num).all tripleOk))) = true
      rw [e1, Nat.sub_zero, c1, f1, f2, hch, t2]
      rfl

end TF.GenBridge.Sponge
