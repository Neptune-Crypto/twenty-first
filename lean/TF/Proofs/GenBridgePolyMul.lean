import TF.Proofs.GenBridgePoly
import TF.Proofs.PolyMulHom
/-!
Bridge for the two index double loops of `polynomial.rs` regenerated from source (`TF/Gen/PolyLoops.lean`):
`naive_multiply` (`product[i + j] = product[i + j] + self[i] * other[j]`) and `slow_square`
(`sq[2i] += cᵢ²`, `sq[i + j] += (two·cᵢ)·cⱼ` for `j > i`) are the hand models `naiveMultiplyG` (`mulRows`) and `slowSquare`
(`squareRows`) of `TF/Model/Poly.lean` / `PolyMul.lean`.

The hand models add row `i` to the *already summed* rows `i+1, …` shifted by one (`a₀·b + X·(rest·b)`), the loops add row `i`
to the accumulated rows `0 … i-1` starting from zeros.  The two parenthesise the sums differently and pad with `zero` on
different sides, so the bridge is false for an arbitrary operation record; it needs exactly that `add` is associative with the
two-sided unit `zero` (`AddLaws`; commutativity is *not* needed — `AddLaws.of_comm` derives the right unit from the left unit
for a commutative `add`).  No law of `mul` is used.
-/
namespace TF.GenBridge.Poly
open TF TF.Model.Poly TF.PolyStd TF.Model.Poly.Hom

variable {α β γ : Type}

/-- the laws of `add`/`zero` of the coefficient type of the result that the double-loop bridges use: an additive monoid -/
structure AddLaws (F : FieldOps α) : Prop where
  add_assoc : ∀ a b c, F.add (F.add a b) c = F.add a (F.add b c)
  zero_add : ∀ a, F.add F.zero a = a
  add_zero : ∀ a, F.add a F.zero = a

/-- a commutative, associative `add` with left unit `zero` satisfies `AddLaws` -/
theorem AddLaws.of_comm {F : FieldOps α} (hc : ∀ a b, F.add a b = F.add b a)
    (ha : ∀ a b c, F.add (F.add a b) c = F.add a (F.add b c)) (hz : ∀ a, F.add F.zero a = a) : AddLaws F :=
  ⟨ha, hz, fun a => by rw [hc, hz]⟩

/-- the row `r` added, position by position, to the front of the accumulator window `acc`: what one pass of an inner loop
    does -/
def addRow (F : FieldOps γ) (r acc : List γ) : List γ := List.zipWith F.add (acc.take r.length) r ++ acc.drop r.length

theorem length_addRow (F : FieldOps γ) (r acc : List γ) (h : r.length ≤ acc.length) : (addRow F r acc).length = acc.length := by
  simp only [addRow, List.length_append, List.length_zipWith, List.length_take, List.length_drop]; omega

theorem addRow_cons (F : FieldOps γ) (x : γ) (r : List γ) (c : γ) (acc : List γ) :
    addRow F (x :: r) (c :: acc) = F.add c x :: addRow F r acc := rfl

theorem addRow_of_length_eq (F : FieldOps γ) (r acc : List γ) (h : acc.length = r.length) :
    addRow F r acc = List.zipWith F.add acc r := by
  rw [addRow, ← h, List.take_length, List.drop_length, List.append_nil]

/-- adding a row `r` to the accumulator and then the remaining rows `M`, position by position, is adding
    `zipLongestWith add id r M` (only associativity) -/
theorem zipWith_add_row (F : FieldOps γ) (hA : ∀ a b c, F.add (F.add a b) c = F.add a (F.add b c)) (r : List γ) :
    ∀ (acc M : List γ), acc.length = M.length →
      List.zipWith F.add (addRow F r acc) M = List.zipWith F.add acc (zipLongestWith F.add id r M) := by
  induction r with
  | nil => intro acc M _; simp [addRow, zipLongestWith]
  | cons x r ih =>
    intro acc M hl
    cases acc with
    | nil => simp [addRow]
    | cons c acc =>
      cases M with
      | nil => simp at hl
      | cons y M =>
        simp only [List.length_cons, Nat.add_right_cancel_iff] at hl
        simp only [addRow_cons, List.zipWith_cons_cons, zipLongestWith, hA, ih acc M hl]

theorem zipWith_replicate_zero (F : FieldOps γ) (hZ : ∀ a, F.add F.zero a = a) (l : List γ) :
    List.zipWith F.add (List.replicate l.length F.zero) l = l := by
  induction l with
  | nil => rfl
  | cons x l ih => simp [List.replicate_succ, hZ, ih]

/-- a loop that, for `j` running over the positions of `xmid` inside `xpre ++ xmid ++ xpost`, reads `x = xs[j]` and adds `g x`
    to position `i + j` of the accumulator: the window `mid` at offset `i + |xpre|` gets `g x` added position by position,
    nothing else is touched, no index panic -/
theorem window_loop {ξ : Type} (loop : List ξ → List Nat → List γ → Option (List γ)) (add : γ → γ → γ) (g : ξ → γ) (i : Nat)
    (h0 : ∀ xs acc, loop xs [] acc = some acc)
    (hs : ∀ xs j rest acc, loop xs (j :: rest) acc =
      (xs[j]?).bind fun x => (acc[i + j]?).bind fun t => loop xs rest (acc.set (i + j) (add t (g x))))
    (xpost : List ξ) (post : List γ) :
    ∀ (xmid xpre : List ξ) (pre mid : List γ), mid.length = xmid.length → pre.length = i + xpre.length →
      loop (xpre ++ xmid ++ xpost) (List.range' xpre.length xmid.length) (pre ++ mid ++ post) =
        some (pre ++ List.zipWith (fun p x => add p (g x)) mid xmid ++ post) := by
  intro xmid
  induction xmid with
  | nil =>
    intro xpre pre mid hm _
    obtain rfl : mid = [] := List.eq_nil_of_length_eq_zero hm
    exact h0 _ _
  | cons x xmid ih =>
    intro xpre pre mid hm hp
    cases mid with
    | nil => simp at hm
    | cons p mid =>
      simp only [List.length_cons, Nat.add_right_cancel_iff] at hm
      have hget : (pre ++ p :: mid ++ post)[i + xpre.length]? = some p := by
        rw [← hp]; simp
      have hgetx : (xpre ++ x :: xmid ++ xpost)[xpre.length]? = some x := by simp
      have hset : (pre ++ p :: mid ++ post).set (i + xpre.length) (add p (g x)) =
          (pre ++ [add p (g x)]) ++ mid ++ post := by
        rw [← hp]; simp
      rw [List.length_cons, List.range'_succ, hs, hgetx, Option.bind_some, hget, Option.bind_some, hset,
        show xpre ++ x :: xmid ++ xpost = (xpre ++ [x]) ++ xmid ++ xpost by simp,
        show xpre.length + 1 = (xpre ++ [x]).length by simp,
        ih (xpre ++ [x]) (pre ++ [add p (g x)]) mid hm (by simp; omega)]
      simp

/-- the inner loop of `naive_multiply` for row `i`: the window `mid` of the accumulator at offset `i + |bpre|` gets
    `self[i] * other[j]` added position by position, nothing else is touched, no index panic -/
theorem naive_for2_eq (F : FieldOps α) (F2 : FieldOps β) (F3 : FieldOps γ) (mul : α → β → γ)
    (self_ : List α) (i : Nat) (ai : α) (hi : self_[i]? = some ai) (bpost : List β) (post : List γ) :
    ∀ (bmid bpre : List β) (pre mid : List γ), mid.length = bmid.length → pre.length = i + bpre.length →
      TF.Gen.Poly.naive_multiply_for2 F F2 F3 mul self_ (bpre ++ bmid ++ bpost) i
          (List.range' bpre.length bmid.length) (pre ++ mid ++ post) =
        some (pre ++ List.zipWith (fun p b => F3.add p (mul ai b)) mid bmid ++ post) := by
  refine window_loop (fun xs => TF.Gen.Poly.naive_multiply_for2 F F2 F3 mul self_ xs i) F3.add (mul ai) i (fun _ _ => rfl)
    (fun xs j rest acc => ?_) bpost post
  simp only [TF.Gen.Poly.naive_multiply_for2, hi, Option.bind_some]
  exact Option.bind_comm _ _

/-- the outer loop of `naive_multiply` over the rows `amid` (at offset `|apre|` of the storage): the window `acc` of the
    accumulator gets the rows of `mulRows amid b` added — associativity and the right unit are used -/
theorem naive_for_eq (F : FieldOps α) (F2 : FieldOps β) (F3 : FieldOps γ) (hL : AddLaws F3) (mul : α → β → γ)
    (b bpost : List β) (hb : b ≠ []) (degree_rhs : Nat) (hdr : degree_rhs + 1 = b.length) (apost : List α) :
    ∀ (amid : List α), amid ≠ [] → ∀ (apre : List α) (pre acc : List γ), pre.length = apre.length →
      acc.length = amid.length + b.length - 1 →
      TF.Gen.Poly.naive_multiply_for F F2 F3 mul (apre ++ amid ++ apost) (b ++ bpost) degree_rhs
          (List.range' apre.length amid.length) (pre ++ acc) =
        some (pre ++ List.zipWith F3.add acc (mulRows F3 mul amid b)) := by
  have hbl : 0 < b.length := List.length_pos_of_ne_nil hb
  have hr : degree_rhs + 1 - 0 = b.length := by omega
  intro amid
  induction amid with
  | nil => intro h; exact absurd rfl h
  | cons a0 as ih =>
    intro _ apre pre acc hp hacc
    rw [List.length_cons] at hacc
    -- row `a0`: the inner loop adds `b.map (mul a0)` to the front of the window
    have hi : (apre ++ a0 :: as ++ apost)[apre.length]? = some a0 := by simp
    have h2 := naive_for2_eq F F2 F3 mul (apre ++ a0 :: as ++ apost) apre.length a0 hi bpost (acc.drop b.length)
      b [] pre (acc.take b.length) (by rw [List.length_take]; omega) hp
    rw [List.nil_append, List.length_nil, List.append_assoc pre, List.take_append_drop, List.append_assoc pre,
      show List.zipWith (fun p b => F3.add p (mul a0 b)) (acc.take b.length) b ++ acc.drop b.length
        = addRow F3 (b.map (mul a0)) acc by rw [addRow, List.length_map, List.zipWith_map_right]] at h2
    rw [List.length_cons, List.range'_succ]
    simp only [TF.Gen.Poly.naive_multiply_for, hr, h2, Option.bind_some]
    cases as with
    | nil =>
      rw [addRow_of_length_eq F3 _ acc (by rw [List.length_map]; simpa using hacc)]
      rfl
    | cons a1 as =>
      have hM := length_mulRows F3 mul b hb (a1 :: as) (List.cons_ne_nil _ _)
      have hlen := length_addRow F3 (b.map (mul a0)) acc (by rw [List.length_map]; omega)
      obtain ⟨x0, rest, hx⟩ : ∃ x0 rest, addRow F3 (b.map (mul a0)) acc = x0 :: rest :=
        List.exists_cons_of_ne_nil (fun h => by rw [h, List.length_nil] at hlen; omega)
      rw [hx, List.length_cons] at hlen
      rw [hx, show pre ++ x0 :: rest = (pre ++ [x0]) ++ rest by rw [List.append_assoc]; rfl,
        show apre ++ a0 :: a1 :: as ++ apost = (apre ++ [a0]) ++ (a1 :: as) ++ apost by simp,
        show apre.length + 1 = (apre ++ [a0]).length by simp,
        ih (List.cons_ne_nil _ _) (apre ++ [a0]) (pre ++ [x0]) rest (by simp [hp]) (by omega)]
      -- the rows still to come start one position further: `x0 = x0 + 0`
      rw [mulRows, ← zipWith_add_row F3 hL.add_assoc _ acc _ (by rw [List.length_cons, hM]; omega), hx,
        List.zipWith_cons_cons, hL.add_zero, List.append_assoc]
      rfl

/-- **regenerated `naive_multiply<FF2>` = hand model `naiveMultiplyG`** for every record of operations whose result type
    has an associative `add` with two-sided unit `zero`; every storage of the operands (stored leading zeros are not
    read); no index panic -/
theorem naive_multiply_eq (F : FieldOps α) (F2 : FieldOps β) (F3 : FieldOps γ) (hL : AddLaws F3) (mul : α → β → γ)
    (a : List α) (b : List β) :
    TF.Gen.Poly.naive_multiply F F2 F3 mul a b = some (naiveMultiplyG F F2 F3 mul a b) := by
  obtain ⟨ta, hta⟩ := normalize_isPrefix F a
  obtain ⟨tb, htb⟩ := normalize_isPrefix F2 b
  simp only [TF.Gen.Poly.naive_multiply, degree_eq, Option.bind_some, naiveMultiplyG, degree, TF.Gen.Poly.zero,
    TF.Gen.Poly.new]
  generalize normalize F a = qa at hta ⊢
  generalize normalize F2 b = qb at htb ⊢
  subst hta htb
  rcases qa with _ | ⟨a0, at'⟩
  · rfl
  rcases qb with _ | ⟨b0, bt⟩
  · rw [List.length_cons, toUsize?_sub_one]; rfl
  rw [List.length_cons, List.length_cons, toUsize?_sub_one, toUsize?_sub_one]
  have hM := length_mulRows F3 mul (b0 :: bt) (List.cons_ne_nil _ _) (a0 :: at') (List.cons_ne_nil _ _)
  simp only [List.length_cons] at hM
  have hfor := naive_for_eq F F2 F3 hL mul (b0 :: bt) tb (List.cons_ne_nil _ _) bt.length rfl ta (a0 :: at')
    (List.cons_ne_nil _ _) [] [] (List.replicate (at'.length + bt.length + 1) F3.zero) rfl
    (by simp only [List.length_replicate, List.length_cons]; omega)
  refine (congrArg (fun o => o.bind some) hfor).trans ?_
  rw [show at'.length + bt.length + 1 = (mulRows F3 mul (a0 :: at') (b0 :: bt)).length by omega,
    zipWith_replicate_zero F3 hL.zero_add]
  rfl

theorem slow_for2_eq (F : FieldOps α) (two : α) (i : Nat) (ci : α) (cpost post : List α) :
    ∀ (cmid cpre pre mid : List α), mid.length = cmid.length → pre.length = i + cpre.length →
      TF.Gen.Poly.slow_square_for2 F two (cpre ++ cmid ++ cpost) i ci
          (List.range' cpre.length cmid.length) (pre ++ mid ++ post) =
        some (pre ++ List.zipWith (fun p c => F.add p (F.mul (F.mul two ci) c)) mid cmid ++ post) := by
  exact window_loop (fun xs => TF.Gen.Poly.slow_square_for2 F two xs i ci) F.add (fun c => F.mul (F.mul two ci) c) i
    (fun _ _ => rfl) (fun _ _ _ _ => rfl) cpost post

/-- the outer loop of `slow_square` over the coefficients `cmid` at offset `|cpre|` -/
theorem slow_for_eq (F : FieldOps α) (hL : AddLaws F) :
    ∀ (cmid : List α), cmid ≠ [] → ∀ (cpre pre acc : List α), pre.length = 2 * cpre.length →
      acc.length = 2 * cmid.length - 1 →
      TF.Gen.Poly.slow_square_for F (F.add F.one F.one) (cpre ++ cmid)
          (List.range' cpre.length cmid.length) (pre ++ acc) =
        some (pre ++ List.zipWith F.add acc (squareRows F cmid)) := by
  intro cmid
  induction cmid with
  | nil => intro h; exact absurd rfl h
  | cons c cs ih =>
    intro _ cpre pre acc hp hacc
    rw [List.length_cons] at hacc
    cases acc with
    | nil => rw [List.length_nil] at hacc; omega
    | cons x0 acc =>
      rw [List.length_cons] at hacc
      -- row `c`: the diagonal term, then the inner loop adds `(two·c)·cⱼ` for the later coefficients
      have hci : (cpre ++ c :: cs)[cpre.length]? = some c := by simp
      have hget : (pre ++ x0 :: acc)[2 * cpre.length]? = some x0 := by rw [← hp]; simp
      have hset : (pre ++ x0 :: acc).set (2 * cpre.length) (F.add x0 (F.mul c c)) =
          pre ++ [F.add x0 (F.mul c c)] ++ acc := by rw [← hp]; simp
      have h2 := slow_for2_eq F (F.add F.one F.one) cpre.length c [] (acc.drop cs.length) cs (cpre ++ [c])
        (pre ++ [F.add x0 (F.mul c c)]) (acc.take cs.length) (by rw [List.length_take]; omega) (by simp; omega)
      rw [List.append_nil, List.append_assoc (pre ++ _), List.take_append_drop, List.append_assoc (pre ++ _),
        show List.zipWith (fun p c' => F.add p (F.mul (F.mul (F.add F.one F.one) c) c')) (acc.take cs.length) cs
            ++ acc.drop cs.length = addRow F (cs.map (fun cj => F.mul (F.mul (F.add F.one F.one) c) cj)) acc by
          rw [addRow, List.length_map, List.zipWith_map_right],
        List.length_append, List.length_singleton] at h2
      replace h2 := h2.trans (show _ = some (pre ++ addRow F
          (F.mul c c :: cs.map (fun cj => F.mul (F.mul (F.add F.one F.one) c) cj)) (x0 :: acc)) by
        rw [addRow_cons, List.append_assoc, List.singleton_append])
      rw [List.length_cons, List.range'_succ]
      simp only [TF.Gen.Poly.slow_square_for, hci, hget, hset, Option.bind_some]
      rw [show (cpre ++ c :: cs).length - (cpre.length + 1) = cs.length by
          rw [List.length_append, List.length_cons]; omega,
        show cpre ++ c :: cs = cpre ++ [c] ++ cs by simp, h2, Option.bind_some]
      cases cs with
      | nil =>
        rw [List.length_nil] at hacc
        obtain rfl : acc = [] := List.eq_nil_of_length_eq_zero (by omega)
        rfl
      | cons c1 cs =>
        have hS := length_squareRows F (c1 :: cs) (List.cons_ne_nil _ _)
        have hlen := length_addRow F (F.mul c c :: (c1 :: cs).map (fun cj => F.mul (F.mul (F.add F.one F.one) c) cj))
          (x0 :: acc) (by simp only [List.length_cons, List.length_map] at hacc ⊢; omega)
        obtain ⟨y0, y1, rest, hx⟩ : ∃ y0 y1 rest, addRow F (F.mul c c :: (c1 :: cs).map
            (fun cj => F.mul (F.mul (F.add F.one F.one) c) cj)) (x0 :: acc) = y0 :: y1 :: rest := by
          rcases h : addRow F _ (x0 :: acc) with _ | ⟨y0, _ | ⟨y1, rest⟩⟩
          · rw [h] at hlen; simp only [List.length_nil, List.length_cons] at hlen hacc; omega
          · rw [h] at hlen; simp only [List.length_nil, List.length_cons] at hlen hacc; omega
          · exact ⟨y0, y1, rest, rfl⟩
        rw [hx] at hlen
        simp only [List.length_cons] at hlen hacc hS
        rw [hx, show pre ++ y0 :: y1 :: rest = (pre ++ [y0, y1]) ++ rest by simp,
          show cpre.length + 1 = (cpre ++ [c]).length by simp,
          ih (List.cons_ne_nil _ _) (cpre ++ [c]) (pre ++ [y0, y1]) rest (by simp; omega)
            (by simp only [List.length_cons]; omega)]
        -- the later rows start two positions further: `y = y + 0`
        rw [squareRows, ← zipWith_add_row F hL.add_assoc _ (x0 :: acc) _ (by simp only [List.length_cons, hS]; omega), hx,
          List.zipWith_cons_cons, List.zipWith_cons_cons, hL.add_zero, hL.add_zero, List.append_assoc]
        rfl

/-- **regenerated `slow_square` = hand model `slowSquare`** for every record of operations with an associative `add` with
    two-sided unit `zero`; every storage; no index panic (the loops run over `coefficients()`, fix F5) -/
theorem slow_square_eq (F : FieldOps α) (hL : AddLaws F) (p : List α) :
    TF.Gen.Poly.slow_square F p = some (slowSquare F p) := by
  simp only [TF.Gen.Poly.slow_square, degree_eq, Option.bind_some, coefficients_eq, coefficients, slowSquare, degree,
    TF.Gen.Poly.zero, TF.Gen.Poly.new]
  generalize normalize F p = q
  rcases q with _ | ⟨c, cs⟩
  · rfl
  · rw [if_neg (by simp only [List.length_cons, beq_iff_eq]; omega), List.length_cons, toUsize?_sub_one, Option.bind_some]
    have hS := length_squareRows F (c :: cs) (List.cons_ne_nil _ _)
    simp only [List.length_cons] at hS
    have hfor := slow_for_eq F hL (c :: cs) (List.cons_ne_nil _ _) [] [] (List.replicate (cs.length * 2 + 1) F.zero) rfl
      (by simp only [List.length_replicate, List.length_cons]; omega)
    refine (congrArg (fun o => o.bind some) hfor).trans ?_
    rw [show cs.length * 2 + 1 = (squareRows F (c :: cs)).length by omega, zipWith_replicate_zero F hL.zero_add]
    rfl

end TF.GenBridge.Poly
