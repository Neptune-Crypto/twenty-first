import TF.Proofs.NttField
/-!
The instances the driver runs.  Three parts: the base-field transforms on canonical values are the ring theorems at
`ZMod P`, pulled back along `Nat.cast` (`cast_pullback`); the extension-field transforms act coordinatewise
(`x_coordinatewise`); on canonical input every transform returns canonical values (`Canon`, `transforms_canon`).
-/
namespace TF.NttProofs
open TF.Gen TF.Model.Ntt TF.NttFn TF.Spec

/-- the root table read in `ZMod P` -/
noncomputable def zRoot (n : Nat) : Option (ZMod P) := (primitiveRoot n).map (fun r : Nat => (r : ZMod P))

/-- a vector of naturals read in `ZMod P` -/
noncomputable def zvec (x : Array Nat) : Nat → ZMod P := fun j => ((x.getD j 0 : ℕ) : ZMod P)

theorem toFn_map_cast (x : Array Nat) : toFn (x.map (fun n : Nat => (n : ZMod P))) = zvec x := by
  funext i
  have := getD_map (fun n : Nat => (n : ZMod P)) x i 0
  simp only [Nat.cast_zero] at this
  simp [toFn, zvec, this]

theorem root_zmod (L : Nat) (hL : L ≤ 32) :
    ∃ r, primitiveRoot (2^L) = some r ∧ 0 < r ∧ r < P ∧ (0 < L → ((r : ℕ) : ZMod P)^(2^(L-1)) = -1) := by
  obtain ⟨r, hr, h0, hlt, hp⟩ := primitiveRoot_pow2 L hL
  refine ⟨r, hr, h0, hlt, ?_⟩
  intro hpos
  rw [if_neg (by omega)] at hp
  exact cast_pow_eq_neg_one r _ hp

theorem cast_ne_zero_of_lt (r : Nat) (h0 : 0 < r) (hlt : r < P) : ((r : ℕ) : ZMod P) ≠ 0 := by
  intro h
  have := (cast_eq_zero_iff r).1 h
  rw [Nat.mod_eq_of_lt hlt] at this
  omega

theorem two_pow_lt_P (L : Nat) (hL : L ≤ 32) : 2^L < P := by
  have := Nat.pow_le_pow_right (by norm_num : 0 < 2) hL
  have : (2:ℕ)^32 < P := by decide
  omega

theorem two_pow_cast_ne_zero (L : Nat) (hL : L ≤ 32) : ((2^L : ℕ) : ZMod P) ≠ 0 :=
  cast_ne_zero_of_lt (2^L) (by positivity) (two_pow_lt_P L hL)

/-- the tabulated root of order `2^L` read in `ZMod P`, with what the ring theorems ask of the root and of the length -/
theorem zRoot_spec (L : Nat) (hL : L ≤ 32) :
    ∃ r : Nat, primitiveRoot (2^L) = some r ∧ zRoot (2^L) = some (r : ZMod P) ∧
      zinv (r : ZMod P) = some (r : ZMod P)⁻¹ ∧ (r : ZMod P)⁻¹ * r = 1 ∧
      zinv0 ((2^L : ℕ) : ZMod P) * ((2^L : ℕ) : ZMod P) = 1 ∧ (0 < L → ((r : ℕ) : ZMod P)^(2^(L-1)) = -1) := by
  obtain ⟨r, hr, h0, hlt, hω⟩ := root_zmod L hL
  have hne := cast_ne_zero_of_lt r h0 hlt
  exact ⟨r, hr, by rw [zRoot, hr]; rfl, if_neg hne, inv_mul_cancel₀ hne, inv_mul_cancel₀ (two_pow_cast_ne_zero L hL), hω⟩

/-- a result over `ZMod P` on the cast vector comes from a result on canonical values (`f`, `g` a transform on the two
    instances, `hmap` its naturality under `castHom`) -/
theorem cast_pullback {f : Array Nat → Option (Array Nat)} {g : Array (ZMod P) → Option (Array (ZMod P))}
    (hmap : ∀ x, (f x).map (Array.map (fun n : Nat => (n : ZMod P))) = g (x.map (fun n : Nat => (n : ZMod P))))
    {x : Array Nat} {y' : Array (ZMod P)} (h : g (x.map (fun n : Nat => (n : ZMod P))) = some y') :
    ∃ y, f x = some y ∧ y.map (fun n : Nat => (n : ZMod P)) = y' :=
  Option.map_eq_some_iff.1 ((hmap x).trans h)

theorem map_cast_eq_iff (a b : Array Nat) :
    a.map (fun n : Nat => (n : ZMod P)) = b.map (fun n : Nat => (n : ZMod P)) ↔
      a.size = b.size ∧ ∀ i, zvec a i = zvec b i := by
  constructor
  · intro h
    have hs : a.size = b.size := by simpa using congrArg Array.size h
    refine ⟨hs, fun i => ?_⟩
    rw [← toFn_map_cast, ← toFn_map_cast, h]
  · rintro ⟨hs, h⟩
    apply Array.ext (by simpa using hs)
    intro i h1 h2
    have := h i
    simp only [Array.size_map] at h1 h2
    simpa [zvec, Array.getD_eq_getD_getElem?, h1, h2] using this

theorem ntt_b_eq_dft (L : Nat) (hL : L ≤ 31) (x : Array Nat) (hx : x.size = 2^L) :
    ∃ r y, primitiveRoot (2^L) = some r ∧ ntt bOps primitiveRoot x = some y ∧ y.size = 2^L ∧
      ∀ i, i < 2^L → zvec y i = dft (2^L) ((r : ℕ) : ZMod P) (zvec x) i := by
  obtain ⟨r, hr, hzr, _, _, _, hω⟩ := zRoot_spec L (by omega)
  obtain ⟨y', hy', hys, hyi⟩ := ntt_eq_dft_model zinv zinv0 zRoot L hL (r : ZMod P) hzr hω
    (x.map (fun n : Nat => (n : ZMod P))) (by rw [Array.size_map, hx])
  obtain ⟨y, hy, rfl⟩ := cast_pullback (ntt_map castHom primitiveRoot) hy'
  rw [toFn_map_cast, toFn_map_cast, Array.size_map] at *
  exact ⟨r, y, hr, hy, hys, hyi⟩

theorem intt_b_eq_dft (L : Nat) (hL : L ≤ 31) (x : Array Nat) (hx : x.size = 2^L) :
    ∃ r y, primitiveRoot (2^L) = some r ∧ intt bOps primitiveRoot x = some y ∧ y.size = 2^L ∧
      ∀ i, i < 2^L → zvec y i = ((2^L : ℕ) : ZMod P)⁻¹ * dft (2^L) (((r : ℕ) : ZMod P)⁻¹) (zvec x) i := by
  obtain ⟨r, hr, hzr, hzi, hinv, _, hω⟩ := zRoot_spec L (by omega)
  obtain ⟨y', hy', hys, hyi⟩ := intt_eq_dft_model zinv zinv0 zRoot L hL (r : ZMod P) _ hzr hzi hinv hω
    (x.map (fun n : Nat => (n : ZMod P))) (by rw [Array.size_map, hx])
  obtain ⟨y, hy, rfl⟩ := cast_pullback (intt_map castHom primitiveRoot) hy'
  rw [toFn_map_cast, toFn_map_cast, Array.size_map] at *
  exact ⟨r, y, hr, hy, hys, hyi⟩

theorem intt_ntt_b (L : Nat) (hL : L ≤ 31) (x : Array Nat) (hx : x.size = 2^L) :
    ∃ y z, ntt bOps primitiveRoot x = some y ∧ intt bOps primitiveRoot y = some z ∧ z.size = x.size ∧
      ∀ i, zvec z i = zvec x i := by
  obtain ⟨r, _, hzr, hzi, hinv, hn, hω⟩ := zRoot_spec L (by omega)
  obtain ⟨y', hy', hz'⟩ := intt_ntt_model zinv zinv0 zRoot L hL (r : ZMod P) _ hzr hzi hinv hn hω
    (x.map (fun n : Nat => (n : ZMod P))) (by rw [Array.size_map, hx])
  obtain ⟨y, hy, rfl⟩ := cast_pullback (ntt_map castHom primitiveRoot) hy'
  obtain ⟨z, hz, hzz⟩ := cast_pullback (intt_map castHom primitiveRoot) hz'
  exact ⟨y, z, hy, hz, (map_cast_eq_iff z x).1 hzz⟩

theorem ntt_intt_b (L : Nat) (hL : L ≤ 31) (x : Array Nat) (hx : x.size = 2^L) :
    ∃ y z, intt bOps primitiveRoot x = some y ∧ ntt bOps primitiveRoot y = some z ∧ z.size = x.size ∧
      ∀ i, zvec z i = zvec x i := by
  obtain ⟨r, _, hzr, hzi, hinv, hn, hω⟩ := zRoot_spec L (by omega)
  obtain ⟨y', hy', hz'⟩ := ntt_intt_model zinv zinv0 zRoot L hL (r : ZMod P) _ hzr hzi hinv hn hω
    (x.map (fun n : Nat => (n : ZMod P))) (by rw [Array.size_map, hx])
  obtain ⟨y, hy, rfl⟩ := cast_pullback (intt_map castHom primitiveRoot) hy'
  obtain ⟨z, hz, hzz⟩ := cast_pullback (ntt_map castHom primitiveRoot) hz'
  exact ⟨y, z, hy, hz, (map_cast_eq_iff z x).1 hzz⟩

theorem nttNoswap_b_eq_dft (L : Nat) (hL : L ≤ 32) (x : Array Nat) (hx : x.size = 2^L) :
    ∃ r y, primitiveRoot (2^L) = some r ∧ nttNoswap bOps primitiveRoot x = some y ∧ y.size = 2^L ∧
      ∀ i, i < 2^L → zvec y i = dft (2^L) ((r : ℕ) : ZMod P) (zvec x) (bitrev L i) := by
  obtain ⟨r, hr, hzr, _, _, _, hω⟩ := zRoot_spec L hL
  obtain ⟨y', hy', hys, hyi⟩ := nttNoswap_eq_dft zinv zinv0 zRoot L (r : ZMod P) hzr hω
    (x.map (fun n : Nat => (n : ZMod P))) (by rw [Array.size_map, hx])
  obtain ⟨y, hy, rfl⟩ := cast_pullback (nttNoswap_map castHom primitiveRoot) hy'
  rw [toFn_map_cast, toFn_map_cast, Array.size_map] at *
  exact ⟨r, y, hr, hy, hys, hyi⟩

theorem inttNoswap_nttNoswap_b (L : Nat) (hL : L ≤ 32) (x : Array Nat) (hx : x.size = 2^L) :
    ∃ y z, nttNoswap bOps primitiveRoot x = some y ∧ inttNoswap bOps primitiveRoot y = some z ∧ z.size = 2^L ∧
      ∀ i, i < 2^L → zvec z i = ((2^L : ℕ) : ZMod P) * zvec x i := by
  obtain ⟨r, _, hzr, hzi, hinv, _, hω⟩ := zRoot_spec L hL
  obtain ⟨y', z', hy', hz', hzs, hzv⟩ := inttNoswap_nttNoswap_model zinv zinv0 zRoot L (r : ZMod P) _ hzr hzi hinv hω
    (x.map (fun n : Nat => (n : ZMod P))) (by rw [Array.size_map, hx])
  obtain ⟨y, hy, rfl⟩ := cast_pullback (nttNoswap_map castHom primitiveRoot) hy'
  obtain ⟨z, hz, rfl⟩ := cast_pullback (inttNoswap_map castHom primitiveRoot) hz'
  rw [toFn_map_cast, toFn_map_cast, Array.size_map] at *
  exact ⟨y, z, hy, hz, hzs, hzv⟩

theorem bInv_facts (L : Nat) (hL : L ≤ 32) :
    ∃ r, primitiveRoot (2^L) = some r ∧ bInv r = some (finv r) ∧ bInv (2^L % P) = some (finv (2^L % P)) ∧
      bInv0 (2^L % P) = finv (2^L % P) := by
  obtain ⟨r, hr, h0, hlt, _⟩ := root_zmod L hL
  have hr' : r % P ≠ 0 := by rw [Nat.mod_eq_of_lt hlt]; omega
  have hn : (2^L % P) % P ≠ 0 := by
    rw [Nat.mod_mod, Nat.mod_eq_of_lt (two_pow_lt_P L hL)]
    exact Nat.pos_iff_ne_zero.1 (Nat.two_pow_pos L)
  refine ⟨r, hr, ?_, ?_, ?_⟩
  · simp [bInv, hr']
  · simp only [bInv, beq_iff_eq]
    rw [if_neg hn]
  · simp only [bInv0, beq_iff_eq]
    rw [if_neg hn]

theorem intt_via_noswap_b (L : Nat) (hL : L ≤ 31) (x : Array Nat) (hx : x.size = 2^L) :
    ∃ b c, bitreverseOrder x = some b ∧ inttNoswap bOps primitiveRoot b = some c ∧
      intt bOps primitiveRoot x = unscale bOps c := by
  obtain ⟨r, hr, hi, hn, hn0⟩ := bInv_facts L (by omega)
  exact intt_via_noswap bOps primitiveRoot L hL r (finv r) (finv (2^L % P)) hr hi hn hn0 x hx

theorem intt_via_noswap_x (L : Nat) (hL : L ≤ 31) (x : Array X3) (hx : x.size = 2^L) :
    ∃ b c, bitreverseOrder x = some b ∧ inttNoswap xOps primitiveRoot b = some c ∧
      intt xOps primitiveRoot x = some (c.map (xscale (finv (2^L % P)))) := by
  obtain ⟨r, hr, hi, hn, hn0⟩ := bInv_facts L (by omega)
  obtain ⟨b, c, hb, hc, hic⟩ := intt_via_noswap xOps primitiveRoot L hL r (finv r) (finv (2^L % P)) hr hi hn hn0 x hx
  refine ⟨b, c, hb, hc, ?_⟩
  have hcs : c.size = 2^L := by
    obtain ⟨b', hb', hbs', _⟩ := bitreverseOrder_spec L x hx
    obtain rfl : b' = b := Option.some.inj (hb'.symm.trans hb)
    rw [inttNoswap_eq xOps primitiveRoot L r (finv r) hr hi b' hbs'] at hc
    rw [← Option.some.inj hc, stagesLoop_size, hbs']
  rw [hic, unscale, hcs, show xOps.sinv (xOps.sofNat (2^L)) = some (finv (2^L % P)) from hn]
  rfl

theorem x_coordinatewise (k : Nat) (x : Array X3) :
    (ntt xOps primitiveRoot x).map (Array.map (coord k)) = ntt bOps primitiveRoot (x.map (coord k)) ∧
    (intt xOps primitiveRoot x).map (Array.map (coord k)) = intt bOps primitiveRoot (x.map (coord k)) ∧
    (nttNoswap xOps primitiveRoot x).map (Array.map (coord k)) = nttNoswap bOps primitiveRoot (x.map (coord k)) ∧
    (inttNoswap xOps primitiveRoot x).map (Array.map (coord k)) = inttNoswap bOps primitiveRoot (x.map (coord k)) := by
  have h1 := ntt_map (coordHom k) primitiveRoot x
  have h2 := intt_map (coordHom k) primitiveRoot x
  have h3 := nttNoswap_map (coordHom k) primitiveRoot x
  have h4 := inttNoswap_map (coordHom k) primitiveRoot x
  simp only [Option.map_id_fun, id_eq] at h1 h2 h3 h4
  exact ⟨h1, h2, h3, h4⟩

/-- all entries canonical -/
def Canon (x : Array Nat) : Prop := ∀ i (h : i < x.size), x[i] < P

theorem stage_canon (m : Nat) (tw : Array Nat) (x : Array Nat) : Canon (TF.Model.Ntt.stage bOps m tw x) := by
  intro i h
  simp only [TF.Model.Ntt.stage, Array.getElem_ofFn, bOps]
  split <;> exact Nat.mod_lt _ P_pos

theorem stagesLoop_canon (omega n : Nat) : ∀ f m (x : Array Nat), Canon x → Canon (stagesLoop bOps omega n f m x) := by
  intro f
  induction f with
  | zero => intro m x h; exact h
  | succ f ih => intro m x _; exact ih _ _ (stage_canon _ _ _)

theorem stageNoswap_canon (t : Nat) (z : Array Nat) (x : Array Nat) : Canon (stageNoswap bOps t z x) := by
  intro i h
  simp only [stageNoswap, Array.getElem_ofFn, bOps]
  split <;> exact Nat.mod_lt _ P_pos

theorem noswapLoop_canon (z : Array Nat) (n : Nat) : ∀ f m t (x : Array Nat), Canon x → Canon (noswapLoop bOps z n f m t x) := by
  intro f
  induction f with
  | zero => intro m t x h; exact h
  | succ f ih =>
    intro m t x h
    rw [noswapLoop]
    split
    · exact ih _ _ _ (stageNoswap_canon _ _ _)
    · exact h

theorem swapLoop_canon (log : Nat) : ∀ fuel k (a b : Array Nat), Canon a → swapLoop log fuel k a = some b → Canon b := by
  intro fuel
  induction fuel with
  | zero =>
    intro k a b h hb
    cases hb
    exact h
  | succ f ih =>
    intro k a b h hb
    rw [swapLoop] at hb
    split at hb
    · split at hb
      · rename_i hlt hbound
        refine ih _ _ _ ?_ hb
        intro i hi
        rw [Array.getElem_swap]
        split
        · exact h _ _
        · split <;> exact h _ _
      · cases hb
    · exact ih _ _ _ h hb

theorem transforms_canon (x : Array Nat) (hx : Canon x) :
    (∀ y, ntt bOps primitiveRoot x = some y → Canon y) ∧
    (∀ y, intt bOps primitiveRoot x = some y → Canon y) ∧
    (∀ y, nttNoswap bOps primitiveRoot x = some y → Canon y) ∧
    (∀ y, inttNoswap bOps primitiveRoot x = some y → Canon y) ∧
    (∀ y, bitreverseOrder x = some y → Canon y) ∧
    (∀ y, unscale bOps x = some y → Canon y) := by
  have hscale : ∀ (c : Nat) (z : Array Nat), Canon (z.map (bOps.scale c)) := fun c z i h => by
    rw [Array.getElem_map]; exact Nat.mod_lt _ P_pos
  refine ⟨fun y hy => ?_, fun y hy => ?_, fun y hy => ?_, fun y hy => ?_, fun y hy => swapLoop_canon _ _ _ _ _ hx hy,
    fun y hy => ?_⟩
  · obtain ⟨w, log, h⟩ := ntt_some_form _ _ _ _ hy
    obtain ⟨b, hb, rfl⟩ := Option.map_eq_some_iff.1 h
    exact stagesLoop_canon _ _ _ _ _ (swapLoop_canon _ _ _ _ _ hx hb)
  · obtain ⟨c, z, rfl⟩ := intt_some_form _ _ _ _ hy
    exact hscale c z
  · obtain ⟨z, rfl⟩ := nttNoswap_some_form _ _ _ _ hy
    exact noswapLoop_canon _ _ _ _ _ _ hx
  · obtain ⟨w, rfl⟩ := inttNoswap_some_form _ _ _ _ hy
    exact stagesLoop_canon _ _ _ _ _ hx
  · obtain ⟨c, rfl⟩ := unscale_some_form _ _ _ hy
    exact hscale c x

end TF.NttProofs
