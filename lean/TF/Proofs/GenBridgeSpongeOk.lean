import TF.Proofs.GenBridgeSponge
/-!
The `_ok` flags of the regenerated sponge functions (no overflow, no index out of range, no failed `try_into().unwrap()` /
`pop().unwrap()` / `assert!`) on every canonical state / block / input, from the flag of the permutation
(`permutation_ok_enc`).
-/
namespace TF.GenBridge.SpongeOk
open TF TF.Gen TF.Sponge TF.BF TF.Model.Tip5 TF.Tip5P TF.GenBridge.Tip5 TF.GenBridge.Sponge

theorem absorb_ok {st block : List Nat} (hl : st.length = 16) (hc : CanonL st) (hbl : block.length = 10)
    (hbc : CanonL block) : Loops.tip5_absorb_ok (enc st) (enc block) = true := by
  have hlen : decide (10 ≤ (enc st).length) = true := decide_eq_true (by rw [enc_length, hl]; omega)
  have hb : ((enc block).length == 10) = true := by rw [enc_length, hbl]; rfl
  have hp : Loops.tip5_permutation_ok (enc block ++ (enc st).drop 10) = true := by
    rw [← enc_drop, ← enc_append]
    exact permutation_ok_enc (by rw [List.length_append, List.length_drop, hbl, hl]) (canon_append hbc (canon_drop 10 hc))
  show (((decide (10 ≤ (enc st).length)) && ((enc block).length == 10)) &&
    (Loops.tip5_permutation_ok (enc block ++ (enc st).drop 10))) = true
  rw [hlen, hb, hp]; rfl

theorem sample_scalars_ok {st : List Nat} (hl : st.length = 16) (hc : CanonL st) (num : Nat)
    (hnum : num * 3 < 18446744073709551616) : Loops.tip5_sample_scalars_ok (enc st) num = true :=
  (gen_sample_scalars_eq hl hc num hnum).2 fun _ h1 h2 => permutation_ok_enc h1 h2

theorem pad_for_ok : ∀ (cs : List (List Nat)) (st : List Nat), st.length = 16 → CanonL st →
    (∀ c ∈ cs, c.length = 10 ∧ CanonL c) →
    Loops.tip5_pad_and_absorb_all_for_ok (cs.map enc) (enc st) = true := by
  intro cs
  induction cs with
  | nil => intro st _ _ _; rfl
  | cons c cs ih =>
    intro st hl hc hcs
    have hc1 := hcs c (List.mem_cons_self)
    have ha := gen_absorb_eq hl hc hc1.1 hc1.2
    have h1 : ((enc c).length == 10) = true := by rw [enc_length, hc1.1]; rfl
    have h2 := absorb_ok hl hc hc1.1 hc1.2
    have h3 := ih (absorb permV st c) ha.2.2 ha.2.1 (fun c' hc' => hcs c' (List.mem_cons_of_mem _ hc'))
    rw [List.map_cons, Loops.tip5_pad_and_absorb_all_for_ok]
    show (((enc c).length == 10) && (Loops.tip5_absorb_ok (enc st) (enc c) &&
      Loops.tip5_pad_and_absorb_all_for_ok (cs.map enc) (Loops.tip5_absorb (enc st) (enc c)))) = true
    rw [h1, h2, ha.1, h3]; rfl

theorem pad_and_absorb_all_ok {st input : List Nat} (hl : st.length = 16) (hc : CanonL st) (hi : CanonL input)
    (hlen : input.length + 10 < 2 ^ 64) : Loops.tip5_pad_and_absorb_all_ok (enc st) (enc input) = true := by
  obtain ⟨hnm, hch⟩ := pad_chunks_enc input hlen
  have c1 : decide ((enc input).length + 1 < 18446744073709551616) = true :=
    decide_eq_true (by rw [enc_length]; omega)
  have c2 : decide (TF.RustIter.nextMultipleOf (((enc input).length + 1) % 18446744073709551616) 10
      < 18446744073709551616) = true := by
    rw [enc_length, Nat.mod_eq_of_lt (by omega)]; exact decide_eq_true hnm
  unfold Loops.tip5_pad_and_absorb_all_ok
  simp only [c1, c2, hch, pad_for_ok (padBlocks input) st hl hc (padBlocks_canon hi)]
  rfl

theorem hash_varlen_ok {input : List Nat} (hi : CanonL input) (hlen : input.length + 10 < 2 ^ 64) :
    Loops.tip5_hash_varlen_ok (enc input) = true := by
  have hp := gen_pad_and_absorb_all_eq initState_length initState_canon hi hlen
  have h1 := hp.1
  rw [padAndAbsorbAll_eq] at h1
  simp only [Option.map_some, Option.some.injEq] at h1
  have hsq := gen_squeeze_eq hp.2.2 hp.2.1
  unfold Loops.tip5_hash_varlen_ok
  rw [gen_init_eq.1, gen_init_eq.2]
  simp only [Option.elim_some, Bool.true_and]
  rw [pad_and_absorb_all_ok initState_length initState_canon hi hlen, h1, squeeze_ok hp.2.2 hp.2.1, hsq.1]
  simp only [squeeze, Bool.true_and]
  have hl10 : (enc (List.take RATE (List.foldl (absorb permV) initState (padBlocks input)))).length = 10 := by
    rw [enc_length, List.length_take, hp.2.2]; rfl
  simp only [hl10, List.length_take]
  decide

end TF.GenBridge.SpongeOk
