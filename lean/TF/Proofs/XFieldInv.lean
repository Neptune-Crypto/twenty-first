import TF.Proofs.PolyHom
import TF.Proofs.PolyDiv
import TF.Proofs.Shah
import TF.Proofs.NttField
import TF.Proofs.XField
/-!
`XFieldElement::inverse` (model `TF.Model.XFInv.xfeInverse`, the extended-gcd route of the Rust code) returns the
multiplicative inverse of every non-zero element and panics exactly on zero.

Route
1. over `F = ZMod P` with the record `FieldOps.ofField F`: `xgcd_spec` (C09) gives a gcd that is zero or monic, divides
   both `c0 + c1 X + c2 X²` and `X³ − X + 1`, with Bézout coefficients; coprimality (`TF.Shah.xfe_coprime`, from the
   irreducibility of the cubic) forces the gcd to be `1`; `naiveDivide_spec` (C09) reduces the Bézout coefficient
   modulo the cubic to a remainder of degree `< 3`, whose (normalised, zero-padded) coefficients are the result;
2. `ZMod.val` is a homomorphism of operation records `FieldOps.ofField (ZMod P) → bfieldOps`, so by naturality
   (`TF/Proofs/PolyHom.lean`) the executable instance on canonical values returns the `val`-image of that result;
3. in `K = F_p[X]/(X³ − X + 1)` "inverse modulo the cubic" is `φv x · φv r = 1`, i.e. `xmul x r = xone` (`TF.XK.xmul_eq_xone_iff`).
-/
open Polynomial

namespace TF.XFInvProofs
open TF TF.Gen TF.Spec TF.Shah TF.XK TF.Model.Poly TF.Model.PolyD TF.Model.XFInv TF.PolyHom

local notation "FF" => FieldOps.ofField F (fun _ => none)

theorem denote_shahG : denote (shahG FF) = shahP := by
  simp only [shahG, FieldOps.ofField_one, FieldOps.ofField_zero, FieldOps.ofField_neg, denote_cons, denote_nil]
  simp only [C_neg, C_1, C_0]
  ring

theorem shahP_ne_zero : shahP ≠ 0 := shah_monic.ne_zero

/-- `From<Polynomial> for XFieldElement`: never panics and returns the three coefficients of the remainder modulo the
    cubic -/
theorem ofPolyG_spec (p : List F) :
    ∃ r0 r1 r2 q, ofPolyG FF p = some (r0, r1, r2) ∧
      denote p = q * shahP + (C r0 + C r1 * X + C r2 * X^2) := by
  obtain ⟨q, r, hdiv, heq, hdeg⟩ := TF.Proofs.PolyD.naiveDivide_spec (fun _ => none) p (shahG FF)
    (by rw [denote_shahG]; exact shahP_ne_zero)
  rw [denote_shahG] at heq hdeg
  rw [shah_degree] at hdeg
  have hn : denote (normalize FF r) = denote r := denote_normalize _ r
  have hlen : (normalize FF r).length ≤ 3 := by
    by_cases h0 : denote r = 0
    · rw [(normalize_eq_nil_iff _ r).2 h0]; simp
    · rw [length_normalize _ r h0]
      have : (denote r).natDegree < 3 := (natDegree_lt_iff_degree_lt h0).2 (by exact_mod_cast hdeg)
      omega
  unfold ofPolyG
  rw [hdiv]
  simp only [coefficients]
  rcases hr : normalize FF r with _ | ⟨c0, _ | ⟨c1, _ | ⟨c2, _ | ⟨c3, l⟩⟩⟩⟩
  · refine ⟨0, 0, 0, denote q, rfl, ?_⟩
    rw [heq, ← hn, hr]
    simp
  · refine ⟨c0, 0, 0, denote q, rfl, ?_⟩
    rw [heq, ← hn, hr]
    simp
  · refine ⟨c0, c1, 0, denote q, rfl, ?_⟩
    rw [heq, ← hn, hr]
    simp
  · refine ⟨c0, c1, c2, denote q, rfl, ?_⟩
    rw [heq, ← hn, hr]
    simp
    ring
  · rw [hr] at hlen; simp only [List.length_cons] at hlen; omega

theorem isZeroG_FF (x : F × F × F) : isZeroG FF x = true ↔ (x.1 = 0 ∧ x.2.1 = 0 ∧ x.2.2 = 0) := by
  simp [isZeroG, and_assoc]

theorem denote_toPoly (x : F × F × F) : denote (toPoly x) = C x.1 + C x.2.1 * X + C x.2.2 * X^2 := by
  simp [toPoly]; ring

/-- the model over `ZMod P`: for a non-zero element it returns an inverse modulo the cubic -/
theorem inverseG_spec (x : F × F × F) (hx : ¬ (x.1 = 0 ∧ x.2.1 = 0 ∧ x.2.2 = 0)) :
    ∃ r0 r1 r2 q, inverseG FF x = some (r0, r1, r2) ∧
      (C x.1 + C x.2.1 * X + C x.2.2 * X^2) * (C r0 + C r1 * X + C r2 * X^2) = 1 + shahP * q := by
  obtain ⟨g, u, v, hxg, hg, hdx, hds, hbez⟩ := TF.Proofs.PolyD.xgcd_spec (fun _ => none) (toPoly x) (shahG FF)
  rw [denote_toPoly] at hdx hbez
  rw [denote_shahG] at hds hbez
  have hcop := xfe_coprime x.1 x.2.1 x.2.2 hx
  have hunit : IsUnit (denote g) := hcop.isUnit_of_dvd' hdx hds
  have hg1 : denote g = 1 := by
    rcases hg with h0 | hm
    · rw [h0] at hunit; exact absurd hunit not_isUnit_zero
    · exact hm.eq_one_of_isUnit hunit
  obtain ⟨r0, r1, r2, q, hof, hu⟩ := ofPolyG_spec u
  refine ⟨r0, r1, r2, - denote v - q * (C x.1 + C x.2.1 * X + C x.2.2 * X^2), ?_, ?_⟩
  · unfold inverseG
    have hz : isZeroG FF x = false := by
      rw [← Bool.not_eq_true, isZeroG_FF]; exact hx
    rw [hz, hxg]
    exact hof
  · rw [hg1, hu] at hbez
    linear_combination -hbez

theorem inverseG_zero (x : F × F × F) (hx : x.1 = 0 ∧ x.2.1 = 0 ∧ x.2.2 = 0) : inverseG FF x = none := by
  unfold inverseG
  rw [(isZeroG_FF x).2 hx]; rfl

theorem val_eq (z : F) (n : ℕ) (hn : n < P) (h : (n : F) = z) : z.val = n := by
  subst h
  exact ZMod.val_cast_of_lt (by rw [P_val] at hn; exact hn)

theorem fmul_lt (a b : ℕ) : fmul a b < P := Nat.mod_lt _ (by decide)
theorem fneg_eq (a : ℕ) : fneg a = fsub 0 a := by unfold fneg fsub; rw [Nat.zero_add]

theorem fpow_lt (a : ℕ) (e : ℕ) : fpow a e < P := by
  cases e with
  | zero => rw [fpow]; exact Nat.mod_lt _ (by decide)
  | succ e =>
    rw [fpow]
    split
    · exact fmul_lt _ _
    · exact fmul_lt _ _

theorem cast_finv' (a : ℕ) : ((finv a : ℕ) : F) = (a : F)⁻¹ := by
  by_cases h : a % P = 0
  · have h0 : (a : F) = 0 := (TF.NttProofs.cast_eq_zero_iff a).2 h
    have hp : ((fpow a (P - 2) : ℕ) : F) = (a : F) ^ (P - 2) := TF.NttProofs.cast_fpow a (P - 2)
    rw [finv, hp, h0, inv_zero]
    exact zero_pow (by decide)
  · exact TF.NttProofs.cast_finv a h

theorem valHom : FieldOps.Hom FF bfieldOps (ZMod.val : F → ℕ) where
  zero := ZMod.val_zero
  one := val_eq _ _ (by decide) (by simp [bfieldOps])
  add := fun a b => val_eq _ _ (fadd_lt _ _) (by simp [bfieldOps, cast_fadd])
  sub := fun a b => val_eq _ _ (fsub_lt _ _) (by simp [bfieldOps, cast_fsub])
  mul := fun a b => val_eq _ _ (fmul_lt _ _) (by simp [bfieldOps, cast_fmul])
  neg := fun a => val_eq _ _ (by rw [show bfieldOps.neg = fneg from rfl, fneg_eq]; exact fsub_lt _ _)
    (by rw [show bfieldOps.neg = fneg from rfl, fneg_eq, cast_fsub]; simp)
  inv := fun a => val_eq _ _ (fpow_lt _ _) (by rw [show bfieldOps.inv = finv from rfl, cast_finv']; simp)
  isZero := fun a => by
    rw [Bool.eq_iff_iff]
    simp [bfieldOps, ZMod.val_eq_zero]

def castT (x : X3) : F × F × F := ((x.1 : F), (x.2.1 : F), (x.2.2 : F))

theorem mapT_val_castT (x : X3) (hx : canon3 x) : mapT (ZMod.val : F → ℕ) (castT x) = x := by
  obtain ⟨h0, h1, h2⟩ := hx
  rw [P_val] at h0 h1 h2
  simp only [mapT, castT]
  rw [ZMod.val_cast_of_lt h0, ZMod.val_cast_of_lt h1, ZMod.val_cast_of_lt h2]

/-- the executable model on canonical values is the `val`-image of the model over `ZMod P` -/
theorem xfeInverse_eq (x : X3) (hx : canon3 x) :
    xfeInverse x = (inverseG FF (castT x)).map (mapT (ZMod.val : F → ℕ)) := by
  rw [inverseG_map valHom, mapT_val_castT x hx]; rfl

theorem isZeroG_bfield (x : X3) : isZeroG bfieldOps x = true ↔ x = xzero := by
  obtain ⟨a, b, c⟩ := x
  simp [isZeroG, bfieldOps, xzero, and_assoc]

/-- `XFieldElement::inverse` returns the inverse: for every non-zero canonical triple the model (extended gcd
    with the cubic, reduction of the Bézout coefficient, zero padding) does not panic and returns a canonical triple
    `r` with `r·x = 1` for the product of the specification -/
theorem xfeInverse_spec (x : X3) (hx : canon3 x) (hnz : x ≠ xzero) :
    ∃ r, xfeInverse x = some r ∧ canon3 r ∧ xmul r x = xone ∧ xmul x r = xone := by
  obtain ⟨r0, r1, r2, q, hinv, hprod⟩ := inverseG_spec (castT x) (cast_triple_ne_zero x hx hnz)
  have lt (v : F) : v.val < P := ZMod.val_lt v
  have hmul : xmul x (r0.val, r1.val, r2.val) = xone := by
    rw [xmul_eq_xone_iff, φv_eq_κ, φv_eq_κ]
    simp only [ZMod.natCast_zmod_val]
    rw [κ_eq_mk, κ_eq_mk, ← map_mul]
    exact (congrArg _ hprod).trans (by rw [map_add, map_mul, AdjoinRoot.mk_self, zero_mul, add_zero, map_one])
  refine ⟨(r0.val, r1.val, r2.val), ?_, ⟨lt _, lt _, lt _⟩, xmul_eq_xone_comm _ _ hmul, hmul⟩
  rw [xfeInverse_eq x hx, hinv]; rfl

theorem xfeInverse_zero : xfeInverse xzero = none := by
  unfold xfeInverse inverseG
  rw [(isZeroG_bfield xzero).2 rfl]; rfl

theorem xfeInverse_none_iff (x : X3) (hx : canon3 x) : xfeInverse x = none ↔ x = xzero := by
  constructor
  · intro h
    by_contra hnz
    obtain ⟨r, hr, _⟩ := xfeInverse_spec x hx hnz
    rw [h] at hr; exact absurd hr (by simp)
  · rintro rfl; exact xfeInverse_zero

section raw
open TF.BF TF.Model

theorem toVal_canon (x : XF.X3) (hx : XFp.canon3 x) : canon3 (XF.toVal x) :=
  ⟨value_lt _ (Nat.lt_trans hx.1 Pn_lt_W), value_lt _ (Nat.lt_trans hx.2.1 Pn_lt_W),
    value_lt _ (Nat.lt_trans hx.2.2 Pn_lt_W)⟩

theorem ofVal_canon (v : X3) (hv : canon3 v) : XFp.canon3 (XF.ofVal v) ∧ XF.toVal (XF.ofVal v) = v := by
  obtain ⟨h0, h1, h2⟩ := hv
  have n (a : ℕ) (h : a < Pn) := new_spec a (Nat.lt_trans h Pn_lt_W)
  refine ⟨⟨(n _ h0).1, (n _ h1).1, (n _ h2).1⟩, ?_⟩
  exact Prod.ext (value_new _ h0) (Prod.ext (value_new _ h1) (value_new _ h2))

theorem toVal_inj (x y : XF.X3) (hx : XFp.canon3 x) (hy : XFp.canon3 y) (h : XF.toVal x = XF.toVal y) : x = y := by
  have h0 : bfe_value x.1 = bfe_value y.1 := congrArg Prod.fst h
  have h1 : bfe_value x.2.1 = bfe_value y.2.1 := congrArg (fun t => t.2.1) h
  have h2 : bfe_value x.2.2 = bfe_value y.2.2 := congrArg (fun t => t.2.2) h
  exact Prod.ext (repr_unique _ _ hx.1 hy.1 h0)
    (Prod.ext (repr_unique _ _ hx.2.1 hy.2.1 h1) (repr_unique _ _ hx.2.2 hy.2.2 h2))

theorem toVal_zero : XF.toVal XF.zero = xzero := by
  simp only [XF.toVal, XF.zero, xzero, val_zero]

theorem toVal_one : XF.toVal XF.one = xone := by
  simp only [XF.toVal, XF.one, xone, val_zero, val_one]

theorem canon3_zero : XFp.canon3 XF.zero := ⟨canon_zero, canon_zero, canon_zero⟩
theorem canon3_one : XFp.canon3 XF.one := ⟨canon_one, canon_zero, canon_zero⟩

/-- the word-level product formula of `XFieldElement::mul` computes the specification product of the values -/
theorem toVal_mul (x y : XF.X3) (hx : XFp.canon3 x) (hy : XFp.canon3 y) :
    XF.toVal (XF.mul x y) = xmul (XF.toVal x) (XF.toVal y) := by
  obtain ⟨hc, h0, h1, h2⟩ := XFp.mul_coeffs x y hx hy
  obtain ⟨g0, g1, g2⟩ := cast_xmul (XF.toVal x) (XF.toVal y)
  obtain ⟨c0, c1, c2⟩ := xmul_canon (XF.toVal x) (XF.toVal y)
  obtain ⟨d0, d1, d2⟩ := toVal_canon _ hc
  exact Prod.ext (cast_inj_of_lt d0 c0 (h0.trans g0.symm))
    (Prod.ext (cast_inj_of_lt d1 c1 (h1.trans g1.symm)) (cast_inj_of_lt d2 c2 (h2.trans g2.symm)))

theorem toVal_ne_zero (x : XF.X3) (hx : XFp.canon3 x) (hnz : x ≠ XF.zero) : XF.toVal x ≠ xzero := fun h =>
  hnz (toVal_inj x XF.zero hx canon3_zero (h.trans toVal_zero.symm))

/-- `XFieldElement::inverse` on raw words: for every non-zero element with canonical coefficient words the model
    does not panic and returns canonical words `r` with `r·x = x·r = 1` for the word-level product `XF.mul` (the three
    result expressions of the Rust `Mul`), and `r` is the only such element -/
theorem inverse_spec (x : XF.X3) (hx : XFp.canon3 x) (hnz : x ≠ XF.zero) :
    ∃ r, XF.inverse x = some r ∧ XFp.canon3 r ∧ XF.mul r x = XF.one ∧ XF.mul x r = XF.one ∧
      ∀ y, XFp.canon3 y → XF.mul y x = XF.one → y = r := by
  have hvx := toVal_canon x hx
  have hvnz := toVal_ne_zero x hx hnz
  obtain ⟨v, hv, hvc, hl, hr⟩ := xfeInverse_spec (XF.toVal x) hvx hvnz
  obtain ⟨hrc, hrv⟩ := ofVal_canon v hvc
  have hone := (XFp.mul_coeffs (XF.ofVal v) x hrc hx).1
  have hone' := (XFp.mul_coeffs x (XF.ofVal v) hx hrc).1
  refine ⟨XF.ofVal v, by unfold XF.inverse; rw [hv]; rfl, hrc, ?_, ?_, ?_⟩
  · apply toVal_inj _ _ hone canon3_one
    rw [toVal_mul _ _ hrc hx, hrv, hl, toVal_one]
  · apply toVal_inj _ _ hone' canon3_one
    rw [toVal_mul _ _ hx hrc, hrv, hr, toVal_one]
  · intro y hy hyx
    apply toVal_inj _ _ hy hrc
    rw [hrv]
    have : xmul (XF.toVal y) (XF.toVal x) = xone := by
      rw [← toVal_mul _ _ hy hx, hyx, toVal_one]
    exact spec_inverse_unique (XF.toVal x) _ _ hvx hvnz (toVal_canon y hy) hvc (xmul_eq_xone_comm _ _ this) hr

theorem inverse_zero : XF.inverse XF.zero = none := by
  unfold XF.inverse
  rw [toVal_zero, xfeInverse_zero]; rfl

theorem inverse_none_iff (x : XF.X3) (hx : XFp.canon3 x) : XF.inverse x = none ↔ x = XF.zero := by
  constructor
  · intro h
    by_contra hnz
    obtain ⟨r, hr, _⟩ := inverse_spec x hx hnz
    rw [h] at hr; exact absurd hr (by simp)
  · rintro rfl; exact inverse_zero

/-- `inverse_or_zero`: zero for zero, the inverse otherwise; never panics -/
theorem inverseOrZero_spec (x : XF.X3) :
    (x = XF.zero → XF.inverseOrZero x = some XF.zero) ∧ (x ≠ XF.zero → XF.inverseOrZero x = XF.inverse x) := by
  constructor
  · rintro rfl; rfl
  · intro hnz
    unfold XF.inverseOrZero
    rw [beq_false_of_ne hnz]; rfl

/-- `Div`: `a / b = a·b⁻¹`, canonical, and `(a / b)·b = a`; panics exactly for `b = 0` -/
theorem div_spec (a b : XF.X3) (ha : XFp.canon3 a) (hb : XFp.canon3 b) :
    (b = XF.zero → XF.div a b = none) ∧
    (b ≠ XF.zero → ∃ bi r, XF.inverse b = some bi ∧ XF.div a b = some r ∧ r = XF.mul a bi ∧ XFp.canon3 r ∧
      XF.mul r b = a) := by
  constructor
  · rintro rfl; unfold XF.div; rw [inverse_zero]; rfl
  · intro hnz
    obtain ⟨bi, hbi, hbc, hl, _, _⟩ := inverse_spec b hb hnz
    have hrc := (XFp.mul_coeffs a bi ha hbc).1
    refine ⟨bi, XF.mul a bi, hbi, by unfold XF.div; rw [hbi]; rfl, rfl, hrc, ?_⟩
    apply toVal_inj _ _ (XFp.mul_coeffs _ b hrc hb).1 ha
    rw [toVal_mul _ _ hrc hb, toVal_mul _ _ ha hbc, xmul_assoc, ← toVal_mul _ _ hbc hb, hl, toVal_one,
      xmul_xone _ (toVal_canon a ha)]

end raw

end TF.XFInvProofs
