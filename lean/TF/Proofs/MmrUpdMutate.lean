import TF.Proofs.MmrAMap
import TF.Proofs.MmrMember
import TF.Proofs.MmrNodeIndex
/-!
Helper lemmas for C05 / C11, leaf mutations: what the routines that recompute digests along a mutated leaf's path have in
common (`sibPath` as a list of block digests, the walk `deducible`, the replacement loop, `applyL`), and
`update_from_leaf_mutation` (`TF/Model/MmrMember.lean`) against the from-scratch authentication paths.  The batch
routines are in `TF/Proofs/MmrBatchMutate.lean`.

Notation: the node `(l, b)` is the root of the aligned block `b` of `2^l` leaves; its digest is `sub H f l b`, its
post-order index `nodeIdx l b`.  The `t`-th digest of the path of leaf `i` belongs to the node `(t, sibBlk (i / 2^t))`;
a mutation of leaf `j` changes the nodes `(t, j / 2^t)`.
-/
namespace TF.MmrE
open TF TF.Gen TF.Spec.MmrE TF.Model.MmrE TF.Model.Mmr

section Sub
variable {D : Type} (H : D → D → D)

theorem sibPath_getElem (f : Nat → D) : ∀ (up l j k : Nat) (hk : k < (sibPath H f l up j).length),
    (sibPath H f l up j)[k] = sub H f (l + k) (sibBlk (j / 2 ^ k)) := by
  intro up
  induction up with
  | zero => intro l j k hk; simp [sibPath] at hk
  | succ up ih =>
    intro l j k hk
    cases k with
    | zero => simp [sibPath]
    | succ k =>
      simp only [sibPath, List.getElem_cons_succ]
      rw [ih (l + 1) (j / 2) k (by simpa [sibPath] using hk), ← div_pow_succ']
      congr 1; omega

theorem sibPath_eq_map (f : Nat → D) (up l j : Nat) :
    sibPath H f l up j = (List.range up).map (fun k => sub H f (l + k) (sibBlk (j / 2 ^ k))) := by
  apply List.ext_getElem
  · simp [sibPath_length]
  · intro k h1 h2
    rw [sibPath_getElem]; simp

theorem sibPath_take (f : Nat → D) (up l j s : Nat) (hs : s ≤ up) :
    (sibPath H f l up j).take s = sibPath H f l s j := by
  obtain ⟨v, rfl⟩ : ∃ v, up = s + v := ⟨up - s, by omega⟩
  rw [sibPath_split, List.take_left' (sibPath_length H f s l j)]

theorem sibPath_dropLast (f : Nat → D) (up l j : Nat) :
    (sibPath H f l up j).dropLast = sibPath H f l (up - 1) j := by
  rw [List.dropLast_eq_take, sibPath_length, sibPath_take H f up l j (up - 1) (by omega)]

theorem authPathOf_eq_map (g : Nat → D) (n i : Nat) :
    authPathOf H g n i = (List.range (locate n i).1).map (fun t => sub H g t (sibBlk (i / 2 ^ t))) := by
  unfold authPathOf; rw [sibPath_eq_map]; simp

end Sub


section Walk
variable {D : Type} [DecidableEq D] (H : D → D → D)

/-- the insertions of a walk of `up` steps from the node `(l, jb)`: the ancestors with their digests in `f` -/
def walkIns (f : Nat → D) : (up l jb : Nat) → AMap D → AMap D
  | 0, _, _, m => m
  | up+1, l, jb, m => walkIns f up (l + 1) (jb / 2) (m.insert (nodeIdx (l + 1) (jb / 2)) (sub H f (l + 1) (jb / 2)))

omit [DecidableEq D] in
theorem walkIns_get?_other (f : Nat → D) (key : Nat) : ∀ (up l jb : Nat) (m : AMap D),
    (∀ k < up, key ≠ nodeIdx (l + k + 1) (jb / 2 ^ (k + 1))) →
    AMap.get? (walkIns H f up l jb m) key = AMap.get? m key := by
  intro up
  induction up with
  | zero => intros; rfl
  | succ up ih =>
    intro l jb m h
    rw [walkIns, ih (l + 1) (jb / 2)]
    · rw [get?_insert, if_neg]
      have := h 0 (by omega)
      simpa using fun e => this e.symm
    · intro k hk
      have := h (k + 1) (by omega)
      rw [div_pow_succ' jb (k + 1)] at this
      have e : l + (k + 1) + 1 = l + 1 + k + 1 := by omega
      rw [e] at this; exact this

omit [DecidableEq D] in
theorem walkIns_get?_anc (f : Nat → D) : ∀ (up l jb : Nat) (m : AMap D) (k : Nat), k < up →
    AMap.get? (walkIns H f up l jb m) (nodeIdx (l + k + 1) (jb / 2 ^ (k + 1)))
      = some (sub H f (l + k + 1) (jb / 2 ^ (k + 1))) := by
  intro up
  induction up with
  | zero => intros; omega
  | succ up ih =>
    intro l jb m k hk
    rw [walkIns]
    cases k with
    | zero =>
      rw [walkIns_get?_other]
      · simp [get?_insert]
      · intro k' _
        have := nodeIdx_lt_ancestor (l + 1) (jb / 2) (k' + 1) (by omega)
        have e : l + 1 + (k' + 1) = l + 1 + k' + 1 := by omega
        rw [e] at this
        simp only [Nat.zero_add, Nat.add_zero, Nat.pow_one]
        omega
    | succ k =>
      have := ih (l + 1) (jb / 2) (m.insert (nodeIdx (l + 1) (jb / 2)) (sub H f (l + 1) (jb / 2))) k (by omega)
      rw [div_pow_succ' jb (k + 1)]
      have e : l + (k + 1) + 1 = l + 1 + k + 1 := by omega
      rw [e]; exact this

omit [DecidableEq D] in
/-- the walk up a from-scratch path of `g0`, from the node `(l, jb)` with its digest in `f`: if every sibling digest
    taken (from the path, or from the map when `useMap` and present) is the digest in `f` of the sibling block, the
    walk reaches `(l + u, jb / 2^u)` with its digest in `f` and stores the ancestors passed with their digests in `f`
    (all `u` of them, or all but the last when `insertLast` is off).  `l + u ≤ 63`, index below `2^64`: the domain of
    `siblingAndParent_spec` -/
theorem deducible_walk (g0 f : Nat → D) (useMap il : Bool) : ∀ (u l jb : Nat) (m : AMap D),
    l + u ≤ 63 → nodeIdx (l + u) (jb / 2 ^ u) < 2 ^ 64 →
    (∀ k < u, (if useMap then (AMap.get? m (nodeIdx (l + k) (sibBlk (jb / 2 ^ k)))).getD (sub H g0 (l + k) (sibBlk (jb / 2 ^ k)))
        else sub H g0 (l + k) (sibBlk (jb / 2 ^ k))) = sub H f (l + k) (sibBlk (jb / 2 ^ k))) →
    deducible H none false useMap il (sibPath H g0 l u jb) (nodeIdx l jb) (sub H f l jb) m
      = some (walkIns H f (if il then u else u - 1) l jb m, sub H f (l + u) (jb / 2 ^ u)) := by
  intro u
  induction u with
  | zero => intro l jb m _ _ _; cases il <;> simp [deducible, walkIns, sibPath]
  | succ u ih =>
    intro l jb m hl hlt hs
    have hanc := nodeIdx_le_ancestor (l + 1) (jb / 2) u
    have e1 : l + 1 + u = l + (u + 1) := by omega
    rw [← div_pow_succ', e1] at hanc
    have hpar : nodeIdx (l + 1) (jb / 2) < 2 ^ 64 := by omega
    have h0 := hs 0 (by omega)
    simp only [Nat.add_zero, Nat.pow_zero, Nat.div_one] at h0
    have hacc : (if decide (jb % 2 = 1) = true then H (sub H f l (sibBlk jb)) (sub H f l jb)
        else H (sub H f l jb) (sub H f l (sibBlk jb))) = sub H f (l + 1) (jb / 2) := by
      rw [← step_sib H f l jb]
      by_cases hp : jb % 2 = 0
      · have : ¬ jb % 2 = 1 := by omega
        simp [hp]
      · have : jb % 2 = 1 := by omega
        simp [this]
    -- the next round sees the same sibling digests: the key just stored is no sibling of a later level
    have hnext : ∀ m' : AMap D, (∀ k, AMap.get? m' (nodeIdx (l + 1 + k) (sibBlk (jb / 2 / 2 ^ k)))
          = AMap.get? m (nodeIdx (l + 1 + k) (sibBlk (jb / 2 / 2 ^ k)))) →
        deducible H none false useMap il (sibPath H g0 (l + 1) u (jb / 2)) (nodeIdx (l + 1) (jb / 2))
            (sub H f (l + 1) (jb / 2)) m'
          = some (walkIns H f (if il then u else u - 1) (l + 1) (jb / 2) m', sub H f (l + (u + 1)) (jb / 2 ^ (u + 1))) := by
      intro m' hm'
      rw [ih (l + 1) (jb / 2) m' (by omega) (by rw [← div_pow_succ', e1]; exact hlt) (by
        intro k hk
        have hk' := hs (k + 1) (by omega)
        rw [div_pow_succ' jb k, show l + (k + 1) = l + 1 + k by omega] at hk'
        rw [hm' k]
        exact hk'), ← div_pow_succ', e1]
    have hins : ∀ k, AMap.get? (m.insert (nodeIdx (l + 1) (jb / 2)) (sub H f (l + 1) (jb / 2)))
          (nodeIdx (l + 1 + k) (sibBlk (jb / 2 / 2 ^ k))) = AMap.get? m (nodeIdx (l + 1 + k) (sibBlk (jb / 2 / 2 ^ k))) := by
      intro k
      rw [get?_insert, if_neg]
      intro he
      obtain ⟨ha, hb⟩ := nodeIdx_inj _ _ _ _ hpar he
      have hk0 : k = 0 := by omega
      subst hk0
      simp only [Nat.pow_zero, Nat.div_one] at hb
      exact sibBlk_ne _ hb.symm
    rw [sibPath, deducible]
    simp only [reduceCtorEq, if_false, Bool.false_and, Bool.false_eq_true, siblingAndParent_spec l jb (by omega) hpar,
      h0, hacc]
    cases il with
    | true =>
      simp only [Bool.not_true, Bool.and_false, Bool.false_eq_true, if_false, if_true]
      rw [hnext _ hins, walkIns]
      rfl
    | false =>
      cases u with
      | zero => simp [sibPath, deducible, walkIns]
      | succ u =>
        simp only [sibPath, List.isEmpty_cons, Bool.false_and, Bool.false_eq_true, if_false]
        have := hnext _ hins
        simp only [sibPath, Bool.false_eq_true, if_false] at this
        rw [this, Nat.add_sub_cancel, Nat.add_sub_cancel, walkIns]

omit [DecidableEq D] in
theorem deducible_skipLast (useMap il : Bool) : ∀ (path : List D) (ni : Nat) (acc : D) (m : AMap D),
    deducible H none true useMap il path ni acc m = deducible H none false useMap true path.dropLast ni acc m := by
  intro path
  induction path with
  | nil => intros; simp [deducible]
  | cons hash rest ih =>
    intro ni acc m
    cases rest with
    | nil => simp [deducible]
    | cons r rs =>
      rw [List.dropLast_cons_cons, deducible, deducible]
      simp only [reduceCtorEq, if_false, List.isEmpty_cons, Bool.and_false, Bool.false_eq_true, Bool.false_and]
      cases siblingAndParent ni with
      | none => rfl
      | some t =>
        obtain ⟨isR, sib, par⟩ := t
        simp only
        rw [ih]
        simp

omit [DecidableEq D] in
theorem deducible_walk_skipLast (g0 f : Nat → D) (useMap il : Bool) (u l jb : Nat) (m : AMap D)
    (hl : l + (u - 1) ≤ 63) (hlt : nodeIdx (l + (u - 1)) (jb / 2 ^ (u - 1)) < 2 ^ 64)
    (hs : ∀ k < u - 1,
      (if useMap then (AMap.get? m (nodeIdx (l + k) (sibBlk (jb / 2 ^ k)))).getD (sub H g0 (l + k) (sibBlk (jb / 2 ^ k)))
        else sub H g0 (l + k) (sibBlk (jb / 2 ^ k))) = sub H f (l + k) (sibBlk (jb / 2 ^ k))) :
    deducible H none true useMap il (sibPath H g0 l u jb) (nodeIdx l jb) (sub H f l jb) m
      = some (walkIns H f (u - 1) l jb m, sub H f (l + (u - 1)) (jb / 2 ^ (u - 1))) := by
  rw [deducible_skipLast, sibPath_dropLast, deducible_walk H g0 f useMap true (u - 1) l jb m hl hlt hs]
  rfl

omit [DecidableEq D] in
theorem deducible_stop : ∀ (s : Nat) (path : List D) (l jb : Nat) (acc : D) (m : AMap D), s ≤ path.length →
    l + s ≤ 63 → nodeIdx (l + s) (jb / 2 ^ s) < 2 ^ 64 →
    deducible H (some (nodeIdx (l + s) (jb / 2 ^ s))) false false true path (nodeIdx l jb) acc m
      = deducible H none false false true (path.take s) (nodeIdx l jb) acc m := by
  intro s
  induction s with
  | zero =>
    intro path l jb acc m _ _ _
    cases path with
    | nil => simp [deducible]
    | cons hash rest => simp [deducible]
  | succ s ih =>
    intro path l jb acc m hs hl hlt
    cases path with
    | nil => simp at hs
    | cons hash rest =>
      have hne : nodeIdx (l + (s + 1)) (jb / 2 ^ (s + 1)) ≠ nodeIdx l jb := by
        have := nodeIdx_lt_ancestor l jb (s + 1) (by omega); omega
      rw [List.take_succ_cons, deducible, deducible]
      simp only [Option.some.injEq, hne, if_false, reduceCtorEq, Bool.false_and, Bool.false_eq_true]
      have hanc := nodeIdx_le_ancestor (l + 1) (jb / 2) s
      have e1 : l + 1 + s = l + (s + 1) := by omega
      rw [← div_pow_succ', e1] at hanc
      rw [siblingAndParent_spec l jb (by omega) (by omega)]
      simp only [Bool.not_true, Bool.and_false, Bool.false_eq_true, if_false]
      have := ih rest (l + 1) (jb / 2) (if decide (jb % 2 = 1) = true then H hash acc else H acc hash)
        (AMap.insert m (nodeIdx (l + 1) (jb / 2)) (if decide (jb % 2 = 1) = true then H hash acc else H acc hash))
        (by simpa using hs) (by omega) (by rw [← div_pow_succ', e1]; exact hlt)
      rw [← div_pow_succ', e1] at this
      exact this

end Walk

section Repl
variable {D : Type} [DecidableEq D]

/-- the replacement loop in its two comparing modes (`stopAfterFirst` or not): if, for every slot, the digest in the map — or, when there is none, the old
    digest — is the new digest, the result is the new path and the flag says whether it differs; with
    `stopAfterFirst` provided at most one slot changes -/
theorem replaceFromMap_spec (m : AMap D) (P Q : Nat → D) (K : Nat → Nat) (saf : Bool) : ∀ L : List Nat,
    (∀ t ∈ L, (AMap.get? m (K t)).getD (P t) = Q t) →
    (saf = true → L.Pairwise (fun t t' => P t = Q t ∨ P t' = Q t')) →
    ∃ b, replaceFromMap m true saf (L.map P) (L.map K) = (L.map Q, b) ∧ (b = true ↔ L.map Q ≠ L.map P) := by
  intro L
  induction L with
  | nil => intro _ _; exact ⟨false, by simp [replaceFromMap], by simp⟩
  | cons t L ih =>
    intro h hp
    have ht := h t (by simp)
    obtain ⟨b, hb, hbi⟩ := ih (fun t' ht' => h t' (by simp [ht']))
      (fun hs => (List.pairwise_cons.mp (hp hs)).2)
    simp only [List.map_cons, replaceFromMap]
    cases hg : AMap.get? m (K t) with
    | none =>
      rw [hg] at ht
      have : P t = Q t := ht
      simp only [hb]
      exact ⟨b, by rw [this], by rw [hbi, this]; simp⟩
    | some v =>
      rw [hg] at ht
      have hv : v = Q t := ht
      subst hv
      simp only [Bool.true_and, beq_iff_eq]
      by_cases he : P t = Q t
      · rw [if_pos he]
        simp only [hb]
        exact ⟨b, by rw [he], by rw [hbi, he]; simp⟩
      · rw [if_neg he]
        cases saf with
        | false =>
          simp only [Bool.false_eq_true, if_false, hb]
          exact ⟨true, rfl, by simp [Ne.symm he]⟩
        | true =>
          simp only [if_true]
          have hpw := (List.pairwise_cons.mp (hp rfl)).1
          have : L.map P = L.map Q := by
            apply List.map_congr_left
            intro t' ht'
            rcases hpw t' ht' with h' | h'
            · exact absurd h' he
            · exact h'
          exact ⟨true, by rw [this], by simp [Ne.symm he]⟩

theorem replaceFromMap_spec_ff (m : AMap D) (P Q : Nat → D) (K : Nat → Nat) : ∀ L : List Nat,
    (∀ t ∈ L, (AMap.get? m (K t)).getD (P t) = Q t) →
    (replaceFromMap m false false (L.map P) (L.map K)).1 = L.map Q := by
  intro L
  induction L with
  | nil => intro _; simp [replaceFromMap]
  | cons t L ih =>
    intro h
    have ht := h t (by simp)
    have := ih (fun t' ht' => h t' (by simp [ht']))
    simp only [List.map_cons, replaceFromMap]
    cases hg : AMap.get? m (K t) with
    | none =>
      rw [hg] at ht
      simp only [this]
      rw [show P t = Q t from ht]
    | some v =>
      rw [hg] at ht
      simp only [Bool.false_and, Bool.false_eq_true, if_false, this]
      rw [show v = Q t from ht]

end Repl

theorem anc_idx_lt (n i t : Nat) (h : i < n) (hn : n < 2 ^ 63) (ht : t ≤ (locate n i).1) :
    nodeIdx t (i / 2 ^ t) < 2 ^ 64 :=
  nodeIdx_lt_of_block t _ n (anc_block_le n i t h ht) hn

theorem sib_idx_lt (n i t : Nat) (h : i < n) (hn : n < 2 ^ 63) (ht : t < (locate n i).1) :
    nodeIdx t (sibBlk (i / 2 ^ t)) < 2 ^ 64 := by
  apply nodeIdx_lt_of_block t _ n _ hn
  have h1 := sib_block_le (i / 2 ^ t) t
  rw [← div_pow_succ] at h1
  have := anc_block_le n i (t + 1) h (by omega)
  omega

theorem own_node_indices (n i : Nat) (h : i < n) (hn : n < 2 ^ 63) :
    get_node_indices i (locate n i).1
      = some ((List.range (locate n i).1).map (fun t => nodeIdx t (sibBlk (i / 2 ^ t)))) :=
  get_node_indices_spec i _ (by omega) (by have := height_le_62 n i h hn; omega)
    (anc_idx_lt n i _ h hn (Nat.le_refl _))

theorem own_direct_path (n i : Nat) (h : i < n) (hn : n < 2 ^ 63) :
    get_direct_path_indices i (locate n i).1
      = some ((List.range ((locate n i).1 + 1)).map (fun t => nodeIdx t (i / 2 ^ t))) :=
  get_direct_path_indices_spec i _ (by omega) (by have := height_le_62 n i h hn; omega)
    (anc_idx_lt n i _ h hn (Nat.le_refl _))

theorem meet_height (n i j t : Nat) (h : i < n) (ht : t < (locate n i).1) (hm : sibBlk (i / 2 ^ t) = j / 2 ^ t) :
    t < (locate n j).1 := by
  have h1 := anc_block_le n i (t + 1) h (by omega)
  have h2 : j / 2 ^ (t + 1) = i / 2 ^ (t + 1) := meet_above i j t (t + 1) hm (by omega)
  rw [← h2] at h1
  have := locate_height_ge' (t + 1) n j h1
  omega

theorem mem_eraseDupsNat (x : Nat) : ∀ l : List Nat, x ∈ eraseDupsNat l ↔ x ∈ l := by
  intro l
  induction l with
  | nil => simp [eraseDupsNat]
  | cons y ys ih =>
    simp only [eraseDupsNat, List.mem_cons, List.mem_filter, ih, decide_eq_true_eq]
    constructor
    · rintro (h | ⟨h, _⟩)
      · exact Or.inl h
      · exact Or.inr h
    · rintro (h | h)
      · exact Or.inl h
      · by_cases hx : x = y
        · exact Or.inl hx
        · exact Or.inr ⟨h, hx⟩

theorem nodup_eraseDupsNat : ∀ l : List Nat, (eraseDupsNat l).Nodup := by
  intro l
  induction l with
  | nil => simp [eraseDupsNat]
  | cons y ys ih =>
    simp only [eraseDupsNat, List.nodup_cons, List.mem_filter, decide_eq_true_eq]
    exact ⟨fun h => h.2 rfl, ih.filter _⟩

section Single
variable {D : Type} [DecidableEq D] (H : D → D → D)

omit [DecidableEq D] in
theorem walkIns_get?_none (f : Nat → D) (key : Nat) (up l jb : Nat) (m : AMap D)
    (h : AMap.get? (walkIns H f up l jb m) key = none) :
    (∀ k < up, key ≠ nodeIdx (l + k + 1) (jb / 2 ^ (k + 1))) ∧ AMap.get? m key = none := by
  have hc' : ∀ k < up, key ≠ nodeIdx (l + k + 1) (jb / 2 ^ (k + 1)) := by
    intro k hk he
    rw [he, walkIns_get?_anc H f up l jb m k hk] at h
    cases h
  rw [walkIns_get?_other H f key up l jb m hc'] at h
  exact ⟨hc', h⟩

omit [DecidableEq D] in
theorem walk_get? (f : Nat → D) (j s : Nat) (m : AMap D) (hlt : nodeIdx s (j / 2 ^ s) < 2 ^ 64) (l b : Nat) :
    AMap.get? (walkIns H f s 0 j (AMap.insert m (nodeIdx 0 j) (f j))) (nodeIdx l b)
      = if l ≤ s ∧ b = j / 2 ^ l then some (sub H f l b) else AMap.get? m (nodeIdx l b) := by
  have hbound : ∀ k ≤ s, nodeIdx k (j / 2 ^ k) < 2 ^ 64 := by
    intro k hk
    obtain ⟨d, rfl⟩ : ∃ d, s = k + d := ⟨s - k, by omega⟩
    have := nodeIdx_le_ancestor k (j / 2 ^ k) d
    rw [← div_pow_add] at this
    omega
  by_cases hc : l ≤ s ∧ b = j / 2 ^ l
  · obtain ⟨hl, rfl⟩ := hc
    rw [if_pos ⟨hl, rfl⟩]
    cases l with
    | zero =>
      rw [walkIns_get?_other]
      · simp [get?_insert, sub]
      · intro k _
        have := nodeIdx_lt_ancestor 0 j (k + 1) (by omega)
        simp only [Nat.pow_zero, Nat.div_one, Nat.zero_add] at this ⊢
        omega
    | succ l =>
      have := walkIns_get?_anc H f s 0 j (AMap.insert m (nodeIdx 0 j) (f j)) l (by omega)
      simpa using this
  · rw [if_neg hc, walkIns_get?_other, get?_insert, if_neg]
    · intro he
      have := nodeIdx_inj _ _ _ _ (by simpa using hbound 0 (by omega)) he
      exact hc ⟨by omega, by rw [← this.2, ← this.1]; simp⟩
    · intro k hk he
      have := nodeIdx_inj _ _ _ _ (hbound (k + 1) (by omega)) (by simpa using he.symm)
      exact hc ⟨by omega, by rw [← this.2, this.1]⟩

theorem updateFromLeafMutation_spec (g : Nat → D) (n i j : Nat) (d : D) (hi : i < n) (hj : j < n) (hn : n < 2 ^ 63) :
    ∃ b, updateFromLeafMutation H (authPathOf H g n i) i ⟨j, d, authPathOf H g n j⟩
        = some (authPathOf H (Function.update g j d) n i, b) ∧
      (b = false → authPathOf H (Function.update g j d) n i = authPathOf H g n i) ∧
      (b = true ↔ ∃ t < (locate n i).1, sibBlk (i / 2 ^ t) = j / 2 ^ t) := by
  have hli := authPathOf_length H g n i
  have hlj := authPathOf_length H g n j
  have hO := own_node_indices n i hi hn
  have hA := own_direct_path n j hj hn
  have hhj := height_le_62 n j hj hn
  generalize hOd : (List.range (locate n i).1).map (fun t => nodeIdx t (sibBlk (i / 2 ^ t))) = O at hO
  generalize hAd : (List.range ((locate n j).1 + 1)).map (fun t => nodeIdx t (j / 2 ^ t)) = A at hA
  have memO : ∀ x, x ∈ O ↔ ∃ t < (locate n i).1, x = nodeIdx t (sibBlk (i / 2 ^ t)) := by
    intro x; rw [← hOd]; simp only [List.mem_map, List.mem_range]
    exact ⟨fun ⟨t, a, b⟩ => ⟨t, a, b.symm⟩, fun ⟨t, a, b⟩ => ⟨t, a, b.symm⟩⟩
  have memA : ∀ x, x ∈ A ↔ ∃ t ≤ (locate n j).1, x = nodeIdx t (j / 2 ^ t) := by
    intro x; rw [← hAd]; simp only [List.mem_map, List.mem_range]
    exact ⟨fun ⟨t, a, b⟩ => ⟨t, by omega, b.symm⟩, fun ⟨t, a, b⟩ => ⟨t, by omega, b.symm⟩⟩
  -- an element of the intersection is a meeting point
  have meet : ∀ x, x ∈ O → x ∈ A → ∃ t < (locate n i).1, x = nodeIdx t (sibBlk (i / 2 ^ t)) ∧
      sibBlk (i / 2 ^ t) = j / 2 ^ t := by
    intro x hxO hxA
    obtain ⟨t, ht, rfl⟩ := (memO x).mp hxO
    obtain ⟨a, ha, he⟩ := (memA _).mp hxA
    have := nodeIdx_inj _ _ _ _ (sib_idx_lt n i t hi hn ht) he
    exact ⟨t, ht, rfl, by rw [this.2, this.1]⟩
  unfold updateFromLeafMutation
  simp only [hli, hlj, hO, hA, Option.bind_eq_bind, Option.bind_some]
  generalize hL : List.filter (fun x => A.contains x) (eraseDupsNat O) = L
  have memL : ∀ x, x ∈ L ↔ x ∈ O ∧ x ∈ A := by
    intro x; rw [← hL]; simp [List.mem_filter, mem_eraseDupsNat]
  have ndL : L.Nodup := by rw [← hL]; exact (nodup_eraseDupsNat O).filter _
  match L, memL, ndL with
  | [], memL, _ =>
    have nomeet : ∀ t < (locate n i).1, sibBlk (i / 2 ^ t) ≠ j / 2 ^ t := by
      intro t ht' hm
      have h1 := meet_height n i j t hi ht' hm
      have : nodeIdx t (sibBlk (i / 2 ^ t)) ∈ ([] : List Nat) :=
        (memL _).mpr ⟨(memO _).mpr ⟨t, ht', rfl⟩, (memA _).mpr ⟨t, by omega, by rw [hm]⟩⟩
      simp at this
    have key : authPathOf H (Function.update g j d) n i = authPathOf H g n i := by
      rw [authPathOf_eq_map, authPathOf_eq_map]
      apply List.map_congr_left
      intro t ht
      exact sub_update_ne H g j d t _ (nomeet t (List.mem_range.mp ht))
    exact ⟨false, by simp [key], fun _ => key,
      ⟨fun h => Bool.noConfusion h, fun ⟨t, ht, hm⟩ => absurd hm (nomeet t ht)⟩⟩
  | [x], memL, _ =>
    -- one meeting point `t0`: the walk stops there (`deducible_stop`), having stored the ancestors of `j` up to level `t0`;
    -- only slot `t0` of the path of `i` finds its key in the map (`walk_get?`, `meet_unique`)
    obtain ⟨hxO, hxA⟩ := (memL x).mp (by simp)
    obtain ⟨t0, ht0, rfl, hm0⟩ := meet x hxO hxA
    have ht0j := meet_height n i j t0 hi ht0 hm0
    refine ⟨true, ?_, fun h => Bool.noConfusion h, ⟨fun _ => ⟨t0, ht0, hm0⟩, fun _ => rfl⟩⟩
    simp only
    have hx : nodeIdx t0 (sibBlk (i / 2 ^ t0)) = nodeIdx (0 + t0) (j / 2 ^ t0) := by rw [hm0, Nat.zero_add]
    have hlt0 : nodeIdx t0 (j / 2 ^ t0) < 2 ^ 64 := anc_idx_lt n j t0 hj hn (by omega)
    rw [l2n_eq_nodeIdx j (by omega), hx,
      deducible_stop H t0 _ 0 j d _ (by rw [hlj]; omega) (by omega) (by simpa using hlt0)]
    have hpath : (authPathOf H g n j).take t0 = sibPath H (Function.update g j d) 0 t0 j := by
      unfold authPathOf
      rw [sibPath_take H g _ 0 j t0 (by omega)]
      have := sibPath_update_self H g j d t0 0
      simpa using this.symm
    have hw := deducible_walk H (Function.update g j d) (Function.update g j d) false true t0 0 j
      (AMap.insert [] (nodeIdx 0 j) d) (by omega) (by simpa using hlt0) (fun _ _ => rfl)
    rw [show sub H (Function.update g j d) 0 j = d by simp [sub]] at hw
    rw [hpath, hw]
    simp only [Option.bind_some, Option.pure_def, Option.some.injEq, Prod.mk.injEq, and_true, if_true]
    rw [← hOd, authPathOf_eq_map, authPathOf_eq_map]
    apply replaceFromMap_spec_ff
    intro t ht
    have hdd : Function.update g j d j = d := by simp
    have hget := walk_get? H (Function.update g j d) j t0 [] hlt0 t (sibBlk (i / 2 ^ t))
    rw [hdd, get?_nil] at hget
    rw [hget]
    split
    · rfl
    · rename_i hc
      symm
      apply sub_update_ne
      intro hm
      have := meet_unique i j t t0 hm hm0
      subst this
      exact hc ⟨Nat.le_refl _, hm⟩
  | x :: y :: rest, memL, ndL =>
    exfalso
    obtain ⟨hxO, hxA⟩ := (memL x).mp (by simp)
    obtain ⟨hyO, hyA⟩ := (memL y).mp (by simp)
    obtain ⟨t, _, rfl, hm⟩ := meet x hxO hxA
    obtain ⟨t', _, rfl, hm'⟩ := meet y hyO hyA
    have := meet_unique i j t t' hm hm'
    subst this
    simp at ndL

end Single

section Apply
variable {D : Type}

abbrev applyL (g : Nat → D) (ms : List (Nat × D)) : Nat → D := ms.foldl (fun g p => Function.update g p.1 p.2) g

theorem nodup_rev (l : List Nat) (h : l.Nodup) : l.reverse.Nodup := by
  unfold List.Nodup at *
  exact List.pairwise_reverse.mpr (h.imp Ne.symm)

theorem applyL_not_mem : ∀ (ms : List (Nat × D)) (g : Nat → D) (k : Nat), k ∉ ms.map (·.1) → applyL g ms k = g k := by
  intro ms
  induction ms with
  | nil => intros; rfl
  | cons p rest ih =>
    intro g k hk
    simp only [List.map_cons, List.mem_cons, not_or] at hk
    show applyL (Function.update g p.1 p.2) rest k = g k
    rw [ih _ k hk.2, Function.update_of_ne hk.1]

theorem applyL_mem : ∀ (ms : List (Nat × D)) (g : Nat → D) (p : Nat × D), (ms.map (·.1)).Nodup → p ∈ ms →
    applyL g ms p.1 = p.2 := by
  intro ms
  induction ms with
  | nil => intro g p _ hp; simp at hp
  | cons q rest ih =>
    intro g p hnd hp
    simp only [List.map_cons, List.nodup_cons] at hnd
    show applyL (Function.update g q.1 q.2) rest p.1 = p.2
    rcases List.mem_cons.mp hp with rfl | h
    · rw [applyL_not_mem rest _ _ hnd.1, Function.update_self]
    · exact ih _ p hnd.2 h

/-- mutations of distinct leafs commute: the order of the batch does not matter -/
theorem applyL_reverse (ms : List (Nat × D)) (g : Nat → D) (hnd : (ms.map (·.1)).Nodup) :
    applyL g ms.reverse = applyL g ms := by
  funext k
  have hnd' : (ms.reverse.map (·.1)).Nodup := by rw [List.map_reverse]; exact nodup_rev _ hnd
  by_cases hk : k ∈ ms.map (·.1)
  · obtain ⟨p, hp, rfl⟩ := List.mem_map.mp hk
    rw [applyL_mem ms g p hnd hp, applyL_mem ms.reverse g p hnd' (List.mem_reverse.mpr hp)]
  · rw [applyL_not_mem ms g k hk, applyL_not_mem ms.reverse g k (by rw [List.map_reverse, List.mem_reverse]; exact hk)]

end Apply

end TF.MmrE
