import TF.Proofs.MmrBlocks
import TF.Proofs.MmrIndex
import TF.Model.MmrMember
/-!
Appending against a *digest assignment*.

`dg l b` gives every block `(l, b)` a digest; `NodeEq H dg c` says that every block that reaches beyond the first `c`
leaves is the hash of its two halves — nothing is assumed about blocks inside the first `c` leaves, so the peaks of an
arbitrary (consistent) accumulator are opaque values (C12).  The from-scratch digests `sub H g` of a leaf list are the
assignment with `NodeEq H _ 0` (C05, C11).  `peakBlk n` lists the peaks of the MMR with `n` leaves as blocks, `dpeaks`
their digests, `sibBlks h j d` the sibling blocks on the way `d` levels up from `(h, j)`.
-/
namespace TF.MmrE
open TF TF.Gen TF.Model.Mmr TF.Model.MmrE TF.Spec.MmrE

/-- the peaks of the MMR with `n` leaves as `(height, block index)`, highest first -/
def peakBlk (n : Nat) : List (Nat × Nat) := (peakPos n).map (fun p => (p.1, p.2 / 2 ^ p.1))

theorem peakBlk_zero : peakBlk 0 = [] := by simp [peakBlk, peakPos_zero]

theorem peakBlk_length (n : Nat) : (peakBlk n).length = TF.popCount n := by
  simp [peakBlk, peakPos_length]

theorem peakBlk_unfold (n : Nat) (hn : n ≠ 0) :
    peakBlk n = (peakBlk (n / 2)).map (fun b => (b.1 + 1, b.2)) ++ (if n % 2 = 1 then [(0, n - 1)] else []) := by
  unfold peakBlk
  rw [peakPos_unfold n hn, List.map_append, List.map_map, List.map_map]
  congr 1
  · apply List.map_congr_left
    intro p _
    simp only [Function.comp]
    rw [Nat.pow_succ, Nat.mul_comm (2 ^ p.1) 2, Nat.mul_div_mul_left _ _ (by omega : 0 < 2)]
  · by_cases h : n % 2 = 1
    · simp [h]
    · simp [h]

/-- the sibling blocks on the way up from `(h, j)`, `d` levels -/
def sibBlks (h j d : Nat) : List (Nat × Nat) := (List.range d).map (fun t => (h + t, sibBlk (j / 2 ^ t)))

theorem sibBlks_length (h j d : Nat) : (sibBlks h j d).length = d := by simp [sibBlks]

variable {D : Type} (H : D → D → D)

/-- every block of height `≥ 1` that reaches beyond the first `c` leaves is the hash of its halves -/
def NodeEq (dg : Nat → Nat → D) (c : Nat) : Prop :=
  ∀ l j, c < bend (l + 1) j → dg (l + 1) j = H (dg l (2 * j)) (dg l (2 * j + 1))

theorem NodeEq.mono {dg : Nat → Nat → D} {c c' : Nat} (h : NodeEq H dg c) (hc : c ≤ c') : NodeEq H dg c' :=
  fun l j hlt => h l j (by omega)

/-- the digests of a list of blocks -/
def dgs (dg : Nat → Nat → D) (bs : List (Nat × Nat)) : List D := bs.map (fun b => dg b.1 b.2)

/-- the digests of the peaks of the MMR with `c` leaves -/
def dpeaks (dg : Nat → Nat → D) (c : Nat) : List D := dgs dg (peakBlk c)

def shiftDg (dg : Nat → Nat → D) : Nat → Nat → D := fun l j => dg (l + 1) j

theorem dpeaks_length (dg : Nat → Nat → D) (c : Nat) : (dpeaks dg c).length = TF.popCount c := by
  simp [dpeaks, dgs, peakBlk_length]

theorem dpeaks_zero (dg : Nat → Nat → D) : dpeaks dg 0 = [] := by simp [dpeaks, dgs, peakBlk_zero]

theorem dpeaks_unfold (dg : Nat → Nat → D) (c : Nat) (hc : c ≠ 0) :
    dpeaks dg c = dpeaks (shiftDg dg) (c / 2) ++ (if c % 2 = 1 then [dg 0 (c - 1)] else []) := by
  unfold dpeaks dgs
  rw [peakBlk_unfold c hc, List.map_append, List.map_map]
  congr 1
  by_cases h : c % 2 = 1
  · simp [h]
  · simp [h]

theorem NodeEq.shift {dg : Nat → Nat → D} {c : Nat} (h : NodeEq H dg c) : NodeEq H (shiftDg dg) (c / 2) := by
  intro l j hlt
  have e := bend_succ (l + 1) j
  exact h (l + 1) j (by omega)

theorem sibBlks_succ (l j u : Nat) : sibBlks l j (u + 1) = (l, sibBlk j) :: sibBlks (l + 1) (j / 2) u :=
  map_range_succ_up (fun l' x => (l', sibBlk x)) l j u

theorem sibBlks_zero (l j : Nat) : sibBlks l j 0 = [] := by simp [sibBlks]

theorem sibBlks_getElem? (h j d i : Nat) : (sibBlks h j d)[i]? = if i < d then some (h + i, sibBlk (j / 2 ^ i)) else none := by
  unfold sibBlks
  rw [List.getElem?_map]
  by_cases hi : i < d
  · rw [List.getElem?_range hi, if_pos hi]; rfl
  · rw [List.getElem?_eq_none (by simp; omega), if_neg hi]; rfl

theorem mem_sibBlks (h j d : Nat) (sb : Nat × Nat) :
    sb ∈ sibBlks h j d ↔ ∃ t, t < d ∧ sb = (h + t, sibBlk (j / 2 ^ t)) := by
  unfold sibBlks
  rw [List.mem_map]
  constructor
  · rintro ⟨t, ht, rfl⟩; exact ⟨t, List.mem_range.mp ht, rfl⟩
  · rintro ⟨t, ht, rfl⟩; exact ⟨t, List.mem_range.mpr ht, rfl⟩

theorem dgs_sibBlks_shift (dg : Nat → Nat → D) (l j u : Nat) :
    dgs dg (sibBlks (l + 1) j u) = dgs (shiftDg dg) (sibBlks l j u) := by
  unfold dgs sibBlks shiftDg
  rw [List.map_map, List.map_map]
  apply List.map_congr_left
  intro t _
  simp only [Function.comp]
  have e : l + 1 + t = l + t + 1 := by omega
  rw [e]

theorem add64_succ (n : Nat) (h : n + 1 < 2 ^ 64) : add64 n 1 = n + 1 := by
  unfold add64 W64; omega

theorem mergeLoop_acc : ∀ (t : Nat) (st ap : List D),
    mergeLoop H t st ap = (mergeLoop H t st []).map (fun r => (r.1, ap ++ r.2)) := by
  intro t
  induction t with
  | zero => intro st ap; simp [mergeLoop]
  | succ t ih =>
    intro st ap
    match st with
    | [] => simp [mergeLoop]
    | [_] => simp [mergeLoop]
    | new :: prev :: rest =>
      simp only [mergeLoop]
      rw [ih _ (ap ++ [prev]), ih _ ([] ++ [prev])]
      cases mergeLoop H t (H prev new :: rest) [] with
      | none => rfl
      | some r => simp

/-- the merge loop of `calculate_new_peaks_from_append` against a digest assignment: the new peaks, and the popped
    peaks are the sibling blocks of the new leaf from the bottom up -/
theorem mergeLoop_dpeaks : ∀ (c : Nat) (dg : Nat → Nat → D), NodeEq H dg c →
    mergeLoop H (TF.trailingOnes c) (dg 0 c :: (dpeaks dg c).reverse) []
      = some ((dpeaks dg (c + 1)).reverse, dgs dg (sibBlks 0 c (TF.trailingOnes c))) := by
  intro c
  induction c using Nat.strongRecOn with
  | _ c ih =>
    intro dg hne
    by_cases h : c % 2 = 0
    · rw [TF.Mmr.trailingOnes_even c h]
      simp only [mergeLoop, sibBlks_zero, dgs, List.map_nil]
      rw [dpeaks_unfold dg (c + 1) (by omega)]
      have e : (c + 1) / 2 = c / 2 := by omega
      have e1 : (c + 1) % 2 = 1 := by omega
      simp only [e, e1, if_true, Nat.add_sub_cancel]
      by_cases hc : c = 0
      · subst hc; simp [dpeaks_zero]
      · rw [dpeaks_unfold dg c hc]
        have e2 : ¬ c % 2 = 1 := by omega
        simp [e2]
    · have hodd : c % 2 = 1 := by omega
      rw [TF.Mmr.trailingOnes_odd c hodd, dpeaks_unfold dg c (by omega)]
      simp only [hodd, if_true, List.reverse_append, List.reverse_cons, List.reverse_nil, List.nil_append,
        List.singleton_append, mergeLoop]
      have hp : H (dg 0 (c - 1)) (dg 0 c) = shiftDg dg 0 (c / 2) := by
        have := hne 0 (c / 2) (by unfold bend; omega)
        have e1 : 2 * (c / 2) = c - 1 := by omega
        have e2 : c - 1 + 1 = c := by omega
        rw [e1, e2] at this
        exact this.symm
      rw [hp, mergeLoop_acc H _ _ [dg 0 (c - 1)], ih (c / 2) (by omega) (shiftDg dg) hne.shift]
      have e : c / 2 + 1 = (c + 1) / 2 := by omega
      have e1 : ¬ (c + 1) % 2 = 1 := by omega
      rw [dpeaks_unfold dg (c + 1) (by omega)]
      simp only [e, e1, if_false, List.append_nil, Option.map_some, List.singleton_append]
      rw [sibBlks_succ, ← dgs_sibBlks_shift]
      have hs : sibBlk c = c - 1 := sibBlk_odd hodd
      simp [dgs, hs]

theorem calcAppend_dg (c : Nat) (dg : Nat → Nat → D) (hne : NodeEq H dg c) (hc : c + 1 < 2 ^ 64) :
    calculateNewPeaksFromAppend H c (dpeaks dg c) (dg 0 c)
      = some (dpeaks dg (c + 1), dgs dg (sibBlks 0 c (TF.trailingOnes c))) := by
  unfold calculateNewPeaksFromAppend
  rw [(TF.Mmr.rll_leaf_spec c hc).1]
  simp only [Option.bind_eq_bind, Option.pure_def]
  rw [mergeLoop_dpeaks H c dg hne]
  simp

theorem append_dg (c : Nat) (dg : Nat → Nat → D) (hne : NodeEq H dg c) (hc : c + 1 < 2 ^ 64) :
    Acc.append H ⟨c, dpeaks dg c⟩ (dg 0 c)
      = some (⟨c + 1, dpeaks dg (c + 1)⟩, dgs dg (sibBlks 0 c (TF.trailingOnes c))) := by
  unfold Acc.append
  simp only [calcAppend_dg H c dg hne hc, Option.bind_eq_bind, Option.pure_def, Option.bind_some]
  rw [add64_succ c hc]

theorem appendAll_dg (dg : Nat → Nat → D) : ∀ (xs : List D) (c : Nat), NodeEq H dg c → c + xs.length < 2 ^ 64 →
    (∀ i x, xs[i]? = some x → dg 0 (c + i) = x) →
    Acc.appendAll H xs ⟨c, dpeaks dg c⟩ = some ⟨c + xs.length, dpeaks dg (c + xs.length)⟩ := by
  intro xs
  induction xs with
  | nil => intro c _ _ _; simp [Acc.appendAll]
  | cons x xs ih =>
    intro c hne hc hx
    have hx0 : dg 0 c = x := hx 0 x (by simp)
    simp only [List.length_cons] at hc ⊢
    rw [Acc.appendAll, ← hx0, append_dg H c dg hne (by omega)]
    simp only [Option.bind_some]
    rw [ih (c + 1) (hne.mono H (by omega)) (by omega) (fun i y hy => by
      have := hx (i + 1) y (by simpa using hy)
      rw [← this]; congr 1; omega)]
    have e : c + 1 + xs.length = c + (xs.length + 1) := by omega
    rw [e]

theorem step_dg (dg : Nat → Nat → D) (c : Nat) (hne : NodeEq H dg c) (l j : Nat) (hc : c < bend (l + 1) (j / 2)) :
    (if j % 2 = 0 then H (dg l j) (dg l (sibBlk j)) else H (dg l (sibBlk j)) (dg l j)) = dg (l + 1) (j / 2) := by
  have := hne l (j / 2) hc
  unfold sibBlk
  by_cases h : j % 2 = 0
  · have e : 2 * (j / 2) = j := by omega
    rw [e] at this
    simp only [h, if_true]; rw [this]
  · have e : 2 * (j / 2) + 1 = j := by omega
    have e' : 2 * (j / 2) = j - 1 := by omega
    rw [e, e'] at this
    simp only [h, if_false]; rw [this]

theorem foldBlk_dg (dg : Nat → Nat → D) (c : Nat) (hne : NodeEq H dg c) : ∀ (u l j : Nat),
    (0 < u → c < bend (l + 1) (j / 2)) →
    foldBlk H j (dg l j) (dgs dg (sibBlks l j u)) = dg (l + u) (j / 2 ^ u) := by
  intro u
  induction u with
  | zero => intro l j _; simp [sibBlks_zero, dgs, foldBlk]
  | succ u ih =>
    intro l j hc
    have hpar := hc (by omega)
    rw [sibBlks_succ]
    simp only [dgs, List.map_cons, foldBlk]
    rw [step_dg H dg c hne l j hpar]
    have := ih (l + 1) (j / 2) (fun _ => by have := bend_le_parent (l + 1) (j / 2); omega)
    simp only [dgs] at this
    rw [this, Nat.div_div_eq_div_mul, ← Nat.pow_succ']
    congr 1; omega

theorem nodeEq_sub (g : Nat → D) (c : Nat) : NodeEq H (fun l j => sub H g l j) c := fun _ _ _ => rfl

theorem dpeaks_sub (g : Nat → D) (n : Nat) : dpeaks (fun l j => sub H g l j) n = peaks H n g := by
  rw [peaks_eq_map]
  unfold dpeaks dgs peakBlk
  rw [List.map_map]
  rfl

theorem dgs_sub_sibBlks (g : Nat → D) : ∀ (u l j : Nat),
    dgs (fun l j => sub H g l j) (sibBlks l j u) = sibPath H g l u j := by
  intro u
  induction u with
  | zero => intro l j; simp [sibBlks_zero, dgs, sibPath]
  | succ u ih =>
    intro l j
    rw [sibBlks_succ]
    have := ih (l + 1) (j / 2)
    simp only [dgs] at this
    simp only [dgs, List.map_cons, sibPath, this]

end TF.MmrE
