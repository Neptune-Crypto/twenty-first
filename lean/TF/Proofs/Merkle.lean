import TF.Model.Merkle
import TF.Spec.Merkle
/-! For C04 / C10, over an abstract hash: the `Res` monad, sibling and level arithmetic on heap indices, `step` and
`pathUp`.  The two single-path theorems of DESIGN.md Appendix A.4 (`foldPath_authPath`, `foldPath_sound`) are here too; the
multi-leaf verifier is proved sound through `refVal_sound` (MerklePaths), not through them. -/
namespace TF.Merkle
open TF.Gen

section ResLemmas
variable {α β : Type}
namespace Res
@[simp] theorem ok_bind (a : α) (f : α → Res β) : (Res.ok a >>= f) = f a := rfl
@[simp] theorem err_bind (e : Err) (f : α → Res β) : ((Res.err e : Res α) >>= f) = Res.err e := rfl
@[simp] theorem panic_bind (f : α → Res β) : ((Res.panic : Res α) >>= f) = Res.panic := rfl
@[simp] theorem pure_eq (a : α) : (pure a : Res α) = Res.ok a := rfl

theorem mapM_ok {f : α → Res β} {g : α → β} (l : List α) (h : ∀ a ∈ l, f a = .ok (g a)) :
    Res.mapM f l = .ok (l.map g) := by
  induction l with
  | nil => rfl
  | cons a as ih =>
    rw [Res.mapM, h a (List.mem_cons_self ..), Res.ok_bind, ih fun x hx => h x (List.mem_cons_of_mem _ hx)]
    rfl

/-- the first failure wins: `x` is the failure (`err e`, or `panic`) and `y` the same failure at the type of the result;
    the hypotheses say that `>>=` passes it on -/
theorem mapM_fail {f : α → Res β} {x : Res β} {y : Res (List β)} (hx : ∀ k : β → Res (List β), (x >>= k) = y)
    (hy : ∀ k : List β → Res (List β), (y >>= k) = y) (l : List α) (h : ∀ a ∈ l, f a = x ∨ ∃ b, f a = .ok b)
    (hex : ∃ a ∈ l, f a = x) : Res.mapM f l = y := by
  induction l with
  | nil => obtain ⟨_, h, _⟩ := hex; cases h
  | cons a as ih =>
    rw [Res.mapM]
    rcases h a (List.mem_cons_self ..) with h1 | ⟨b, h1⟩
    · rw [h1, hx]
    · obtain ⟨c, hc, hfc⟩ := hex
      have hc' : c ∈ as := by
        rcases List.mem_cons.1 hc with rfl | hc'
        · -- `x = ok b` is not passed on
          rw [h1] at hfc
          subst hfc
          have e : y = .ok [] := (hx fun _ => .ok []).symm
          have := hy fun _ => .panic
          rw [e] at this
          cases this
        · exact hc'
      rw [h1, Res.ok_bind, ih (fun y hy => h y (List.mem_cons_of_mem _ hy)) ⟨c, hc', hfc⟩, hy]

theorem mapM_err {f : α → Res β} {e : Err} (l : List α) (h : ∀ a ∈ l, f a = .err e ∨ ∃ b, f a = .ok b)
    (hex : ∃ a ∈ l, f a = .err e) : Res.mapM f l = .err e :=
  mapM_fail (fun _ => rfl) (fun _ => rfl) l h hex

theorem mapM_panic {f : α → Res β} (l : List α) (h : ∀ a ∈ l, f a = .panic ∨ ∃ b, f a = .ok b)
    (hex : ∃ a ∈ l, f a = .panic) : Res.mapM f l = .panic :=
  mapM_fail (fun _ => rfl) (fun _ => rfl) l h hex

theorem mapM_exists {f : α → Res β} (l : List α) (h : ∀ a ∈ l, ∃ b, f a = .ok b) :
    ∃ bs, Res.mapM f l = .ok bs ∧ bs.length = l.length ∧
      ∀ (i : Nat) (a : α), l[i]? = some a → ∃ b, bs[i]? = some b ∧ f a = .ok b := by
  induction l with
  | nil => exact ⟨[], rfl, rfl, fun _ _ h => by cases h⟩
  | cons a as ih =>
    obtain ⟨b, hb⟩ := h a (List.mem_cons_self ..)
    obtain ⟨bs, h1, h2, h3⟩ := ih fun x hx => h x (List.mem_cons_of_mem _ hx)
    have hm : Res.mapM f (a :: as) = .ok (b :: bs) := by
      rw [Res.mapM, hb, Res.ok_bind, h1]
      rfl
    refine ⟨b :: bs, hm, by rw [List.length_cons, h2, List.length_cons], ?_⟩
    intro i x hx
    cases i with
    | zero =>
      rw [List.getElem?_cons_zero] at hx
      cases hx
      exact ⟨b, rfl, hb⟩
    | succ i => exact h3 i x hx
end Res
end ResLemmas

theorem left_or_right (k : Nat) : ∃ q, k = 2*q ∨ k = 2*q+1 := ⟨k/2, by omega⟩
theorem left_div (q : Nat) : 2*q / 2 = q := Nat.mul_div_cancel_left q (by decide)
theorem right_div (q : Nat) : (2*q+1) / 2 = q := by rw [Nat.mul_add_div (by decide)]; rfl
theorem sib_left (q : Nat) : sib (2*q) = 2*q+1 := by rw [sib, if_pos (Nat.mul_mod_right 2 q)]
theorem sib_right (q : Nat) : sib (2*q+1) = 2*q := by
  rw [sib, if_neg (by rw [Nat.mul_add_mod]; decide)]; rfl

theorem sib_sib (k : Nat) : sib (sib k) = k := by
  obtain ⟨q, rfl | rfl⟩ := left_or_right k
  · rw [sib_left, sib_right]
  · rw [sib_right, sib_left]

theorem sib_div_two (k : Nat) : sib k / 2 = k / 2 := by
  obtain ⟨q, rfl | rfl⟩ := left_or_right k
  · rw [sib_left, left_div, right_div]
  · rw [sib_right, left_div, right_div]

theorem sib_ne (k : Nat) : sib k ≠ k := by
  obtain ⟨q, rfl | rfl⟩ := left_or_right k
  · rw [sib_left]; exact Nat.succ_ne_self _
  · rw [sib_right]; exact (Nat.succ_ne_self _).symm

theorem two_le_sib {k : Nat} : 2 ≤ sib k ↔ 2 ≤ k := by
  obtain ⟨q, rfl | rfl⟩ := left_or_right k
  · rw [sib_left]; omega
  · rw [sib_right]; omega

theorem sib_of_div_eq {c d : Nat} (h : c / 2 = d / 2) (hne : c ≠ d) : sib c = d := by
  obtain ⟨q, rfl | rfl⟩ := left_or_right c
  · obtain ⟨r, rfl | rfl⟩ := left_or_right d
    · rw [left_div, left_div] at h
      exact absurd (by rw [h]) hne
    · rw [left_div, right_div] at h
      rw [h, sib_left]
  · obtain ⟨r, rfl | rfl⟩ := left_or_right d
    · rw [right_div, left_div] at h
      rw [h, sib_right]
    · rw [right_div, right_div] at h
      exact absurd (by rw [h]) hne

theorem xor_one_eq_sib (k : Nat) : k ^^^ 1 = sib k := by
  have hd : (k ^^^ 1) / 2 = k / 2 := by rw [Nat.xor_div_two]; exact Nat.xor_zero _
  have hm := @Nat.xor_mod_two_eq_one k 1
  rw [← Nat.div_add_mod (k ^^^ 1) 2, hd]
  obtain ⟨q, rfl | rfl⟩ := left_or_right k
  · rw [sib_left, left_div, hm.2 (by rw [Nat.mul_mod_right]; decide)]
  · have : ((2*q+1) ^^^ 1) % 2 = 0 := by
      rcases Nat.mod_two_eq_zero_or_one ((2*q+1) ^^^ 1) with h | h
      · exact h
      · exact absurd (hm.1 h) (by rw [Nat.mul_add_mod]; decide)
    rw [sib_right, right_div, this]; rfl

theorem div_two_pow_succ (k u : Nat) : k / 2 / 2^u = k / 2^(u+1) := by
  rw [Nat.div_div_eq_div_mul, Nat.pow_succ, Nat.mul_comm]

theorem two_pow_le_of_le {a b : Nat} (h : a ≤ b) : 2^a ≤ 2^b := Nat.pow_le_pow_right (by omega) h

theorem children_level {r k : Nat} (h1 : 2^r ≤ k) (h2 : k < 2^(r+1)) : 2^(r+1) ≤ 2*k ∧ 2*k+1 < 2^(r+1+1) := by
  have e1 : 2^(r+1) = 2 * 2^r := Nat.pow_succ'
  have e2 : 2^(r+1+1) = 2 * 2^(r+1) := Nat.pow_succ'
  omega

section Core
variable {D : Type} (H : D → D → D)

theorem step_left (q : Nat) (a b : D) : step H (2*q) a b = H a b := by rw [step, if_pos (Nat.mul_mod_right 2 q)]
theorem step_right (q : Nat) (a b : D) : step H (2*q+1) a b = H b a := by
  rw [step, if_neg (by rw [Nat.mul_add_mod]; decide)]

theorem step_children (g : Nat → D) (k : Nat) : step H k (g k) (g (sib k)) = H (g (2*(k/2))) (g (2*(k/2)+1)) := by
  obtain ⟨q, rfl | rfl⟩ := left_or_right k
  · rw [step_left, sib_left, left_div]
  · rw [step_right, sib_right, right_div]

theorem step_sib (f : Nat → D) (below k : Nat) :
    step H k (nodeVal H f below k) (nodeVal H f below (sib k)) = nodeVal H f (below+1) (k/2) :=
  step_children H (nodeVal H f below) k

theorem eq_or_collision {a b c d : D} (h : H a b = H c d) : (a = c ∧ b = d) ∨ Collision H := by
  by_cases e : (a, b) = (c, d)
  · exact Or.inl (Prod.mk.inj e)
  · exact Or.inr ⟨a, b, c, d, e, h⟩

theorem step_inj {k : Nat} {v s v' s' : D} (h : step H k v s = step H k v' s') : (v = v' ∧ s = s') ∨ Collision H := by
  unfold step at h
  split at h
  · exact eq_or_collision H h
  · exact (eq_or_collision H h).imp_left And.symm

/-- completeness: folding a node up its own authentication path gives its ancestor -/
theorem foldPath_authPath (f : Nat → D) : ∀ (up below k : Nat),
    foldPath H k (nodeVal H f below k) (authPath H f below up k) = nodeVal H f (below+up) (k / 2^up) := by
  intro up
  induction up with
  | zero => intro below k; rw [authPath, foldPath, Nat.pow_zero, Nat.div_one]; rfl
  | succ u ih =>
    intro below k
    rw [authPath, foldPath, step_sib, ih, div_two_pow_succ, Nat.add_assoc, Nat.add_comm 1 u]

/-- soundness: if folding *any* value `v` along *any* path of length `up` from position `k` reproduces the true
    ancestor, then `v` is the true node value, or `H` has a collision. -/
theorem foldPath_sound (f : Nat → D) : ∀ (path : List D) (below k : Nat) (v : D),
    foldPath H k v path = nodeVal H f (below + path.length) (k / 2^path.length) →
    v = nodeVal H f below k ∨ Collision H := by
  intro path
  induction path with
  | nil => intro below k v h; rw [foldPath, List.length_nil, Nat.pow_zero, Nat.div_one] at h; exact Or.inl h
  | cons s ss ih =>
    intro below k v h
    rw [foldPath, List.length_cons, ← div_two_pow_succ, ← Nat.add_comm 1, ← Nat.add_assoc] at h
    rcases ih (below+1) (k/2) _ h with hv | hc
    · rw [← step_sib] at hv
      exact (step_inj H hv).imp_left And.left
    · exact Or.inr hc
end Core

theorem pathUp_eq (h f k : Nat) (h1 : 2^h ≤ k) (h2 : k < 2^(h+1)) (h3 : h ≤ f) :
    pathUp f k = (List.range h).map (fun j => k / 2^j) := by
  induction h generalizing f k with
  | zero =>
    have : k = 1 := by simp at h1 h2; omega
    subst this
    cases f <;> rfl
  | succ h ih =>
    cases f with
    | zero => omega
    | succ f =>
      have e1 : 2^(h+1) = 2 * 2^h := Nat.pow_succ'
      have e2 : 2^(h+1+1) = 2 * 2^(h+1) := Nat.pow_succ'
      have h0 : 1 ≤ 2^h := Nat.one_le_two_pow
      rw [pathUp, if_pos (show k > ROOT_INDEX by unfold ROOT_INDEX; omega), ih f (k/2) (by omega) (by omega) (by omega),
        List.range_succ_eq_map, List.map_cons, List.map_map, Nat.pow_zero, Nat.div_one]
      congr 1
      apply List.map_congr_left
      intro j _
      exact div_two_pow_succ k j

theorem nodePath_eq (h k : Nat) (h1 : 2^h ≤ k) (h2 : k < 2^(h+1)) :
    nodePath k = (List.range h).map (fun j => k / 2^j) :=
  pathUp_eq h k k h1 h2 (by have := @Nat.lt_two_pow_self h; omega)

/-- a small non-injective "hash" on `Nat`, used only by the non-vacuity examples of the Props files -/
def Hx (a b : Nat) : Nat := (3 * a + 5 * b + 1) % 1000003

end TF.Merkle
