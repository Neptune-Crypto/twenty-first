import TF.Proofs.PolyVal
import TF.Proofs.PolyDiv
import TF.Proofs.PolyDivNtt
/-!
Value semantics (C17) of the operations whose models live in `TF/Model/PolyDiv.lean`: two storages of the same
polynomials give the same outcome — both panic, or both return storages of the same polynomial(s).  Derived from
the `…_spec` lemmas of C09 (stated through `denote`) where those determine the result, and by a direct congruence of
the loop for `xgcd` (whose Bézout coefficients no certificate determines).  `PolyDivNtt` is imported for
`TF/Props/C17.lean`, which takes `cleanDivide_spec` and `nttConv_of_nttDft` through this file.
-/
open Polynomial

namespace TF.Proofs.PolyV
open TF TF.Model.Poly TF.Model.PolyD TF.Proofs.PolyD
variable {K : Type} [Field K] (root : Nat → Option K)
local notation "FK" => FieldOps.ofField K root

/-- both panic, or both return pairs of storages of the same two polynomials -/
def Rel2 (p q : Option (List K × List K)) : Prop :=
  match p, q with
  | none, none => True
  | some a, some b => denote a.1 = denote b.1 ∧ denote a.2 = denote b.2
  | _, _ => False

/-- both panic, or both return triples of storages of the same three polynomials -/
def Rel3 (p q : Option (List K × List K × List K)) : Prop :=
  match p, q with
  | none, none => True
  | some a, some b => denote a.1 = denote b.1 ∧ denote a.2.1 = denote b.2.1 ∧ denote a.2.2 = denote b.2.2
  | _, _ => False

theorem RelO_of_spec {o o' : Option (List K)} {P : K[X]} (h : ∃ r, o = some r ∧ denote r = P)
    (h' : ∃ r, o' = some r ∧ denote r = P) : RelO o o' := by
  obtain ⟨r, rfl, hr⟩ := h
  obtain ⟨r', rfl, hr'⟩ := h'
  simp [RelO, hr, hr']

theorem RelO_of_none {o o' : Option (List K)} (h : o = none) (h' : o' = none) : RelO o o' := by
  subst h
  subst h'
  simp [RelO]

theorem naiveDivide_congr {a a' d d' : List K} (ha : denote a = denote a') (hd : denote d = denote d') :
    Rel2 (naiveDivide FK a d) (naiveDivide FK a' d') := by
  by_cases hz : denote d = 0
  · rw [naiveDivide_zero root a d hz, naiveDivide_zero root a' d' (hd ▸ hz)]; trivial
  · obtain ⟨q, r, h1, h2, h3⟩ := naiveDivide_spec root a d hz
    obtain ⟨q', r', h1', h2', h3'⟩ := naiveDivide_spec root a' d' (hd ▸ hz)
    rw [h1, h1']
    have c := div_mod_of_certificate h2 h3
    have c' := div_mod_of_certificate h2' h3'
    exact ⟨by rw [c.1, c'.1, ha, hd], by rw [c.2, c'.2, ha, hd]⟩

theorem div_congr {a a' d d' : List K} (ha : denote a = denote a') (hd : denote d = denote d') :
    RelO (Model.PolyD.div FK a d) (Model.PolyD.div FK a' d') := by
  have h := naiveDivide_congr root ha hd
  unfold Model.PolyD.div
  revert h
  cases naiveDivide FK a d <;> cases naiveDivide FK a' d' <;> simp [Rel2, RelO]
  intro h _; exact h

theorem rem_congr {a a' d d' : List K} (ha : denote a = denote a') (hd : denote d = denote d') :
    RelO (Model.PolyD.rem FK a d) (Model.PolyD.rem FK a' d') := by
  have h := naiveDivide_congr root ha hd
  unfold Model.PolyD.rem
  revert h
  cases naiveDivide FK a d <;> cases naiveDivide FK a' d' <;> simp [Rel2, RelO]

theorem isZero_congr {a a' : List K} (h : denote a = denote a') : isZero FK a = isZero FK a' := by
  unfold isZero; rw [normalize_congr root h]

theorem degSucc_congr {a a' : List K} (h : denote a = denote a') : degSucc FK a = degSucc FK a' := by
  unfold degSucc; rw [normalize_congr root h]

/-- the Euclid loop on two storages of the same six polynomials -/
theorem xgcdLoop_congr (fuel : Nat) : ∀ {x x' y y' a0 a0' a1 a1' b0 b0' b1 b1' : List K},
    denote x = denote x' → denote y = denote y' → denote a0 = denote a0' → denote a1 = denote a1' →
    denote b0 = denote b0' → denote b1 = denote b1' →
    Rel3 (xgcdLoop FK fuel x y a0 a1 b0 b1) (xgcdLoop FK fuel x' y' a0' a1' b0' b1') := by
  induction fuel with
  | zero => intros; simp [xgcdLoop, Rel3]
  | succ fuel ih =>
    intro x x' y y' a0 a0' a1 a1' b0 b0' b1 b1' hx hy ha0 ha1 hb0 hb1
    simp only [xgcdLoop]
    rw [isZero_congr root hy]
    by_cases hz : isZero FK y' = true
    · simp only [hz, if_true]; exact ⟨hx, ha0, hb0⟩
    · simp only [hz, Bool.false_eq_true, if_false]
      have hdiv := naiveDivide_congr root hx hy
      revert hdiv
      cases h1 : naiveDivide FK x y with
      | none =>
        cases h2 : naiveDivide FK x' y' with
        | none => intro _; trivial
        | some v => intro h; exact absurd h (by simp [Rel2])
      | some v =>
        cases h2 : naiveDivide FK x' y' with
        | none => intro h; exact absurd h (by simp [Rel2])
        | some v' =>
          obtain ⟨q, r⟩ := v
          obtain ⟨q', r'⟩ := v'
          intro h
          obtain ⟨hq, hr⟩ := h
          simp only at hq hr
          exact ih hy hr ha1 (by rw [denote_sub, denote_sub, denote_mul, denote_mul, ha0, hq, ha1]) hb1
            (by rw [denote_sub, denote_sub, denote_mul, denote_mul, hb0, hq, hb1])

theorem xgcd_congr {x x' y y' : List K} (hx : denote x = denote x') (hy : denote y = denote y') :
    Rel3 (xgcd FK x y) (xgcd FK x' y') := by
  unfold xgcd
  rw [degSucc_congr root hy]
  have h := xgcdLoop_congr root (degSucc FK y' + 2) hx hy (rfl : denote [(FK).one] = denote [(FK).one])
    (rfl : denote ([] : List K) = denote []) (rfl : denote ([] : List K) = denote []) (rfl : denote [(FK).one] = denote [(FK).one])
  revert h
  cases xgcdLoop FK (degSucc FK y' + 2) x y [(FK).one] [] [] [(FK).one] with
  | none =>
    cases xgcdLoop FK (degSucc FK y' + 2) x' y' [(FK).one] [] [] [(FK).one] with
    | none => intro _; trivial
    | some v => intro h; exact absurd h (by simp [Rel3])
  | some v =>
    cases xgcdLoop FK (degSucc FK y' + 2) x' y' [(FK).one] [] [] [(FK).one] with
    | none => intro h; exact absurd h (by simp [Rel3])
    | some v' =>
      obtain ⟨g, a, b⟩ := v
      obtain ⟨g', a', b'⟩ := v'
      intro h
      obtain ⟨hg, ha, hb⟩ := h
      simp only at hg ha hb
      have hlc : leadingCoefficient FK g = leadingCoefficient FK g' := by
        unfold leadingCoefficient; rw [normalize_congr root hg]
      simp only [Rel3, hlc, denote_scalarMul, hg, ha, hb, and_self]

theorem reduce_congr (N : NttOps K) (hN : NttConv N) (ms cutoff stage2 : Nat) {a a' m m' : List K}
    (ha : denote a = denote a') (hm : denote m = denote m') :
    RelO (reduce FK N ms cutoff stage2 a m) (reduce FK N ms cutoff stage2 a' m') := by
  by_cases hz : denote m = 0
  · exact RelO_of_none (reduce_zero root N ms cutoff stage2 a m hz) (reduce_zero root N ms cutoff stage2 a' m' (hm ▸ hz))
  · have h1 := reduce_spec root N ms cutoff stage2 a m hz (fun _ => fastReduce_spec root N hN cutoff stage2 a m hz)
    have h2 := reduce_spec root N ms cutoff stage2 a' m' (hm ▸ hz)
      (fun _ => fastReduce_spec root N hN cutoff stage2 a' m' (hm ▸ hz))
    rw [← ha, ← hm] at h2
    exact RelO_of_spec h1 h2

theorem fastReduce_congr (N : NttOps K) (hN : NttConv N) (cutoff stage2 : Nat) {a a' m m' : List K}
    (ha : denote a = denote a') (hm : denote m = denote m') :
    RelO (fastReduce FK N cutoff stage2 a m) (fastReduce FK N cutoff stage2 a' m') := by
  by_cases hz : denote m = 0
  · exact RelO_of_none (fastReduce_zero root N cutoff stage2 a m hz) (fastReduce_zero root N cutoff stage2 a' m' (hm ▸ hz))
  · have h1 := fastReduce_spec root N hN cutoff stage2 a m hz
    have h2 := fastReduce_spec root N hN cutoff stage2 a' m' (hm ▸ hz)
    rw [← ha, ← hm] at h2
    exact RelO_of_spec h1 h2

end TF.Proofs.PolyV
