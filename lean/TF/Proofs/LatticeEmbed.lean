import TF.Proofs.LatticeBasic
/-!
`extract_msg (embed_msg m + noise) = m` whenever every coefficient of the noise is an integer in `(-2^14, 2^14)`
(added in the field, i.e. modulo `P`, including the wrap-around below zero).  Word arithmetic only; core Lean only.
-/
namespace TF.LatticeProofs
open TF.Gen TF.Model.Lattice

theorem foldl_range4 {β : Type} (f : β → Nat → β) (a : β) : (List.range 4).foldl f a = f (f (f (f a 0) 1) 2) 3 := rfl

theorem extractNibble_lanes (w : Nat) : extractNibble w =
    laneBit (w % 65536) + laneBit (w / 65536 % 65536) * 2 + laneBit (w / 65536 / 65536 % 65536) * 4
      + laneBit (w / 65536 / 65536 / 65536 % 65536) * 8 := by
  rw [extractNibble, foldl_range4]
  simp only [Nat.reduceMul, Nat.reducePow, Nat.zero_add, Nat.div_one, Nat.mul_one, Nat.div_div_eq_div_mul]

theorem embedNibble_bits (b s : Nat) : embedNibble b s =
    (b / 2^s % 2) * 32768 + (b / 2^(s+1) % 2) * 2147483648 + (b / 2^(s+2) % 2) * 140737488355328
      + (b / 2^(s+3) % 2) * 9223372036854775808 := by
  rw [embedNibble, foldl_range4, Nat.zero_add]
  rfl

/-- one 16-bit lane: the bit `b` at position 15 survives a noise `e` in `(-2^14, 2^14)`; what is left for the lanes
    above is off by a borrow at most -/
theorem lane_step (b S w : Nat) (e : Int) (hb : b ≤ 1) (he1 : -16384 < e) (he2 : e < 16384)
    (hw : (w : Int) = ((b * 32768 + 65536 * S : Nat) : Int) + e) :
    laneBit (w % 65536) = b ∧ ∃ e' : Int, -16384 < e' ∧ e' < 16384 ∧ ((w / 65536 : Nat) : Int) = (S : Int) + e' := by
  refine ⟨?_, ((w / 65536 : Nat) : Int) - S, by omega, by omega, by omega⟩
  unfold laneBit
  split <;> omega

theorem emod_cases (s : Int) (h1 : -16384 < s) (h2 : s < 18446744069414584321) :
    (0 ≤ s ∧ s % 18446744069414584321 = s) ∨ (s < 0 ∧ s % 18446744069414584321 = s + 18446744069414584321) := by
  by_cases h : 0 ≤ s
  · left
    exact ⟨h, Int.emod_eq_of_lt h h2⟩
  · right
    refine ⟨by omega, ?_⟩
    rw [← Int.add_emod_right s 18446744069414584321]
    exact Int.emod_eq_of_lt (by omega) (by omega)

theorem lanes_all (b0 b1 b2 b3 : Nat) (h0 : b0 ≤ 1) (h1 : b1 ≤ 1) (h2 : b2 ≤ 1) (h3 : b3 ≤ 1) (e : Int)
    (he1 : -16384 < e) (he2 : e < 16384) (w : Nat)
    (hw : w = ((((b0 * 32768 + b1 * 2147483648 + b2 * 140737488355328 + b3 * 9223372036854775808 : Nat) : Int) + e)
      % (18446744069414584321 : Int)).toNat) :
    laneBit (w % 65536) = b0 ∧ laneBit (w / 65536 % 65536) = b1 ∧ laneBit (w / 65536 / 65536 % 65536) = b2 ∧
    laneBit (w / 65536 / 65536 / 65536 % 65536) = b3 := by
  rcases emod_cases (((b0 * 32768 + b1 * 2147483648 + b2 * 140737488355328 + b3 * 9223372036854775808 : Nat) : Int) + e)
    (by omega) (by omega) with ⟨hs, hm⟩ | ⟨hs, hm⟩
  · rw [hm] at hw
    -- no wrap-around: lane `j` holds `b_j·2^15`, the lowest one plus the noise
    obtain ⟨l0, e1, a1, a1', q1⟩ := lane_step b0 (b1 * 32768 + 65536 * (b2 * 32768 + 65536 * (b3 * 32768))) w e h0 he1 he2
      (by omega)
    obtain ⟨l1, e2, a2, a2', q2⟩ := lane_step b1 (b2 * 32768 + 65536 * (b3 * 32768)) (w / 65536) e1 h1 a1 a1' (by omega)
    obtain ⟨l2, e3, a3, a3', q3⟩ := lane_step b2 (b3 * 32768) (w / 65536 / 65536) e2 h2 a2 a2' (by omega)
    obtain ⟨l3, -⟩ := lane_step b3 0 (w / 65536 / 65536 / 65536) e3 h3 a3 a3' (by rw [Nat.mul_zero, Nat.add_zero]; exact q3)
    exact ⟨l0, l1, l2, l3⟩
  · rw [hm] at hw
    -- wrap-around below zero: all bits are 0 and `w = P + e`.  The lanes of `P = 2^64 - 2^32 + 1` are
    -- `(1, 0, 0xFFFF, 0xFFFF)`: lane 0 sees the noise `e + 1`, lane 2 is `2^16 - 1`, i.e. bit 0 with noise `-1` and a
    -- carry into lane 3; the numerals are what is left above each lane.
    obtain ⟨rfl, rfl, rfl, rfl⟩ : b0 = 0 ∧ b1 = 0 ∧ b2 = 0 ∧ b3 = 0 := by omega
    obtain ⟨l0, e1, a1, a1', q1⟩ := lane_step 0 281474976645120 w (e + 1) h0 (by omega) (by omega) (by omega)
    obtain ⟨l1, e2, a2, a2', q2⟩ := lane_step 0 4294967295 (w / 65536) e1 h0 a1 a1' (by omega)
    obtain ⟨l2, e3, a3, a3', q3⟩ := lane_step 0 65536 (w / 65536 / 65536) (e2 - 1) h0 (by omega) (by omega) (by omega)
    obtain ⟨l3, -⟩ := lane_step 0 1 (w / 65536 / 65536 / 65536) e3 h0 a3 a3' (by omega)
    exact ⟨l0, l1, l2, l3⟩

/-- the field element `v + e` for an integer noise `e` -/
def addNoise (v : Nat) (e : Int) : Nat := (((v : Nat) : Int) + e) % ((P : Nat) : Int) |>.toNat

theorem P_int : ((P : Nat) : Int) = 18446744069414584321 := by decide

theorem bits_nibble (x : Nat) : x % 2 + x / 2 % 2 * 2 + x / 2 / 2 % 2 * 4 + x / 2 / 2 / 2 % 2 * 8 = x % 16 := by omega

/-- one coefficient: the four embedded bits survive any integer noise in `(-2^14, 2^14)` added modulo `P` -/
theorem nibble_noise (b s : Nat) (e : Int) (h1 : -16384 < e) (h2 : e < 16384) :
    extractNibble (addNoise (embedNibble b s) e) = b / 2^s % 16 := by
  rw [addNoise, P_int, embedNibble_bits, extractNibble_lanes]
  obtain ⟨l0, l1, l2, l3⟩ := lanes_all (b / 2^s % 2) (b / 2^(s+1) % 2) (b / 2^(s+2) % 2) (b / 2^(s+3) % 2)
    (by omega) (by omega) (by omega) (by omega) e h1 h2 _ rfl
  rw [l0, l1, l2, l3]
  simp only [Nat.pow_succ, ← Nat.div_div_eq_div_mul]
  exact bits_nibble _

theorem byte_noise (b : Nat) (hb : b < 256) (n0 n1 : Int) (h0 : -16384 < n0 ∧ n0 < 16384) (h1 : -16384 < n1 ∧ n1 < 16384) :
    extractNibble (addNoise (embedNibble b 0) n0) + 16 * extractNibble (addNoise (embedNibble b 4) n1) = b := by
  rw [nibble_noise _ _ _ h0.1 h0.2, nibble_noise _ _ _ h1.1 h1.2]
  omega

theorem embedMsg_get (msg : List Nat) (k : Nat) (hk : k < 64) :
    (embedMsg msg).getD k 0 = embedNibble (msg.getD (k / 2) 0) (if k % 2 = 0 then 0 else 4) := by
  unfold embedMsg
  rw [getD_ofFn _ k hk]

theorem embedMsg_even (msg : List Nat) (c : Nat) (hc : c < 32) :
    (embedMsg msg).getD (2*c) 0 = embedNibble (msg.getD c 0) 0 := by
  rw [embedMsg_get msg (2*c) (by omega)]
  have h1 : 2*c/2 = c := by omega
  have h2 : 2*c % 2 = 0 := by omega
  rw [h1, if_pos h2]

theorem embedMsg_odd (msg : List Nat) (c : Nat) (hc : c < 32) :
    (embedMsg msg).getD (2*c+1) 0 = embedNibble (msg.getD c 0) 4 := by
  rw [embedMsg_get msg (2*c+1) (by omega)]
  have h1 : (2*c+1)/2 = c := by omega
  have h2 : ¬ ((2*c+1) % 2 = 0) := by omega
  rw [h1, if_neg h2]

theorem extract_embed_noise (msg : List Nat) (hlen : msg.length = 32) (hb : ∀ b ∈ msg, b < 256)
    (noise : Nat → Int) (hnoise : ∀ k, k < 64 → -16384 < noise k ∧ noise k < 16384)
    (r : Ring) (hr : ∀ k, k < 64 → r.getD k 0 = addNoise ((embedMsg msg).getD k 0) (noise k)) :
    extractMsg r = msg := by
  apply List.ext_getElem (by simp [extractMsg, hlen])
  intro c h1 h2
  have hc : c < 32 := by rw [← hlen]; exact h2
  have hbc : msg[c] < 256 := hb _ (List.getElem_mem h2)
  have hget : msg.getD c 0 = msg[c] := by simp [List.getD_eq_getElem?_getD, h2]
  simp only [extractMsg, List.getElem_map, List.getElem_range]
  rw [hr (2*c) (by omega), hr (2*c+1) (by omega), embedMsg_even msg c hc, embedMsg_odd msg c hc, hget]
  exact byte_noise _ hbc _ _ (hnoise _ (by omega)) (hnoise _ (by omega))

end TF.LatticeProofs
