import TF.Model.MerkleSched
import TF.Proofs.MerkleBuild
/-! Schedule independence of the parallel phase of `CpuParallel::from_digests` (core Lean only). -/
namespace TF.Merkle
open Res

section Sched
variable {D : Type} (H : D → D → D)

theorem collectBuf_map_some (l : List D) : collectBuf (l.map some) = .ok l := by
  induction l with
  | nil => rfl
  | cons d r ih => rw [List.map_cons, collectBuf, ih]; rfl

/-- all tasks succeed: the buffer ends up with `g k` in every scheduled slot, whatever the order and however often a
    slot is scheduled -/
theorem runTasks_all_ok {f : Nat → Res D} (g : Nat → D) (σ : List Nat) (buf : List (Option D))
    (h : ∀ i ∈ σ, f i = .ok (g i) ∧ i < buf.length) :
    ∃ buf', runTasks f σ buf = .ok buf' ∧ buf'.length = buf.length ∧
      ∀ k, buf'[k]? = if k ∈ σ then some (some (g k)) else buf[k]? := by
  induction σ generalizing buf with
  | nil => exact ⟨buf, rfl, rfl, fun k => by simp⟩
  | cons i rest ih =>
    obtain ⟨hf, hi⟩ := h i (List.mem_cons_self ..)
    obtain ⟨buf', h1, h2, h3⟩ := ih (buf.set i (some (g i))) (fun x hx => by
      have := h x (List.mem_cons_of_mem _ hx)
      exact ⟨this.1, by rw [List.length_set]; exact this.2⟩)
    have hrun : runTasks f (i :: rest) buf = .ok buf' := by
      rw [runTasks, hf]
      simp only [hi, if_true, h1]
    refine ⟨buf', hrun, by rw [h2, List.length_set], fun k => ?_⟩
    rw [h3 k]
    by_cases hk : k ∈ rest
    · simp [hk]
    · by_cases hki : k = i
      · subst hki; simp [hk, hi]
      · have : i ≠ k := fun e => hki e.symm
        simp [hk, hki, List.getElem?_set_ne this]

theorem runTasks_panic {f : Nat → Res D} (σ : List Nat) (buf : List (Option D)) (hl : ∀ i ∈ σ, i < buf.length)
    (h : ∀ i ∈ σ, f i = .panic ∨ ∃ d, f i = .ok d) (hex : ∃ i ∈ σ, f i = .panic) : runTasks f σ buf = .panic := by
  induction σ generalizing buf with
  | nil => obtain ⟨_, hm, _⟩ := hex; cases hm
  | cons i rest ih =>
    rw [runTasks]
    rcases h i (List.mem_cons_self ..) with h1 | ⟨d, h1⟩
    · rw [h1]
    · obtain ⟨x, hx, hp⟩ := hex
      have hx' : x ∈ rest := by
        rcases List.mem_cons.mp hx with e | e
        · subst e; rw [h1] at hp; cases hp
        · exact e
      rw [h1]
      simp only [hl i (List.mem_cons_self ..), if_true]
      exact ih (buf.set i (some d)) (fun y hy => by rw [List.length_set]; exact hl y (List.mem_cons_of_mem _ hy))
        (fun y hy => h y (List.mem_cons_of_mem _ hy)) ⟨x, hx', hp⟩

/-- tasks that succeed or panic, run in any order that is a permutation of `0..cnt` and collected from the buffer, give
    what the sequential `mapM` gives (`k` is the rest of the computation) -/
theorem runTasks_collect {α : Type} {f : Nat → Res D} (hf : ∀ i, f i = .panic ∨ ∃ d, f i = .ok d) {sched : List Nat}
    {cnt : Nat} (hp : sched.Perm (List.range cnt)) (k : List D → Res α) :
    (do let buf ← runTasks f sched (List.replicate cnt none); let loc ← collectBuf buf; k loc) =
      (do let loc ← Res.mapM f (List.range cnt); k loc) := by
  have hmem : ∀ i, i ∈ sched ↔ i < cnt := fun i => by rw [hp.mem_iff, List.mem_range]
  by_cases hall : ∀ i < cnt, ∃ d, f i = .ok d
  · rcases Nat.eq_zero_or_pos cnt with h0 | hpos
    · subst h0
      have : sched = [] := List.perm_nil.mp (by simpa using hp)
      subst this
      rfl
    · -- a total function with the results, for `Res.mapM_ok`
      obtain ⟨d0, _⟩ := hall 0 hpos
      let g : Nat → D := fun i => match f i with
        | .ok d => d
        | _ => d0
      have hg : ∀ i < cnt, f i = .ok (g i) := fun i hi => by
        obtain ⟨d, hd⟩ := hall i hi
        simp only [g, hd]
      obtain ⟨buf', h1, h2, h3⟩ := runTasks_all_ok g sched
        (List.replicate cnt none) (fun i hi => ⟨hg i ((hmem i).mp hi), by simpa using (hmem i).mp hi⟩)
      have hbuf : buf' = ((List.range cnt).map g).map some := by
        apply List.ext_getElem?
        intro k
        rw [h3 k]
        by_cases hk : k < cnt
        · simp [(hmem k).mpr hk, hk]
        · have : ¬ k ∈ sched := fun h => hk ((hmem k).mp h)
          simp [this, hk]
      rw [Res.mapM_ok _ (fun a ha => hg a (List.mem_range.mp ha)), h1, Res.ok_bind, hbuf, collectBuf_map_some]
  · have hex : ∃ i, i < cnt ∧ f i = .panic := by
      apply Classical.byContradiction
      intro hne
      apply hall
      intro i hi
      rcases hf i with h | h
      · exact absurd ⟨i, hi, h⟩ hne
      · exact h
    obtain ⟨i0, hi0, hp0⟩ := hex
    rw [runTasks_panic sched _ (fun i hi => by simpa using (hmem i).mp hi) (fun i _ => hf i) ⟨i0, (hmem i0).mpr hi0, hp0⟩,
      Res.mapM_panic _ (fun i _ => hf i) ⟨i0, List.mem_range.mpr hi0, hp0⟩]
    rfl

/-- **one parallel level is schedule independent**: for every completion order that is a permutation of the tasks the
    level computes exactly the pure `map` of the sequential model -/
theorem parLevelSched_eq (sched : List Nat) (nodes : List D) (cnt : Nat) (hp : sched.Perm (List.range cnt)) :
    parLevelSched H sched nodes cnt = parLevel H nodes cnt :=
  runTasks_collect (fun i => hashChildren_ok_or_panic H nodes (cnt + i)) hp _

theorem parLoopSched_eq (scheds : Nat → List Nat) (hs : ∀ cnt, (scheds cnt).Perm (List.range cnt)) (cutoff : Nat)
    (fuel cnt acc : Nat) (nodes : List D) :
    parLoopSched H scheds cutoff fuel cnt acc nodes = parLoop H cutoff fuel cnt acc nodes := by
  induction fuel generalizing cnt acc nodes with
  | zero => rfl
  | succ fuel ih =>
    rw [parLoopSched, parLoop, parLevelSched_eq H _ nodes cnt (hs cnt)]
    split
    · cases parLevel H nodes cnt with
      | ok n' => exact ih _ _ n'
      | err e => rfl
      | panic => rfl
    · rfl

theorem fromDigestsSched_eq (scheds : Nat → List Nat) (hs : ∀ cnt, (scheds cnt).Perm (List.range cnt))
    (filler : D) (cutoff : Nat) (ds : List D) :
    fromDigestsSched H scheds filler cutoff ds = fromDigests H filler cutoff ds := by
  unfold fromDigestsSched fromDigests fromDigestsSchedFuel fromDigestsFuel
  simp only [parLoopSched_eq H scheds hs]
  rfl
end Sched
end TF.Merkle
