import TF.Gen.ConvLoops
import TF.Proofs.BField
import TF.Proofs.Conv
/-!
Bridge between the Digest / element conversions regenerated from source (`TF/Gen/ConvLoops.lean`, written by
`tools/rs2lean_conv.py` from `digest.rs`, `b_field_element.rs`, `x_field_element.rs`) and the hand model
`TF/Model/Conv.lean`.

The regenerated code works on *raw Montgomery words* (a `BFieldElement` is its `u64`), the hand model on canonical values:
`vals l = l.map bfe_value` reads a list of words, `toOpt` forgets which `Err(_)` was returned (the model's `none`).
-/
namespace TF.GenBridge.Conv
open TF.Gen TF.Gen.Loops TF.Conv TF.BF

/-- `Result` → `Option` (the model does not distinguish error kinds) -/
def toOpt {α : Type} : Except String α → Option α
  | .ok v => some v
  | .error _ => none

/-- canonical values of a list of raw words -/
def vals (l : List Nat) : List Nat := l.map bfe_value

/-- raw words: all canonical (`< P`), as every `BFieldElement` built through `new` is -/
def Raw (l : List Nat) : Prop := ∀ x ∈ l, x < P

instance (l : List Nat) : Decidable (Raw l) := inferInstanceAs (Decidable (∀ x ∈ l, x < P))

/- `TF/Model/Word.lean`, `TF/Model/RustStd.lean` (used by the regenerated code) and `TF/Model/Conv.lean` (the hand model) each
   write out `from_le_bytes`, `to_le_bytes`, `chunks_exact` and `Iterator::cmp`: the copies coincide. -/

theorem ofLe_eq : ∀ bs : List Nat, TF.ofLeBytes bs = TF.Conv.ofLeBytes bs
  | [] => rfl
  | b :: bs => by simp only [TF.ofLeBytes, TF.Conv.ofLeBytes, ofLe_eq bs]

theorem toLe_eq : ∀ (n v : Nat), TF.toLeBytes n v = leBytes n v
  | 0, _ => rfl
  | n+1, v => by simp only [TF.toLeBytes, leBytes, toLe_eq n]

theorem chunksAux_eq (k : Nat) : ∀ (f : Nat) (l : List Nat), TF.RustStd.chunksAux k f l = TF.Conv.chunksAux k f l
  | 0, _ => rfl
  | f+1, l => by simp only [TF.RustStd.chunksAux, TF.Conv.chunksAux, chunksAux_eq k f]

theorem chunks_eq (k : Nat) (l : List Nat) : TF.RustStd.chunks_exact k l = chunksExact k l := chunksAux_eq k _ l

/-- `<[T; n]>::try_from(slice).map_err(|_| e)?` followed by `f`: the length check, then `f` on the same elements -/
theorem tryE_array_try_from {α β : Type} (n : Nat) (l : List α) (e₁ e₂ : String) (f : List α → Except String β) :
    TF.RustStd.tryE (TF.RustStd.map_err (TF.RustStd.array_try_from n l e₁) e₂) f
      = if l.length = n then f l else .error e₂ := by
  unfold TF.RustStd.array_try_from
  by_cases h : l.length = n
  · rw [if_pos h, if_pos (by simpa using h)]; rfl
  · rw [if_neg h, if_neg (by simpa using h)]; rfl

theorem okE_array_try_from {α : Type} (n : Nat) (l : List α) (e₁ e₂ : String) (g : List α → Bool) :
    TF.RustStd.okE (TF.RustStd.map_err (TF.RustStd.array_try_from n l e₁) e₂) g
      = if l.length = n then g l else true := by
  unfold TF.RustStd.array_try_from
  by_cases h : l.length = n
  · rw [if_pos h, if_pos (by simpa using h)]; rfl
  · rw [if_neg h, if_neg (by simpa using h)]; rfl

theorem value_zero : bfe_value (bfe_new 0) = 0 := value_new 0 (by decide)

theorem gen_try_new (v : Nat) :
    conv_bfe_try_new v = if v < P then .ok (bfe_new v) else .error "NotCanonical" := by
  unfold conv_bfe_try_new bfe_is_canonical TF.RustStd.ok_or
  by_cases h : v < P
  · have h' : v < 18446744069414584321 := h
    simp [h, h']
  · have h' : ¬ v < 18446744069414584321 := h
    simp [h, h']

theorem gen_try_new_ok (v : Nat) : conv_bfe_try_new_ok v = true := by
  unfold conv_bfe_try_new_ok bfe_is_canonical_ok bfe_is_canonical
  by_cases h : v < 18446744069414584321
  · have : bfe_new_ok v = true := new_ok v (Nat.lt_trans h (by decide))
    simp [h, this]
  · simp [h]

theorem gen_try_new_model (v : Nat) : (toOpt (conv_bfe_try_new v)).map bfe_value = bfeTryNew v := by
  rw [gen_try_new]; unfold bfeTryNew
  by_cases h : v < P
  · rw [if_pos h, if_pos h]; simp only [toOpt, Option.map_some]; rw [value_new v h]
  · rw [if_neg h, if_neg h]; rfl

theorem gen_bfe_try_from_array (bs : List Nat) :
    (toOpt (conv_bfe_try_from_array bs)).map bfe_value = bfeTryNew (TF.Conv.ofLeBytes bs) ∧
    conv_bfe_try_from_array_ok bs = true := by
  unfold conv_bfe_try_from_array conv_bfe_try_from_array_ok
  rw [ofLe_eq]; exact ⟨gen_try_new_model _, gen_try_new_ok _⟩

theorem gen_bfe_try_from_slice (bs : List Nat) :
    (toOpt (conv_bfe_try_from_slice bs)).map bfe_value = bfeFromBytes bs ∧ conv_bfe_try_from_slice_ok bs = true := by
  unfold conv_bfe_try_from_slice conv_bfe_try_from_slice_ok bfeFromBytes
  rw [tryE_array_try_from, okE_array_try_from]
  by_cases h : bs.length = 8
  · rw [if_pos h, if_pos h, if_neg (not_not.mpr h)]
    exact gen_bfe_try_from_array bs
  · rw [if_neg h, if_neg h, if_pos h]
    exact ⟨rfl, rfl⟩

theorem gen_bfe_to_bytes (r : Nat) :
    conv_bfe_to_bytes r = bfeToBytes (bfe_value r) ∧ conv_bfe_to_bytes_ok r = true := by
  unfold conv_bfe_to_bytes conv_bfe_to_bytes_ok bfeToBytes
  exact ⟨toLe_eq 8 _, value_ok r⟩

theorem gen_digest_to_bytes (d : List Nat) (hd : d.length = 5) :
    conv_digest_to_bytes d = digestToBytes (vals d) ∧ conv_digest_to_bytes_ok d = true := by
  have e : conv_digest_to_bytes d = digestToBytes (vals d) := by
    unfold conv_digest_to_bytes digestToBytes vals
    rw [List.map_map]
    exact congrArg List.flatten (List.map_congr_left (fun x _ => (gen_bfe_to_bytes x).1))
  refine ⟨e, ?_⟩
  have hl : (conv_digest_to_bytes d).length = 40 := by
    rw [e]; exact digestToBytes_length (by unfold vals; rw [List.length_map]; exact hd)
  unfold conv_digest_to_bytes at hl
  unfold conv_digest_to_bytes_ok
  simp only [Bool.and_eq_true, List.all_eq_true, beq_iff_eq]
  exact ⟨fun x _ => (gen_bfe_to_bytes x).2, hl⟩

theorem try_collect_mapM {α : Type} (f : α → Except String Nat) (g : α → Option Nat)
    (h : ∀ x, (toOpt (f x)).map bfe_value = g x) :
    ∀ l : List α, (toOpt (TF.RustStd.try_collect (l.map f))).map vals = l.mapM g
  | [] => rfl
  | x :: xs => by
    have ih := try_collect_mapM f g h xs
    have hx := h x
    rw [List.mapM_cons, ← hx, ← ih]
    simp only [List.map_cons]
    cases hf : f x with
    | error e => simp [TF.RustStd.try_collect, toOpt]
    | ok v =>
      cases hr : TF.RustStd.try_collect (xs.map f) with
      | error e => simp [TF.RustStd.try_collect, toOpt, hr]
      | ok vs => simp [TF.RustStd.try_collect, toOpt, hr, vals]

theorem try_collect_length {α : Type} : ∀ (l : List (Except String α)) (vs : List α),
    TF.RustStd.try_collect l = .ok vs → vs.length = l.length
  | [], vs, h => by simp [TF.RustStd.try_collect] at h; subst h; rfl
  | .error e :: _, vs, h => by simp [TF.RustStd.try_collect] at h
  | .ok v :: rest, vs, h => by
    cases hr : TF.RustStd.try_collect rest with
    | error e => simp [TF.RustStd.try_collect, hr] at h
    | ok ws =>
      simp [TF.RustStd.try_collect, hr] at h
      subst h
      simp [try_collect_length rest ws hr]

theorem gen_digest_try_from_array (bs : List Nat) (hl : bs.length = 40) :
    (toOpt (conv_digest_try_from_array bs)).map vals = digestFromByteArray bs ∧
    conv_digest_try_from_array_ok bs = true := by
  have hm := try_collect_mapM conv_bfe_try_from_slice bfeFromBytes (fun x => (gen_bfe_try_from_slice x).1)
    (chunksExact 8 bs)
  constructor
  · unfold conv_digest_try_from_array digestFromByteArray
    rw [chunks_eq, ← hm]
    cases hr : TF.RustStd.try_collect ((chunksExact 8 bs).map conv_bfe_try_from_slice) with
    | error e => simp [TF.RustStd.tryFrom, toOpt]
    | ok vs => simp [TF.RustStd.tryFrom, toOpt]
  · unfold conv_digest_try_from_array_ok
    rw [chunks_eq]
    simp only [Bool.and_eq_true, List.all_eq_true]
    refine ⟨⟨by decide, fun x _ => (gen_bfe_try_from_slice x).2⟩, ?_⟩
    cases hr : TF.RustStd.try_collect ((chunksExact 8 bs).map fun x_fn => conv_bfe_try_from_slice x_fn) with
    | error e => rfl
    | ok vs =>
      have := try_collect_length _ vs hr
      rw [List.length_map, chunksExact_length (k := 8) (m := 5) (by decide) hl] at this
      simp [TF.RustStd.okE, this]

theorem gen_digest_try_from_slice (bs : List Nat) :
    (toOpt (conv_digest_try_from_slice bs)).map vals = digestFromBytes bs ∧ conv_digest_try_from_slice_ok bs = true := by
  unfold conv_digest_try_from_slice conv_digest_try_from_slice_ok digestFromBytes
  rw [tryE_array_try_from, okE_array_try_from]
  by_cases h : bs.length = 40
  · rw [if_pos h, if_pos h, if_neg (not_not.mpr h)]
    exact gen_digest_try_from_array bs h
  · rw [if_neg h, if_neg h, if_pos h]
    exact ⟨rfl, rfl⟩

theorem vals_map_new (l : List Nat) (h : ∀ x ∈ l, x < P) : vals (l.map bfe_new) = l := by
  induction l with
  | nil => rfl
  | cons x xs ih =>
    have hx := value_new x (h x (List.mem_cons_self ..))
    have ih' := ih (fun y hy => h y (List.mem_cons_of_mem _ hy))
    unfold vals at ih' ⊢
    simp only [List.map_cons, hx, ih']

theorem takeBaseP_lt (n v : Nat) : ∀ x ∈ (takeBaseP n v).1, x < P := by
  rw [takeBaseP_eq]; exact (ofNatP_wf n v).2

theorem range5 : List.range 5 = [0, 1, 2, 3, 4] := by decide

theorem gen_digest_try_from_biguint (v : Nat) :
    (toOpt (conv_digest_try_from_biguint v)).map vals = digestFromNat v ∧ conv_digest_try_from_biguint_ok v = true := by
  have hP : (18446744069414584321 : Nat) = P := rfl
  have hlt := takeBaseP_lt 5 v
  constructor
  · unfold conv_digest_try_from_biguint digestFromNat conv_digest_new
    rw [hP]
    simp only [List.length_replicate, range5]
    simp only [List.foldl_cons, List.foldl_nil, List.replicate, List.set_cons_zero, List.set_cons_succ, takeBaseP] at hlt ⊢
    by_cases hz : v / P / P / P / P / P = 0
    · simp only [hz, toOpt, vals, List.map_cons, List.map_nil, Bool.not_true, beq_self_eq_true,
        Bool.false_eq_true, if_false, Option.map_some, ne_eq, not_true_eq_false]
      simp only [List.mem_cons, List.not_mem_nil, or_false, forall_eq_or_imp, forall_eq] at hlt
      rw [value_new _ hlt.1, value_new _ hlt.2.1, value_new _ hlt.2.2.1, value_new _ hlt.2.2.2.1, value_new _ hlt.2.2.2.2]
    · simp [hz, toOpt]
  · unfold conv_digest_try_from_biguint_ok conv_digest_new_ok
    rw [hP]
    have hP0 : (P != 0) = true := by decide
    have modP : ∀ r, r % P < 18446744073709551616 := fun r => Nat.lt_trans (Nat.mod_lt r P_pos) P_lt
    have h1 : ∀ r, decide (r % P < 18446744073709551616) = true := fun r => by simpa using modP r
    have h2 : ∀ r, bfe_new_ok (r % P) = true := fun r => new_ok _ (modP r)
    simp only [List.length_replicate, range5]
    simp only [List.foldl_cons, List.foldl_nil, List.replicate, List.set_cons_zero, List.set_cons_succ,
      List.length_cons, List.length_nil, hP0, h1, h2]
    simp

theorem gen_digest_to_biguint (a b c d e : Nat) :
    conv_digest_to_biguint [a, b, c, d, e] = digestToNat (vals [a, b, c, d, e]) ∧
    conv_digest_to_biguint_ok [a, b, c, d, e] = true := by
  have hP : (18446744069414584321 : Nat) = P := rfl
  constructor
  · unfold conv_digest_to_biguint digestToNat vals
    rw [hP]
    simp only [range5, List.map_cons, List.map_nil, List.reverse_cons, List.reverse_nil, List.nil_append,
      List.cons_append]
    repeat rw [List.foldl_cons]
    rw [List.foldl_nil, List.foldl_nil]
    simp only [List.getD_cons_zero, List.getD_cons_succ]
    unfold conv_bfe_value
    trivial
  · unfold conv_digest_to_biguint_ok
    simp only [range5, List.reverse_cons, List.reverse_nil, List.nil_append, List.cons_append]
    repeat rw [List.foldl_cons]
    rw [List.foldl_nil]
    simp only [List.getD_cons_zero, List.getD_cons_succ, List.length_cons, List.length_nil]
    unfold conv_bfe_value_ok
    simp only [value_ok]
    simp

theorem gen_digest_cmp (a b : List Nat) :
    conv_digest_cmp a b = digestCmp (vals a) (vals b) ∧ conv_digest_cmp_ok a b = true ∧
    conv_digest_partial_cmp a b = some (digestCmp (vals a) (vals b)) := by
  have e : conv_digest_cmp a b = digestCmp (vals a) (vals b) := by
    unfold conv_digest_cmp digestCmp vals
    simp only [lexCmp_eq_iter_cmp, List.map_reverse]
    rfl
  refine ⟨e, ?_, by unfold conv_digest_partial_cmp; rw [e]⟩
  unfold conv_digest_cmp_ok
  simp [conv_bfe_value_ok, value_ok]

theorem gen_digest_reversed (a b c d e : Nat) :
    digestReversed (vals [a, b, c, d, e]) = some (vals (conv_digest_reversed [a, b, c, d, e])) ∧
    conv_digest_reversed [a, b, c, d, e] = [a, b, c, d, e].reverse := ⟨rfl, rfl⟩

theorem gen_xfe_to_digest (a b c : Nat) :
    vals (conv_xfe_to_digest [a, b, c]) = xfeToDigest (bfe_value a, bfe_value b, bfe_value c) ∧
    conv_xfe_to_digest_ok [a, b, c] = true := by
  refine ⟨?_, rfl⟩
  simp [conv_xfe_to_digest, conv_digest_new, vals, xfeToDigest, value_zero]

theorem eq_zero_iff {z : Nat} (hz : z < P) : z = bfe_new 0 ↔ bfe_value z = 0 := by
  have hc : canon (bfe_new 0) := (new_spec 0 (by decide)).1
  exact ⟨fun h => by rw [h, value_zero], fun hv => repr_unique z (bfe_new 0) hz hc (by rw [hv, value_zero])⟩

theorem gen_xfe_try_from_digest (a b c d e : Nat) (hd : d < P) (he : e < P) :
    (toOpt (conv_xfe_try_from_digest [a, b, c, d, e])).map
        (fun l => (bfe_value (l.getD 0 0), bfe_value (l.getD 1 0), bfe_value (l.getD 2 0)))
      = xfeFromDigest (vals [a, b, c, d, e]) ∧
    conv_xfe_try_from_digest_ok [a, b, c, d, e] = true := by
  constructor
  · unfold conv_xfe_try_from_digest conv_digest_values conv_xfe_new vals xfeFromDigest
    simp only [List.map_cons, List.map_nil, List.getD_cons_zero, List.getD_cons_succ]
    simp only [bne_iff_ne, Bool.or_eq_true, ne_eq, eq_zero_iff hd, eq_zero_iff he]
    split <;> rfl
  · unfold conv_xfe_try_from_digest_ok conv_digest_values_ok conv_xfe_new_ok
    simp only [Bool.true_and, ite_self]

theorem wfd_vals {r : List Nat} (h : r.length = 5) (hr : ∀ x ∈ r, x < 18446744073709551616) : WFd (vals r) := by
  refine ⟨by unfold vals; rw [List.length_map]; exact h, ?_⟩
  intro x hx
  unfold vals at hx
  obtain ⟨y, hy, rfl⟩ := List.mem_map.mp hx
  exact value_lt y (hr y hy)

theorem toOpt_none_of_map {α β : Type} {x : Except String α} {f : α → β} (h : (toOpt x).map f = none) :
    toOpt x = none := by
  cases hx : toOpt x with
  | none => rfl
  | some v => rw [hx] at h; cases h

end TF.GenBridge.Conv
