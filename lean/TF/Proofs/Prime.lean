import Mathlib.NumberTheory.LucasPrimality
import Mathlib.Tactic.NormNum.Prime
import Mathlib.Algebra.CharP.Basic
import Mathlib.Tactic.ReduceModChar
import TF.Gen.Consts
/-!
`P = 2^64 - 2^32 + 1` is prime (Lucas test with witness 7; `P - 1 = 2^32 · 3 · 5 · 17 · 257 · 65537`).
The constant `TF.Gen.P` is regenerated from `b_field_element.rs`.
-/
namespace TF

theorem P_val : TF.Gen.P = 18446744069414584321 := rfl

/-- the Lucas certificate for the witness 7: `7^(P-1) = 1` and `7^((P-1)/q) ≠ 1` for every prime `q ∣ P - 1`, which together
    say that 7 has multiplicative order `P - 1` -/
theorem seven_pow_pred : (7 : ZMod 18446744069414584321) ^ (18446744069414584321 - 1) = 1 := by reduce_mod_char

theorem seven_pow_div (q : ℕ) (hq : q.Prime) (hdvd : q ∣ 18446744069414584321 - 1) :
    (7 : ZMod 18446744069414584321) ^ ((18446744069414584321 - 1) / q) ≠ 1 := by
  have hfac : (18446744069414584321 - 1 : ℕ) = 2^32 * 3 * 5 * 17 * 257 * 65537 := by norm_num
  rw [hfac] at hdvd
  have h2 : Nat.Prime 2 := by norm_num
  have h3 : Nat.Prime 3 := by norm_num
  have h5 : Nat.Prime 5 := by norm_num
  have h17 : Nat.Prime 17 := by norm_num
  have h257 : Nat.Prime 257 := by norm_num
  have h65537 : Nat.Prime 65537 := by norm_num
  have : q = 2 ∨ q = 3 ∨ q = 5 ∨ q = 17 ∨ q = 257 ∨ q = 65537 := by
    rcases (Nat.Prime.dvd_mul hq).1 hdvd with h | h
    · rcases (Nat.Prime.dvd_mul hq).1 h with h | h
      · rcases (Nat.Prime.dvd_mul hq).1 h with h | h
        · rcases (Nat.Prime.dvd_mul hq).1 h with h | h
          · rcases (Nat.Prime.dvd_mul hq).1 h with h | h
            · left; exact (Nat.prime_dvd_prime_iff_eq hq h2).1 (hq.dvd_of_dvd_pow h)
            · right; left; exact (Nat.prime_dvd_prime_iff_eq hq h3).1 h
          · right; right; left; exact (Nat.prime_dvd_prime_iff_eq hq h5).1 h
        · right; right; right; left; exact (Nat.prime_dvd_prime_iff_eq hq h17).1 h
      · right; right; right; right; left; exact (Nat.prime_dvd_prime_iff_eq hq h257).1 h
    · right; right; right; right; right; exact (Nat.prime_dvd_prime_iff_eq hq h65537).1 h
  -- the six modular exponentiations `7^((P-1)/q) mod P` of the test
  rcases this with rfl | rfl | rfl | rfl | rfl | rfl <;> reduce_mod_char <;> decide

theorem prime_P : Nat.Prime 18446744069414584321 :=
  lucas_primality 18446744069414584321 7 seven_pow_pred seven_pow_div

instance : Fact (Nat.Prime 18446744069414584321) := ⟨prime_P⟩

theorem prime_P_lit : Nat.Prime 18446744069414584321 := prime_P
theorem prime_P' : Nat.Prime TF.Gen.P := prime_P
instance : Fact (Nat.Prime TF.Gen.P) := ⟨prime_P'⟩

end TF
