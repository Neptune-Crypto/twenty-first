import Mathlib.Data.Nat.Bitwise
import TF.Proofs.MmrIndex
import TF.Spec.MmrE
/-!
Helper lemmas for C12 / C05 (MMR successor and membership proofs): the translated
`leaf_index_to_mt_index_and_peak_index` (xor / ilog2 / popcount) computes `locate`; the reference structure (`peaks`,
`peakPos`, `locate`, `sub`, `foldBlk`, `sibPath`) by recursion on the low bit of the leaf count.
-/
namespace TF.MmrE
open TF.Gen TF.Spec.MmrE
open TF.Mmr (popCount_eq popCount_zero popCount_pos popCount_split popCount_bit popCount_one popCount_above_bit)

/-- the closed form the Rust code computes (without machine-word wrapping) -/
def idealLoc (li lc : Nat) : Nat × Nat × Nat :=
  (Nat.log2 (li ^^^ lc), li % 2 ^ Nat.log2 (li ^^^ lc),
    TF.popCount lc - TF.popCount (lc % 2 ^ Nat.log2 (li ^^^ lc)) - 1)

theorem locate_unfold (n i : Nat) (hn : n ≠ 0) :
    locate n i = if n % 2 = 1 ∧ i = n - 1 then (0, 0, TF.popCount n - 1)
      else ((locate (n / 2) (i / 2)).1 + 1, 2 * (locate (n / 2) (i / 2)).2.1 + i % 2, (locate (n / 2) (i / 2)).2.2) := by
  cases n with
  | zero => exact absurd rfl hn
  | succ n => rw [locate]; simp

theorem mod_two_pow_succ_low (x k : Nat) : x % 2 ^ (k + 1) = 2 * ((x / 2) % 2 ^ k) + x % 2 := by
  have h1 : x % 2 ^ (k + 1) = x % 2 + 2 * ((x / 2) % 2 ^ k) := by
    rw [Nat.pow_succ, Nat.mul_comm, Nat.mod_mul]
  omega

theorem locate_eq_ideal : ∀ (lc li : Nat), li < lc → locate lc li = idealLoc li lc := by
  intro lc
  induction lc using Nat.div2Induction with
  | ind lc ih =>
    intro li hlt
    have hn : lc ≠ 0 := by omega
    rw [locate_unfold lc li hn]
    by_cases hc : lc % 2 = 1 ∧ li = lc - 1
    · rw [if_pos hc]
      obtain ⟨h1, h2⟩ := hc
      have hx : li ^^^ lc = 1 := by
        have hd : (li ^^^ lc) / 2 = 0 := by
          rw [Nat.xor_div_two]
          have : li / 2 = lc / 2 := by omega
          rw [this, Nat.xor_self]
        have hm : (li ^^^ lc) % 2 = 1 := by rw [Nat.xor_mod_two_eq]; omega
        omega
      simp [idealLoc, hx, Nat.log2_def, Nat.mod_one, popCount_zero]
    · rw [if_neg hc]
      have hlt2 : li / 2 < lc / 2 := by omega
      have ihh := ih (by omega) (li / 2) hlt2
      rw [ihh]
      have hd : (li ^^^ lc) / 2 = li / 2 ^^^ lc / 2 := Nat.xor_div_two
      have hne : li / 2 ^^^ lc / 2 ≠ 0 := by
        intro h0
        rw [Nat.xor_eq_zero_iff] at h0
        omega
      have hge : 2 ≤ li ^^^ lc := by omega
      have hlog : Nat.log2 (li ^^^ lc) = Nat.log2 (li / 2 ^^^ lc / 2) + 1 := by
        rw [Nat.log2_def (li ^^^ lc), if_pos hge, hd]
      simp only [idealLoc, hlog]
      rw [mod_two_pow_succ_low li, mod_two_pow_succ_low lc]
      have hp1 := popCount_eq lc
      have hp2 := popCount_bit (lc / 2 % 2 ^ (li / 2 ^^^ lc / 2).log2) (lc % 2) (by omega)
      refine Prod.ext rfl (Prod.ext rfl ?_)
      simp only
      omega


/-- the aligned block of `2^h` leaves around leaf `i` lies inside the MMR -/
theorem locate_block_le : ∀ (n i : Nat), i < n →
    i - i % 2 ^ (locate n i).1 + 2 ^ (locate n i).1 ≤ n := by
  intro n
  induction n using Nat.div2Induction with
  | ind n ih =>
    intro i hlt
    rw [locate_unfold n i (by omega)]
    by_cases hc : n % 2 = 1 ∧ i = n - 1
    · rw [if_pos hc]; simp; omega
    · rw [if_neg hc]
      have := ih (by omega) (i / 2) (by omega)
      simp only
      rw [mod_two_pow_succ_low i, Nat.pow_succ]
      omega

theorem locate_pk_lt : ∀ (n i : Nat), i < n → (locate n i).2.2 < TF.popCount n := by
  intro n
  induction n using Nat.div2Induction with
  | ind n ih =>
    intro i hlt
    rw [locate_unfold n i (by omega)]
    by_cases hc : n % 2 = 1 ∧ i = n - 1
    · rw [if_pos hc]
      have := popCount_pos n (by omega)
      simp only; omega
    · rw [if_neg hc]
      have := ih (by omega) (i / 2) (by omega)
      have := popCount_eq n
      simp only; omega

theorem locate_local (n i : Nat) (h : i < n) : (locate n i).2.1 = i % 2 ^ (locate n i).1 := by
  rw [locate_eq_ideal n i h]; rfl

theorem two_pow_height_le (n i : Nat) (h : i < n) : 2 ^ (locate n i).1 ≤ n := by
  have := locate_block_le n i h
  have := Nat.mod_le i (2 ^ (locate n i).1)
  omega

theorem height_lt_64 (n i : Nat) (h : i < n) (hn : n < 2 ^ 64) : (locate n i).1 < 64 := by
  have h1 := two_pow_height_le n i h
  by_contra hc
  have : 2 ^ 64 ≤ 2 ^ (locate n i).1 := Nat.pow_le_pow_right (by omega) (by omega)
  omega

/-- **the translated function computes `locate`** on all of `u64`, and nothing in it wraps or panics -/
theorem gen_locate (li lc : Nat) (hlt : li < lc) (hlc : lc < 2 ^ 64) :
    leaf_index_to_mt_index_and_peak_index li lc
      = (2 ^ (locate lc li).1 + li % 2 ^ (locate lc li).1, (locate lc li).2.2) ∧
    leaf_index_to_mt_index_and_peak_index_ok li lc = true := by
  obtain ⟨hv, hok⟩ := TF.Mmr.mt_spec li lc hlt hlc
  obtain ⟨_, hb, _⟩ := TF.Mmr.xor_log2_facts li lc hlt
  refine ⟨?_, hok⟩
  have s1 := popCount_above_bit lc (li ^^^ lc).log2 hb
  rw [hv, locate_eq_ideal lc li hlt]
  simp only [idealLoc]
  congr 1; omega


section
variable {D : Type} (H : D → D → D)

theorem peaks_unfold (n : Nat) (f : Nat → D) (hn : n ≠ 0) :
    peaks H n f = peaks H (n / 2) (pair H f) ++ (if n % 2 = 1 then [f (n - 1)] else []) := by
  cases n with
  | zero => exact absurd rfl hn
  | succ n => rw [peaks]; simp

theorem peaks_zero (f : Nat → D) : peaks H 0 f = [] := by rw [peaks]

theorem peakPos_unfold (n : Nat) (hn : n ≠ 0) :
    peakPos n = (peakPos (n / 2)).map (fun p => (p.1 + 1, 2 * p.2)) ++ (if n % 2 = 1 then [(0, n - 1)] else []) := by
  cases n with
  | zero => exact absurd rfl hn
  | succ n => rw [peakPos]; simp

theorem peakPos_zero : peakPos 0 = [] := by rw [peakPos]

theorem sub_pair (f : Nat → D) : ∀ (l j : Nat), sub H (pair H f) l j = sub H f (l + 1) j := by
  intro l
  induction l with
  | zero => intro j; simp [sub, pair]
  | succ l ih => intro j; rw [sub, ih, ih]; conv => rhs; rw [sub]

theorem peakPos_length : ∀ n : Nat, (peakPos n).length = TF.popCount n := by
  intro n
  induction n using Nat.div2Induction with
  | ind n ih =>
    by_cases hn : n = 0
    · subst hn; simp [peakPos_zero, popCount_zero]
    · rw [peakPos_unfold n hn, popCount_eq n, List.length_append, List.length_map, ih (by omega)]
      by_cases h : n % 2 = 1
      · simp [h]; omega
      · simp [h]; omega

theorem peaks_eq_map : ∀ (n : Nat) (f : Nat → D),
    peaks H n f = (peakPos n).map (fun p => sub H f p.1 (p.2 / 2 ^ p.1)) := by
  intro n
  induction n using Nat.div2Induction with
  | ind n ih =>
    intro f
    by_cases hn : n = 0
    · subst hn; simp [peaks_zero, peakPos_zero]
    · rw [peaks_unfold H n f hn, peakPos_unfold n hn, ih (by omega) (pair H f), List.map_append,
        List.map_map]
      congr 1
      · apply List.map_congr_left
        intro p _
        simp only [Function.comp, sub_pair]
        congr 1
        rw [Nat.pow_succ, Nat.mul_comm (2 ^ p.1) 2, Nat.mul_div_mul_left _ _ (by omega : 0 < 2)]
      · by_cases h : n % 2 = 1
        · simp [h, sub]
        · simp [h]

theorem peaks_length (n : Nat) (f : Nat → D) : (peaks H n f).length = TF.popCount n := by
  rw [peaks_eq_map, List.length_map, peakPos_length]

/-- every peak is an aligned block inside the range -/
theorem peakPos_mem : ∀ (n : Nat) (p : Nat × Nat), p ∈ peakPos n → 2 ^ p.1 ∣ p.2 ∧ p.2 + 2 ^ p.1 ≤ n := by
  intro n
  induction n using Nat.div2Induction with
  | ind n ih =>
    intro p hp
    by_cases hn : n = 0
    · subst hn; simp [peakPos_zero] at hp
    · rw [peakPos_unfold n hn, List.mem_append] at hp
      rcases hp with hp | hp
      · rw [List.mem_map] at hp
        obtain ⟨q, hq, rfl⟩ := hp
        obtain ⟨h1, h2⟩ := ih (by omega) q hq
        refine ⟨?_, ?_⟩
        · simp only; rw [Nat.pow_succ, Nat.mul_comm]; exact Nat.mul_dvd_mul_left 2 h1
        · simp only; rw [Nat.pow_succ]; omega
      · by_cases h : n % 2 = 1
        · simp [h] at hp; subst hp; simp; omega
        · simp [h] at hp

/-- an aligned block of height `h` inside the range lies in a tree of height at least `h` -/
theorem locate_height_ge : ∀ (h n s : Nat), 2 ^ h ∣ s → s + 2 ^ h ≤ n → h ≤ (locate n s).1 := by
  intro h
  induction h with
  | zero => intros; omega
  | succ h ih =>
    intro n s hd hle
    have hp : 0 < 2 ^ h := Nat.pow_pos (by omega)
    rw [Nat.pow_succ] at hd hle
    obtain ⟨c, hc⟩ := hd
    rw [locate_unfold n s (by omega)]
    have hne : ¬ (n % 2 = 1 ∧ s = n - 1) := by omega
    rw [if_neg hne]
    have hs : s = 2 * (2 ^ h * c) := by rw [hc, Nat.mul_assoc, Nat.mul_left_comm]
    have := ih (n / 2) (s / 2) ⟨c, by omega⟩ (by omega)
    simp only; omega

/-- the peak with index `(locate n i).2.2` is the root of the aligned block of height `(locate n i).1` around `i` -/
theorem peaks_getElem_locate : ∀ (n : Nat) (f : Nat → D) (i : Nat), i < n →
    (peaks H n f)[(locate n i).2.2]? = some (sub H f (locate n i).1 (i / 2 ^ (locate n i).1)) := by
  intro n
  induction n using Nat.div2Induction with
  | ind n ih =>
    intro f i hlt
    have hn : n ≠ 0 := by omega
    rw [peaks_unfold H n f hn, locate_unfold n i hn]
    have hlen := peaks_length H (n / 2) (pair H f)
    have hpc := popCount_eq n
    by_cases hc : n % 2 = 1 ∧ i = n - 1
    · rw [if_pos hc]
      obtain ⟨h1, h2⟩ := hc
      simp only [h1, if_true]
      rw [List.getElem?_append_right (by omega)]
      have : TF.popCount n - 1 - (peaks H (n / 2) (pair H f)).length = 0 := by omega
      rw [this]; simp [sub, h2]
    · rw [if_neg hc]
      have hlt2 : i / 2 < n / 2 := by omega
      have h3 := locate_pk_lt (n / 2) (i / 2) hlt2
      simp only
      rw [List.getElem?_append_left (by omega), ih (by omega) (pair H f) (i / 2) hlt2, sub_pair]
      congr 2
      rw [Nat.div_div_eq_div_mul, Nat.pow_succ, Nat.mul_comm 2]


def Collision : Prop := ∃ a b c d : D, (a, b) ≠ (c, d) ∧ H a b = H c d

theorem sibPath_length (f : Nat → D) : ∀ (up l j : Nat), (sibPath H f l up j).length = up := by
  intro up
  induction up with
  | zero => intros; simp [sibPath]
  | succ u ih => intros; simp [sibPath, ih]

theorem step_sib (f : Nat → D) (l j : Nat) :
    (if j % 2 = 0 then H (sub H f l j) (sub H f l (sibBlk j)) else H (sub H f l (sibBlk j)) (sub H f l j))
      = sub H f (l + 1) (j / 2) := by
  unfold sibBlk
  by_cases h : j % 2 = 0
  · have e : 2 * (j / 2) = j := by omega
    simp only [h, if_true, sub]; rw [e]
  · have e : 2 * (j / 2) + 1 = j := by omega
    have e' : 2 * (j / 2) = j - 1 := by omega
    simp only [h, if_false, sub]; rw [e, e']

/-- completeness of one path: folding a block root up its own sibling path gives the ancestor block root -/
theorem foldBlk_sibPath (f : Nat → D) : ∀ (up l j : Nat),
    foldBlk H j (sub H f l j) (sibPath H f l up j) = sub H f (l + up) (j / 2 ^ up) := by
  intro up
  induction up with
  | zero => intro l j; simp [foldBlk, sibPath]
  | succ u ih =>
    intro l j
    simp only [sibPath, foldBlk, step_sib]
    rw [ih (l + 1) (j / 2), Nat.div_div_eq_div_mul, Nat.pow_succ, Nat.mul_comm 2]
    congr 1; omega

/-- soundness of one path: a value and digests that fold to the true ancestor are the true block root and the true
    siblings, or an explicit collision of `H` is at hand -/
theorem foldBlk_sound (f : Nat → D) : ∀ (path : List D) (l j : Nat) (v : D),
    foldBlk H j v path = sub H f (l + path.length) (j / 2 ^ path.length) →
    (v = sub H f l j ∧ path = sibPath H f l path.length j) ∨ Collision H := by
  intro path
  induction path with
  | nil => intro l j v h; simp [foldBlk] at h; exact Or.inl ⟨h, by simp [sibPath]⟩
  | cons s ss ih =>
    intro l j v h
    simp only [foldBlk, List.length_cons] at h
    have h' : foldBlk H (j / 2) (if j % 2 = 0 then H v s else H s v) ss
        = sub H f ((l + 1) + ss.length) ((j / 2) / 2 ^ ss.length) := by
      rw [h, Nat.div_div_eq_div_mul, Nat.pow_succ, Nat.mul_comm 2]
      congr 1; omega
    rcases ih (l + 1) (j / 2) _ h' with ⟨hv, hp⟩ | hc
    · rw [← step_sib H f l j] at hv
      by_cases hk : j % 2 = 0
      · simp only [hk, if_true] at hv
        by_cases hEq : (v, s) = (sub H f l j, sub H f l (sibBlk j))
        · have := Prod.mk.inj hEq
          refine Or.inl ⟨this.1, ?_⟩
          simp only [List.length_cons, sibPath]; rw [← hp, this.2]
        · exact Or.inr ⟨_, _, _, _, hEq, hv⟩
      · simp only [hk, if_false] at hv
        by_cases hEq : (s, v) = (sub H f l (sibBlk j), sub H f l j)
        · have := Prod.mk.inj hEq
          refine Or.inl ⟨this.2, ?_⟩
          simp only [List.length_cons, sibPath]; rw [← hp, this.1]
        · exact Or.inr ⟨_, _, _, _, hEq, hv⟩
    · exact Or.inr hc

/-- two folds from the same position with equally many digests agree only on equal inputs (or a collision) -/
theorem foldBlk_inj : ∀ (path path' : List D) (j : Nat) (v v' : D), path.length = path'.length →
    foldBlk H j v path = foldBlk H j v' path' → (v = v' ∧ path = path') ∨ Collision H := by
  intro path
  induction path with
  | nil =>
    intro path' j v v' hl h
    have : path' = [] := List.eq_nil_of_length_eq_zero (by simpa using hl.symm)
    subst this; simp [foldBlk] at h; exact Or.inl ⟨h, rfl⟩
  | cons s ss ih =>
    intro path' j v v' hl h
    match path', hl with
    | s' :: ss', hl =>
      simp only [foldBlk] at h
      rcases ih ss' (j / 2) _ _ (by simpa using hl) h with ⟨hv, hp⟩ | hc
      · by_cases hk : j % 2 = 0
        · simp only [hk, if_true] at hv
          by_cases hEq : (v, s) = (v', s')
          · have := Prod.mk.inj hEq; exact Or.inl ⟨this.1, by rw [this.2, hp]⟩
          · exact Or.inr ⟨_, _, _, _, hEq, hv⟩
        · simp only [hk, if_false] at hv
          by_cases hEq : (s, v) = (s', v')
          · have := Prod.mk.inj hEq; exact Or.inl ⟨this.2, by rw [this.1, hp]⟩
          · exact Or.inr ⟨_, _, _, _, hEq, hv⟩
      · exact Or.inr hc

/-- a fold over `k` digests only looks at the low `k` bits of the block index -/
theorem foldBlk_mod : ∀ (path : List D) (j : Nat) (v : D),
    foldBlk H j v path = foldBlk H (j % 2 ^ path.length) v path := by
  intro path
  induction path with
  | nil => intros; simp [foldBlk]
  | cons s ss ih =>
    intro j v
    simp only [foldBlk, List.length_cons]
    have e1 : j % 2 ^ (ss.length + 1) % 2 = j % 2 := by rw [mod_two_pow_succ_low]; omega
    have e2 : j % 2 ^ (ss.length + 1) / 2 = (j / 2) % 2 ^ ss.length := by rw [mod_two_pow_succ_low]; omega
    simp only [e1, e2]
    rw [ih (j / 2), ih (j / 2 % 2 ^ ss.length), Nat.mod_mod]

end

theorem two_pow_log2_le {n : Nat} (h : n ≠ 0) : 2 ^ Nat.log2 n ≤ n := Nat.log2_self_le h

theorem lt_two_pow_log2_succ (n : Nat) : n < 2 ^ (Nat.log2 n + 1) := TF.Mmr.lt_two_pow_log2_succ n

/-- the `(old_height, running_leaf_count)` pairs visited by the loop of `MmrSuccessorProof::verify` -/
def stripTop : Nat → Nat → List (Nat × Nat)
  | rem, run =>
    if h : rem = 0 then [] else
      (Nat.log2 rem, run) :: stripTop (rem - 2 ^ Nat.log2 rem) (run + 2 ^ Nat.log2 rem)
termination_by rem => rem
decreasing_by
  have := two_pow_log2_le h
  have : 0 < 2 ^ Nat.log2 rem := Nat.pow_pos (by omega)
  omega

theorem stripTop_zero (run : Nat) : stripTop 0 run = [] := by rw [stripTop]; simp

theorem stripTop_pos (rem run : Nat) (h : rem ≠ 0) :
    stripTop rem run = (Nat.log2 rem, run) :: stripTop (rem - 2 ^ Nat.log2 rem) (run + 2 ^ Nat.log2 rem) := by
  rw [stripTop]; simp [h]

theorem stripTop_double : ∀ (r run b : Nat), b ≤ 1 →
    stripTop (2 * r + b) (2 * run) = (stripTop r run).map (fun p => (p.1 + 1, 2 * p.2)) ++
      (if b = 1 then [(0, 2 * run + 2 * r)] else []) := by
  intro r
  induction r using Nat.strongRecOn with
  | _ r ih =>
    intro run b hb
    by_cases hr : r = 0
    · subst hr
      by_cases hb1 : b = 1
      · subst hb1
        rw [stripTop_pos _ _ (by omega)]
        simp [stripTop_zero, Nat.log2_def]
      · have : b = 0 := by omega
        subst this; simp [stripTop_zero]
    · have hlog : Nat.log2 (2 * r + b) = Nat.log2 r + 1 := by
        rw [Nat.log2_def (2 * r + b), if_pos (by omega)]
        congr 2; omega
      have hle := two_pow_log2_le hr
      have hpos : 0 < 2 ^ Nat.log2 r := Nat.pow_pos (by omega)
      rw [stripTop_pos (2 * r + b) _ (by omega), stripTop_pos r run hr, hlog, Nat.pow_succ]
      have e1 : 2 * r + b - 2 ^ Nat.log2 r * 2 = 2 * (r - 2 ^ Nat.log2 r) + b := by omega
      have e2 : 2 * run + 2 ^ Nat.log2 r * 2 = 2 * (run + 2 ^ Nat.log2 r) := by omega
      rw [e1, e2, ih (r - 2 ^ Nat.log2 r) (by omega) _ b hb]
      simp only [List.map_cons, List.cons_append]
      congr 2
      by_cases hb1 : b = 1
      · simp only [hb1, if_true]; congr 2; omega
      · simp [hb1]

theorem stripTop_eq_peakPos : ∀ n : Nat, stripTop n 0 = peakPos n := by
  intro n
  induction n using Nat.div2Induction with
  | ind n ih =>
    by_cases hn : n = 0
    · subst hn; rw [stripTop_zero, peakPos_zero]
    · have e : n = 2 * (n / 2) + n % 2 := by omega
      have := stripTop_double (n / 2) 0 (n % 2) (by omega)
      rw [Nat.mul_zero, ← e] at this
      rw [this, peakPos_unfold n hn, ih (by omega)]
      congr 1
      by_cases h : n % 2 = 1
      · simp only [h, if_true]; congr 2; omega
      · simp [h]

theorem popCount_strip {n : Nat} (h : n ≠ 0) : TF.popCount (n - 2 ^ Nat.log2 n) + 1 = TF.popCount n := by
  have h1 := two_pow_log2_le h
  have h2 := lt_two_pow_log2_succ n
  have hpos : 0 < 2 ^ Nat.log2 n := Nat.pow_pos (by omega)
  rw [Nat.pow_succ] at h2
  have hd : n / 2 ^ Nat.log2 n = 1 := by
    apply Nat.div_eq_of_lt_le <;> omega
  have hm : n % 2 ^ Nat.log2 n = n - 2 ^ Nat.log2 n := by
    have := Nat.div_add_mod n (2 ^ Nat.log2 n)
    rw [hd] at this; omega
  rw [popCount_split (Nat.log2 n) n, hd, hm, popCount_one]; omega

end TF.MmrE
