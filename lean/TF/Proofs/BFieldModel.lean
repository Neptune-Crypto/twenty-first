import TF.Proofs.BFieldZMod
import TF.Spec.Field
import TF.Proofs.Prime
import Mathlib.FieldTheory.Finite.Basic
/-!
The hand-written loops of `TF/Model/BField.lean` (mod_pow, inverse chain, conversions) compute in the field `ZMod P`
(through `toF`), hence refine the specification-level field `TF/Spec/Field.lean`.
-/
namespace TF.BF
open TF.Gen TF.Model TF.Spec

theorem P_pos : 0 < Pn := by decide

theorem modPow_spec (a : Nat) (ha : canon a) : ∀ e, canon (BF.modPow a e) ∧ toF (BF.modPow a e) = toF a ^ e := by
  intro e
  induction e using Nat.strongRecOn with
  | _ e ih =>
    cases e with
    | zero => rw [BF.modPow, pow_zero]; exact ⟨canon_one, toF_one⟩
    | succ n =>
      obtain ⟨hc, hv⟩ := ih ((n+1)/2) (by omega)
      have hc2 := canon_mul _ _ hc hc
      have hv2 : toF (bfe_mul (BF.modPow a ((n+1)/2)) (BF.modPow a ((n+1)/2))) = toF a ^ (2 * ((n+1)/2)) := by
        rw [toF_mul _ _ hc hc, hv, ← pow_add, two_mul]
      rw [BF.modPow]
      split
      · refine ⟨canon_mul _ _ hc2 ha, ?_⟩
        rw [toF_mul _ _ hc2 ha, hv2, ← pow_succ]
        congr 1; omega
      · refine ⟨hc2, ?_⟩
        rw [hv2]
        congr 1; omega

theorem toF_modPow (a : Nat) (ha : canon a) (e : Nat) : toF (BF.modPow a e) = toF a ^ e := (modPow_spec a ha e).2

theorem modPow_value (a : Nat) (ha : canon a) (e : Nat) :
    canon (BF.modPow a e) ∧ val (BF.modPow a e) = (val a) ^ e % P :=
  ⟨(modPow_spec a ha e).1, value_of_toF (Nat.lt_trans (modPow_spec a ha e).1 Pn_lt_W)
    ((toF_modPow a ha e).trans (Nat.cast_pow _ _).symm)⟩

theorem fpow_eq (a : Nat) : ∀ e, fpow a e = a ^ e % P := by
  intro e
  induction e using Nat.strongRecOn with
  | _ e ih =>
    cases e with
    | zero => rw [fpow, Nat.pow_zero]
    | succ n =>
      have hsq : fmul (fpow a ((n+1)/2)) (fpow a ((n+1)/2)) = a ^ (2 * ((n+1)/2)) % P := by
        rw [ih ((n+1)/2) (by omega), fmul, ← Nat.mul_mod, ← Nat.pow_add, Nat.two_mul]
      rw [fpow, hsq]
      split
      · rw [fmul, Nat.mod_mul_mod, ← Nat.pow_succ]; congr 2; omega
      · congr 2; omega

/-- a raw word `r` "is `x^m`" -/
def IsPow (x m r : Nat) : Prop := canon r ∧ toF r = toF x ^ m

theorem IsPow.mul {x m n a b : Nat} (ha : IsPow x m a) (hb : IsPow x n b) : IsPow x (m + n) (bfe_mul a b) :=
  ⟨canon_mul _ _ ha.1 hb.1, by rw [toF_mul _ _ ha.1 hb.1, ha.2, hb.2, pow_add]⟩

theorem IsPow.sqN {x m b : Nat} (k : Nat) (hb : IsPow x m b) : IsPow x (m * 2 ^ k) (BF.sqN b k) := by
  induction k generalizing m b with
  | zero => rw [BF.sqN, Nat.pow_zero, Nat.mul_one]; exact hb
  | succ k ih =>
    rw [BF.sqN, Nat.pow_succ, Nat.mul_comm _ 2, ← Nat.mul_assoc, Nat.mul_two]
    exact ih (hb.mul hb)

theorem IsPow.cast {x m n r : Nat} (h : IsPow x m r) (e : m = n) : IsPow x n r := e ▸ h

theorem IsPow.self {x : Nat} (hx : canon x) : IsPow x 1 x := ⟨hx, (pow_one _).symm⟩

/-- the addition chain of `inverse` computes `x^(P-2)`, the inverse by Fermat -/
theorem inverse_chain (x : Nat) (hx : canon x) (h : x ≠ BF.zero) : ∃ r, BF.inverse x = some r ∧ IsPow x (P - 2) r := by
  have h0 : (x == BF.zero) = false := beq_false_of_ne h
  unfold BF.inverse
  simp only [h0, Bool.false_eq_true, if_false, BF.square]
  refine ⟨_, rfl, ?_⟩
  have s := IsPow.self hx
  have b2 := ((s.mul s).mul s)
  have b3 := ((b2.mul b2).mul s)
  have b6 := (b3.sqN 3).mul b3
  have b12 := (b6.sqN 6).mul b6
  have b24 := (b12.sqN 12).mul b12
  have b30 := (b24.sqN 6).mul b6
  have b31 := (b30.mul b30).mul s
  have b31z := b31.mul b31
  have b32 := (b31.mul b31).mul s
  -- `P - 2 = 0xFFFFFFFE_FFFFFFFF`: 31 ones, a zero, 32 ones
  exact ((b31z.sqN 32).mul b32).cast (by decide)

theorem inverse_zero : BF.inverse BF.zero = none := by unfold BF.inverse; rw [beq_self_eq_true, if_pos rfl]

theorem toF_inverse (x : Nat) (hx : canon x) (hnz : x ≠ BF.zero) :
    ∃ r, BF.inverse x = some r ∧ canon r ∧ toF r = (toF x)⁻¹ := by
  obtain ⟨r, hr, hc, hp⟩ := inverse_chain x hx hnz
  refine ⟨r, hr, hc, eq_inv_of_mul_eq_one_left ?_⟩
  rw [hp, ← pow_succ]
  exact ZMod.pow_card_sub_one_eq_one fun h => hnz ((toF_eq_zero x hx).1 h)

/-- for every non-zero canonical element the result is canonical and `inverse(x) · x = 1` -/
theorem inverse_spec (x : Nat) (hx : canon x) (hnz : x ≠ BF.zero) :
    ∃ r, BF.inverse x = some r ∧ canon r ∧ fmul (val r) (val x) = 1 := by
  obtain ⟨r, hr, hc, hp⟩ := toF_inverse x hx hnz
  refine ⟨r, hr, hc, ?_⟩
  have hx0 : toF x ≠ 0 := fun h => hnz ((toF_eq_zero x hx).1 h)
  have h : ((val r * val x : ℕ) : Fp) = ((1 : ℕ) : Fp) := by
    rw [Nat.cast_mul, Nat.cast_one]
    show toF r * toF x = 1
    rw [hp]
    exact inv_mul_cancel₀ hx0
  exact (cast_eq_iff _ _).1 h

theorem inverse_unique (vx y z : Nat) (hy : y < P) (hz : z < P) (h1 : fmul y vx = 1) (h2 : fmul z vx = 1) : y = z := by
  unfold fmul at *
  -- y = y * (z * vx) = (y * vx) * z = z  (mod P)
  have e1 : (y * (z * vx)) % P = y := by
    rw [Nat.mul_mod, h2, Nat.mul_one, Nat.mod_mod, Nat.mod_eq_of_lt hy]
  have e2 : (y * (z * vx)) % P = z := by
    rw [Nat.mul_left_comm, Nat.mul_mod, h1, Nat.mul_one, Nat.mod_mod, Nat.mod_eq_of_lt hz]
  rw [← e1, e2]

theorem ite_some_iff {α : Type} (c : Prop) [Decidable c] (v : α) :
    ((if c then some v else none) = some v ↔ c) ∧ ((if c then some v else none) = none ↔ ¬ c) := by
  split <;> simp [*]

theorem fromU128_spec (x : Nat) (hx : x < W * W) : canon (BF.fromU128 x) ∧ bfe_value (BF.fromU128 x) = x % Pn := by
  have h := mod_reduce_spec x hx
  have hn := new_spec (mod_reduce x) h.1
  exact ⟨hn.1, hn.2.trans h.2⟩

/-- `From<i64>`: every `i64` is mapped to its residue.  A negative `v` becomes `2^128 − |v|` by `as u128`, and the code
    subtracts `R2 = 2^128 mod P` (no underflow, `|v| ≤ 2^63`), which leaves a number `≡ −|v| (mod P)`; `omega` does the rest -/
theorem fromI64_spec (v : Int) (h1 : -(2:Int)^63 ≤ v) (h2 : v < (2:Int)^63) :
    canon (BF.fromI64 v) ∧ ((bfe_value (BF.fromI64 v) : Nat) : Int) = v % (18446744069414584321 : Int) := by
  unfold BF.fromI64
  by_cases hv : v ≥ 0
  · rw [if_pos hv]
    obtain ⟨hc, hval⟩ := fromU128_spec v.toNat (by unfold W; omega)
    exact ⟨hc, by rw [hval]; unfold Pn; omega⟩
  · rw [if_neg hv]
    obtain ⟨hc, hval⟩ := fromU128_spec (2 ^ 128 - (-v).toNat - R2) (by unfold W R2; omega)
    exact ⟨hc, by rw [hval]; unfold Pn R2; omega⟩

theorem toI64_spec (a : Nat) (ha : canon a) :
    -(2:Int)^63 ≤ BF.toI64 a ∧ BF.toI64 a < (2:Int)^63 ∧ (BF.toI64 a) % (18446744069414584321 : Int) = (bfe_value a : Int) := by
  have hv := value_lt a (Nat.lt_trans ha Pn_lt_W)
  unfold BF.toI64 Pn at *
  simp only
  split
  · omega
  · unfold P; omega

end TF.BF
