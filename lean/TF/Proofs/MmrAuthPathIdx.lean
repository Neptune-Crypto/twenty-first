import TF.Proofs.MmrNodeIndex
/-!
`get_authentication_path_node_indices` (`shared_advanced.rs`) on node coordinates: from `start = nodeIdx l j` the Rust
loop climbs to the parent while the current index is `≤ node_count` and `≠ peak_node_index`, pushing the sibling each
round, and answers `Some(path)` iff it stops at `peak_node_index` (`get_auth_path_spec` and its corollaries).
-/
namespace TF.MmrE
open TF TF.Gen TF.Model.Mmr TF.Spec.MmrE

theorem anc_add (l j a b : Nat) : anc (l + a) (j / 2 ^ a) b = anc l j (a + b) := by
  unfold anc
  rw [Nat.div_div_eq_div_mul, ← Nat.pow_add, Nat.add_assoc]

theorem sibsUp_succ_last (l j d : Nat) :
    sibsUp l j (d + 1) = sibsUp l j d ++ [nodeIdx (l + d) (sibBlk (j / 2 ^ d))] := by
  unfold sibsUp
  rw [List.range_succ, List.map_append]
  rfl

theorem sibsUp_length (l j d : Nat) : (sibsUp l j d).length = d := by simp [sibsUp]

theorem anc_top (l j : Nat) (hlt : nodeIdx l j < 2 ^ 64) : anc l j (63 - l) = 2 ^ 64 - 1 := by
  obtain ⟨hl, hj⟩ := coords_of_lt l j hlt
  unfold anc
  rw [Nat.div_eq_of_lt hj, Nat.add_sub_cancel' hl, nodeIdx_root]

theorem anc_le_top (l j t : Nat) (hlt : nodeIdx l j < 2 ^ 64) (ht : l + t ≤ 63) : anc l j t ≤ 2 ^ 64 - 1 :=
  anc_top l j hlt ▸ anc_mono l j (show t ≤ 63 - l by omega)

theorem authPathLoop_succ (peak nc f x : Nat) (acc : List Nat) :
    authPathLoop peak nc (f + 1) x acc =
      if x ≤ nc ∧ x ≠ peak then
        match siblingAndParent x with
        | none => none
        | some (_, s, p) => authPathLoop peak nc f p (acc ++ [s])
      else some (x, acc) := by
  rw [authPathLoop]
  unfold siblingAndParent
  split
  · cases right_lineage_length_and_own_height x with
    | none => rfl
    | some v =>
      obtain ⟨rc, h⟩ := v
      simp only
      split <;> rfl
  · rfl

theorem authPathLoop_step (peak nc f l j : Nat) (acc : List Nat) (hl : l < 63)
    (hlt : nodeIdx (l + 1) (j / 2) < 2 ^ 64) :
    authPathLoop peak nc (f + 1) (nodeIdx l j) acc =
      if nodeIdx l j ≤ nc ∧ nodeIdx l j ≠ peak then
        authPathLoop peak nc f (nodeIdx (l + 1) (j / 2)) (acc ++ [nodeIdx l (sibBlk j)])
      else some (nodeIdx l j, acc) := by
  rw [authPathLoop_succ, siblingAndParent_spec l j hl hlt]

/-- **the climb**: if the loop condition holds at the first `d` nodes of the path from `(l, j)` upwards and fails at
    the `d`-th ancestor, the loop ends there with the siblings of the first `d` nodes, bottom-up -/
theorem authPathLoop_climb (peak nc : Nat) : ∀ (d l j : Nat) (acc : List Nat) (fuel : Nat), d < fuel →
    anc l j d < 2 ^ 64 →
    (∀ t, t < d → anc l j t ≤ nc ∧ anc l j t ≠ peak) → ¬ (anc l j d ≤ nc ∧ anc l j d ≠ peak) →
    authPathLoop peak nc fuel (nodeIdx l j) acc = some (anc l j d, acc ++ sibsUp l j d) := by
  intro d
  induction d with
  | zero =>
    intro l j acc fuel hf _ _ hstop
    obtain ⟨f, rfl⟩ : ∃ f, fuel = f + 1 := ⟨fuel - 1, by omega⟩
    rw [anc_zero] at hstop
    rw [authPathLoop_succ, if_neg hstop, anc_zero, sibsUp_zero, List.append_nil]
  | succ d ih =>
    intro l j acc fuel hf hlt hgo hstop
    obtain ⟨f, rfl⟩ : ∃ f, fuel = f + 1 := ⟨fuel - 1, by omega⟩
    obtain ⟨hl, hpar⟩ := parent_lt_of_anc_lt l j d hlt
    have h0 := hgo 0 (by omega)
    rw [anc_zero] at h0
    rw [authPathLoop_step peak nc f l j acc hl hpar, if_pos h0]
    rw [ih (l + 1) (j / 2) _ f (by omega) (by rw [anc_succ]; exact hlt)
      (fun t ht => by rw [anc_succ]; exact hgo (t + 1) (by omega)) (by rw [anc_succ]; exact hstop)]
    rw [anc_succ, sibsUp_succ, List.append_assoc]
    rfl

/-- the loop always ends (for `node_count ≤ 2^64 − 2`), at the first level `d` at which the ancestor exceeds
    `node_count` or equals `peak`; any fuel above `63 − l` suffices -/
theorem authPathLoop_total (l j peak nc : Nat) (hlt : nodeIdx l j < 2 ^ 64) (hnc : nc < 2 ^ 64 - 1) :
    ∃ d, l + d ≤ 63 ∧ (nc < anc l j d ∨ anc l j d = peak) ∧ (∀ t, t < d → anc l j t ≤ nc ∧ anc l j t ≠ peak) ∧
      ∀ (fuel : Nat) (acc : List Nat), 63 - l < fuel →
        authPathLoop peak nc fuel (nodeIdx l j) acc = some (anc l j d, acc ++ sibsUp l j d) := by
  obtain ⟨hl, _⟩ := coords_of_lt l j hlt
  have htop := anc_top l j hlt
  have htop' : nc < anc l j (63 - l) ∨ anc l j (63 - l) = peak := Or.inl (by rw [htop]; omega)
  have hex : ∃ t, nc < anc l j t ∨ anc l j t = peak := ⟨63 - l, htop'⟩
  obtain ⟨d, hd, hPd, hmin⟩ : ∃ d, d ≤ 63 - l ∧ (nc < anc l j d ∨ anc l j d = peak) ∧
      ∀ t, t < d → ¬ (nc < anc l j t ∨ anc l j t = peak) :=
    ⟨Nat.find hex, Nat.find_min' hex htop', Nat.find_spec hex, fun _ ht => Nat.find_min hex ht⟩
  have hgo : ∀ t, t < d → anc l j t ≤ nc ∧ anc l j t ≠ peak := by
    intro t ht
    have := hmin t ht
    constructor
    · by_contra hc; exact this (Or.inl (by omega))
    · intro hc; exact this (Or.inr hc)
  refine ⟨d, by omega, hPd, hgo, ?_⟩
  intro fuel acc hf
  have hle := anc_le_top l j d hlt (by omega)
  exact authPathLoop_climb peak nc d l j acc fuel (by omega) (by omega) hgo
    (by rintro ⟨h1, h2⟩; rcases hPd with h | h <;> omega)

/-- **`get_authentication_path_node_indices(start, peak, node_count)`, complete description** for every start node,
    every `peak` and every `node_count ≤ 2^64 − 2`: with `d` the first level at which the ancestor exceeds `node_count`
    or equals `peak`, the result is `Some(sibsUp l j d)` if that ancestor is `peak`, and `None` otherwise -/
theorem get_auth_path_spec (l j peak nc : Nat) (hlt : nodeIdx l j < 2 ^ 64) (hnc : nc < 2 ^ 64 - 1) :
    ∃ d, l + d ≤ 63 ∧ (nc < anc l j d ∨ anc l j d = peak) ∧ (∀ t, t < d → anc l j t ≤ nc ∧ anc l j t ≠ peak) ∧
      get_authentication_path_node_indices (nodeIdx l j) peak nc
        = some (if anc l j d = peak then some (sibsUp l j d) else none) := by
  obtain ⟨d, hd, hPd, hgo, hloop⟩ := authPathLoop_total l j peak nc hlt hnc
  refine ⟨d, hd, hPd, hgo, ?_⟩
  unfold get_authentication_path_node_indices
  -- the model grants `descentFuel + 1 = 66` rounds; `63 − l + 1` are enough
  rw [hloop (descentFuel + 1) [] (by unfold descentFuel; omega)]
  simp only [List.nil_append]
  by_cases hp : anc l j d = peak
  · rw [if_pos hp, if_pos hp]
  · rw [if_neg hp, if_neg hp]

/-- **ancestor case**: for a node `(l, j)` and its ancestor-or-self `d` levels up, provided all nodes of the path strictly
    below that ancestor are `≤ node_count`, the result is the list of sibling node indices bottom-up — for every
    `node_count`: the climb stops at the ancestor (e.g. a leaf and the peak of its tree: the membership-proof positions) -/
theorem get_auth_path_ancestor (l j d nc : Nat) (hlt : anc l j d < 2 ^ 64)
    (hbelow : ∀ t, t < d → anc l j t ≤ nc) :
    get_authentication_path_node_indices (nodeIdx l j) (anc l j d) nc = some (some (sibsUp l j d)) := by
  have hlt0 : nodeIdx l j < 2 ^ 64 := by
    have := anc_mono l j (a := 0) (b := d) (by omega)
    rw [anc_zero] at this; omega
  have hd : d < descentFuel + 1 := by
    have := (coords_of_lt _ _ hlt).1
    unfold descentFuel
    omega
  have hloop := authPathLoop_climb (anc l j d) nc d l j [] (descentFuel + 1) hd hlt
    (fun t ht => ⟨hbelow t ht, Nat.ne_of_lt (anc_strictMono l j ht)⟩) (by simp)
  unfold get_authentication_path_node_indices
  rw [hloop]
  simp

/-- the result is never "does not terminate" and it is `Some(path)` **iff** `peak` is an ancestor-or-self of the
    start node such that every node of the path strictly below it is `≤ node_count`; the path is then `sibsUp` -/
theorem get_auth_path_some_iff (l j peak nc : Nat) (hlt : nodeIdx l j < 2 ^ 64) (hnc : nc < 2 ^ 64 - 1)
    (path : List Nat) :
    get_authentication_path_node_indices (nodeIdx l j) peak nc = some (some path) ↔
      ∃ d, l + d ≤ 63 ∧ anc l j d = peak ∧ (∀ t, t < d → anc l j t ≤ nc) ∧ path = sibsUp l j d := by
  constructor
  · intro h
    obtain ⟨d, hd, _, hgo, hres⟩ := get_auth_path_spec l j peak nc hlt hnc
    rw [hres] at h
    by_cases hp : anc l j d = peak
    · rw [if_pos hp] at h
      have : sibsUp l j d = path := by simpa using h
      exact ⟨d, hd, hp, fun t ht => (hgo t ht).1, this.symm⟩
    · rw [if_neg hp] at h
      simp at h
  · rintro ⟨d, hd, hp, hbelow, rfl⟩
    have hle := anc_le_top l j d hlt hd
    rw [← hp]
    exact get_auth_path_ancestor l j d nc (by omega) hbelow

/-- `None` **exactly** when `peak` is not reached: every level at which the ancestor equals `peak` lies above a node
    of the path that already exceeds `node_count` (in particular when `peak` is no ancestor-or-self at all) -/
theorem get_auth_path_none_iff (l j peak nc : Nat) (hlt : nodeIdx l j < 2 ^ 64) (hnc : nc < 2 ^ 64 - 1) :
    get_authentication_path_node_indices (nodeIdx l j) peak nc = some none ↔
      ∀ d, l + d ≤ 63 → anc l j d = peak → ∃ t, t < d ∧ nc < anc l j t := by
  obtain ⟨d, hd, hstop, hgo, hres⟩ := get_auth_path_spec l j peak nc hlt hnc
  rw [hres]
  constructor
  · intro h d' hd' hp'
    by_cases hp : anc l j d = peak
    · rw [if_pos hp] at h; simp at h
    · -- the climb stopped at `d` because `anc d > nc`; `d' > d` (below `d` nothing equals `peak`)
      have hnc' : nc < anc l j d := hstop.resolve_right hp
      refine ⟨d, ?_, hnc'⟩
      rcases Nat.lt_trichotomy d' d with h1 | h1 | h1
      · exact absurd hp' (hgo d' h1).2
      · subst h1; exact absurd hp' hp
      · exact h1
  · intro h
    by_cases hp : anc l j d = peak
    · obtain ⟨t, ht, hnt⟩ := h d hd hp
      have := (hgo t ht).1
      omega
    · rw [if_neg hp]

theorem siblingAndParent_zero : siblingAndParent 0 = some (false, 0, 1) := by decide +kernel

/-- **`start_node_index = 0`** with the arithmetic of a release build (the arithmetic of the model):
    `leftmost_ancestor(0)` wraps to `(0, 2^32 − 1)`, so "node 0" is taken for a left child of height `2^32 − 1`; its
    "sibling" `0 + (1 << 0) − 1 = 0` is pushed and the climb continues at its "parent" `0 + (1 << 0) = 1`.  Hence
    the result is `Some []` for `peak = 0` and otherwise that for start `1` with a `0` in front.
    (A debug build panics in `leftmost_ancestor`: `64 − 64 − 1` underflows.) -/
theorem get_auth_path_start_zero (peak nc : Nat) (hnc : nc < 2 ^ 64 - 1) :
    get_authentication_path_node_indices 0 peak nc =
      if peak = 0 then some (some [])
      else (get_authentication_path_node_indices 1 peak nc).map (fun res => res.map (fun p => 0 :: p)) := by
  unfold get_authentication_path_node_indices
  rw [authPathLoop_succ]
  by_cases hp : peak = 0
  · subst hp
    simp
  · have h0 : (0 ≤ nc ∧ 0 ≠ peak) := ⟨Nat.zero_le _, fun h => hp h.symm⟩
    rw [if_pos h0, if_neg hp, siblingAndParent_zero]
    simp only [List.nil_append]
    obtain ⟨d, _, _, _, hloop⟩ := authPathLoop_total 0 0 peak nc (by rw [nodeIdx_root]; omega) hnc
    rw [show nodeIdx 0 0 = 1 from nodeIdx_root 0] at hloop
    rw [hloop descentFuel [0] (by unfold descentFuel; omega),
      hloop (descentFuel + 1) [] (by unfold descentFuel; omega)]
    by_cases hq : anc 0 0 d = peak
    · simp [hq]
    · simp [hq]

end TF.MmrE
