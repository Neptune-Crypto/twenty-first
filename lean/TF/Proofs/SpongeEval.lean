import TF.Proofs.Tip5Eval
import TF.Gen.SpongeLoops
/-! The `for chunk` loop of the regenerated `pad_and_absorb_all` over the permutation of `Tip5Eval`, for the examples of C15. -/
namespace TF.SpongeEval
open TF TF.Gen TF.Tip5Eval

/-- the `for chunk` loop of `pad_and_absorb_all` (a recursion over the chunks, so a rewrite cannot reach the `absorb`
    inside it) and its `_ok` twin, with `absorb` written out over `permF` -/
def padForF : List (List Nat) → List Nat → List Nat
  | [], s => s
  | c :: cs, s => padForF cs (permF (c ++ s.drop 10))

def padForOkF : List (List Nat) → List Nat → Bool
  | [], _ => true
  | c :: cs, s => (c.length == 10) &&
      ((((decide (10 ≤ s.length)) && (c.length == 10)) && permOkF (c ++ s.drop 10)) &&
        padForOkF cs (permF (c ++ s.drop 10)))

theorem pad_for_eq : ∀ (cs : List (List Nat)) (s : List Nat), Loops.tip5_pad_and_absorb_all_for cs s = padForF cs s
  | [], _ => rfl
  | c :: cs, s => by
    rw [Loops.tip5_pad_and_absorb_all_for, padForF, ← perm_eq, ← pad_for_eq cs]
    rfl

theorem pad_for_ok_eq : ∀ (cs : List (List Nat)) (s : List Nat),
    Loops.tip5_pad_and_absorb_all_for_ok cs s = padForOkF cs s
  | [], _ => rfl
  | c :: cs, s => by
    rw [Loops.tip5_pad_and_absorb_all_for_ok, padForOkF, ← perm_eq, ← perm_ok_eq, ← pad_for_ok_eq cs]
    rfl

end TF.SpongeEval
