import TF.Model.PolyDiv
import TF.Proofs.Poly
import TF.Proofs.PolyMulHom
import Mathlib.Algebra.Polynomial.FieldDivision
import Mathlib.Tactic.LinearCombination
import Mathlib.Tactic.FieldSimp
import Mathlib.Algebra.Polynomial.Reverse
/-!
Helper lemmas for property C09 (`TF/Props/C09.lean`): the division model of `TF/Model/PolyDiv.lean` through
`denote : List K → K[X]` (shared core, `TF/Proofs/Poly.lean`) for an arbitrary field `K`.  Everything here holds for
every transform pair, or given only the convolution property `NttConv`; the contract `NttDft` is stated at the end,
what needs it is in `PolyDivNtt.lean`.
-/
open Polynomial

namespace TF.Proofs.PolyD
open TF TF.Model.PolyD
open TF.Model.Poly hiding nextPowerOfTwo resize evens odds
open Classical

variable {K : Type} [Field K]

/-- the certificate `a = q·d + r ∧ deg r < deg d` determines `q` and `r`: they are Mathlib's `/` and `%` -/
theorem div_mod_of_certificate {a d q r : K[X]} (h1 : a = q * d + r) (hr : r.degree < d.degree) :
    q = a / d ∧ r = a % d := by
  have hd : d ≠ 0 := by
    rintro rfl
    simp at hr
  have hmod : r = a % d := by
    rw [← (mod_eq_self_iff hd).2 hr]
    exact (mod_eq_of_dvd_sub ⟨q, by rw [h1]; ring⟩).symm
  have h2 := EuclideanDomain.div_add_mod a d
  rw [← hmod] at h2
  exact ⟨mul_left_cancel₀ hd (by linear_combination (-1 : K[X]) * h2 - h1), hmod⟩

variable (root : Nat → Option K)
local notation "FK" => FieldOps.ofField K root

theorem denote_reverse_cons (c : K) (l : List K) :
    denote (c :: l).reverse = denote l.reverse + X ^ l.length * C c := by
  rw [List.reverse_cons, denote_append]; simp

theorem normalize_eq_reverse_revNorm (p : List K) : normalize FK p = (revNorm FK p).reverse := rfl

theorem denote_revNorm_reverse (p : List K) : denote (revNorm FK p).reverse = denote p := by
  rw [← normalize_eq_reverse_revNorm, denote_normalize]

theorem revNorm_eq_nil_iff (p : List K) : revNorm FK p = [] ↔ denote p = 0 := by
  rw [← normalize_eq_nil_iff root p, normalize_eq_reverse_revNorm]
  simp

theorem revNorm_head_ne_zero {p : List K} {c : K} {tl : List K} (h : revNorm FK p = c :: tl) : c ≠ 0 := by
  unfold revNorm at h
  have := List.head_dropWhile_not (FK).isZero (l := p.reverse) (by rw [h]; simp)
  simp only [h, List.head_cons] at this
  intro hc
  rw [hc] at this
  simp at this

theorem length_revNorm (p : List K) : (revNorm FK p).length = degSucc FK p := by
  unfold degSucc
  rw [normalize_eq_reverse_revNorm]
  simp

theorem degree_denote_reverse_cons {c : K} (hc : c ≠ 0) (tl : List K) :
    (denote (c :: tl).reverse).degree = tl.length := by
  rw [denote_reverse_cons]
  have h1 : (denote tl.reverse).degree < tl.length := by
    have := degree_denote_lt tl.reverse
    simpa using this
  have h2 : (X ^ tl.length * C c : K[X]).degree = tl.length := by
    rw [mul_comm, degree_C_mul_X_pow _ hc]
  rw [degree_add_eq_right_of_degree_lt (by rw [h2]; exact h1), h2]

theorem subScaled_spec (qc : K) (tl rest : List K) (h : tl.length ≤ rest.length) :
    ∃ r', subScaled FK qc tl rest = some r' ∧ r'.length = rest.length ∧
      denote r'.reverse = denote rest.reverse - C qc * X ^ (rest.length - tl.length) * denote tl.reverse := by
  induction tl generalizing rest with
  | nil => exact ⟨rest, by simp [subScaled]⟩
  | cons t tl ih =>
    cases rest with
    | nil => simp at h
    | cons r rest =>
      have h' : tl.length ≤ rest.length := by simpa using h
      obtain ⟨r', h1, h2, h3⟩ := ih rest h'
      refine ⟨(r - qc * t) :: r', by simp [subScaled, h1], by simp [h2], ?_⟩
      rw [denote_reverse_cons, denote_reverse_cons, denote_reverse_cons, h3, h2]
      have e : (rest.length + 1) - (tl.length + 1) = rest.length - tl.length := by omega
      simp only [List.length_cons, e]
      have hx : (X : K[X]) ^ rest.length = X ^ (rest.length - tl.length) * X ^ tl.length := by
        rw [← pow_add]
        congr 1
        omega
      rw [hx]
      simp only [C_sub, C_mul]
      ring

theorem divLoop_spec {lc : K} (hlc : lc ≠ 0) (tl : List K) (n : Nat) (rr q : List K)
    (hlen : rr.length = tl.length + n) :
    ∃ q' r', divLoop FK lc⁻¹ tl n rr q = some (q', r') ∧ r'.length = tl.length ∧
      denote q' * denote (lc :: tl).reverse + denote r'.reverse
        = denote q * X ^ n * denote (lc :: tl).reverse + denote rr.reverse := by
  induction n generalizing rr q with
  | zero => exact ⟨q, rr, by simp [divLoop], by simpa using hlen, by simp⟩
  | succ n ih =>
    cases rr with
    | nil => simp at hlen
    | cons c rest =>
      have hrest : rest.length = tl.length + n := by simp at hlen; omega
      by_cases hz : c * lc⁻¹ = 0
      · have hc : c = 0 := by
          rcases mul_eq_zero.1 hz with h | h
          · exact h
          · exact absurd (inv_eq_zero.1 h) hlc
        obtain ⟨q', r', h1, h2, h3⟩ := ih rest ((c * lc⁻¹) :: q) hrest
        refine ⟨q', r', ?_, h2, ?_⟩
        · have hz' : (FK).isZero ((FK).mul c lc⁻¹) = true := (FieldOps.ofField_isZero root _).2 hz
          simp only [divLoop]
          rw [if_pos hz']
          exact h1
        · rw [h3, denote_reverse_cons c rest, hz, hc, denote_cons]
          simp only [map_zero, mul_zero, add_zero, zero_add, pow_succ]
          ring
      · obtain ⟨rest', hs1, hs2, hs3⟩ := subScaled_spec root (c * lc⁻¹) tl rest (by omega)
        obtain ⟨q', r', h1, h2, h3⟩ := ih rest' ((c * lc⁻¹) :: q) (by rw [hs2]; exact hrest)
        refine ⟨q', r', ?_, h2, ?_⟩
        · have hz' : ¬ (FK).isZero ((FK).mul c lc⁻¹) = true := by
            rw [FieldOps.ofField_isZero]; exact hz
          simp only [divLoop]
          rw [if_neg hz']
          show (match subScaled FK (c * lc⁻¹) tl rest with
            | none => none
            | some rest' => divLoop FK lc⁻¹ tl n rest' (c * lc⁻¹ :: q)) = _
          rw [hs1]
          exact h1
        · rw [h3, hs3, denote_reverse_cons c rest, denote_reverse_cons lc tl, denote_cons, hrest]
          have e : tl.length + n - tl.length = n := by omega
          rw [e]
          have hcc : (C (c * lc⁻¹) : K[X]) * C lc = C c := by
            rw [← C_mul, mul_assoc, inv_mul_cancel₀ hlc, mul_one]
          simp only [pow_succ, pow_add]
          linear_combination (X ^ tl.length * X ^ n) * hcc

/-- `naive_divide` on any dividend, any non-zero divisor, any storage: returns the certificate -/
theorem naiveDivide_spec (a d : List K) (hd : denote d ≠ 0) :
    ∃ q r, naiveDivide FK a d = some (q, r) ∧ denote a = denote q * denote d + denote r ∧
      (denote r).degree < (denote d).degree := by
  unfold naiveDivide
  cases hrd : revNorm FK d with
  | nil => exact absurd ((revNorm_eq_nil_iff root d).1 hrd) hd
  | cons lc tl =>
    have hlc : lc ≠ 0 := revNorm_head_ne_zero root hrd
    have hD : denote (lc :: tl).reverse = denote d := by rw [← hrd, denote_revNorm_reverse]
    have hdegD : (denote d).degree = tl.length := by rw [← hD, degree_denote_reverse_cons hlc]
    simp only [FieldOps.ofField_inv]
    split
    · next hlt =>
      refine ⟨[], a, rfl, by simp, ?_⟩
      rw [hdegD, ← denote_revNorm_reverse root a]
      refine lt_of_lt_of_le (degree_denote_lt _) ?_
      simp only [List.length_reverse, Nat.cast_le]
      omega
    · next hge =>
      have hlen : (revNorm FK a).length = tl.length + ((revNorm FK a).length - tl.length) := by omega
      obtain ⟨q', r', h1, h2, h3⟩ := divLoop_spec root hlc tl _ (revNorm FK a) [] hlen
      rw [h1]
      refine ⟨q', r'.reverse, rfl, ?_, ?_⟩
      · rw [hD] at h3
        simp only [denote_nil, zero_mul, zero_add] at h3
        rw [denote_revNorm_reverse] at h3
        exact h3.symm
      · rw [hdegD]
        have := degree_denote_lt r'.reverse
        simpa [h2] using this

/-- `naive_divide` panics for the zero divisor, in any storage of zero -/
theorem naiveDivide_zero (a d : List K) (hd : denote d = 0) : naiveDivide FK a d = none := by
  unfold naiveDivide
  rw [(revNorm_eq_nil_iff root d).2 hd]

theorem div_spec (a d : List K) (hd : denote d ≠ 0) :
    ∃ q, div FK a d = some q ∧ denote q = denote a / denote d := by
  obtain ⟨q, r, h1, h2, h3⟩ := naiveDivide_spec root a d hd
  exact ⟨q, by unfold Model.PolyD.div; rw [h1]; rfl, (div_mod_of_certificate h2 h3).1⟩

theorem div_spec_of_dvd (a d : List K) (hd : denote d ≠ 0) (hdvd : denote d ∣ denote a) :
    ∃ q, div FK a d = some q ∧ denote q * denote d = denote a := by
  obtain ⟨q, h1, h2⟩ := div_spec root a d hd
  exact ⟨q, h1, by rw [h2, mul_comm]; exact EuclideanDomain.mul_div_cancel' hd hdvd⟩

theorem rem_spec (a d : List K) (hd : denote d ≠ 0) :
    ∃ r, rem FK a d = some r ∧ denote r = denote a % denote d := by
  obtain ⟨q, r, h1, h2, h3⟩ := naiveDivide_spec root a d hd
  exact ⟨r, by unfold Model.PolyD.rem; rw [h1]; rfl, (div_mod_of_certificate h2 h3).2⟩

theorem degSucc_spec (p : List K) :
    degSucc FK p = if denote p = 0 then 0 else (denote p).natDegree + 1 := by
  unfold degSucc
  split
  · next h => rw [(normalize_eq_nil_iff root p).2 h]; rfl
  · next h => exact length_normalize root p h

theorem degree_eq_degSucc (p : List K) : Model.Poly.degree FK p = (degSucc FK p : Int) - 1 := rfl

theorem degSucc_lt_of_degree_lt {r y : List K} (h : (denote r).degree < (denote y).degree) :
    degSucc FK r < degSucc FK y := by
  rw [degSucc_spec, degSucc_spec]
  have hy : denote y ≠ 0 := by
    intro h0
    rw [h0] at h
    simp at h
  rw [if_neg hy]
  split
  · omega
  · next hr =>
    rw [degree_eq_natDegree hr, degree_eq_natDegree hy] at h
    have : (denote r).natDegree < (denote y).natDegree := by exact_mod_cast h
    omega

theorem degree_lt_iff (a m : List K) :
    Model.Poly.degree FK a < Model.Poly.degree FK m ↔ (denote a).degree < (denote m).degree := by
  rw [degree_eq_degSucc, degree_eq_degSucc, degSucc_spec, degSucc_spec]
  by_cases ha : denote a = 0 <;> by_cases hm : denote m = 0
  · simp [ha, hm]
  · simp [ha, hm, bot_lt_iff_ne_bot, degree_eq_bot]
    omega
  · simp [ha, hm]
  · rw [if_neg ha, if_neg hm, degree_eq_natDegree ha, degree_eq_natDegree hm]
    simp only [Nat.cast_lt]
    omega

theorem degree_mul_lt_add {A B : K[X]} {a b : Nat} (hA : A.degree < a) (hB : B.degree < b) :
    (A * B).degree < ((a + b : Nat) : WithBot ℕ) := by
  by_cases hA0 : A = 0
  · rw [hA0, zero_mul, degree_zero]; exact WithBot.bot_lt_coe _
  by_cases hB0 : B = 0
  · rw [hB0, mul_zero, degree_zero]; exact WithBot.bot_lt_coe _
  rw [degree_mul, degree_eq_natDegree hA0, degree_eq_natDegree hB0]
  rw [degree_eq_natDegree hA0] at hA
  rw [degree_eq_natDegree hB0] at hB
  have h1 : A.natDegree < a := by exact_mod_cast hA
  have h2 : B.natDegree < b := by exact_mod_cast hB
  exact_mod_cast (by omega : A.natDegree + B.natDegree < a + b)

/-- the Euclid loop.  `hx`, `hy`: the cofactors express `x`, `y` through the inputs `X0`, `Y0`; `hdvd`: the pair `x, y`
    has the same common divisors as `X0, Y0` — this is what makes the result a greatest common divisor -/
theorem xgcdLoop_spec (X0 Y0 : K[X]) (fuel : Nat) (x y a0 a1 b0 b1 : List K)
    (hfuel : degSucc FK y < fuel)
    (hx : denote x = denote a0 * X0 + denote b0 * Y0)
    (hy : denote y = denote a1 * X0 + denote b1 * Y0)
    (hdvd : ∀ h : K[X], (h ∣ denote x ∧ h ∣ denote y) ↔ (h ∣ X0 ∧ h ∣ Y0)) :
    ∃ g a b, xgcdLoop FK fuel x y a0 a1 b0 b1 = some (g, a, b) ∧
      denote g = denote a * X0 + denote b * Y0 ∧ (∀ h : K[X], h ∣ denote g ↔ (h ∣ X0 ∧ h ∣ Y0)) := by
  induction fuel generalizing x y a0 a1 b0 b1 with
  | zero => omega
  | succ fuel ih =>
    by_cases hy0 : denote y = 0
    · refine ⟨x, a0, b0, ?_, hx, ?_⟩
      · simp only [xgcdLoop]
        rw [if_pos ((isZero_iff root y).2 hy0)]
      · intro h
        rw [← hdvd h, hy0, and_iff_left (dvd_zero h)]
    · obtain ⟨q, r, h1, h2, h3⟩ := naiveDivide_spec root x y hy0
      have hz : ¬ Model.Poly.isZero FK y = true := fun h => hy0 ((isZero_iff root y).1 h)
      have hlt := degSucc_lt_of_degree_lt root h3
      obtain ⟨g, a, b, e1, e2, e3⟩ := ih y r a1 (Model.Poly.sub FK a0 (Model.Poly.mul FK q a1)) b1
        (Model.Poly.sub FK b0 (Model.Poly.mul FK q b1)) (by omega) hy
        (by rw [denote_sub, denote_sub, denote_mul, denote_mul]
            linear_combination hx - h2 - (denote q) * hy)
        (by intro h
            rw [← hdvd h, h2]
            constructor
            · rintro ⟨hy', hr'⟩
              exact ⟨dvd_add (Dvd.dvd.mul_left hy' _) hr', hy'⟩
            · rintro ⟨hx', hy'⟩
              exact ⟨hy', (dvd_add_right (Dvd.dvd.mul_left hy' _)).1 hx'⟩)
      refine ⟨g, a, b, ?_, e2, e3⟩
      simp only [xgcdLoop]
      rw [if_neg hz, h1]
      exact e1

/-- `xgcd` on all inputs (zero, equal, any storage): never panics; the gcd is zero or monic, divides both inputs,
    satisfies Bézout (hence is a greatest common divisor) -/
theorem xgcd_spec (x y : List K) :
    ∃ g a b, xgcd FK x y = some (g, a, b) ∧
      (denote g = 0 ∨ (denote g).Monic) ∧
      denote g ∣ denote x ∧ denote g ∣ denote y ∧
      denote g = denote a * denote x + denote b * denote y := by
  obtain ⟨g, a, b, h1, h2, h3⟩ := xgcdLoop_spec root (denote x) (denote y) (degSucc FK y + 2) x y
    [1] [] [] [1] (by omega) (by simp) (by simp) (fun h => Iff.rfl)
  have hone : [(FK).one] = [(1 : K)] := rfl
  unfold xgcd
  rw [hone, h1]
  simp only [leadingCoefficient_spec root g, FieldOps.ofField_inv]
  have hgx := ((h3 (denote g)).1 dvd_rfl).1
  have hgy := ((h3 (denote g)).1 dvd_rfl).2
  have key : ∀ c : K, c ≠ 0 → denote g * C c ∣ denote x ∧ denote g * C c ∣ denote y ∧
      denote g * C c = denote a * C c * denote x + denote b * C c * denote y := fun c hc =>
    have hunit : IsUnit (C c : K[X]) := isUnit_C.2 (isUnit_iff_ne_zero.2 hc)
    ⟨(IsUnit.mul_right_dvd hunit).2 hgx, (IsUnit.mul_right_dvd hunit).2 hgy, by rw [h2]; ring⟩
  by_cases hg : denote g = 0
  · rw [if_pos hg]
    refine ⟨_, _, _, rfl, ?_⟩
    simp only [denote_scalarMul]
    exact ⟨Or.inl (by rw [hg, zero_mul]), key _ (inv_ne_zero one_ne_zero)⟩
  · rw [if_neg hg]
    refine ⟨_, _, _, rfl, ?_⟩
    simp only [denote_scalarMul]
    exact ⟨Or.inr (monic_mul_leadingCoeff_inv hg), key _ (inv_ne_zero (leadingCoeff_ne_zero.2 hg))⟩

theorem denote_take_drop (p : List K) (m : Nat) (hm : m ≤ p.length) :
    denote (p.drop m) = denote p / X ^ m ∧ denote (p.take m) = denote p % X ^ m := by
  have hdeg : (denote (p.take m)).degree < (X ^ m : K[X]).degree := by
    rw [degree_X_pow]
    have := degree_denote_lt (p.take m)
    rwa [List.length_take, Nat.min_eq_left hm] at this
  exact div_mod_of_certificate (by rw [denote_eq_take_add_drop p m hm]; ring) hdeg

/-- `mod_x_to_the_n(n)` is the remainder modulo `X^n`, for every storage and every `n` -/
theorem modXToTheN_spec (p : List K) (n : Nat) : denote (modXToTheN p n) = denote p % X ^ n := by
  unfold modXToTheN
  by_cases hn : n ≤ p.length
  · exact (denote_take_drop p n hn).2
  · rw [List.take_of_length_le (by omega)]
    symm
    rw [mod_eq_self_iff (pow_ne_zero _ X_ne_zero), degree_X_pow]
    refine lt_of_lt_of_le (degree_denote_lt p) ?_
    exact_mod_cast (by omega : p.length ≤ n)

/-- `truncate(k)` keeps the `k+1` highest coefficients of the normalised polynomial: it is the quotient by
    `X^(deg+1-(k+1))` (by `X^0` when `k ≥ deg`) -/
theorem truncate_spec (p : List K) (k : Nat) :
    denote (truncate FK p k) = denote p / X ^ (degSucc FK p - (k + 1)) := by
  unfold truncate
  have h1 : revNorm FK p = (normalize FK p).reverse := by
    rw [normalize_eq_reverse_revNorm]; simp
  rw [h1, List.take_reverse, List.reverse_reverse]
  have := (denote_take_drop (normalize FK p) ((normalize FK p).length - (k + 1)) (by omega)).1
  rw [this, denote_normalize]
  rfl

theorem coeff_denote_reverse_length (r : List K) : (denote r.reverse).coeff r.length = 0 := by
  rw [coeff_denote, getD_of_ge _ _ _ (by simp)]

/-- the inner product of the loop is the next coefficient of the product -/
theorem dot_eq_coeff (u r : List K) :
    dot FK u r = (X * denote u * denote r.reverse).coeff r.length := by
  induction r generalizing u with
  | nil => cases u <;> simp [dot]
  | cons r0 rs ih =>
    cases u with
    | nil => simp [dot]
    | cons u0 us =>
      simp only [dot, FieldOps.ofField_add, FieldOps.ofField_mul, ih us, denote_reverse_cons, denote_cons,
        List.length_cons]
      have e : X * (C u0 + X * denote us) * (denote rs.reverse + X ^ rs.length * C r0)
          = C u0 * denote rs.reverse * X + C (u0 * r0) * X ^ (rs.length + 1)
            + (X * denote us * denote rs.reverse) * X + (denote us * C r0 * X) * X ^ (rs.length + 1) := by
        rw [C_mul]; ring
      rw [e]
      simp only [coeff_add, coeff_mul_X, coeff_mul_X_pow', coeff_C_mul,
        coeff_denote_reverse_length]
      simp

/-- the inverse of the constant term inverts `f` modulo `X`: where every power-series inversion starts -/
theorem X_dvd_cons_mul_inv_sub_one {c : K} (hc : c ≠ 0) (ft : List K) :
    (X ^ 1 : K[X]) ∣ denote (c :: ft) * denote [c⁻¹] - 1 := by
  refine ⟨denote ft * C c⁻¹, ?_⟩
  have : (C c : K[X]) * C c⁻¹ = 1 := by rw [← C_mul, mul_inv_cancel₀ hc, C_1]
  simp only [denote_cons, denote_nil, mul_zero, add_zero, pow_one]
  linear_combination this

/-- `grev` holds, highest coefficient first, an inverse of `f = c0 + X·ft` modulo `X^|grev|`.  The coefficient the
    loop appends, `-(ft · grev)/c0`, cancels the coefficient of `X^|grev|` in `f·g`, so the precision grows by one. -/
theorem fpsLoop_spec (c0 : K) (hc0 : c0 ≠ 0) (ft : List K) (k : Nat) (grev : List K) (hne : grev ≠ [])
    (hinv : (X ^ grev.length : K[X]) ∣ denote (c0 :: ft) * denote grev.reverse - 1) :
    (fpsLoop FK ft c0⁻¹ k grev).length = grev.length + k ∧
    (X ^ (grev.length + k) : K[X]) ∣ denote (c0 :: ft) * denote (fpsLoop FK ft c0⁻¹ k grev).reverse - 1 := by
  induction k generalizing grev with
  | zero => exact ⟨rfl, hinv⟩
  | succ k ih =>
    obtain ⟨h, hh'⟩ := hinv
    have hh : denote (c0 :: ft) * denote grev.reverse = 1 + X ^ grev.length * h := by linear_combination hh'
    have hpos : 0 < grev.length := List.length_pos_of_ne_nil hne
    have hcoef : (denote (c0 :: ft) * denote grev.reverse).coeff grev.length = dot FK ft grev := by
      rw [dot_eq_coeff, denote_cons, add_mul, coeff_add, coeff_C_mul, coeff_denote_reverse_length]
      simp [mul_assoc]
    have hcoef2 : (denote (c0 :: ft) * denote grev.reverse).coeff grev.length = h.coeff 0 := by
      rw [hh, coeff_add, coeff_one, if_neg (by omega), coeff_X_pow_mul', if_pos le_rfl]
      simp
    set c := (FK).mul ((FK).neg (dot FK ft grev)) c0⁻¹ with hc
    have hcval : c = -(dot FK ft grev) * c0⁻¹ := rfl
    have hstep : (X ^ (c :: grev).length : K[X]) ∣ denote (c0 :: ft) * denote (c :: grev).reverse - 1 := by
      have hx : X ∣ h + C c * denote (c0 :: ft) := by
        rw [X_dvd_iff, coeff_add, coeff_C_mul, denote_cons, coeff_add, coeff_C_zero, mul_coeff_zero,
          coeff_X_zero, zero_mul, add_zero, ← hcoef2, hcoef, hcval]
        field_simp
        ring
      obtain ⟨h', hh'⟩ := hx
      refine ⟨h', ?_⟩
      rw [denote_reverse_cons, mul_add, hh, List.length_cons, pow_succ]
      linear_combination (X ^ grev.length) * hh'
    obtain ⟨hl, e⟩ := ih (c :: grev) (by simp) hstep
    simp only [fpsLoop]
    rw [← hc]
    simp only [List.length_cons] at hl e
    refine ⟨by omega, ?_⟩
    rwa [show grev.length + 1 + k = grev.length + (k + 1) by omega] at e

/-- `formal_power_series_inverse_minimal(n)`: `n+1` coefficients `g` with `f·g ≡ 1 (mod X^(n+1))`, for every
    storage of `f` whose constant term is non-zero -/
theorem fpsInverseMinimal_spec (f : List K) (n : Nat) (h0 : (denote f).coeff 0 ≠ 0) :
    ∃ g, fpsInverseMinimal FK f n = some g ∧ g.length = n + 1 ∧
      (X ^ (n + 1) : K[X]) ∣ denote f * denote g - 1 := by
  cases f with
  | nil => simp at h0
  | cons c0 ft =>
    have hc0 : c0 ≠ 0 := by simpa using h0
    have hz : ¬ (FK).isZero c0 = true := by rw [FieldOps.ofField_isZero]; exact hc0
    obtain ⟨hl, hh⟩ := fpsLoop_spec root c0 hc0 ft n [c0⁻¹] (by simp) (X_dvd_cons_mul_inv_sub_one hc0 ft)
    refine ⟨(fpsLoop FK ft c0⁻¹ n [c0⁻¹]).reverse, ?_, ?_, ?_⟩
    · simp only [fpsInverseMinimal]
      rw [if_neg hz]
      rfl
    · rw [List.length_reverse, hl, List.length_singleton, Nat.add_comm]
    · rwa [List.length_singleton, Nat.add_comm] at hh

/-- `formal_power_series_inverse_minimal` panics when the constant term is zero or missing -/
theorem fpsInverseMinimal_none (f : List K) (n : Nat) (h0 : (denote f).coeff 0 = 0) :
    fpsInverseMinimal FK f n = none := by
  cases f with
  | nil => rfl
  | cons c0 ft =>
    have hc0 : c0 = 0 := by simpa using h0
    simp only [fpsInverseMinimal]
    rw [if_pos ((FieldOps.ofField_isZero root c0).2 hc0)]

theorem degree_zero_iff (m : List K) : Model.Poly.degree FK m = 0 ↔ (denote m).degree = 0 := by
  rw [degree_spec]
  split
  · next h => simp [h]
  · next h => rw [degree_eq_natDegree h]; simp

/-- the first two arms of `reduce` and of `fast_reduce`: a constant modulus leaves remainder zero, … -/
theorem mod_of_degree_zero (a : K[X]) (m : List K) (h0 : Model.Poly.degree FK m = 0) :
    denote ([] : List K) = a % denote m := by
  have h := (degree_zero_iff root m).1 h0
  have hm : denote m ≠ 0 := by
    intro hz
    rw [hz] at h
    simp at h
  have hlt := degree_mod_lt a hm
  rw [h, Nat.WithBot.lt_zero_iff, degree_eq_bot] at hlt
  rw [hlt]
  rfl

/-- … and a dividend of smaller degree is its own remainder -/
theorem mod_of_degree_lt (a m : List K) (hm : denote m ≠ 0)
    (hlt : Model.Poly.degree FK a < Model.Poly.degree FK m) : denote a = denote a % denote m :=
  ((mod_eq_self_iff hm).2 ((degree_lt_iff root a m).1 hlt)).symm

/-- all four arms of `reduce` return the remainder, for every value of the thresholds, provided the fast arm does -/
theorem reduce_spec (N : NttOps K) (ms cutoff stage2 : Nat) (a m : List K) (hm : denote m ≠ 0)
    (hfast : Model.Poly.degree FK a > (ms : Int) * Model.Poly.degree FK m →
      ∃ r, fastReduce FK N cutoff stage2 a m = some r ∧ denote r = denote a % denote m) :
    ∃ r, reduce FK N ms cutoff stage2 a m = some r ∧ denote r = denote a % denote m := by
  unfold reduce
  rw [if_neg (by rw [degree_neg_iff]; exact hm)]
  split
  · next h0 =>
    exact ⟨[], rfl, mod_of_degree_zero root _ m h0⟩
  · split
    · next _ hlt =>
      exact ⟨a, rfl, mod_of_degree_lt root a m hm hlt⟩
    · split
      · next hgt => exact hfast hgt
      · exact rem_spec root a m hm

theorem reduce_zero (N : NttOps K) (ms cutoff stage2 : Nat) (a m : List K) (hm : denote m = 0) :
    reduce FK N ms cutoff stage2 a m = none := by
  unfold reduce
  rw [if_pos ((degree_neg_iff root m).2 hm)]

theorem denote_reverse (p : List K) : denote (Model.Poly.reverse FK p) = (denote p).reverse := by
  unfold Model.Poly.reverse
  by_cases h0 : denote p = 0
  · rw [(normalize_eq_nil_iff root p).2 h0, h0]; simp
  · have hlen := length_normalize root p h0
    have hcoef : ∀ j, (denote p).coeff j = (normalize FK p).getD j 0 := by
      intro j; rw [← coeff_denote, denote_normalize]
    ext i
    rw [coeff_denote, coeff_reverse]
    by_cases hi : i < (normalize FK p).length
    · rw [getD_of_lt _ _ _ (by simpa using hi), List.getElem_reverse, revAt_le (by omega),
        hcoef, getD_of_lt _ _ _ (by omega)]
      congr 1; omega
    · rw [getD_of_ge _ _ _ (by simpa using hi), revAt_eq_self_of_lt (by omega),
        coeff_eq_zero_of_natDegree_lt (by omega)]

theorem X_pow_mul_reverse (q : K[X]) (n : Nat) (hn : q.natDegree ≤ n) :
    X ^ (n - q.natDegree) * q.reverse = reflect n q := by
  ext i
  rw [coeff_X_pow_mul', coeff_reflect]
  split
  · next hk =>
    rw [coeff_reverse]
    by_cases hi : i ≤ n
    · rw [revAt_le hi, revAt_le (by omega)]
      congr 1
      omega
    · rw [revAt_eq_self_of_lt (by omega), revAt_eq_self_of_lt (by omega),
        coeff_eq_zero_of_natDegree_lt (by omega), coeff_eq_zero_of_natDegree_lt (by omega)]
  · next hk =>
    rw [revAt_le (by omega), coeff_eq_zero_of_natDegree_lt (by omega)]

theorem denote_cons_of_natDegree_eq_zero {c : K} {t : List K} (h : (denote (c :: t)).natDegree = 0) :
    denote (c :: t) = C c := by
  rw [eq_C_of_natDegree_eq_zero h]
  simp

/-- algebraic core of `structured_multiple_of_degree`: reflecting `rev(f)·g` with `rev(f)·g ≡ 1 mod X^(n-d+1)`
    gives the multiple of `f` of the form `X^n + (degree < d)` -/
theorem reflect_structured (f g : K[X]) (n : Nat) (hn : f.natDegree ≤ n)
    (hg : g.natDegree ≤ n - f.natDegree) (hinv : (X ^ (n - f.natDegree + 1) : K[X]) ∣ f.reverse * g - 1) :
    reflect n (f.reverse * g) = f * reflect (n - f.natDegree) g ∧
    (reflect n (f.reverse * g)).Monic ∧ (reflect n (f.reverse * g)).natDegree = n ∧
    (reflect n (f.reverse * g) - X ^ n).degree < (f.natDegree : WithBot ℕ) ∧ (f.reverse * g).coeff 0 = 1 := by
  obtain ⟨h, hh⟩ := hinv
  have hpr : f.reverse * g = 1 + X ^ (n - f.natDegree + 1) * h := by linear_combination hh
  have hc0 : (f.reverse * g).coeff 0 = 1 := by
    rw [hpr, coeff_add, coeff_one_zero, coeff_X_pow_mul', if_neg (by omega), add_zero]
  have hmul : reflect n (f.reverse * g) = f * reflect (n - f.natDegree) g := by
    have := reflect_mul f.reverse g (F := f.natDegree) (G := n - f.natDegree) (reverse_natDegree_le f) hg
    rw [show f.natDegree + (n - f.natDegree) = n by omega] at this
    rw [this, Polynomial.reverse, reflect_reflect]
  have hdegpr : (f.reverse * g).natDegree ≤ n := by
    refine le_trans natDegree_mul_le ?_
    have := reverse_natDegree_le f
    omega
  have hcoef : ∀ i, (reflect n (f.reverse * g)).coeff i =
      if i = n then 1 else if f.natDegree ≤ i then 0 else (reflect n (f.reverse * g)).coeff i := by
    intro i
    split
    · next hi => rw [hi, coeff_reflect, revAt_le le_rfl, Nat.sub_self, hc0]
    · next hi =>
      split
      · next hd =>
        rw [coeff_reflect]
        by_cases hin : i ≤ n
        · rw [revAt_le hin, hpr, coeff_add, coeff_one, if_neg (by omega), coeff_X_pow_mul',
            if_neg (by omega), add_zero]
        · rw [revAt_eq_self_of_lt (by omega), coeff_eq_zero_of_natDegree_lt (by omega)]
      · rfl
  have hnat : (reflect n (f.reverse * g)).natDegree = n := by
    apply le_antisymm
    · rw [natDegree_le_iff_coeff_eq_zero]
      intro i hi
      rw [hcoef i, if_neg (by omega), if_pos (by omega)]
    · apply le_natDegree_of_ne_zero
      rw [hcoef n, if_pos rfl]; exact one_ne_zero
  refine ⟨hmul, ?_, hnat, ?_, hc0⟩
  · unfold Monic leadingCoeff
    rw [hnat, hcoef n, if_pos rfl]
  · rw [degree_lt_iff_coeff_zero]
    intro i hi
    have hi' : f.natDegree ≤ i := by exact_mod_cast hi
    rw [coeff_sub, coeff_X_pow, hcoef i]
    by_cases hin : i = n
    · simp [hin]
    · rw [if_neg hin, if_pos hi', if_neg hin, sub_zero]

theorem natDegree_denote_le (l : List K) (m : Nat) (h : l.length ≤ m + 1) : (denote l).natDegree ≤ m := by
  rw [natDegree_le_iff_coeff_eq_zero]
  intro i hi
  rw [coeff_denote, getD_of_ge _ _ _ (by omega)]

/-- `structured_multiple_of_degree(n)` for every non-zero `p` (any storage, any factor `X^k`) and every `n ≥ deg p`:
    a multiple of `p` of degree exactly `n`; for `deg p ≥ 1` it is monic and of the form `X^n + (degree < deg p)` -/
theorem structuredMultipleOfDegree_spec (p : List K) (n : Nat) (hp : denote p ≠ 0)
    (hn : (denote p).natDegree ≤ n) :
    ∃ s, structuredMultipleOfDegree FK p n = some s ∧ s.length = n + 1 ∧ denote p ∣ denote s ∧
      (denote s).natDegree = n ∧
      (1 ≤ (denote p).natDegree → (denote s).Monic ∧ (denote s - X ^ n).degree < (denote p).degree) := by
  unfold structuredMultipleOfDegree
  have hds := degSucc_spec root p
  rw [if_neg hp] at hds
  rw [hds]
  simp only
  rw [if_neg (by omega)]
  by_cases hd0 : (denote p).natDegree = 0
  · rw [if_pos hd0]
    cases p with
    | nil => exact absurd rfl hp
    | cons c0 ct =>
      have hc := denote_cons_of_natDegree_eq_zero hd0
      have hc0 : c0 ≠ 0 := by
        intro h
        apply hp
        rw [hc, h, map_zero]
      refine ⟨_, rfl, by simp, ?_, ?_, by omega⟩
      · rw [hc]; exact (isUnit_C.2 (isUnit_iff_ne_zero.2 hc0)).dvd
      · simp only [FieldOps.ofField_zero, FieldOps.ofField_inv, denote_append, denote_replicate_zero,
          List.length_replicate, zero_add, denote_cons, denote_nil, mul_zero, add_zero]
        rw [mul_comm, natDegree_C_mul_X_pow _ _ (inv_ne_zero hc0)]
  · rw [if_neg hd0]
    set f := denote p with _hf
    have hrev : denote (Model.Poly.reverse FK p) = f.reverse := denote_reverse root p
    have hrev0 : (denote (Model.Poly.reverse FK p)).coeff 0 ≠ 0 := by
      rw [hrev, coeff_zero_reverse]; exact leadingCoeff_ne_zero.2 hp
    obtain ⟨g, hg1, hg2, hg3⟩ := fpsInverseMinimal_spec root (Model.Poly.reverse FK p) (n - f.natDegree) hrev0
    rw [hg1]
    simp only
    rw [hrev] at hg3
    have hgdeg : (denote g).natDegree ≤ n - f.natDegree := natDegree_denote_le g _ (by omega)
    obtain ⟨r1, r2, r3, r4, r5⟩ := reflect_structured f (denote g) n hn hgdeg hg3
    have hprod : denote (Model.Poly.reverse FK (Model.Poly.mul FK (Model.Poly.reverse FK p) g))
        = (f.reverse * denote g).reverse := by
      rw [denote_reverse, denote_mul, hrev]
    have hpr0 : f.reverse * denote g ≠ 0 := by
      intro h
      rw [h] at r5
      simp at r5
    have hprodne : (f.reverse * denote g).reverse ≠ 0 := by rw [Ne, reverse_eq_zero]; exact hpr0
    have hnd : (f.reverse * denote g).reverse.natDegree = (f.reverse * denote g).natDegree := by
      rw [reverse_natDegree]
      have : (f.reverse * denote g).natTrailingDegree = 0 := by
        rw [natTrailingDegree_eq_zero]
        right
        rw [r5]
        exact one_ne_zero
      omega
    have hds2 := degSucc_spec root (Model.Poly.reverse FK (Model.Poly.mul FK (Model.Poly.reverse FK p) g))
    rw [hprod, if_neg hprodne, hnd] at hds2
    rw [hds2]
    simp only
    have hle : (f.reverse * denote g).natDegree ≤ n := by
      refine le_trans natDegree_mul_le ?_
      have := reverse_natDegree_le f
      omega
    rw [if_neg (by omega)]
    refine ⟨_, rfl, ?_, ?_⟩
    · have hl : (Model.Poly.reverse FK (Model.Poly.mul FK (Model.Poly.reverse FK p) g)).length
          = (f.reverse * denote g).natDegree + 1 := by
        have hy : denote (Model.Poly.mul FK (Model.Poly.reverse FK p) g) = f.reverse * denote g := by
          rw [denote_mul, hrev]
        have := degSucc_spec root (Model.Poly.mul FK (Model.Poly.reverse FK p) g)
        rw [hy, if_neg hpr0] at this
        rw [← this]
        unfold Model.Poly.reverse degSucc
        simp
      unfold Model.Poly.shiftCoefficients
      rw [List.length_append, List.length_replicate, hl]; omega
    rw [denote_shiftCoefficients, hprod, X_pow_mul_reverse _ n hle]
    refine ⟨by rw [r1]; exact dvd_mul_right _ _, r3, fun _ => ⟨r2, ?_⟩⟩
    rw [degree_eq_natDegree hp]
    exact r4

/-- `structured_multiple_of_degree` panics for the zero polynomial and for `n < deg p` -/
theorem structuredMultipleOfDegree_none (p : List K) (n : Nat)
    (h : denote p = 0 ∨ n < (denote p).natDegree) : structuredMultipleOfDegree FK p n = none := by
  unfold structuredMultipleOfDegree
  have hds := degSucc_spec root p
  rcases h with h | h
  · rw [if_pos h] at hds; rw [hds]
  · have hp : denote p ≠ 0 := by
      intro h0
      rw [h0] at h
      simp at h
    rw [if_neg hp] at hds
    rw [hds]
    simp only
    rw [if_pos h]

theorem subPadded_spec (w p : List K) :
    (subPadded FK w p).length = w.length ∧ denote (subPadded FK w p) = denote w - denote (p.take w.length) := by
  induction w generalizing p with
  | nil => simp [subPadded]
  | cons x xs ih =>
    cases p with
    | nil => simp [subPadded]
    | cons y ys =>
      obtain ⟨h1, h2⟩ := ih ys
      refine ⟨by simp [subPadded, h1], ?_⟩
      simp only [subPadded, FieldOps.ofField_sub, denote_cons, h2, List.length_cons, List.take_succ_cons, C_sub]
      ring

theorem length_resize {α : Type} (F : FieldOps α) (l : List α) (n : Nat) : (resize F l n).length = n :=
  length_take_append_replicate l n F.zero

theorem denote_resize (l : List K) (n : Nat) (h : (denote l).degree < n) : denote (resize FK l n) = denote l :=
  denote_take_append_zeros l n _ (fun _ hi => coeff_eq_zero_of_degree_lt (lt_of_lt_of_le h (Nat.cast_le.2 hi)))

theorem denote_resize_of_length_le (l : List K) (n : Nat) (h : l.length ≤ n) : denote (resize FK l n) = denote l :=
  denote_resize root l n (lt_of_lt_of_le (degree_denote_lt l) (Nat.cast_le.2 h))

theorem degree_drop_lt (ww : List K) (chunk tail : Nat) (hww : ww.length = chunk + tail) :
    (denote (ww.drop tail)).degree < chunk := by
  have := degree_denote_lt (ww.drop tail)
  rwa [List.length_drop, hww, Nat.add_sub_cancel] at this

/-- one iteration of the chunk-wise reductions, `k` chunks of `a` still to come.  The window `ww` holds
    `L + X^tail·H` (`L` its low `tail` coefficients); it is replaced by `fresh + X^chunk·L − H·S` with `fresh` the
    next chunk of `a`, which changes `fresh + X^chunk·ww` by the multiple `H·(X^(chunk+tail) + S)` of the modulus: the
    loop invariant `modulus ∣ a[..k·chunk] + X^(k·chunk)·window − r` moves from `k` to `k + 1`.
    `P` is the product `H·S` however it was computed. -/
theorem reduce_window (a S ww P : List K) (k chunk tail : Nat) (hww : ww.length = chunk + tail)
    (hk : (k + 1) * chunk ≤ a.length) (hP : denote (P.take (chunk + tail)) = denote (ww.drop tail) * denote S) :
    ((a.drop (k * chunk)).take chunk).length = chunk ∧
    (subPadded FK ((a.drop (k * chunk)).take chunk ++ ww.take tail) P).length = chunk + tail ∧
    ∀ r : K[X],
      (X ^ (chunk + tail) + denote S : K[X]) ∣ denote (a.take (k * chunk)) + X ^ (k * chunk) *
        denote (subPadded FK ((a.drop (k * chunk)).take chunk ++ ww.take tail) P) - r →
      (X ^ (chunk + tail) + denote S : K[X]) ∣
        denote (a.take ((k + 1) * chunk)) + X ^ ((k + 1) * chunk) * denote ww - r := by
  rw [Nat.succ_mul] at hk
  have hfl : ((a.drop (k * chunk)).take chunk).length = chunk := by
    rw [List.length_take, List.length_drop]
    omega
  obtain ⟨s1, s2⟩ := subPadded_spec root ((a.drop (k * chunk)).take chunk ++ ww.take tail) P
  have hwl : ((a.drop (k * chunk)).take chunk ++ ww.take tail).length = chunk + tail := by
    rw [List.length_append, hfl, List.length_take]
    omega
  rw [hwl] at s1 s2
  refine ⟨hfl, s1, fun r ih => ?_⟩
  rw [Nat.succ_mul, List.take_add, denote_append, List.length_take, Nat.min_eq_left (by omega)]
  obtain ⟨c, hc⟩ := ih
  refine ⟨c + X ^ (k * chunk) * denote (ww.drop tail), ?_⟩
  rw [s2, hP, denote_append, hfl] at hc
  rw [denote_eq_take_add_drop ww tail (by omega), pow_add, pow_add]
  linear_combination hc

theorem structReduceLoop_spec (a S : List K) (chunk tail : Nat) (hchunk : 0 < chunk)
    (hS : (denote S).degree < tail) (k : Nat) (ww : List K) (hww : ww.length = chunk + tail)
    (hk : k * chunk ≤ a.length) :
    ∃ r, structReduceLoop FK a S chunk tail k (k * chunk) ww = some r ∧ r.length = chunk + tail ∧
      (X ^ (chunk + tail) + denote S : K[X]) ∣
        (denote (a.take (k * chunk)) + X ^ (k * chunk) * denote ww) - denote r := by
  induction k generalizing ww with
  | zero => exact ⟨ww, by simp [structReduceLoop], hww, by simp⟩
  | succ k ih =>
    obtain ⟨hfl, s1, step⟩ := reduce_window root a S ww (Model.Poly.mul FK (ww.drop tail) S) k chunk tail hww hk
      (by rw [denote_take_of_degree_lt _ _ (by
            rw [denote_mul]; exact degree_mul_lt_add (degree_drop_lt ww chunk tail hww) hS), denote_mul])
    obtain ⟨r, e1, e2, e3⟩ := ih _ s1 (by rw [Nat.succ_mul] at hk; omega)
    refine ⟨r, ?_, e2, step _ e3⟩
    simp only [structReduceLoop]
    rw [if_neg (by rw [Nat.succ_mul]; omega)]
    have hsub : (k + 1) * chunk - chunk = k * chunk := by rw [Nat.succ_mul]; omega
    simp only [hsub]
    rw [if_neg (by rw [hfl]; omega)]
    exact e1

/-- the window of the chunk-wise reductions starts at a chunk boundary inside the input and is not longer than
    `chunk + tail` -/
theorem divCeil_window (len chunk tail : Nat) (hc : 0 < chunk) (hlen : chunk + tail ≤ len) :
    divCeil (len - (tail + chunk)) chunk * chunk < len ∧
      len - divCeil (len - (tail + chunk)) chunk * chunk ≤ chunk + tail := by
  unfold divCeil
  have h1 := Nat.div_add_mod (len - (tail + chunk) + chunk - 1) chunk
  have h2 := Nat.mod_lt (len - (tail + chunk) + chunk - 1) hc
  rw [Nat.mul_comm] at h1
  omega

theorem degSucc_le_of_degree_lt (p : List K) (t : Nat) (h : (denote p).degree < t) : degSucc FK p ≤ t := by
  rw [degSucc_spec]
  split
  · omega
  · next hp =>
    rw [degree_eq_natDegree hp] at h
    have : (denote p).natDegree < t := by exact_mod_cast h
    omega

theorem degree_lt_degSucc (p : List K) : (denote p).degree < (degSucc FK p : WithBot ℕ) := by
  rw [degSucc_spec]
  split
  · next hp => rw [hp, degree_zero]; exact WithBot.bot_lt_coe _
  · next hp => rw [degree_eq_natDegree hp]; exact_mod_cast Nat.lt_succ_self _

/-- from the loop invariant at the first window to the congruence for the whole input -/
theorem dvd_of_window {M : K[X]} (a r : List K) (m n : Nat) (hm : m ≤ a.length) (hn : a.length - m ≤ n)
    (h : M ∣ denote (a.take m) + X ^ m * denote (resize FK (a.drop m) n) - denote r) : M ∣ denote a - denote r := by
  rwa [denote_resize_of_length_le root _ _ (by rw [List.length_drop]; exact hn),
    ← denote_eq_take_add_drop a m hm] at h

/-- `reduce_by_structured_modulus(multiple)` for a monic `multiple = X^md + (degree < md - 1)`: it does not panic
    and returns something congruent to the input modulo `multiple`.  The bound is `md - 1`, not `md`: the chunk size
    is `md - tail` and the code divides by it (`div_ceil`). -/
theorem reduceByStructuredModulus_spec (a multiple : List K) (md : Nat) (hmd : 1 ≤ md)
    (hmonic : (denote multiple).Monic) (hnat : (denote multiple).natDegree = md)
    (htail : (denote multiple - X ^ md).degree < ((md - 1 : ℕ) : WithBot ℕ)) :
    ∃ r, reduceByStructuredModulus FK a multiple = some r ∧ denote multiple ∣ denote a - denote r := by
  have hM0 : denote multiple ≠ 0 := hmonic.ne_zero
  have hds := degSucc_spec root multiple
  rw [if_neg hM0, hnat] at hds
  obtain ⟨k, rfl⟩ : ∃ k, md = k + 1 := ⟨md - 1, by omega⟩
  unfold reduceByStructuredModulus
  rw [hds]
  simp only
  rw [leadingCoefficient_spec root multiple, if_neg hM0]
  simp only
  have hbeq : (FK).beq (denote multiple).leadingCoeff (FK).one = true := by
    rw [FieldOps.ofField_beq]; exact hmonic
  rw [hbeq]
  simp only [Bool.not_true, Bool.false_eq_true, if_false]
  set S := Model.Poly.sub FK multiple (Model.Poly.xToThe FK (k + 1)) with hSdef
  have hS : denote S = denote multiple - X ^ (k + 1) := by rw [hSdef, denote_sub, denote_xToThe]
  have htl : degSucc FK S ≤ k := by
    apply degSucc_le_of_degree_lt
    rw [hS]; simpa using htail
  rw [if_neg (by omega)]
  set tail := degSucc FK S with htaildef
  have hMeq : (X ^ ((k + 1 - tail) + tail) + denote S : K[X]) = denote multiple := by
    rw [hS, Nat.sub_add_cancel (by omega)]; ring
  split
  · exact ⟨a, rfl, by simp⟩
  · next hlen =>
    rw [if_neg (by omega)]
    have hc : 0 < k + 1 - tail := by omega
    have hct : k + 1 - tail + tail = k + 1 := by omega
    obtain ⟨w1, w2⟩ := divCeil_window a.length (k + 1 - tail) tail hc (by omega)
    set nc := divCeil (a.length - (tail + (k + 1 - tail))) (k + 1 - tail) with hnc
    have hws : tail + (k + 1 - tail) + nc * (k + 1 - tail) - (k + 1) = nc * (k + 1 - tail) := by omega
    rw [hws, if_neg (by omega)]
    obtain ⟨r, e1, _, e3⟩ := structReduceLoop_spec root a S (k + 1 - tail) tail hc
      (degree_lt_degSucc root S) nc _ (length_resize _ _ _) w1.le
    rw [hMeq] at e3
    exact ⟨r, e1, dvd_of_window root a r _ _ w1.le w2 e3⟩

theorem nttChecked_eq {α : Type} (N : NttOps α) (l : List α) (h : isPowerOfTwo l.length = true) :
    nttChecked N l = some (N.ntt l) := by
  simp [nttChecked, h]

theorem inttChecked_eq {α : Type} (N : NttOps α) (l : List α) (h : isPowerOfTwo l.length = true) :
    inttChecked N l = some (N.intt l) := by
  simp [inttChecked, h]

/-- what the NTT-based strategies need from the transform pair: lengths are kept and the point-wise product of two
    transforms, transformed back, is the product of the polynomials whenever that product fits the domain.
    This is a consequence of "`ntt` is the DFT at a primitive root of unity and `intt` its inverse" (property C06)
    through the convolution theorem (property C07, `fast_multiply`). -/
structure NttConv (N : NttOps K) : Prop where
  length_ntt : ∀ u : List K, isPowerOfTwo u.length = true → (N.ntt u).length = u.length
  conv : ∀ u v : List K, u.length = v.length → isPowerOfTwo u.length = true →
    (denote u * denote v).degree < (u.length : WithBot ℕ) →
    (N.intt (List.zipWith (· * ·) (N.ntt u) (N.ntt v))).length = u.length ∧
    denote (N.intt (List.zipWith (· * ·) (N.ntt u) (N.ntt v))) = denote u * denote v

theorem nttReduceLoop_spec (N : NttOps K) (hN : NttConv N) (a low : List K) (chunk tail : Nat)
    (hchunk : 0 < chunk) (hpow : isPowerOfTwo (chunk + tail) = true) (hlow : low.length = chunk + tail)
    (hS : (denote low).degree < tail) (k : Nat) (ww : List K) (hww : ww.length = chunk + tail)
    (hk : k * chunk ≤ a.length) :
    ∃ r, nttReduceLoop FK N a (N.ntt low) chunk tail k ww = some r ∧ r.length = chunk + tail ∧
      (X ^ (chunk + tail) + denote low : K[X]) ∣
        (denote (a.take (k * chunk)) + X ^ (k * chunk) * denote ww) - denote r := by
  induction k generalizing ww with
  | zero => exact ⟨ww, by simp [nttReduceLoop], hww, by simp⟩
  | succ k ih =>
    -- the high part of the window, padded to the domain, times `low` through the transform
    set hp := ww.drop tail ++ List.replicate tail (FK).zero with hhp
    have hhpl : hp.length = chunk + tail := by
      rw [hhp, List.length_append, List.length_drop, List.length_replicate, hww]; omega
    have hhpd : denote hp = denote (ww.drop tail) := denote_append_zeros _ _
    have hhpp : isPowerOfTwo hp.length = true := by rw [hhpl]; exact hpow
    obtain ⟨hpl, hprod⟩ : (N.intt (List.zipWith (FK).mul (N.ntt hp) (N.ntt low))).length = hp.length ∧
        denote (N.intt (List.zipWith (FK).mul (N.ntt hp) (N.ntt low))) = denote hp * denote low :=
      hN.conv hp low (by rw [hhpl, hlow]) hhpp
        (by rw [hhpl, hhpd]; exact degree_mul_lt_add (degree_drop_lt ww chunk tail hww) hS)
    rw [hhpl] at hpl
    rw [hhpd] at hprod
    obtain ⟨hfl, s1, step⟩ := reduce_window root a low ww (N.intt (List.zipWith (FK).mul (N.ntt hp) (N.ntt low)))
      k chunk tail hww hk (by rw [List.take_of_length_le (le_of_eq hpl)]; exact hprod)
    obtain ⟨r, e1, e2, e3⟩ := ih _ s1 (by rw [Nat.succ_mul] at hk; omega)
    refine ⟨r, ?_, e2, step _ e3⟩
    have hzl : (List.zipWith (FK).mul (N.ntt hp) (N.ntt low)).length = chunk + tail := by
      rw [List.length_zipWith, hN.length_ntt _ hhpp, hN.length_ntt _ (by rw [hlow]; exact hpow), hhpl, hlow]
      exact Nat.min_self _
    have hwl : ((a.drop (k * chunk)).take chunk ++ ww.take tail).length = chunk + tail :=
      (subPadded_spec root _ _).1.symm.trans s1
    simp only [nttReduceLoop]
    rw [← hhp, nttChecked_eq N hp hhpp]
    simp only
    rw [inttChecked_eq N _ (by rw [hzl]; exact hpow)]
    simp only
    rw [if_neg (by rw [hfl]; omega), if_neg (by rw [hwl]; exact not_lt.2 (le_of_eq hpl.symm))]
    exact e1

/-- `reduce_by_ntt_friendly_modulus(ntt(low), tail)` for `low` of power-of-two length `n` and degree `< tail < n`:
    it does not panic and returns something congruent to the input modulo `X^n + low` -/
theorem reduceByNttFriendlyModulus_spec (N : NttOps K) (hN : NttConv N) (a low : List K) (tail : Nat)
    (hpow : isPowerOfTwo low.length = true) (htail : tail < low.length) (hS : (denote low).degree < tail) :
    ∃ r, reduceByNttFriendlyModulus FK N a (N.ntt low) tail = some r ∧
      (X ^ low.length + denote low : K[X]) ∣ denote a - denote r := by
  unfold reduceByNttFriendlyModulus
  simp only [hN.length_ntt low hpow, hpow, Bool.not_true, Bool.false_eq_true, if_false]
  rw [if_neg (by omega)]
  have hct : low.length - tail + tail = low.length := by omega
  split
  · exact ⟨a, rfl, by simp⟩
  · next hlen =>
    have hc : 0 < low.length - tail := by omega
    rw [if_neg (by omega)]
    obtain ⟨w1, w2⟩ := divCeil_window a.length (low.length - tail) tail hc (by omega)
    set chunk := low.length - tail with hchunk
    set nc := divCeil (a.length - (tail + chunk)) chunk with hnc
    rw [if_neg (by omega)]
    obtain ⟨r, e1, _, e3⟩ := nttReduceLoop_spec root N hN a low chunk tail hc (by rw [hct]; exact hpow)
      (by omega) hS nc _ (length_resize _ _ _) w1.le
    refine ⟨r, e1, ?_⟩
    rw [← hct]
    exact dvd_of_window root a r _ _ w1.le w2 e3

theorem isPowerOfTwo_nextPowerOfTwo (x : Nat) : isPowerOfTwo (nextPowerOfTwo x) = true := by
  unfold nextPowerOfTwo isPowerOfTwo
  split
  · decide
  · rw [Nat.log2_two_pow]
    simp

theorem le_nextPowerOfTwo (x : Nat) : x ≤ nextPowerOfTwo x := by
  unfold nextPowerOfTwo
  split
  · omega
  · have := @Nat.lt_log2_self (x - 1)
    omega

/-- `shift_factor_ntt_with_tail_length` for a modulus of degree ≥ 1: the transform of the low `n` coefficients of
    a monic multiple `X^n + low` (`n` a power of two), and a tail length with `deg low < tail < n` -/
theorem shiftFactorNtt_spec (N : NttOps K) (cutoff : Nat) (m : List K) (hm : denote m ≠ 0)
    (hd : 1 ≤ (denote m).natDegree) :
    ∃ low tail, shiftFactorNtt FK N cutoff m = some (N.ntt low, tail) ∧ isPowerOfTwo low.length = true ∧
      tail < low.length ∧ (denote low).degree < tail ∧ denote m ∣ X ^ low.length + denote low := by
  unfold shiftFactorNtt
  have hds := degSucc_spec root m
  rw [if_neg hm] at hds
  rw [hds]
  simp only
  set d := (denote m).natDegree with hdd
  set n := nextPowerOfTwo (max cutoff (d * 2)) with hn
  have hnge : d * 2 ≤ n := le_trans (le_max_right _ _) (le_nextPowerOfTwo _)
  obtain ⟨mult, h1, h2, h3, h4, h5⟩ := structuredMultipleOfDegree_spec root m n hm (by omega)
  obtain ⟨h5a, h5b⟩ := h5 hd
  rw [h1]
  simp only
  rw [if_neg (by omega)]
  have hlowlen : (mult.take n).length = n := by rw [List.length_take]; omega
  have hlow : denote (mult.take n) = denote mult - X ^ n := by
    rw [(denote_take_drop mult n (by omega)).2]
    have hcert : denote mult = 1 * X ^ n + (denote mult - X ^ n) := by ring
    have hdeg : (denote mult - X ^ n).degree < (X ^ n : K[X]).degree := by
      rw [degree_X_pow]
      refine lt_of_lt_of_le h5b ?_
      rw [degree_eq_natDegree hm]
      exact_mod_cast (by omega : d ≤ n)
    exact ((div_mod_of_certificate hcert hdeg).2).symm
  rw [nttChecked_eq N _ (by rw [hlowlen]; exact isPowerOfTwo_nextPowerOfTwo _)]
  have hdrop : mult.dropLast = mult.take n := by rw [List.dropLast_eq_take, h2]; rfl
  have hlowdeg : (denote (mult.take n)).degree < (d : WithBot ℕ) := by
    rw [hlow]
    rw [degree_eq_natDegree hm] at h5b
    exact h5b
  have hdsl : degSucc FK (mult.take n) ≤ d := degSucc_le_of_degree_lt root _ _ hlowdeg
  refine ⟨mult.take n, 1 + ((revNorm FK mult.dropLast).length - 1), rfl, ?_, ?_, ?_, ?_⟩
  · rw [hlowlen]; exact isPowerOfTwo_nextPowerOfTwo _
  · rw [hdrop, length_revNorm, hlowlen]; omega
  · rw [hdrop, length_revNorm]
    refine lt_of_lt_of_le (degree_lt_degSucc root _) ?_
    exact_mod_cast (by omega : degSucc FK (mult.take n) ≤ 1 + (degSucc FK (mult.take n) - 1))
  · rw [hlowlen, hlow]
    have : (X ^ n + (denote mult - X ^ n) : K[X]) = denote mult := by ring
    rw [this]; exact h3

/-- **`fast_reduce`** on every dividend and every non-zero modulus, any storage, every value of the two thresholds:
    it does not panic and returns the remainder, given a transform pair with the convolution property -/
theorem fastReduce_spec (N : NttOps K) (hN : NttConv N) (cutoff stage2 : Nat) (a m : List K)
    (hm : denote m ≠ 0) :
    ∃ r, fastReduce FK N cutoff stage2 a m = some r ∧ denote r = denote a % denote m := by
  unfold fastReduce
  split
  · next h0 =>
    exact ⟨[], rfl, mod_of_degree_zero root _ m h0⟩
  · next h0 =>
    split
    · next hlt =>
      exact ⟨a, rfl, mod_of_degree_lt root a m hm hlt⟩
    · have hd : 1 ≤ (denote m).natDegree := Nat.pos_of_ne_zero fun h =>
        h0 ((degree_zero_iff root m).2 (by rw [degree_eq_natDegree hm, h]; rfl))
      obtain ⟨low, tail, s1, s2, s3, s4, s5⟩ := shiftFactorNtt_spec root N cutoff m hm hd
      rw [s1]
      simp only
      obtain ⟨ir, t1, t2⟩ := reduceByNttFriendlyModulus_spec root N hN a low tail s2 s3 s4
      rw [t1]
      simp only
      have hir : denote m ∣ denote a - denote ir := dvd_trans s5 t2
      have hstage2 : ∃ r2, fastReduceStage2 FK stage2 ir m = some r2 ∧ denote m ∣ denote a - denote r2 := by
        unfold fastReduceStage2
        split
        · unfold structuredMultiple
          have hds := degSucc_spec root m
          rw [if_neg hm] at hds
          rw [hds]
          simp only
          obtain ⟨sm, u1, _, u3, u4, u5⟩ := structuredMultipleOfDegree_spec root m
            (3 * (denote m).natDegree + 1) hm (by omega)
          obtain ⟨u5a, u5b⟩ := u5 hd
          rw [u1]
          simp only
          obtain ⟨r2, v1, v2⟩ := reduceByStructuredModulus_spec root ir sm (3 * (denote m).natDegree + 1)
            (by omega) u5a u4 (by
              refine lt_of_lt_of_le u5b ?_
              rw [degree_eq_natDegree hm]
              exact_mod_cast (by omega : (denote m).natDegree ≤ 3 * (denote m).natDegree + 1 - 1))
          refine ⟨r2, v1, ?_⟩
          have : denote a - denote r2 = (denote a - denote ir) + (denote ir - denote r2) := by ring
          rw [this]
          exact dvd_add hir (dvd_trans u3 v2)
        · exact ⟨ir, rfl, hir⟩
      obtain ⟨r2, w1, w2⟩ := hstage2
      rw [w1]
      simp only
      obtain ⟨r, x1, x2⟩ := rem_spec root r2 m hm
      exact ⟨r, x1, by rw [x2]; exact (mod_eq_of_dvd_sub w2).symm⟩

/-- `fast_reduce` panics on the zero modulus -/
theorem fastReduce_zero (N : NttOps K) (cutoff stage2 : Nat) (a m : List K) (hm : denote m = 0) :
    fastReduce FK N cutoff stage2 a m = none := by
  unfold fastReduce
  have hdeg := degree_spec root m
  rw [if_pos hm] at hdeg
  have hds := degSucc_spec root m
  rw [if_pos hm] at hds
  rw [hdeg, if_neg (by decide)]
  have hge : ¬ Model.Poly.degree FK a < -1 := by
    rw [degree_eq_degSucc]; omega
  rw [if_neg hge]
  unfold shiftFactorNtt
  rw [hds]

/-- one Newton step `2·g − g·g·f` on storages -/
noncomputable def nstep (f g : List K) : List K :=
  Model.Poly.sub FK (Model.Poly.scalarMul FK g ((FK).ofNat 2)) (Model.Poly.mul FK (Model.Poly.mul FK g g) f)

theorem denote_nstep (f g : List K) :
    denote (nstep root f g) = denote g * 2 - denote g * denote g * denote f := by
  unfold nstep
  rw [denote_sub, denote_scalarMul, denote_mul, denote_mul, FieldOps.ofField_ofNat, Nat.cast_ofNat, C_ofNat]

/-- a Newton step doubles the precision -/
theorem nstep_dvd (f g : List K) (e : Nat) (h : (X ^ e : K[X]) ∣ denote f * denote g - 1) :
    (X ^ (e * 2) : K[X]) ∣ denote f * denote (nstep root f g) - 1 := by
  rw [denote_nstep]
  obtain ⟨c, hc⟩ := h
  refine ⟨-(c * c), ?_⟩
  rw [pow_mul, pow_two]
  linear_combination (-(denote f * denote g - 1) - X ^ e * c) * hc

theorem newtonStandard_succ (f : List K) (k : Nat) (g : List K) :
    newtonStandard FK f (k + 1) g = newtonStandard FK f k (nstep root f g) := rfl

theorem newtonStandard_spec (f : List K) (k : Nat) (g : List K) (e : Nat)
    (h : (X ^ e : K[X]) ∣ denote f * denote g - 1) :
    (X ^ (e * 2 ^ k) : K[X]) ∣ denote f * denote (newtonStandard FK f k g) - 1 := by
  induction k generalizing g e with
  | zero => rw [pow_zero, mul_one]; exact h
  | succ k ih =>
    rw [newtonStandard_succ, pow_succ', ← mul_assoc]
    exact ih _ (e * 2) (nstep_dvd root f g e h)

theorem length_mul_le (a b : List K) :
    (Model.Poly.mul FK a b).length ≤ (denote a * denote b).natDegree + 1 := by
  unfold Model.Poly.mul naiveMultiply naiveMultiplyG
  split
  · simp
  · simp
  · next h1 h2 =>
    have ha : denote a ≠ 0 := fun h => h1 ((normalize_eq_nil_iff root a).2 h)
    have hb : denote b ≠ 0 := fun h => h2 ((normalize_eq_nil_iff root b).2 h)
    rw [FieldOps.ofField_mul_fn, Hom.length_mulRows FK _ _ h2 _ h1, length_normalize root a ha,
      length_normalize root b hb, natDegree_mul ha hb]
    omega

theorem natDegree_nstep_le (f g : List K) :
    (denote (nstep root f g)).natDegree ≤ 2 * (denote g).natDegree + (denote f).natDegree := by
  rw [denote_nstep, ← C_ofNat]
  refine le_trans (natDegree_sub_le _ _) (max_le ?_ ?_)
  · refine le_trans (natDegree_mul_C_le _ _) ?_; omega
  · refine le_trans natDegree_mul_le ?_
    have := natDegree_mul_le (p := denote g) (q := denote g)
    omega

theorem length_nstep_le (f g : List K) :
    (nstep root f g).length ≤ max g.length (2 * (denote g).natDegree + (denote f).natDegree + 1) := by
  unfold nstep Model.Poly.sub
  rw [Hom.length_zipLongestWith]
  apply max_le_max
  · unfold Model.Poly.scalarMul scalarMulG; simp
  · refine le_trans (length_mul_le root _ _) ?_
    rw [denote_mul]
    have h1 := natDegree_mul_le (p := denote g * denote g) (q := denote f)
    have h2 := natDegree_mul_le (p := denote g) (q := denote g)
    omega

theorem newtonStandard_bounds (f : List K) (k : Nat) (g : List K) (B : Nat) (hl : g.length ≤ B + 1)
    (hd : (denote g).natDegree ≤ B) :
    (newtonStandard FK f k g).length ≤ 2 ^ k * (B + (denote f).natDegree) + 1 ∧
    (denote (newtonStandard FK f k g)).natDegree + (denote f).natDegree ≤ 2 ^ k * (B + (denote f).natDegree) := by
  induction k generalizing g B with
  | zero => simp only [newtonStandard, pow_zero, one_mul]; omega
  | succ k ih =>
    rw [newtonStandard_succ]
    have h1 := length_nstep_le root f g
    have h2 := natDegree_nstep_le root f g
    obtain ⟨i1, i2⟩ := ih (nstep root f g) (2 * B + (denote f).natDegree) (by omega) (by omega)
    have e : 2 ^ (k + 1) * (B + (denote f).natDegree) = 2 ^ k * (2 * B + (denote f).natDegree + (denote f).natDegree) := by
      rw [pow_succ]; ring
    rw [e]
    exact ⟨i1, i2⟩

theorem two_pow_log2_nextPowerOfTwo (p : Nat) : 2 ^ Nat.log2 (nextPowerOfTwo p) = nextPowerOfTwo p := by
  have := isPowerOfTwo_nextPowerOfTwo p
  unfold isPowerOfTwo at this
  simp only [Bool.and_eq_true, beq_iff_eq] at this
  exact this.2

/-- `formal_power_series_inverse_newton` panics when `f` is zero/empty or its constant term is zero (degree ≥ 1) -/
theorem fpsInverseNewton_none (N : NttOps K) (cutoff : Nat) (f : List K) (precision : Nat)
    (h : denote f = 0 ∨ (1 ≤ (denote f).natDegree ∧ (denote f).coeff 0 = 0)) :
    fpsInverseNewton FK N cutoff f precision = none := by
  unfold fpsInverseNewton
  have hdeg := degree_spec root f
  rcases h with h | ⟨h1, h2⟩
  · rw [if_pos h] at hdeg
    simp only [hdeg]
    rfl
  · have hf : denote f ≠ 0 := by
      intro h
      rw [h] at h1
      simp at h1
    rw [if_neg hf] at hdeg
    simp only [hdeg]
    rw [if_neg (by exact_mod_cast (by omega : (denote f).natDegree ≠ 0)), if_neg (by omega)]
    cases f with
    | nil => rfl
    | cons cc ft =>
      have hcc : cc = 0 := by simpa using h2
      simp only
      rw [if_pos ((FieldOps.ofField_isZero root cc).2 hcc)]

/-- below the cut-off `clean_divide` is long division -/
theorem cleanDivide_below_cutoff {χ : Type} (FX : FieldOps χ) (E : ExtOps K χ) (NX : NttOps χ) (cutoff : Nat)
    (a d : List K) (hd : denote d ≠ 0) (hlt : (denote d).natDegree < cutoff) :
    ∃ q, cleanDivide FK FX E NX cutoff a d = some q ∧ denote q = denote a / denote d := by
  unfold cleanDivide
  have hdeg := degree_spec root d
  rw [if_neg hd] at hdeg
  rw [if_pos (by rw [hdeg]; exact_mod_cast hlt)]
  exact div_spec root a d hd

/-- "`ntt` is the DFT, `intt` its inverse" — the statement of property C06 as far as the evaluation-domain
    strategies (`formal_power_series_inverse_newton`, `clean_divide`) use it: `ω n` is the primitive `n`-th root of
    unity chosen for length `n`, the choices are compatible (`ω n ^ (n/m) = ω m`) -/
structure NttDft {L : Type} [Field L] (N : NttOps L) (ω : Nat → L) : Prop where
  ntt_eval : ∀ l : List L, isPowerOfTwo l.length = true →
    N.ntt l = List.ofFn (fun i : Fin l.length => (denote l).eval (ω l.length ^ (i : Nat)))
  intt_ntt : ∀ l : List L, isPowerOfTwo l.length = true → N.intt (N.ntt l) = l
  primitive : ∀ n, isPowerOfTwo n = true → ω n ^ n = 1 ∧ ∀ i, 0 < i → i < n → ω n ^ i ≠ 1
  compat : ∀ n m, isPowerOfTwo n = true → isPowerOfTwo m = true → m ∣ n → ω n ^ (n / m) = ω m

end TF.Proofs.PolyD
