import TF.Proofs.NttModel
import TF.Proofs.NttNoswap
/-!
Connects `nttNoswap` / `inttNoswap` / `bitreverseOrder` of the array model to the functional stages of
`TF/Proofs/NttNoswap.lean`, and derives the relations between the plain and the bit-reversed transforms.
-/
namespace TF.NttProofs
open TF.Model.Ntt TF.NttFn

variable {R : Type} [CommRing R] (inv : R → Option R) (inv0 : R → R)

theorem powersBitrevAux_spec (ω : R) (lg : Nat) : ∀ f i (cur : R) (acc : Array R), i + f = 2^lg → 2^lg ≤ acc.size →
    cur = ω^i → (∀ idx, idx < 2^lg → bitrev lg idx < i → acc[idx]? = some (ω^(bitrev lg idx))) →
    ∃ z, powersBitrevAux (ringOps R inv inv0) ω lg f i cur acc = some z ∧ z.size = acc.size ∧
      ∀ idx, idx < 2^lg → z[idx]? = some (ω^(bitrev lg idx)) := by
  intro f
  induction f with
  | zero =>
    intro i cur acc hi _ _ h
    exact ⟨acc, rfl, rfl, fun idx hidx => h idx hidx (by have := bitrev_lt lg idx; omega)⟩
  | succ f ih =>
    intro i cur acc hi hsz hcur h
    rw [powersBitrevAux]
    simp only [bitreverse_eq]
    have hb := bitrev_lt lg i
    rw [if_pos (by omega)]
    obtain ⟨z, hz, hzs, hzi⟩ := ih (i+1) ((ringOps R inv inv0).smul cur ω) (acc.setIfInBounds (bitrev lg i) cur)
      (by omega) (by simpa using hsz) (by simp [ringOps, hcur, pow_succ]) (by
        intro idx hidx hlt
        rw [Array.getElem?_setIfInBounds]
        by_cases he : bitrev lg i = idx
        · rw [if_pos he, if_pos (by omega), ← he, bitrev_involutive lg i (by omega), hcur]
        · rw [if_neg he]
          apply h idx hidx
          have : bitrev lg idx ≠ i := by
            intro h'; apply he; rw [← h', bitrev_involutive lg idx hidx]
          omega)
    exact ⟨z, hz, by simpa using hzs, hzi⟩

/-- the twiddle array of `ntt_noswap` for `n = 2^L`: entry `i < n/2` is `ω^(bitrev (L-1) i)` -/
theorem powersBitrev_spec (ω : R) (L : Nat) :
    ∃ z, powersBitrev (ringOps R inv inv0) ω (2^L) L = some z ∧
      ∀ idx, idx < 2^L / 2 → z.getD idx 0 = ω^(bitrev (L-1) idx) := by
  rcases L with _ | L
  · refine ⟨_, rfl, ?_⟩
    intro idx hidx; simp at hidx
  · have hhalf : 2^(L+1) / 2 = 2^L := by rw [pow_succ]; omega
    obtain ⟨z, hz, _, hzi⟩ := powersBitrevAux_spec inv inv0 ω L (2^L) 0 1 (Array.replicate (2^(L+1)) 0)
      (by omega) (by simp [pow_succ]) (by simp) (by intro idx _ h; omega)
    refine ⟨z, ?_, ?_⟩
    · simp only [powersBitrev, hhalf, Nat.add_sub_cancel]
      exact hz
    · intro idx hidx
      rw [hhalf] at hidx
      simp [Array.getD_eq_getD_getElem?, hzi idx hidx]

/-- one array stage is the functional stage of any `f`, `ζ` that describe the array (`q` blocks of size `2t`) and the
    first `q` entries of the table -/
theorem stageNoswap_fn (t q : Nat) (zetas x : Array R) (hx : x.size = q*(2*t)) (ζ f : Nat → R)
    (hζ : ∀ b, b < q → zetas.getD b 0 = ζ b) (hf : ∀ i, i < x.size → toFn x i = f i) (i : Nat) (hi : i < x.size) :
    toFn (stageNoswap (ringOps R inv inv0) t zetas x) i = stageNs t ζ f i := by
  have hb := blk_base i t q (hx ▸ hi)
  have hle := Nat.mod_le i (2*t)
  rw [stageNs, ← hζ _ (Nat.div_lt_of_lt_mul (by rw [Nat.mul_comm, ← hx]; exact hi)), ← hf i hi]
  simp only [toFn, stageNoswap, Array.getD_eq_getD_getElem?, Array.getElem?_ofFn, hi, dite_true, Option.getD_some]
  split
  · rw [← hf (i + t) (by omega)]; simp [toFn, ringOps]
  · rw [← hf (i - t) (by omega)]; simp [toFn, ringOps]

theorem noswapLoop_spec (L : Nat) (ω : R) (zetas : Array R)
    (hz : ∀ idx, idx < 2^L / 2 → zetas.getD idx 0 = ω^(bitrev (L-1) idx)) (y0 : Nat → R) :
    ∀ r s fuel (x : Array R), s + r = L → r ≤ fuel → x.size = 2^L →
    (∀ i, i < 2^L → toFn x i = nsStages L ω s y0 i) →
    (noswapLoop (ringOps R inv inv0) zetas (2^L) fuel (2^s) (2^r) x).size = 2^L ∧
    ∀ i, i < 2^L → toFn (noswapLoop (ringOps R inv inv0) zetas (2^L) fuel (2^s) (2^r) x) i
      = nsStages L ω L y0 i := by
  intro r
  induction r with
  | zero =>
    intro s fuel x hs _ hx h
    obtain rfl : s = L := hs
    cases fuel with
    | zero => exact ⟨hx, h⟩
    | succ f => rw [noswapLoop, if_neg (Nat.lt_irrefl _)]; exact ⟨hx, h⟩
  | succ r ih =>
    intro s fuel x hs hf hx h
    obtain ⟨f, rfl⟩ : ∃ f, fuel = f + 1 := ⟨fuel - 1, by omega⟩
    have hq : 2^L = 2^s * (2 * 2^r) := by rw [← pow_succ', ← pow_add, ← hs]
    rw [noswapLoop, if_pos (Nat.pow_lt_pow_right (by norm_num) (by omega)), pow_succ 2 r, Nat.mul_div_cancel _ (by norm_num),
      ← pow_succ' 2 s]
    refine ih (s+1) f _ (by omega) (by omega) (by rw [stageNoswap_size, hx]) fun i hi => ?_
    rw [nsStages, show L - s - 1 = r by omega]
    refine stageNoswap_fn inv inv0 (2^r) (2^s) zetas x (hx.trans hq) _ _ (fun b hb => hz b ?_) (fun i hi => h i (hx ▸ hi))
      i (hx ▸ hi)
    -- `2^s ≤ 2^L / 2`
    rw [hq, Nat.mul_left_comm, Nat.mul_div_cancel_left _ (by norm_num)]
    exact Nat.lt_of_lt_of_le hb (Nat.le_mul_of_pos_right _ (Nat.two_pow_pos r))

theorem nttNoswap_eq_dft (root : Nat → Option R) (L : Nat) (ω : R) (hr : root (2^L) = some ω)
    (hω : 0 < L → ω^(2^(L-1)) = -1) (x : Array R) (hx : x.size = 2^L) :
    ∃ y, nttNoswap (ringOps R inv inv0) root x = some y ∧ y.size = 2^L ∧
      ∀ i, i < 2^L → toFn y i = dft (2^L) ω (toFn x) (bitrev L i) := by
  obtain ⟨z, hz, hzi⟩ := powersBitrev_spec inv inv0 ω L
  have hl := noswapLoop_spec inv inv0 L ω z hzi (toFn x) L 0 (2^L) x (Nat.zero_add _) (Nat.le_of_lt Nat.lt_two_pow_self) hx
    (fun i _ => rfl)
  rw [pow_zero] at hl
  refine ⟨_, ?_, hl.1, ?_⟩
  · simp only [nttNoswap, hx, hr, ceilLog2_two_pow, hz]
  · intro i hi
    rw [hl.2 i hi]
    exact ns_eq_dft L ω hω (toFn x) i hi

omit [CommRing R] in
theorem bitreverseOrder_spec {α : Type} (L : Nat) (x : Array α) (hx : x.size = 2^L) :
    ∃ b, bitreverseOrder x = some b ∧ b.size = 2^L ∧ ∀ i, i < 2^L → b[i]? = x[bitrev L i]? := by
  obtain ⟨b, hb, hbs, hbi⟩ := swapLoop_spec L x (2^L) 0 x hx (by omega) (by intro i _; simp)
  exact ⟨b, by simp [bitreverseOrder, bitrevPermute, hx, ceilLog2_two_pow, hb], hbs, hbi⟩

section generic
variable {σ α : Type} (ops : Ops σ α)

/-- `intt_noswap` is the butterfly network of `ntt_unchecked` without the swap loop (any operations) -/
theorem inttNoswap_eq (root : Nat → Option σ) (L : Nat) (ω ωi : σ) (hr : root (2^L) = some ω)
    (hi : ops.sinv ω = some ωi) (x : Array α) (hx : x.size = 2^L) :
    inttNoswap ops root x = some (stagesLoop ops ωi (2^L) L 1 x) := by
  simp only [inttNoswap, hx, hr, ceilLog2_two_pow, hi]

/-- `intt_noswap (bitreverse_order x)` is the unscaled inverse transform `ntt_unchecked x ω⁻¹` (any operations) -/
theorem inttNoswap_bitreverseOrder (root : Nat → Option σ) (L : Nat) (ω ωi : σ) (hr : root (2^L) = some ω)
    (hi : ops.sinv ω = some ωi) (x : Array α) (hx : x.size = 2^L) :
    ∃ b, bitreverseOrder x = some b ∧ b.size = 2^L ∧
      inttNoswap ops root b = nttUnchecked ops x ωi L := by
  obtain ⟨b, hb, hbs, _⟩ := bitreverseOrder_spec L x hx
  refine ⟨b, hb, hbs, ?_⟩
  rw [inttNoswap_eq ops root L ω ωi hr hi b hbs]
  have : bitrevPermute x L = some b := by
    simpa [bitreverseOrder, hx, ceilLog2_two_pow] using hb
  simp [nttUnchecked, this, hx]

/-- `intt x` is `intt_noswap (bitreverse_order x)` followed by `unscale` (any operations for which
    `inverse` and `inverse_or_zero` agree on the length) -/
theorem intt_via_noswap (root : Nat → Option σ) (L : Nat) (hL : L ≤ 31) (ω ωi ninv : σ) (hr : root (2^L) = some ω)
    (hi : ops.sinv ω = some ωi) (hn : ops.sinv (ops.sofNat (2^L)) = some ninv)
    (hn0 : ops.sinv0 (ops.sofNat (2^L)) = ninv) (x : Array α) (hx : x.size = 2^L) :
    ∃ b c, bitreverseOrder x = some b ∧ inttNoswap ops root b = some c ∧ intt ops root x = unscale ops c := by
  obtain ⟨b, hb, hbs, hbb⟩ := inttNoswap_bitreverseOrder ops root L ω ωi hr hi x hx
  have hc := inttNoswap_eq ops root L ω ωi hr hi b hbs
  refine ⟨b, _, hb, hc, ?_⟩
  rw [intt_unfold _ root x L hL hx ω ωi hr hi, ← hbb, hc]
  have hsz : (stagesLoop ops ωi (2^L) L 1 b).size = 2^L := by rw [stagesLoop_size, hbs]
  simp only [unscale, hsz, Option.map_some, hn, hn0]

end generic

/-- `intt_noswap (ntt_noswap x) = n · x`: the pair of bit-reversed transforms composes to the identity up to the
    factor `n` (which `unscale` removes).  `ntt_noswap x` is the bit-reversal of `X = ntt_unchecked x ω`, so the stages of
    `intt_noswap` run on exactly what the swap loop of `ntt_unchecked X ω⁻¹` would hand them, and `dft_inv` applies. -/
theorem inttNoswap_nttNoswap_model (root : Nat → Option R) (L : Nat) (ω ωi : R) (hr : root (2^L) = some ω)
    (hi : inv ω = some ωi) (hinv : ωi * ω = 1) (hω : 0 < L → ω^(2^(L-1)) = -1) (x : Array R) (hx : x.size = 2^L) :
    ∃ y z, nttNoswap (ringOps R inv inv0) root x = some y ∧ inttNoswap (ringOps R inv inv0) root y = some z ∧
      z.size = 2^L ∧ ∀ i, i < 2^L → toFn z i = ((2^L : ℕ) : R) * toFn x i := by
  obtain ⟨X, _, hXs, hXi⟩ := nttUnchecked_eq_dft inv inv0 L ω hω x hx
  obtain ⟨y, hy, hys, hyi⟩ := nttNoswap_eq_dft inv inv0 root L ω hr hω x hx
  obtain ⟨b, hb, hbs, hbi⟩ := swapLoop_spec L X (2^L) 0 X hXs (by omega) (by intro i _; simp)
  have hby : b = y := by
    apply array_ext_toFn b y (2^L) hbs hys
    intro i hi'
    rw [toFn_eq_of_getElem? _ _ _ _ (hbi i hi'), hXi _ (bitrev_lt L i), hyi i hi']
  have hωi : 0 < L → ωi^(2^(L-1)) = -1 := fun h => inv_pow_half L ω ωi (hω h) hinv
  obtain ⟨Z, hZ, hZs, hZi⟩ := nttUnchecked_eq_dft inv inv0 L ωi hωi X hXs
  have hZ' : some (stagesLoop (ringOps R inv inv0) ωi (2^L) L 1 y) = some Z := by
    rw [← hZ]; simp [nttUnchecked, bitrevPermute, hXs, hb, hby]
  refine ⟨y, Z, hy, ?_, hZs, ?_⟩
  · rw [inttNoswap_eq (ringOps R inv inv0) root L ω ωi hr hi y hys, hZ']
  · intro i hi'
    rw [hZi i hi', dft_congr (2^L) ωi (toFn X) _ hXi, dft_inv L ω ωi hω hinv (toFn x) i hi']

end TF.NttProofs
