import TF.Model.Ntt
import TF.Proofs.Prime
import Mathlib.GroupTheory.OrderOfElement
import Mathlib.Data.ZMod.Basic
/-!
The translated table `TF.Gen.PRIMITIVE_ROOTS` (regenerated from `b_field_element.rs` on every run):
whole-table check in the kernel with an executable modular power, lifted to statements in `ZMod P`.
-/
namespace TF.NttProofs
open TF.Gen TF.Model.Ntt

/-- `r^(2^k) mod P` by `k` modular squarings (structural recursion, evaluates in the kernel) -/
def sqMod (r : Nat) : Nat → Nat
  | 0 => r % P
  | k+1 => sqMod (r * r % P) k

theorem sqMod_eq (r k : Nat) : sqMod r k = r^(2^k) % P := by
  induction k generalizing r with
  | zero => simp [sqMod]
  | succ k ih =>
    rw [sqMod, ih, pow_succ, Nat.mul_comm (2^k) 2, pow_mul, ← Nat.pow_mod, pow_two]

/-- the expected shape of the table from position `k` on: `(2^k, r)` with `r` canonical and
    `r = 1` for `k = 0`, `r^(2^(k-1)) = P - 1` for `k ≥ 1` -/
def checkFrom : Nat → List (Nat × Nat) → Bool
  | _, [] => true
  | k, (n, r) :: rest =>
    n == 2^k && decide (r < P) && (if k = 0 then r == 1 else sqMod r (k-1) == P - 1) && checkFrom (k+1) rest

/-- the whole table, decided by the kernel -/
theorem table_shape :
    ∃ tl, PRIMITIVE_ROOTS = (0, 1) :: tl ∧ tl.length = 33 ∧ checkFrom 0 tl = true :=
  ⟨PRIMITIVE_ROOTS.tail, by decide +kernel, by decide +kernel, by decide +kernel⟩

theorem checkFrom_mem : ∀ (l : List (Nat × Nat)) (k : Nat), checkFrom k l = true → ∀ e ∈ l,
    ∃ j, k ≤ j ∧ j < k + l.length ∧ e.1 = 2^j ∧ e.2 < P ∧
      (if j = 0 then e.2 = 1 else e.2^(2^(j-1)) % P = P - 1) := by
  intro l
  induction l with
  | nil => intro k _ e he; cases he
  | cons hd tl ih =>
    intro k h e he
    obtain ⟨n, r⟩ := hd
    simp only [checkFrom, Bool.and_eq_true, beq_iff_eq, decide_eq_true_eq] at h
    obtain ⟨⟨⟨h1, h2⟩, h3⟩, h4⟩ := h
    rcases List.mem_cons.1 he with rfl | he
    · refine ⟨k, le_refl _, by simp, h1, h2, ?_⟩
      by_cases hk : k = 0
      · simpa [hk] using h3
      · simp only [hk, if_false] at h3 ⊢
        rw [← sqMod_eq]; simpa using h3
    · obtain ⟨j, hj1, hj2, hj3⟩ := ih (k+1) h4 e he
      exact ⟨j, by omega, by simp; omega, hj3⟩

/-- every entry `(n, r)` of the table: `n = 0` and `r = 1`, or `n = 2^k` with `k ≤ 32`, `r` canonical,
    `r = 1` for `k = 0` and `r^(n/2) ≡ -1 (mod P)` for `k ≥ 1` -/
theorem table_entries (n r : Nat) (h : (n, r) ∈ PRIMITIVE_ROOTS) :
    (n = 0 ∧ r = 1) ∨ ∃ k, k ≤ 32 ∧ n = 2^k ∧ r < P ∧
      (if k = 0 then r = 1 else r^(2^(k-1)) % P = P - 1) := by
  obtain ⟨tl, htl, hlen, hck⟩ := table_shape
  rw [htl] at h
  rcases List.mem_cons.1 h with h | h
  · left; simpa using h
  · right
    obtain ⟨j, _, hj2, hj3⟩ := checkFrom_mem tl 0 hck (n, r) h
    exact ⟨j, by omega, hj3⟩

theorem lookup_zero : primitiveRoot 0 = some 1 := by decide +kernel

/-- lookups only ever return table entries -/
theorem rootTable_mem : ∀ (l : List (Nat × Nat)) (n r : Nat), rootTable l n = some r → (n, r) ∈ l := by
  intro l
  induction l with
  | nil => intro n r h; cases h
  | cons hd tl ih =>
    intro n r h
    obtain ⟨k, v⟩ := hd
    simp only [rootTable] at h
    split at h
    · rename_i hk
      simp only [beq_iff_eq] at hk
      simp only [Option.some.injEq] at h
      subst hk; subst h; exact List.mem_cons_self
    · exact List.mem_cons_of_mem _ (ih n r h)

theorem primitiveRoot_mem (n r : Nat) (h : primitiveRoot n = some r) : (n, r) ∈ PRIMITIVE_ROOTS := by
  unfold primitiveRoot at h
  split at h
  · cases h
  · exact rootTable_mem _ _ _ h

/-- the table answers for every `2^L`, `L ≤ 32` (one look-up per `L`, decided by the kernel) -/
theorem lookup_defined : ∀ L, L < 33 → (primitiveRoot (2^L)).isSome = true := by decide +kernel

theorem primitiveRoot_pow2 (L : Nat) (hL : L ≤ 32) :
    ∃ r, primitiveRoot (2^L) = some r ∧ 0 < r ∧ r < P ∧ (if L = 0 then r = 1 else r^(2^(L-1)) % P = P - 1) := by
  obtain ⟨r, hr⟩ := Option.isSome_iff_exists.1 (lookup_defined L (by omega))
  rcases table_entries _ r (primitiveRoot_mem _ r hr) with ⟨h0, _⟩ | ⟨k, _, hk, hlt, hp⟩
  · exact absurd h0 (Nat.pos_iff_ne_zero.1 (Nat.two_pow_pos L))
  · obtain rfl : L = k := Nat.pow_right_injective (Nat.le_refl 2) hk
    refine ⟨r, hr, Nat.pos_of_ne_zero ?_, hlt, hp⟩
    rintro rfl
    split at hp
    · cases hp
    · rw [Nat.zero_pow (Nat.two_pow_pos _)] at hp
      exact absurd hp (by decide)

theorem P_pos : 0 < P := by decide
theorem two_lt_P : 2 < P := by decide

theorem cast_pred_P : ((P - 1 : ℕ) : ZMod P) = -1 := by
  rw [Nat.cast_sub (by decide : 1 ≤ P)]
  simp

theorem neg_one_ne_one_zmod : (-1 : ZMod P) ≠ 1 := by
  intro h
  have h2 : ((2 : ℕ) : ZMod P) = 0 := by
    have h3 : (-1 : ZMod P) + 1 = 1 + 1 := by rw [h]
    rw [neg_add_cancel] at h3
    rw [h3]; norm_num
  rw [ZMod.natCast_eq_zero_iff] at h2
  have := Nat.le_of_dvd (by norm_num) h2
  have := two_lt_P
  omega

theorem cast_pow_eq_neg_one (r e : Nat) (h : r^e % P = P - 1) : ((r : ℕ) : ZMod P)^e = -1 := by
  rw [← Nat.cast_pow, ← ZMod.natCast_mod, h, cast_pred_P]

/-- an element of `ZMod P` whose `2^(k-1)`-th power is `-1` has order exactly `2^k` -/
theorem orderOf_of_half_pow (x : ZMod P) (k : Nat) (hk : 0 < k) (h : x^(2^(k-1)) = -1) : orderOf x = 2^k := by
  obtain ⟨j, rfl⟩ : ∃ j, k = j + 1 := ⟨k - 1, by omega⟩
  simp only [Nat.add_sub_cancel] at h
  apply orderOf_eq_prime_pow
  · rw [h]; exact neg_one_ne_one_zmod
  · rw [pow_succ, pow_mul, h]; norm_num

end TF.NttProofs
