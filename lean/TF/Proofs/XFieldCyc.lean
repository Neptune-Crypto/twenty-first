import TF.Proofs.XFieldK
/-!
`XFieldElement::get_cyclic_group_elements(max)` for a non-zero element, with and without a bound, in terms of the
multiplicative order of the element (which exists because `F_p[X]/(X³ − X + 1)` is a finite field, `TF/Proofs/XFieldK.lean`).
-/
namespace TF.XK
open TF TF.Gen TF.Spec TF.Shah TF.Model TF.XFInvProofs TF.BF

/-- for a non-zero `g` of multiplicative order `k` (least positive exponent with `g^k = 1`; `k ∣ P³ − 1`) the call
    `get_cyclic_group_elements(max)` ends after `L − 1` iterations, `L = max k 2` without a bound and
    `L = min (max k 2) (max m 2)` with the bound `m`, and returns `[1, g, …, g^(L−1)]` -/
theorem x_cyclicGroup_order (g : XF.X3) (hg : XFp.canon3 g) (hnz : g ≠ XF.zero) :
    ∃ k, 0 < k ∧ k ∣ P ^ 3 - 1 ∧ XFp.xnpow (XF.toVal g) k = xone ∧
      (∀ j, 0 < j → j < k → XFp.xnpow (XF.toVal g) j ≠ xone) ∧
      ∀ (mx : Option Nat) (fuel : Nat), cycLen k mx ≤ fuel + 1 →
        ∃ l, XF.cyclicGroup fuel g mx = some l ∧ (∀ x ∈ l, XFp.canon3 x) ∧ l.length = cycLen k mx ∧
          l.map XF.toVal = (List.range (cycLen k mx)).map (XFp.xnpow (XF.toVal g)) := by
  have hφ : φ g ≠ 0 := fun h => hnz ((φ_eq_zero g hg).1 h)
  have hpos := orderOf_pos_of_ne_zero (φ g) hφ
  refine ⟨orderOf (φ g), hpos, orderOf_dvd_card_sub_one (φ g) hφ, ?_, fun j hj0 hjk h => ?_, fun mx fuel hf => ?_⟩
  · rw [XFp.xnpow_eq_one_iff]; exact pow_orderOf_eq_one (φ g)
  · exact pow_ne_one_of_lt_orderOf (by omega) hjk ((XFp.xnpow_eq_one_iff _ _).1 h)
  · obtain ⟨l, h1, h2, h3⟩ := cyclicGroupG_order XFp.canon3 XF.toVal (XFp.xnpow (XF.toVal g)) XF.one
      ⟨canon3_one, toVal_one⟩ (XFp.xpw_spec g hg) (XFp.xstopIs g hg mx) hpos _ fuel rfl hf
    exact ⟨l, h1, h2, by simpa using congrArg List.length h3, h3⟩

/-- **no bound**: for a non-zero `g` the loop ends.  `k` = multiplicative order of `g` (the least positive exponent
    with `g^k = 1`; it divides `P³ − 1`); the loop runs `max k 2 − 1` iterations and returns `[1, g, …, g^(max k 2 − 1)]`. -/
theorem x_cyclicGroup_none (g : XF.X3) (hg : XFp.canon3 g) (hnz : g ≠ XF.zero) :
    ∃ k, 0 < k ∧ k ∣ P ^ 3 - 1 ∧ XFp.xnpow (XF.toVal g) k = xone ∧
      (∀ j, 0 < j → j < k → XFp.xnpow (XF.toVal g) j ≠ xone) ∧
      ∀ fuel, max k 2 ≤ fuel + 1 →
        ∃ l, XF.cyclicGroup fuel g none = some l ∧ (∀ x ∈ l, XFp.canon3 x) ∧ l.length = max k 2 ∧
          l.map XF.toVal = (List.range (max k 2)).map (XFp.xnpow (XF.toVal g)) := by
  obtain ⟨k, h1, h2, h3, h4, h5⟩ := x_cyclicGroup_order g hg hnz
  exact ⟨k, h1, h2, h3, h4, h5 none⟩

end TF.XK
