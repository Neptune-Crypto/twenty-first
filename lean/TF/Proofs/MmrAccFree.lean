import TF.Proofs.MmrAccBounded
import TF.Proofs.MmrAccVerify
/-!
# C11: the checks over the free hash algebra are instances of the general theorems

`batchCase n idxs` and `verifyCase n idxs apps` (`TF/Proofs/MmrAccBounded.lean`) state, for one MMR size and one list of
mutated leafs, what `batch_mutate_refines_model` and `verify_batch_update_iff_model` prove for every digest type; the
enumeration `distinctLists n k` only produces duplicate-free lists of indices below `n`.
-/
namespace TF.MmrAccB
open TF TF.Spec.MmrAcc TF.Model.MmrAcc TF.MmrAccBatch TF.MmrAccP

theorem mem_distinctLists (n : Nat) : ∀ (k : Nat) (l : List Nat), l ∈ distinctLists n k → l.Nodup ∧ ∀ i ∈ l, i < n := by
  intro k
  induction k with
  | zero =>
    intro l hl
    obtain rfl : l = [] := by simpa [distinctLists] using hl
    exact ⟨List.nodup_nil, fun _ h => nomatch h⟩
  | succ k ih =>
    intro l hl
    simp only [distinctLists, List.mem_flatMap, List.mem_map, List.mem_filter, List.mem_range] at hl
    obtain ⟨l', hl', i, ⟨hin, hni⟩, rfl⟩ := hl
    obtain ⟨hnd, hlt⟩ := ih l' hl'
    refine ⟨List.nodup_cons.mpr ⟨by simpa using hni, hnd⟩, ?_⟩
    intro j hj
    rcases List.mem_cons.mp hj with rfl | hj
    · exact hin
    · exact hlt j hj

theorem updates_eq : ∀ (ms : List (Nat × Term)) (f : Nat → Term), updates f ms = applyUpdates f ms := by
  intro ms
  induction ms with
  | nil => intro f; rfl
  | cons p rest ih => intro f; exact ih _

/-- the batch handed to the routines: leaf `idxs[k]` gets the value `fresh k` -/
def freshMuts (idxs : List Nat) : List (Nat × Term) := idxs.zipIdx.map fun (i, k) => (i, Term.fresh k)

theorem freshMuts_fst (idxs : List Nat) : (freshMuts idxs).map Prod.fst = idxs := by
  unfold freshMuts
  rw [List.map_map]
  exact (List.map_congr_left fun p _ => rfl).trans (List.zipIdx_map_fst 0 idxs)

theorem freshMuts_lt {n : Nat} {idxs : List Nat} (hlt : ∀ i ∈ idxs, i < n) : ∀ m ∈ freshMuts idxs, m.1 < n :=
  fun m hm => hlt m.1 (by rw [← freshMuts_fst idxs]; exact List.mem_map_of_mem hm)

theorem pathOf_eq (n : Nat) (f : Nat → Term) : pathOf n f = fun i => (authPath Hn n f i).getD [] := rfl

theorem muts_eq (n : Nat) (idxs : List Nat) :
    (idxs.zipIdx.map fun (i, k) => ({ leaf_index := i, new_leaf := Term.fresh k, auth := pathOf n f0 i } : LeafMutation Term))
      = (freshMuts idxs).map fun m => { leaf_index := m.1, new_leaf := m.2, auth := (authPath Hn n f0 m.1).getD [] } := by
  unfold freshMuts
  rw [List.map_map]
  exact List.map_congr_left fun p _ => rfl

theorem batchCase_eq_true (n : Nat) (idxs : List Nat) (hn : n < 2 ^ 63) (hnd : idxs.Nodup) (hlt : ∀ i ∈ idxs, i < n) :
    batchCase n idxs = true := by
  have h := batch_mutate_refines_model Hn n f0 (freshMuts idxs) (List.range n) hn
    (by rw [freshMuts_fst]; exact hnd) (freshMuts_lt hlt) (fun t ht => List.mem_range.mp ht)
  -- the theorem reports positions in the list of tracked leafs, which here is `range n`
  have hfilter : ∀ P : Nat → Bool,
      (List.range (List.range n).length).filter (fun k => P ((List.range n).getD k 0)) = (List.range n).filter P := by
    intro P
    rw [List.length_range]
    apply List.filter_congr
    intro k hk
    rw [List.getD_eq_getElem _ _ (by simpa using hk), List.getElem_range]
  rw [hfilter fun t => (authPath Hn n f0 t).getD [] != (authPath Hn n (applyUpdates f0 (freshMuts idxs)) t).getD []] at h
  unfold batchCase
  rw [muts_eq, show (idxs.zipIdx.map fun (i, k) => (i, Term.fresh k)) = freshMuts idxs from rfl, updates_eq]
  simp only [pathOf_eq, h, beq_self_eq_true, Bool.and_self]

theorem batchAll_eq_true (nMax k : Nat) (h : nMax < 2 ^ 63) : batchAll nMax k = true := by
  unfold batchAll
  simp only [List.all_eq_true, List.mem_range]
  intro n hn l hl
  obtain ⟨hnd, hlt⟩ := mem_distinctLists n k l hl
  exact batchCase_eq_true n l (by omega) hnd hlt

/-! ### `verifyCase`

Accepting the from-scratch peaks and rejecting a repeated index are the general theorems.  The old peaks are rejected
because no old peak contains a `fresh` leaf while, after a mutation or an append, some new peak does. -/

def hasFresh : Term → Bool
  | .fresh _ => true
  | .leaf _ => false
  | .node l r => hasFresh l || hasFresh r

theorem hasFresh_sub_false (f : Nat → Term) (hf : ∀ i, hasFresh (f i) = false) :
    ∀ l j, hasFresh (Spec.MmrE.sub Hn f l j) = false := by
  intro l
  induction l with
  | zero => intro j; exact hf j
  | succ l ih =>
    intro j
    rw [Spec.MmrE.sub]
    show (_ || _) = false
    rw [ih, ih]
    rfl

theorem hasFresh_sub_true (f : Nat → Term) : ∀ l i, hasFresh (f i) = true → hasFresh (Spec.MmrE.sub Hn f l (i / 2 ^ l)) = true := by
  intro l
  induction l with
  | zero => intro i h; simpa [Spec.MmrE.sub] using h
  | succ l ih =>
    intro i h
    have := ih i h
    rw [Spec.MmrE.sub]
    show (_ || _) = true
    rcases Nat.mod_two_eq_zero_or_one (i / 2 ^ l) with h0 | h1
    · rw [show 2 * (i / 2 ^ (l + 1)) = i / 2 ^ l by rw [Nat.pow_succ, ← Nat.div_div_eq_div_mul]; omega, this]; rfl
    · rw [show 2 * (i / 2 ^ (l + 1)) + 1 = i / 2 ^ l by rw [Nat.pow_succ, ← Nat.div_div_eq_div_mul]; omega, this,
        Bool.or_true]

theorem peaks_no_fresh (n : Nat) (f : Nat → Term) (hf : ∀ i, hasFresh (f i) = false) :
    ∀ t ∈ peaks Hn n f, hasFresh t = false := by
  intro t ht
  rw [peaks_eq, MmrE.peaks_eq_map, List.mem_map] at ht
  obtain ⟨p, _, rfl⟩ := ht
  exact hasFresh_sub_false f hf _ _

theorem peaks_some_fresh (n : Nat) (f : Nat → Term) (i : Nat) (hi : i < n) (hf : hasFresh (f i) = true) :
    ∃ t ∈ peaks Hn n f, hasFresh t = true := by
  rw [peaks_eq]
  exact ⟨_, List.mem_of_getElem? (MmrE.peaks_getElem_locate Hn n f i hi), hasFresh_sub_true f _ i hf⟩

theorem hasFresh_applyUpdates : ∀ (ms : List (Nat × Term)) (f : Nat → Term) (i : Nat),
    (∀ m ∈ ms, hasFresh m.2 = true) → (hasFresh (f i) = true ∨ i ∈ ms.map Prod.fst) →
    hasFresh (applyUpdates f ms i) = true := by
  intro ms
  induction ms with
  | nil =>
    intro f i _ h
    rcases h with h | h
    · exact h
    · cases h
  | cons p rest ih =>
    intro f i hms h
    refine ih (update f p.1 p.2) i (fun m hm => hms m (List.mem_cons_of_mem _ hm)) ?_
    unfold update
    by_cases hip : i = p.1
    · rw [if_pos hip]; exact Or.inl (hms p List.mem_cons_self)
    · rw [if_neg hip]
      rcases h with h | h
      · exact Or.inl h
      · rcases List.mem_cons.mp h with h | h
        · exact absurd h hip
        · exact Or.inr h

/-- the appended leaves of `verifyCase`, as updates of the leaf list -/
def freshApps (n apps : Nat) : List (Nat × Term) := (List.range apps).map fun k => (n + k, Term.fresh (100 + k))

/-- the leaf list after the mutations and appends of `verifyCase` -/
def after (n : Nat) (idxs : List Nat) (apps : Nat) : Nat → Term :=
  applyUpdates (applyUpdates f0 (freshMuts idxs)) (freshApps n apps)

theorem hasFresh_after (n : Nat) (idxs : List Nat) (apps i : Nat)
    (hi : i ∈ idxs ∨ i ∈ (freshApps n apps).map Prod.fst) : hasFresh (after n idxs apps i) = true := by
  apply hasFresh_applyUpdates _ _ _ (fun m hm => by obtain ⟨k, _, rfl⟩ := List.mem_map.mp hm; rfl)
  refine hi.imp_left fun hi => ?_
  exact hasFresh_applyUpdates _ _ _ (fun m hm => by obtain ⟨p, _, rfl⟩ := List.mem_map.mp hm; rfl)
    (Or.inr (by rwa [freshMuts_fst]))

/-- after a mutation or an append some leaf is `fresh`, so the new peaks are not the old ones -/
theorem peaks_after_ne (n : Nat) (idxs : List Nat) (apps : Nat) (hlt : ∀ i ∈ idxs, i < n)
    (h : (idxs.isEmpty && apps == 0) = false) : peaks Hn (n + apps) (after n idxs apps) ≠ peaks Hn n f0 := by
  have hne : ∀ i, i < n + apps → (i ∈ idxs ∨ i ∈ (freshApps n apps).map Prod.fst) →
      peaks Hn (n + apps) (after n idxs apps) ≠ peaks Hn n f0 := by
    intro i hi hmem he
    obtain ⟨t, ht, htf⟩ := peaks_some_fresh _ _ i hi (hasFresh_after n idxs apps i hmem)
    rw [he] at ht
    rw [peaks_no_fresh n f0 (fun _ => rfl) t ht] at htf
    cases htf
  cases idxs with
  | cons a r => exact hne a (by have := hlt a List.mem_cons_self; omega) (Or.inl List.mem_cons_self)
  | nil =>
    cases apps with
    | zero => cases h
    | succ m =>
      refine hne n (by omega) (Or.inr ?_)
      rw [freshApps, List.map_map]
      exact List.mem_map.mpr ⟨0, List.mem_range.mpr (by omega), rfl⟩

theorem zipIdx_map_range {α : Type} (g : Nat → α) (m : Nat) :
    ((List.range m).map g).zipIdx = (List.range m).map fun k => (g k, k) := by
  apply List.ext_getElem?
  intro i
  simp only [List.getElem?_zipIdx, List.getElem?_map]
  by_cases h : i < m <;> simp [h]

theorem verify_fresh (n : Nat) (idxs : List Nat) (apps : Nat) (hn : n + apps < 2 ^ 63) (hnd : idxs.Nodup)
    (hlt : ∀ i ∈ idxs, i < n) (np : List Term) :
    verify_batch_update Hn { leaf_count := n, peaks := peaks Hn n f0 } np
        ((List.range apps).map fun k => Term.fresh (100 + k))
        ((freshMuts idxs).map fun m => { leaf_index := m.1, new_leaf := m.2, auth := (authPath Hn n f0 m.1).getD [] })
      = some (peaks Hn (n + apps) (after n idxs apps) == np) := by
  rw [MmrAccVerify.verify_batch_update_iff_model Hn n f0 (freshMuts idxs) _ np (by simpa using hn)
    (by rw [freshMuts_fst]; exact hnd) (freshMuts_lt hlt), zipIdx_map_range, List.map_map, List.length_map,
    List.length_range]
  rfl

/-- the first mutation listed a second time at the end -/
theorem verify_repeated (n : Nat) (a : Nat) (r : List Nat) (np apps : List Term) (muts : List (LeafMutation Term))
    (hm : muts.map (·.leaf_index) = a :: r) :
    verify_batch_update Hn { leaf_count := n, peaks := peaks Hn n f0 } np apps (muts ++ muts.take 1) = some false := by
  apply MmrAccP.verify_false_of_not_unique
  rw [List.map_append, List.map_take, hm]
  simp [allUnique]

theorem verifyCase_eq_true (n : Nat) (idxs : List Nat) (apps : Nat) (hn : n + apps < 2 ^ 63) (hnd : idxs.Nodup)
    (hlt : ∀ i ∈ idxs, i < n) : verifyCase n idxs apps = true := by
  have h2 : (idxs.isEmpty && apps == 0 ||
      some (peaks Hn (n + apps) (after n idxs apps) == peaks Hn n f0) == some false) = true := by
    cases h : idxs.isEmpty && apps == 0 with
    | true => rfl
    | false => rw [beq_eq_false_iff_ne.mpr (peaks_after_ne n idxs apps hlt h)]; rfl
  have h3 : ∀ np, (idxs.isEmpty || verify_batch_update Hn { leaf_count := n, peaks := peaks Hn n f0 } np
        ((List.range apps).map fun k => Term.fresh (100 + k))
        (((freshMuts idxs).map fun m => ({ leaf_index := m.1, new_leaf := m.2, auth := (authPath Hn n f0 m.1).getD [] } :
            LeafMutation Term)) ++
          ((freshMuts idxs).map fun m => { leaf_index := m.1, new_leaf := m.2, auth := (authPath Hn n f0 m.1).getD [] }).take 1)
        == some false) = true := by
    intro np
    cases hi : idxs with
    | nil => rfl
    | cons a r => rw [verify_repeated n a r np _ _ (by rw [List.map_map]; exact freshMuts_fst (a :: r))]; rfl
  unfold verifyCase
  rw [muts_eq, show (idxs.zipIdx.map fun (i, k) => (i, Term.fresh k)) = freshMuts idxs from rfl]
  simp only [updates_eq]
  rw [show applyUpdates (applyUpdates f0 (freshMuts idxs)) ((List.range apps).map fun k => (n + k, Term.fresh (100 + k)))
    = after n idxs apps from rfl]
  simp only [verify_fresh n idxs apps hn hnd hlt, beq_self_eq_true, Bool.true_and, h2, h3]

theorem verifyAll_eq_true (nMax k apps : Nat) (h : nMax + apps < 2 ^ 63) : verifyAll nMax k apps = true := by
  unfold verifyAll
  simp only [List.all_eq_true, List.mem_range]
  intro n hn l hl
  obtain ⟨hnd, hlt⟩ := mem_distinctLists n k l hl
  exact verifyCase_eq_true n l apps (by omega) hnd hlt

end TF.MmrAccB
