import TF.Proofs.MerkleAuth
/-! What the loops of `try_from` and `fill` do to the node map: association-list lookups, `collectMap`, `Vec::dedup` on
sorted vectors (`moveUp`), the leaf loop (`foldl_insertLeaf`) and the loop over the parents of one level (`foldl_insertDigest`). -/
namespace TF.Merkle
open TF.Gen

section Maps
variable {D : Type}

theorem lookup_cons_nat {k a : Nat} {b : D} {t : List (Nat × D)} :
    List.lookup k ((a, b) :: t) = if k = a then some b else List.lookup k t := by
  simp only [List.lookup_cons]
  by_cases h : k = a
  · simp [h]
  · have : (k == a) = false := by simp [h]
    simp [this, h]

namespace NodeMap
@[simp] theorem get_insert {m : NodeMap D} {k a : Nat} {v : D} :
    (m.insert a v).get k = if k = a then some v else m.get k := by
  simp [NodeMap.get, NodeMap.insert, lookup_cons_nat]
end NodeMap

theorem foldl_insert_get (l : List (Nat × D)) (acc : NodeMap D) (hn : (l.map (·.1)).Pairwise (· ≠ ·)) (k : Nat) :
    (l.foldl (fun m kv => NodeMap.insert m kv.1 kv.2) acc).get k =
      (l.lookup k).or (acc.get k) := by
  induction l generalizing acc with
  | nil => rfl
  | cons x t ih =>
    rw [List.map_cons, List.pairwise_cons] at hn
    rw [List.foldl_cons, ih _ hn.2, lookup_cons_nat, NodeMap.get_insert]
    by_cases e : k = x.1
    · rw [if_pos e, if_pos e, e, List.lookup_eq_none_iff.2 fun p hp => bne_iff_ne.2 (hn.1 p.1 (List.mem_map_of_mem hp)),
        Option.some_or, Option.none_or]
    · rw [if_neg e, if_neg e]

/-- `zip_eq().collect::<HashMap>()` of pairwise distinct keys is the association itself -/
theorem collectMap_get {ks : List Nat} {vs : List D} (hl : ks.length = vs.length) (hn : ks.Pairwise (· ≠ ·)) :
    ∃ m, collectMap ks vs = .ok m ∧ ∀ k, m.get k = (ks.zip vs).lookup k := by
  refine ⟨_, by rw [collectMap, if_pos hl], fun k => ?_⟩
  rw [foldl_insert_get _ _ (by rw [List.map_fst_zip (by omega)]; exact hn)]
  exact Option.or_none

theorem lookup_zip_isSome {ks : List Nat} {vs : List D} {k : Nat} (hl : ks.length ≤ vs.length) :
    ((ks.zip vs).lookup k).isSome ↔ k ∈ ks := by
  induction ks generalizing vs with
  | nil => simp
  | cons a t ih =>
    cases vs with
    | nil => simp at hl
    | cons v vs =>
      rw [List.zip_cons_cons, lookup_cons_nat, List.mem_cons]
      by_cases e : k = a
      · simp [e]
      · rw [if_neg e, ih (Nat.le_of_succ_le_succ hl)]
        simp [e]

theorem lookup_zip_map {g : Nat → D} {ks : List Nat} {k : Nat} (h : k ∈ ks) :
    ((ks.zip (ks.map g)).lookup k) = some (g k) := by
  induction ks with
  | nil => cases h
  | cons a t ih =>
    rw [List.map_cons, List.zip_cons_cons, lookup_cons_nat]
    by_cases e : k = a
    · rw [if_pos e, e]
    · rw [if_neg e]
      exact ih ((List.mem_cons.1 h).resolve_left e)
end Maps

theorem mem_dedupAdj {a : Nat} {l : List Nat} : a ∈ dedupAdj l ↔ a ∈ l := by
  fun_induction dedupAdj l with
  | case1 => rfl
  | case2 => rfl
  | case3 y ys ih => rw [ih]; simp
  | case4 x y ys hne ih => rw [List.mem_cons, ih, List.mem_cons (a := a) (b := x)]

theorem sorted_dedupAdj {l : List Nat} (h : l.Pairwise (· ≤ ·)) : (dedupAdj l).Pairwise (· < ·) := by
  fun_induction dedupAdj l with
  | case1 => exact List.Pairwise.nil
  | case2 x => exact List.pairwise_singleton _ _
  | case3 y ys ih => exact ih (List.pairwise_cons.1 h).2
  | case4 x y ys hne ih =>
    have ⟨h1, h2⟩ := List.pairwise_cons.1 h
    refine List.pairwise_cons.2 ⟨fun a ha => ?_, ih h2⟩
    have hxa := h1 a (mem_dedupAdj.1 ha)
    have hxy := h1 y (List.mem_cons_self ..)
    rcases List.mem_cons.1 (mem_dedupAdj.1 ha) with rfl | ha'
    · omega
    · have := (List.pairwise_cons.1 h2).1 a ha'; omega

theorem sorted_moveUp {l : List Nat} (h : l.Pairwise (· < ·)) : (moveUp l).Pairwise (· < ·) := by
  unfold moveUp
  apply sorted_dedupAdj
  rw [List.pairwise_map]
  exact h.imp (fun {a b} hab => by omega)

theorem mem_moveUp {l : List Nat} {p : Nat} : p ∈ moveUp l ↔ ∃ q ∈ l, q / 2 = p := by
  simp [moveUp, mem_dedupAdj]

section LeafLoop
variable {D : Type}

theorem leafAt_cons {h : Nat} {x : Nat × D} {t : List (Nat × D)} {k : Nat} :
    Spec.leafAt h (x :: t) k = if x.1 + 2^h = k then some x.2 else Spec.leafAt h t k := by
  unfold Spec.leafAt
  rw [List.find?_cons]
  by_cases e : x.1 + 2^h = k
  · simp [e]
  · simp [e, beq_false_of_ne e]

theorem leafAt_isSome {h : Nat} {leafs : List (Nat × D)} {k : Nat} :
    (Spec.leafAt h leafs k).isSome ↔ ∃ i ∈ leafs.map (·.1), i + 2^h = k := by
  unfold Spec.leafAt
  rw [Option.isSome_map, List.find?_isSome]
  constructor
  · rintro ⟨x, hx, e⟩
    exact ⟨x.1, List.mem_map_of_mem hx, beq_iff_eq.1 e⟩
  · rintro ⟨i, hi, e⟩
    obtain ⟨x, hx, rfl⟩ := List.mem_map.1 hi
    exact ⟨x, hx, beq_iff_eq.2 e⟩

variable [DecidableEq D]

/- During the leaf loop node `k` holds `(m.get k).or (Spec.leafAt h leafs k)`: what the map held before the loop, else
   the first claim for `k`. -/

/-- one claim: it is entered, or agrees with what is there, or is the mismatch; `t` are the claims still to come -/
theorem insertLeaf_step {h : Nat} (m : NodeMap D) {x : Nat × D} (t : List (Nat × D)) (hx : x.1 + 2^h < USIZE) :
    ((∃ m₁, insertLeaf (2^h) m x = .ok m₁ ∧
        ∀ k, (m₁.get k).or (Spec.leafAt h t k) = (m.get k).or (Spec.leafAt h (x :: t) k)) ∧
      (m.get (x.1 + 2^h)).or (Spec.leafAt h (x :: t) (x.1 + 2^h)) = some x.2)
    ∨ (insertLeaf (2^h) m x = .err .repeatedLeafDigestMismatch ∧
      (m.get (x.1 + 2^h)).or (Spec.leafAt h (x :: t) (x.1 + 2^h)) ≠ some x.2) := by
  simp only [insertLeaf, cadd, hx, if_true, Res.ok_bind]
  cases hg : m.get (x.1 + 2^h) with
  | none =>
    refine Or.inl ⟨⟨_, rfl, fun k => ?_⟩, by rw [Option.none_or, leafAt_cons, if_pos rfl]⟩
    rw [NodeMap.get_insert, leafAt_cons]
    by_cases hk : k = x.1 + 2^h
    · rw [if_pos hk, if_pos hk.symm, hk, hg, Option.some_or, Option.none_or]
    · rw [if_neg hk, if_neg (Ne.symm hk)]
  | some d =>
    by_cases hd : d = x.2
    · subst hd
      refine Or.inl ⟨⟨m, if_pos rfl, fun k => ?_⟩, Option.some_or⟩
      cases hk : m.get k with
      | some v => rw [Option.some_or, Option.some_or]
      | none =>
        have : x.1 + 2^h ≠ k := by intro e; rw [e, hk] at hg; cases hg
        rw [Option.none_or, Option.none_or, leafAt_cons, if_neg this]
    · refine Or.inr ⟨if_neg hd, ?_⟩
      rw [Option.some_or]
      exact fun e => hd (Option.some.inj e)

/-- the leaf loop.  The statement has the shape `(P ∧ ok ..) ∨ (¬ P ∧ err ..)` because that is what the induction carries:
    the loop stops at the first claim that differs from what the node holds, and `P` (every claim agrees with the map or
    the first claim for its index) is only known once the whole list has been walked -/
theorem foldl_insertLeaf {h : Nat} (leafs : List (Nat × D)) (m : NodeMap D) (hb : ∀ x ∈ leafs, x.1 + 2^h < USIZE) :
    ((∀ x ∈ leafs, (m.get (x.1 + 2^h)).or (Spec.leafAt h leafs (x.1 + 2^h)) = some x.2) ∧
      ∃ m', Res.foldlM (insertLeaf (2^h)) m leafs = .ok m' ∧ ∀ k, m'.get k = (m.get k).or (Spec.leafAt h leafs k))
    ∨ (¬ (∀ x ∈ leafs, (m.get (x.1 + 2^h)).or (Spec.leafAt h leafs (x.1 + 2^h)) = some x.2) ∧
      Res.foldlM (insertLeaf (2^h)) m leafs = .err .repeatedLeafDigestMismatch) := by
  induction leafs generalizing m with
  | nil => exact Or.inl ⟨fun _ h => (by cases h), m, rfl, fun k => Option.or_none.symm⟩
  | cons x t ih =>
    have ht : ∀ y ∈ t, y.1 + 2^h < USIZE := fun y hy => hb y (List.mem_cons_of_mem _ hy)
    rw [Res.foldlM]
    rcases insertLeaf_step m t (hb x (List.mem_cons_self ..)) with ⟨⟨m₁, e₁, key⟩, own⟩ | ⟨e₁, nown⟩
    · rw [e₁, Res.ok_bind]
      rcases ih m₁ ht with ⟨hP, m', e₂, hget⟩ | ⟨hP, e₂⟩
      · refine Or.inl ⟨fun y hy => ?_, m', e₂, fun k => by rw [hget, key]⟩
        rcases List.mem_cons.1 hy with rfl | hy
        · exact own
        · rw [← key]
          exact hP y hy
      · refine Or.inr ⟨fun hall => hP fun y hy => ?_, e₂⟩
        rw [key]
        exact hall y (List.mem_cons_of_mem _ hy)
    · refine Or.inr ⟨fun hall => nown (hall x (List.mem_cons_self ..)), ?_⟩
      rw [e₁]
      rfl

theorem consistent_iff {h : Nat} {leafs : List (Nat × D)} :
    (∀ x ∈ leafs, Spec.leafAt h leafs (x.1 + 2^h) = some x.2) ↔ Spec.consistent leafs = true := by
  unfold Spec.consistent Spec.leafAt
  simp only [List.all_eq_true, Bool.or_eq_true, bne_iff_ne, ne_eq, decide_eq_true_eq]
  constructor
  · intro h x hx y hy
    by_cases e : x.1 = y.1
    · right
      have h1 := h x hx
      have h2 := h y hy
      rw [e] at h1
      rw [h1] at h2
      exact Option.some.inj h2
    · left; exact e
  · intro hc x hx
    cases hf : leafs.find? (fun y => y.1 + 2^h == x.1 + 2^h) with
    | none =>
      rw [List.find?_eq_none] at hf
      have := hf x hx
      simp at this
    | some y =>
      have hy := List.mem_of_find?_eq_some hf
      have hp := List.find?_some hf
      simp only [beq_iff_eq] at hp
      have e : y.1 = x.1 := by omega
      rcases hc y hy x hx with h' | h'
      · exact absurd e h'
      · simp [h']
end LeafLoop

section ParentLoop
variable {D : Type} (H : D → D → D)

theorem insertDigest_ok {m : NodeMap D} {p : Nat} {a b : D} (hlt : 2 * p < USIZE) (ha : m.get (2*p) = some a)
    (hb : m.get (2*p+1) = some b) (hp : m.get p = none) : insertDigest H m p = .ok (m.insert p (H a b)) := by
  have hx : (2 * p) ^^^ 1 = 2 * p + 1 := by rw [xor_one_eq_sib, sib, if_pos (Nat.mul_mod_right 2 p)]
  simp only [insertDigest, childrenOf, cmul, Nat.mul_comm p 2, hlt, if_true, Res.ok_bind, hx, getNode, ha, hb, hp]

/-- the parents of one level (distinct, all in `[B, 2B)`, so that no child is a parent), each absent and with both
    children present, all get the hash of their children; nothing else changes -/
theorem foldl_insertDigest {B : Nat} (ps : List Nat) (m : NodeMap D) (hnd : ps.Pairwise (· ≠ ·))
    (hps : ∀ p ∈ ps, B ≤ p ∧ p < 2 * B ∧ 2 * p < USIZE ∧ m.get p = none ∧
      ∃ a b, m.get (2*p) = some a ∧ m.get (2*p+1) = some b) :
    ∃ m', Res.foldlM (insertDigest H) m ps = .ok m' ∧ (∀ k, k ∉ ps → m'.get k = m.get k) ∧
      ∀ p ∈ ps, ∃ a b, m.get (2*p) = some a ∧ m.get (2*p+1) = some b ∧ m'.get p = some (H a b) := by
  induction ps generalizing m with
  | nil => exact ⟨m, rfl, fun _ _ => rfl, fun _ h => by cases h⟩
  | cons p ps ih =>
    obtain ⟨hB, hB', hlt, hp, a, b, ha, hb⟩ := hps p (List.mem_cons_self ..)
    have ⟨hnd1, hnd2⟩ := List.pairwise_cons.1 hnd
    -- the new entry is neither a later parent nor a child of one
    have hfr : ∀ k, k ≠ p → (m.insert p (H a b)).get k = m.get k := fun k hk => by rw [NodeMap.get_insert, if_neg hk]
    have hch : ∀ q, B ≤ q → (m.insert p (H a b)).get (2*q) = m.get (2*q) ∧
        (m.insert p (H a b)).get (2*q+1) = m.get (2*q+1) := fun q hq => ⟨hfr _ (by omega), hfr _ (by omega)⟩
    obtain ⟨m', e, h1, h2⟩ := ih (m.insert p (H a b)) hnd2 (fun q hq => by
      have hq' := hps q (List.mem_cons_of_mem _ hq)
      rw [hfr q (Ne.symm (hnd1 q hq)), (hch q hq'.1).1, (hch q hq'.1).2]
      exact hq')
    refine ⟨m', ?_, fun k hk => ?_, fun q hq => ?_⟩
    · rw [Res.foldlM, insertDigest_ok H hlt ha hb hp, Res.ok_bind, e]
    · rw [h1 k (fun hm => hk (List.mem_cons_of_mem _ hm)), hfr k (fun e => hk (e ▸ List.mem_cons_self ..))]
    · by_cases hqp : q ∈ ps
      · have hq := hch q (hps q hq).1
        have := h2 q hqp
        rwa [hq.1, hq.2] at this
      · have : q = p := (List.mem_cons.1 hq).resolve_right hqp
        subst this
        exact ⟨a, b, ha, hb, by rw [h1 q hqp, NodeMap.get_insert, if_pos rfl]⟩
end ParentLoop

end TF.Merkle
