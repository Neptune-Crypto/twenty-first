import TF.Model.Word
/-!
The two ways the models write `is_power_of_two`, the bit trick `n != 0 && n & (n - 1) == 0` (`TF.isPow2`) and
`n != 0 && 2 ^ log2 n == n`, both say `∃ k, n = 2^k`.  Core Lean only.
-/
namespace TF

theorem isPow2_iff (n : Nat) : isPow2 n = true ↔ ∃ k, n = 2 ^ k := by
  simp only [isPow2, Bool.and_eq_true, bne_iff_ne, ne_eq, beq_iff_eq]
  exact Nat.ne_zero_and_sub_one_eq_zero_iff_isPowerOfTwo

theorem two_pow_log2_eq_iff (n : Nat) : (n ≠ 0 ∧ 2 ^ Nat.log2 n = n) ↔ ∃ k, n = 2 ^ k :=
  ⟨fun h => ⟨n.log2, h.2.symm⟩,
   fun ⟨k, hk⟩ => hk ▸ ⟨Nat.ne_of_gt (Nat.two_pow_pos k), by rw [Nat.log2_two_pow]⟩⟩

end TF
