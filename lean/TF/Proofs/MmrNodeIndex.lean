import TF.Proofs.MmrIndex
import TF.Spec.MmrE
/-!
Node coordinates for the MMR loop functions (`TF/Model/MmrIndex.lean`): the root of the aligned block `j` of `2^l`
leaves ("the node `(l, j)`") has post-order index `nodeIdx l j = (j+1)·2^(l+1) − 1 − popCount j`.  Every loop function is
described here on `nodeIdx l j`: the two descents from the leftmost ancestor, `right_lineage_length_from_node_index`,
children, siblings and parents, and the climbs of the membership-proof routines.
"The left-spine tree of height `k`" is the perfect tree whose root is `(k, 0)`, index `2^(k+1) − 1` (S1's `tree 0 0 k`).
-/
namespace TF.MmrE
open TF TF.Gen TF.Model.Mmr TF.Spec.MmrE
open TF.Mmr (popCount_le popCount_two_mul popCount_two_mul_add_one popCount_succ_le popCount_mul_two_pow
  popCount_two_pow_add popCount_two_pow_sub_one trailingOnes_zero trailingOnes_even trailingOnes_odd
  trailingOnes_lt trailingOnes_two_pow_sub_one trailingOnes_add_mul two_pow_succ'
  dec32_succ inc32_lt shl1_of_lt add64_of_lt sub64_of_le lt_two_pow_log2_succ mod_two_pow_succ div_two_pow_succ)

/-- post-order node index of the root of the aligned block `j` of `2^l` leaves -/
def nodeIdx (l j : Nat) : Nat := (j + 1) * 2 ^ (l + 1) - 1 - TF.popCount j


theorem two_le_two_pow_succ (l : Nat) : 2 ≤ 2 ^ (l + 1) := by
  have := Nat.two_pow_pos l
  have := two_pow_succ' l
  omega

theorem two_pow_add_succ (a b : Nat) : 2 ^ a * 2 ^ (b + 1) = 2 ^ (b + a + 1) := by
  rw [← Nat.pow_add]; congr 1; omega

/-- the defining equation, without truncated subtraction -/
theorem nodeIdx_eq (l j : Nat) : nodeIdx l j + TF.popCount j + 1 = (j + 1) * 2 ^ (l + 1) := by
  unfold nodeIdx
  have h1 := popCount_le j
  have h2 : j + 1 ≤ (j + 1) * 2 ^ (l + 1) := Nat.le_mul_of_pos_right _ (Nat.pow_pos (by omega))
  omega

theorem succ_le_nodeIdx (l j : Nat) : j + 1 ≤ nodeIdx l j := by
  have h := nodeIdx_eq l j
  have h1 := popCount_le j
  have h2 : (j + 1) * 2 ≤ (j + 1) * 2 ^ (l + 1) := Nat.mul_le_mul_left _ (two_le_two_pow_succ l)
  omega

theorem nodeIdx_pos (l j : Nat) : 1 ≤ nodeIdx l j := Nat.le_trans (Nat.le_add_left 1 j) (succ_le_nodeIdx l j)

theorem two_pow_le_nodeIdx (l j : Nat) : 2 ^ (l + 1) ≤ nodeIdx l j + 1 := by
  have h := nodeIdx_eq l j
  have h1 := popCount_le j
  have : (j + 1) * 2 ^ (l + 1) = j * 2 ^ (l + 1) + 2 ^ (l + 1) := by ring
  have h3 : j ≤ j * 2 ^ (l + 1) := Nat.le_mul_of_pos_right _ (Nat.pow_pos (by omega))
  omega

theorem nodeIdx_root (k : Nat) : nodeIdx k 0 = 2 ^ (k + 1) - 1 := by
  have := nodeIdx_eq k 0
  rw [TF.Mmr.popCount_zero] at this
  omega

theorem nodeIdx_left (l j : Nat) : nodeIdx (l + 1) j = nodeIdx l (2 * j) + 2 ^ (l + 1) := by
  have h1 := nodeIdx_eq (l + 1) j
  have h2 := nodeIdx_eq l (2 * j)
  rw [popCount_two_mul] at h2
  have e : (j + 1) * 2 ^ (l + 1 + 1) = (2 * j + 1) * 2 ^ (l + 1) + 2 ^ (l + 1) := by ring
  omega

theorem nodeIdx_right (l j : Nat) : nodeIdx (l + 1) j = nodeIdx l (2 * j + 1) + 1 := by
  have h1 := nodeIdx_eq (l + 1) j
  have h2 := nodeIdx_eq l (2 * j + 1)
  rw [popCount_two_mul_add_one] at h2
  have e : (j + 1) * 2 ^ (l + 1 + 1) = (2 * j + 1 + 1) * 2 ^ (l + 1) := by ring
  omega

theorem nodeIdx_up_odd (l j : Nat) (h : j % 2 = 1) :
    nodeIdx (l + 1) (j / 2) = nodeIdx l j + 1 ∧ nodeIdx l (sibBlk j) + 2 ^ (l + 1) = nodeIdx l j + 1 := by
  have e : 2 * (j / 2) + 1 = j := by omega
  have hs : sibBlk j = 2 * (j / 2) := by unfold sibBlk; rw [if_neg (by omega)]; omega
  have hl := nodeIdx_left l (j / 2)
  have hr := nodeIdx_right l (j / 2)
  rw [e] at hr
  rw [hs]; omega

theorem nodeIdx_up_even (l j : Nat) (h : j % 2 = 0) :
    nodeIdx (l + 1) (j / 2) = nodeIdx l j + 2 ^ (l + 1) ∧ nodeIdx l (sibBlk j) + 1 = nodeIdx l j + 2 ^ (l + 1) := by
  have e : 2 * (j / 2) = j := by omega
  have hs : sibBlk j = 2 * (j / 2) + 1 := by unfold sibBlk; rw [if_pos h]; omega
  have hl := nodeIdx_left l (j / 2)
  have hr := nodeIdx_right l (j / 2)
  rw [e] at hl
  rw [hs]; omega

theorem nodeIdx_succ_ge (l j : Nat) : nodeIdx l j + 2 ^ (l + 1) ≤ nodeIdx l (j + 1) + 1 := by
  have h1 := nodeIdx_eq l j
  have h2 := nodeIdx_eq l (j + 1)
  have h3 := popCount_succ_le j
  have e : (j + 1 + 1) * 2 ^ (l + 1) = (j + 1) * 2 ^ (l + 1) + 2 ^ (l + 1) := by ring
  omega

theorem nodeIdx_mono (l : Nat) {j j' : Nat} (h : j ≤ j') : nodeIdx l j ≤ nodeIdx l j' := by
  obtain ⟨k, rfl⟩ := Nat.exists_eq_add_of_le h
  clear h
  induction k with
  | zero => exact Nat.le_refl _
  | succ k ih =>
    have := nodeIdx_succ_ge l (j + k)
    have := two_le_two_pow_succ l
    rw [← Nat.add_assoc]; omega

theorem nodeIdx_strictMono (l : Nat) {j j' : Nat} (h : j < j') : nodeIdx l j < nodeIdx l j' := by
  have h1 := nodeIdx_succ_ge l j
  have h2 := nodeIdx_mono l (show j + 1 ≤ j' from h)
  have := two_le_two_pow_succ l
  omega

theorem nodeIdx_lt_parent (l j : Nat) : nodeIdx l j < nodeIdx (l + 1) (j / 2) := by
  have := Nat.two_pow_pos (l + 1)
  rcases Nat.mod_two_eq_zero_or_one j with h | h
  · have := (nodeIdx_up_even l j h).1; omega
  · have := (nodeIdx_up_odd l j h).1; omega

/-- node index of the ancestor `t` levels above the node `(l, j)` -/
def anc (l j t : Nat) : Nat := nodeIdx (l + t) (j / 2 ^ t)

theorem anc_zero (l j : Nat) : anc l j 0 = nodeIdx l j := by simp [anc]

theorem anc_succ (l j t : Nat) : anc (l + 1) (j / 2) t = anc l j (t + 1) := by
  unfold anc
  rw [Nat.div_div_eq_div_mul, ← Nat.pow_succ']
  congr 1; omega

theorem anc_lt_succ (l j t : Nat) : anc l j t < anc l j (t + 1) := by
  have := nodeIdx_lt_parent (l + t) (j / 2 ^ t)
  rwa [← div_two_pow_succ] at this

theorem anc_strictMono (l j : Nat) {a b : Nat} (h : a < b) : anc l j a < anc l j b := by
  induction h with
  | refl => exact anc_lt_succ l j a
  | step _ ih => exact Nat.lt_trans ih (anc_lt_succ l j _)

theorem anc_mono (l j : Nat) {a b : Nat} (h : a ≤ b) : anc l j a ≤ anc l j b := by
  rcases Nat.eq_or_lt_of_le h with rfl | h'
  · exact Nat.le_refl _
  · exact Nat.le_of_lt (anc_strictMono l j h')

theorem nodeIdx_le_ancestor (l j d : Nat) : nodeIdx l j ≤ nodeIdx (l + d) (j / 2 ^ d) :=
  anc_zero l j ▸ anc_mono l j (Nat.zero_le d)

theorem nodeIdx_lt_ancestor (l j : Nat) (d : Nat) (hd : 0 < d) : nodeIdx l j < nodeIdx (l + d) (j / 2 ^ d) :=
  anc_zero l j ▸ anc_strictMono l j hd

/-- every node of the subtree below `(l + k, J)` has an index above the leftmost leaf's predecessor: it is at least
    `nodeIdx (l+k) J − 2^(l+k+1) + 2^(l+1)` -/
theorem nodeIdx_ge_in_subtree (l k J j : Nat) (hj : j / 2 ^ k = J) :
    nodeIdx (l + k) J + 2 ^ (l + 1) ≤ nodeIdx l j + 2 ^ (l + k + 1) := by
  have hge : J * 2 ^ k ≤ j := by
    rw [← hj]; exact Nat.div_mul_le_self j (2 ^ k)
  have hm := nodeIdx_mono l hge
  have h1 := nodeIdx_eq l (J * 2 ^ k)
  rw [popCount_mul_two_pow] at h1
  have h2 := nodeIdx_eq (l + k) J
  have e : (J * 2 ^ k + 1) * 2 ^ (l + 1) + 2 ^ (l + k + 1) = (J + 1) * 2 ^ (l + k + 1) + 2 ^ (l + 1) := by
    rw [← two_pow_add_succ k l]; ring
  omega

/-- the right half of the left-spine tree of height `l + k + 1` is the left half shifted by the size of the left half -/
theorem nodeIdx_two_pow_add (l k i : Nat) (hi : i < 2 ^ k) :
    nodeIdx l (2 ^ k + i) = 2 ^ (l + k + 1) - 1 + nodeIdx l i := by
  have h1 := nodeIdx_eq l (2 ^ k + i)
  have h2 := nodeIdx_eq l i
  rw [popCount_two_pow_add k i hi] at h1
  have e : (2 ^ k + i + 1) * 2 ^ (l + 1) = 2 ^ (l + k + 1) + (i + 1) * 2 ^ (l + 1) := by
    rw [← two_pow_add_succ k l]; ring
  have := Nat.two_pow_pos (l + k + 1)
  omega

/-- every number `1 … 2^(k+1) − 1` is the index of a node `(l, j)` of the left-spine tree of height `k` (of exactly one:
    `nodeIdx_inj`): the root, a node of the left half, or the copy of one in the right half -/
theorem exists_coords (k : Nat) : ∀ x, 1 ≤ x → x ≤ 2 ^ (k + 1) - 1 →
    ∃ l j, l ≤ k ∧ j < 2 ^ (k - l) ∧ x = nodeIdx l j := by
  induction k with
  | zero => intro x h1 h2; exact ⟨0, 0, Nat.le_refl _, by simp, by rw [nodeIdx_root]; omega⟩
  | succ k ih =>
    intro x h1 h2
    have hp := two_pow_succ' (k + 1)
    by_cases hroot : x = 2 ^ (k + 1 + 1) - 1
    · exact ⟨k + 1, 0, Nat.le_refl _, by simp, by rw [nodeIdx_root]; exact hroot⟩
    · by_cases hleft : x ≤ 2 ^ (k + 1) - 1
      · obtain ⟨l, j, hl, hj, hx⟩ := ih x h1 hleft
        exact ⟨l, j, by omega, Nat.lt_of_lt_of_le hj (Nat.pow_le_pow_right (by decide) (by omega)), hx⟩
      · obtain ⟨l, j, hl, hj, hx⟩ := ih (x - (2 ^ (k + 1) - 1)) (by omega) (by omega)
        have he := nodeIdx_two_pow_add l (k - l) j hj
        have e : k + 1 - l = k - l + 1 := by omega
        rw [Nat.add_sub_cancel' hl] at he
        exact ⟨l, 2 ^ (k - l) + j, by omega, by rw [e, Nat.pow_succ]; omega, by omega⟩

/-- the node `d` levels below the root on the right spine of the left-spine tree of height `l + d` -/
theorem nodeIdx_spine (l d : Nat) : nodeIdx l (2 ^ d - 1) + d + 1 = 2 ^ (l + d + 1) := by
  have h := nodeIdx_eq l (2 ^ d - 1)
  have e : 2 ^ d - 1 + 1 = 2 ^ d := Nat.sub_add_cancel (Nat.two_pow_pos d)
  rw [popCount_two_pow_sub_one, e, two_pow_add_succ d l] at h
  exact h

/-- … and every other node of level `l` of that tree lies at least a subtree to the left -/
theorem nodeIdx_off_spine (l d j : Nat) (hj : j + 1 < 2 ^ d) : nodeIdx l j + 2 ^ (l + 1) + d ≤ 2 ^ (l + d + 1) := by
  have h1 := nodeIdx_succ_ge l j
  have h2 := nodeIdx_mono l (j := j + 1) (j' := 2 ^ d - 1) (by omega)
  have h3 := nodeIdx_spine l d
  omega

/-- the node `(l, j)` lies in the left-spine tree of height `l + d`, `d` the bit length of `j` -/
theorem log2_nodeIdx (l j : Nat) : ∃ d, Nat.log2 (nodeIdx l j) = l + d ∧ j < 2 ^ d := by
  have hlow := Nat.log2_self_le (Nat.ne_of_gt (nodeIdx_pos l j))
  have hhigh := lt_two_pow_log2_succ (nodeIdx l j)
  generalize Nat.log2 (nodeIdx l j) = h0 at *
  have h2 := two_pow_le_nodeIdx l j
  have hl : l ≤ h0 := by
    by_contra hc
    have : 2 ^ (h0 + 1) ≤ 2 ^ l := Nat.pow_le_pow_right (by omega) (by omega)
    have := two_pow_succ' l
    omega
  obtain ⟨d, rfl⟩ : ∃ d, h0 = l + d := ⟨h0 - l, by omega⟩
  refine ⟨d, rfl, ?_⟩
  by_contra hc
  have hm := nodeIdx_mono l (Nat.le_of_not_lt hc)
  have he := nodeIdx_two_pow_add l d 0 (Nat.two_pow_pos d)
  have := nodeIdx_pos l 0
  rw [Nat.add_zero] at he
  omega

theorem coords_of_lt (l j : Nat) (hlt : nodeIdx l j < 2 ^ 64) : l ≤ 63 ∧ j < 2 ^ (63 - l) := by
  obtain ⟨d, hd, hj⟩ := log2_nodeIdx l j
  have h64 := TF.Mmr.log2_lt_64 _ (nodeIdx_pos l j) hlt
  have : 2 ^ d ≤ 2 ^ (63 - l) := Nat.pow_le_pow_right (by decide) (by omega)
  omega

theorem nodeIdx_lt_of_coords (l j : Nat) (hl : l ≤ 63) (hj : j < 2 ^ (63 - l)) : nodeIdx l j < 2 ^ 64 := by
  have h := nodeIdx_le_ancestor l j (63 - l)
  rw [Nat.div_eq_of_lt hj, Nat.add_sub_cancel' hl, nodeIdx_root] at h
  have := Nat.two_pow_pos (63 + 1)
  omega

theorem nodeIdx_root_lt (k : Nat) (hk : k < 64) : nodeIdx k 0 < 2 ^ 64 := by
  have : 2 ^ (k + 1) ≤ 2 ^ 64 := Nat.pow_le_pow_right (by decide) (by omega)
  have := Nat.two_pow_pos (k + 1)
  rw [nodeIdx_root]; omega

/-- `leftmost_ancestor`: the descents start at the root `(l + d, 0)` of the smallest left-spine tree containing the node -/
theorem leftmost_ancestor_nodeIdx (l j : Nat) (hlt : nodeIdx l j < 2 ^ 64) :
    ∃ d, l + d < 64 ∧ j < 2 ^ d ∧ leftmost_ancestor (nodeIdx l j) = (nodeIdx (l + d) 0, l + d) := by
  obtain ⟨d, hd, hj⟩ := log2_nodeIdx l j
  have hla := (TF.Mmr.leftmost_ancestor_spec _ (nodeIdx_pos l j) hlt).1
  have h64 := TF.Mmr.log2_lt_64 _ (nodeIdx_pos l j) hlt
  rw [hd] at hla h64
  exact ⟨d, h64, hj, by rw [hla, nodeIdx_root]⟩

/-- **`left_child` / `right_child`** of the inner node `(L+1, J)` -/
theorem children_spec (L J : Nat) (hL : L + 1 < 64) (hlt : nodeIdx (L + 1) J < 2 ^ 64) :
    left_child (nodeIdx (L + 1) J) (L + 1) = nodeIdx L (2 * J) ∧ left_child_ok (nodeIdx (L + 1) J) (L + 1) = true ∧
    right_child (nodeIdx (L + 1) J) = nodeIdx L (2 * J + 1) ∧ right_child_ok (nodeIdx (L + 1) J) = true := by
  have hleft := nodeIdx_left L J
  have hright := nodeIdx_right L J
  have hpow := Nat.two_pow_pos (L + 1)
  have hl := TF.Mmr.left_child_spec (nodeIdx (L + 1) J) (L + 1) hL hlt (by omega)
  have hr := TF.Mmr.right_child_spec (nodeIdx (L + 1) J) (nodeIdx_pos _ _) hlt
  rw [hl.1, hl.2, hr.1, hr.2]
  exact ⟨by omega, rfl, by omega, rfl⟩

/-- one step of a descent towards `(l, j)` from its ancestor `d + 1` levels up: the child on the way is the ancestor `d`
    levels up.  It is the left child if bit `d` of `j` is clear, and then the target's index is at most the left child's;
    it is the right child if the bit is set, and then the target's index is larger than the left child's. -/
theorem descent_step (l j d : Nat) (h64 : l + d + 1 < 64) (hlt : anc l j (d + 1) < 2 ^ 64) :
    anc l j d < 2 ^ 64 ∧
    (j / 2 ^ d % 2 = 0 → left_child (anc l j (d + 1)) (l + d + 1) = anc l j d ∧ nodeIdx l j ≤ anc l j d) ∧
    (j / 2 ^ d % 2 = 1 →
      right_child (anc l j (d + 1)) = anc l j d ∧ left_child (anc l j (d + 1)) (l + d + 1) < nodeIdx l j) := by
  have ediv := (div_two_pow_succ j d).symm
  obtain ⟨hlc, _, hrc, _⟩ := children_spec (l + d) (j / 2 ^ (d + 1)) h64 hlt
  refine ⟨Nat.lt_trans (anc_lt_succ l j d) hlt, fun h => ?_, fun h => ?_⟩
  · have e : 2 * (j / 2 ^ (d + 1)) = j / 2 ^ d := by omega
    rw [e] at hlc
    exact ⟨hlc, nodeIdx_le_ancestor l j d⟩
  · have e : 2 * (j / 2 ^ (d + 1)) + 1 = j / 2 ^ d := by omega
    -- the target lies in the subtree of the right child, all of whose indices are above the left child's
    have hge := nodeIdx_ge_in_subtree l d (j / 2 ^ d) j rfl
    have hl := nodeIdx_left (l + d) (j / 2 ^ (d + 1))
    have hr := nodeIdx_right (l + d) (j / 2 ^ (d + 1))
    have := two_le_two_pow_succ l
    rw [e] at hrc hr
    refine ⟨hrc, ?_⟩
    show left_child (nodeIdx (l + d + 1) (j / 2 ^ (d + 1))) (l + d + 1) < _
    rw [hlc]; omega

theorem rllLoop_succ (n f c ht cnt : Nat) :
    rllLoop n (f+1) c ht cnt =
      if c = n then some (cnt, ht)
      else if left_child c ht < n then rllLoop n f (right_child c) (dec32 ht) (inc32 cnt)
      else rllLoop n f (left_child c ht) (dec32 ht) 0 := rfl

/-- **the binary search of `right_lineage_length_and_own_height`**: started at the ancestor `d` levels above the node
    `(l, j)` with the count of trailing right turns so far, it ends with `(trailingOnes j, l)` -/
theorem rllLoop_spec (l j : Nat) : ∀ (d fuel : Nat), d < fuel → l + d < 64 → anc l j d < 2 ^ 64 →
    rllLoop (nodeIdx l j) fuel (anc l j d) (l + d) (TF.trailingOnes (j / 2 ^ d)) = some (TF.trailingOnes j, l) := by
  intro d
  induction d with
  | zero =>
    intro fuel hf _ _
    obtain ⟨f, rfl⟩ : ∃ f, fuel = f + 1 := ⟨fuel - 1, by omega⟩
    simp [rllLoop, anc]
  | succ d ih =>
    intro fuel hf h64 hlt
    obtain ⟨f, rfl⟩ : ∃ f, fuel = f + 1 := ⟨fuel - 1, by omega⟩
    obtain ⟨hlt', hL, hR⟩ := descent_step l j d h64 hlt
    have hne : anc l j (d + 1) ≠ nodeIdx l j := Nat.ne_of_gt (nodeIdx_lt_ancestor l j (d + 1) (Nat.succ_pos d))
    show rllLoop (nodeIdx l j) (f + 1) (anc l j (d + 1)) (l + d + 1) _ = _
    rw [rllLoop_succ, if_neg hne, dec32_succ _ (by omega)]
    rcases Nat.mod_two_eq_zero_or_one (j / 2 ^ d) with hpar | hpar
    · obtain ⟨hlc, hle⟩ := hL hpar
      rw [hlc, if_neg (Nat.not_lt.mpr hle)]
      have := ih f (by omega) (by omega) hlt'
      rwa [trailingOnes_even _ hpar] at this
    · obtain ⟨hrc, hgt⟩ := hR hpar
      have hto : TF.trailingOnes (j / 2 ^ d) = TF.trailingOnes (j / 2 ^ (d + 1)) + 1 := by
        rw [trailingOnes_odd _ hpar, ← div_two_pow_succ]
      have hjc : j / 2 ^ (d + 1) + 1 < 2 ^ 64 :=
        Nat.lt_of_le_of_lt (succ_le_nodeIdx (l + (d + 1)) (j / 2 ^ (d + 1))) hlt
      have htl := trailingOnes_lt 64 (j / 2 ^ (d + 1)) hjc
      rw [if_pos hgt, hrc, inc32_lt _ (by omega), ← hto]
      exact ih f (by omega) (by omega) hlt'

/-- **`right_lineage_length_and_own_height`** of the node `(l, j)`: the number of trailing one bits of `j` (how many
    ancestors-or-self in a row are right children) and the height `l` -/
theorem rll_spec (l j : Nat) (hlt : nodeIdx l j < 2 ^ 64) :
    right_lineage_length_and_own_height (nodeIdx l j) = some (TF.trailingOnes j, l) := by
  obtain ⟨d, hd, hj, hla⟩ := leftmost_ancestor_nodeIdx l j hlt
  have h := rllLoop_spec l j d descentFuel (by unfold descentFuel; omega) hd
    (by unfold anc; rw [Nat.div_eq_of_lt hj]; exact nodeIdx_root_lt _ hd)
  unfold anc at h
  rw [Nat.div_eq_of_lt hj, trailingOnes_zero] at h
  unfold right_lineage_length_and_own_height
  rw [hla]
  exact h

/-- Injectivity is read off the model: `right_lineage_length_and_own_height` recovers `l`, monotonicity in `j` the rest.
    The bound is only there because `rll_spec` needs it. -/
theorem nodeIdx_inj (l j l' j' : Nat) (hlt : nodeIdx l j < 2 ^ 64) (h : nodeIdx l j = nodeIdx l' j') :
    l = l' ∧ j = j' := by
  have h1 := rll_spec l j hlt
  have h2 := rll_spec l' j' (by rw [← h]; exact hlt)
  rw [h, h2] at h1
  have hl : l' = l := (Prod.mk.inj (Option.some.inj h1)).2
  subst hl
  refine ⟨rfl, ?_⟩
  rcases Nat.lt_trichotomy j j' with hlt' | heq | hgt
  · have := nodeIdx_strictMono l' hlt'; omega
  · exact heq
  · have := nodeIdx_strictMono l' hgt; omega

theorem trailingOnes_ne_zero_iff (j : Nat) : TF.trailingOnes j ≠ 0 ↔ j % 2 = 1 := by
  constructor
  · intro h
    by_contra hc
    exact h (trailingOnes_even j (by omega))
  · intro h
    rw [trailingOnes_odd j h]; omega

theorem trailingOnes_eq_zero_iff (j : Nat) : TF.trailingOnes j = 0 ↔ j % 2 = 0 := by
  have := trailingOnes_ne_zero_iff j
  constructor
  · intro h
    by_contra hc
    exact this.mpr (by omega) h
  · exact trailingOnes_even j


/-- **`left_sibling` / `right_sibling`** of the node `(l, j)` below the root of the height-63 tree, without overflow -/
theorem siblings_spec (l j : Nat) (hl : l < 63) (hlt : nodeIdx (l + 1) (j / 2) < 2 ^ 64) :
    (j % 2 = 1 → left_sibling (nodeIdx l j) l = nodeIdx l (sibBlk j) ∧ left_sibling_ok (nodeIdx l j) l = true) ∧
    (j % 2 = 0 → right_sibling (nodeIdx l j) l = nodeIdx l (sibBlk j) ∧ right_sibling_ok (nodeIdx l j) l = true) := by
  have hpar := nodeIdx_lt_parent l j
  have hsib := nodeIdx_pos l (sibBlk j)
  constructor
  · intro hodd
    obtain ⟨hp, hs⟩ := nodeIdx_up_odd l j hodd
    have h := TF.Mmr.left_sibling_spec (nodeIdx l j) l hl (by omega) (by omega)
    exact ⟨by rw [h.1]; omega, h.2⟩
  · intro heven
    obtain ⟨hp, hs⟩ := nodeIdx_up_even l j heven
    have h := TF.Mmr.right_sibling_spec (nodeIdx l j) l hl (by omega)
    exact ⟨by rw [h.1]; omega, h.2 (by omega)⟩

/-- **sibling and parent** of the node `(l, j)` -/
theorem siblingAndParent_spec (l j : Nat) (hl : l < 63) (hlt : nodeIdx (l + 1) (j / 2) < 2 ^ 64) :
    siblingAndParent (nodeIdx l j) = some (decide (j % 2 = 1), nodeIdx l (sibBlk j), nodeIdx (l + 1) (j / 2)) := by
  have hpar := nodeIdx_lt_parent l j
  obtain ⟨hls, hrs⟩ := siblings_spec l j hl hlt
  unfold siblingAndParent
  rw [rll_spec l j (by omega)]
  simp only
  by_cases hodd : j % 2 = 1
  · have hp := (nodeIdx_up_odd l j hodd).1
    rw [if_pos ((trailingOnes_ne_zero_iff j).mpr hodd), (hls hodd).1, add64_of_lt _ _ (by omega), ← hp]
    simp only [hodd, decide_true]
  · have hp := (nodeIdx_up_even l j (by omega)).1
    rw [if_neg (fun h => hodd ((trailingOnes_ne_zero_iff j).mp h)), (hrs (by omega)).1, inc32_lt _ (by omega),
      shl1_of_lt _ (by omega), add64_of_lt _ _ (by omega), ← hp]
    simp only [hodd, decide_false]

theorem parent_eq_map (n : Nat) : parent n = (siblingAndParent n).map fun t => t.2.2 := by
  unfold parent siblingAndParent
  cases right_lineage_length_and_own_height n with
  | none => rfl
  | some v => simp only; split <;> rfl

/-- **`parent`** of the node `(l, j)` -/
theorem parent_spec (l j : Nat) (hl : l < 63) (hlt : nodeIdx (l + 1) (j / 2) < 2 ^ 64) :
    parent (nodeIdx l j) = some (nodeIdx (l + 1) (j / 2)) := by
  rw [parent_eq_map, siblingAndParent_spec l j hl hlt]; rfl

theorem n2lLoop_succ (n h node acc : Nat) :
    n2lLoop n (h+1) node acc =
      if n ≤ left_child node (h+1) then n2lLoop n h (left_child node (h+1)) acc
      else n2lLoop n h (right_child node) (add64 acc (shl1 h)) := rfl

/-- the descent of `node_index_to_leaf_index` from the ancestor `d` levels above the leaf `j` adds the low `d` bits of
    `j`, one per right turn -/
theorem n2lLoop_spec (j : Nat) : ∀ d acc, d < 64 → anc 0 j d < 2 ^ 64 → acc + 2 ^ d ≤ 2 ^ 64 →
    n2lLoop (nodeIdx 0 j) d (anc 0 j d) acc = acc + j % 2 ^ d := by
  intro d
  induction d with
  | zero => intro acc _ _ _; simp [n2lLoop, Nat.mod_one]
  | succ d ih =>
    intro acc hd hlt hacc
    have hmod := mod_two_pow_succ j d
    have hp := two_pow_succ' d
    obtain ⟨hlt', hL, hR⟩ := descent_step 0 j d (by omega) hlt
    rw [Nat.zero_add] at hL hR
    rw [n2lLoop_succ]
    rcases Nat.mod_two_eq_zero_or_one (j / 2 ^ d) with hpar | hpar
    · obtain ⟨hlc, hle⟩ := hL hpar
      rw [hlc, if_pos hle, ih acc (by omega) hlt' (by omega)]
      rw [hpar] at hmod; omega
    · obtain ⟨hrc, hgt⟩ := hR hpar
      rw [if_neg (Nat.not_le.mpr hgt), hrc, shl1_of_lt d (by omega), add64_of_lt _ _ (by omega),
        ih (acc + 2 ^ d) (by omega) hlt' (by omega)]
      rw [hpar] at hmod; omega

theorem n2l_of_rll (n rc h : Nat) (hx : right_lineage_length_and_own_height n = some (rc, h)) :
    node_index_to_leaf_index n =
      if h ≠ 0 then some none else some (some (n2lLoop n (leftmost_ancestor n).2 (leftmost_ancestor n).1 0)) := by
  unfold node_index_to_leaf_index
  rw [hx]

/-- **`node_index_to_leaf_index`**: `Some(j)` for the leaf `(0, j)`, `None` for inner nodes -/
theorem n2l_spec (l j : Nat) (hlt : nodeIdx l j < 2 ^ 64) :
    node_index_to_leaf_index (nodeIdx l j) = some (if l = 0 then some j else none) := by
  rw [n2l_of_rll _ _ _ (rll_spec l j hlt)]
  by_cases hl : l = 0
  · subst hl
    obtain ⟨d, hd, hj, hla⟩ := leftmost_ancestor_nodeIdx 0 j hlt
    rw [Nat.zero_add] at hd hla
    have hroot : anc 0 j d < 2 ^ 64 := by
      unfold anc
      rw [Nat.zero_add, Nat.div_eq_of_lt hj]
      exact nodeIdx_root_lt d hd
    have hacc : 0 + 2 ^ d ≤ 2 ^ 64 := by
      rw [Nat.zero_add]
      exact Nat.pow_le_pow_right (by decide) (by omega)
    have h := n2lLoop_spec j d 0 hd hroot hacc
    unfold anc at h
    rw [Nat.div_eq_of_lt hj, Nat.zero_add, Nat.zero_add, Nat.mod_eq_of_lt hj] at h
    rw [if_neg (by simp), if_pos rfl, hla, h]
  · rw [if_pos hl, if_neg hl]

theorem rllFromNodeIndexAux_succ (f n : Nat) :
    rllFromNodeIndexAux (f+1) n =
      if bitLen n < (2^(bitLen n) - n) % W64 then
        rllFromNodeIndexAux f (add64 (sub64 n (shl1 (dec32 (bitLen n)))) 1)
      else some (sub64 ((2^(bitLen n) - n) % W64) 1 % W32) := rfl

/-- one round on a `u64` with highest bit `k`: if its distance to `2^(k+1)` is at most `k + 1` that distance minus
    one is the answer, otherwise bit `k` is cleared and one is added -/
theorem rllFromNode_round (n k f : Nat) (hlog : Nat.log2 n = k) (hn : 1 ≤ n) (hk : k ≤ 63) :
    rllFromNodeIndexAux (f + 1) n =
      if k + 1 < 2 ^ (k + 1) - n then rllFromNodeIndexAux f (n - 2 ^ k + 1) else some (2 ^ (k + 1) - n - 1) := by
  have hW : 2 ^ (k + 1) ≤ 2 ^ 64 := Nat.pow_le_pow_right (by decide) (by omega)
  have h64 : (2:Nat) ^ 64 = 18446744073709551616 := by decide
  have hp := two_pow_succ' k
  have hlow := Nat.log2_self_le (Nat.ne_of_gt hn)
  have hhigh := lt_two_pow_log2_succ n
  rw [hlog] at hlow hhigh
  have hdist : (2 ^ (k + 1) - n) % W64 = 2 ^ (k + 1) - n := by unfold W64; omega
  rw [rllFromNodeIndexAux_succ, TF.Mmr.bitLen_pos n hn, hlog, hdist]
  by_cases hc : k + 1 < 2 ^ (k + 1) - n
  · rw [if_pos hc, if_pos hc, dec32_succ _ (by omega), shl1_of_lt _ (by omega), sub64_of_le _ _ hlow (by omega),
      add64_of_lt _ _ (by omega)]
  · rw [if_neg hc, if_neg hc, sub64_of_le _ _ (by omega) (by omega), Nat.mod_eq_of_lt (show _ < W32 by unfold W32; omega)]

/-- a node whose `j` has `D` as its highest bit lies in the right half of the left-spine tree of height `l + D + 1` -/
theorem log2_nodeIdx_top (l D j : Nat) (h1 : 2 ^ D ≤ j) (h2 : j < 2 ^ (D + 1)) :
    Nat.log2 (nodeIdx l j) = l + D + 1 := by
  have hs : nodeIdx l (2 ^ (D + 1) - 1) + (D + 1) + 1 = 2 ^ (l + D + 1 + 1) := nodeIdx_spine l (D + 1)
  have hm := nodeIdx_mono l (j := j) (j' := 2 ^ (D + 1) - 1) (by omega)
  have hm' := nodeIdx_mono l h1
  have he := nodeIdx_two_pow_add l D 0 (Nat.two_pow_pos D)
  have := nodeIdx_pos l 0
  rw [Nat.add_zero] at he
  exact TF.Mmr.log2_of_range _ _ (by omega) (by omega)

/-- the nodes of the right spine of the left-spine tree of height `l + D` lie in its right half (or are its root) -/
theorem log2_nodeIdx_spine (l D : Nat) : Nat.log2 (nodeIdx l (2 ^ D - 1)) = l + D := by
  have hs := nodeIdx_spine l D
  have hp := two_pow_succ' (l + D)
  have hlt := Nat.lt_two_pow_self (n := l + D)
  exact TF.Mmr.log2_of_range _ _ (by omega) (by omega)

/-- on the right spine of a left-spine tree the distance to the next power of two is the answer -/
theorem rllFromNode_spine (l D f : Nat) (hD : l + D ≤ 63) :
    rllFromNodeIndexAux (f + 1) (nodeIdx l (2 ^ D - 1)) = some D := by
  have hs := nodeIdx_spine l D
  rw [rllFromNode_round _ _ f (log2_nodeIdx_spine l D) (nodeIdx_pos _ _) hD, if_neg (by omega)]
  congr 1; omega

/-- off the spine the left half of the tree is stripped, which clears the top bit of `j` -/
theorem rllFromNode_strip (l D j f : Nat) (h1 : 2 ^ D ≤ j) (h2 : j + 1 < 2 ^ (D + 1)) (hD : l + D + 1 ≤ 63) :
    rllFromNodeIndexAux (f + 1) (nodeIdx l j) = rllFromNodeIndexAux f (nodeIdx l (j - 2 ^ D)) := by
  have hoff : nodeIdx l j + 2 ^ (l + 1) + (D + 1) ≤ 2 ^ (l + D + 1 + 1) := nodeIdx_off_spine l (D + 1) j h2
  have hlt := Nat.lt_two_pow_self (n := l + 1)
  have hp := two_pow_succ' D
  have he := nodeIdx_two_pow_add l D (j - 2 ^ D) (by omega)
  rw [Nat.add_sub_cancel' h1] at he
  have := Nat.two_pow_pos (l + D + 1)
  have := nodeIdx_pos l (j - 2 ^ D)
  rw [rllFromNode_round _ _ f (log2_nodeIdx_top l D j h1 (by omega)) (nodeIdx_pos _ _) hD, if_pos (by omega)]
  congr 1; omega

/-- Induction on a bound `D` for the bit length of `j`.  If `j` fits in fewer bits the hypothesis applies with the same
    fuel; otherwise bit `D − 1` is the top bit of `j`: on the spine the round answers, off it the round strips that bit. -/
theorem rllFromNode_aux (l : Nat) : ∀ D j, j < 2 ^ D → l + D ≤ 63 → ∀ fuel, D < fuel →
    rllFromNodeIndexAux fuel (nodeIdx l j) = some (TF.trailingOnes j) := by
  intro D
  induction D with
  | zero =>
    intro j hj hD fuel hf
    obtain ⟨f, rfl⟩ : ∃ f, fuel = f + 1 := ⟨fuel - 1, by omega⟩
    have : j = 2 ^ 0 - 1 := by omega
    rw [this, rllFromNode_spine l 0 f hD, trailingOnes_two_pow_sub_one]
  | succ D ih =>
    intro j hj hD fuel hf
    obtain ⟨f, rfl⟩ : ∃ f, fuel = f + 1 := ⟨fuel - 1, by omega⟩
    by_cases hlow : j < 2 ^ D
    · exact ih j hlow (by omega) (f + 1) (by omega)
    · have hp := two_pow_succ' D
      by_cases hsp : j + 1 = 2 ^ (D + 1)
      · have e : j = 2 ^ (D + 1) - 1 := by omega
        rw [e, rllFromNode_spine l (D + 1) f hD, trailingOnes_two_pow_sub_one]
      · rw [rllFromNode_strip l D j f (by omega) (by omega) (by omega), ih (j - 2 ^ D) (by omega) (by omega) f (by omega)]
        have := trailingOnes_add_mul D 1 (j - 2 ^ D) (by omega)
        rw [Nat.one_mul, Nat.add_sub_cancel' (by omega)] at this
        rw [this]

/-- **`right_lineage_length_from_node_index`** (the recursive variant) of the node `(l, j)` -/
theorem rllFromNode_spec (l j : Nat) (hlt : nodeIdx l j < 2 ^ 64) :
    right_lineage_length_from_node_index (nodeIdx l j) = some (TF.trailingOnes j) := by
  obtain ⟨hl, hj⟩ := coords_of_lt l j hlt
  exact rllFromNode_aux l (63 - l) j hj (by omega) descentFuel (by unfold descentFuel; omega)

theorem nodeIdx_lt_of_block (l j n : Nat) (hblk : (j + 1) * 2 ^ l ≤ n) (hn : n < 2 ^ 63) : nodeIdx l j < 2 ^ 64 := by
  have h := nodeIdx_eq l j
  have e : (j + 1) * 2 ^ (l + 1) = 2 * ((j + 1) * 2 ^ l) := by ring
  omega

theorem l2n_eq_nodeIdx (i : Nat) (h : i < 2 ^ 63) : leaf_index_to_node_index i = nodeIdx 0 i := by
  rw [(TF.Mmr.l2n_spec i h).1]
  have := nodeIdx_eq 0 i
  have := popCount_le i
  omega

/-- node indices of the siblings of `(l, j)`, of its parent, … — the first `d` of them, bottom-up -/
def sibsUp (l j d : Nat) : List Nat := (List.range d).map fun t => nodeIdx (l + t) (sibBlk (j / 2 ^ t))

theorem range_succ_map {α : Type} (f : Nat → α) (d : Nat) :
    (List.range (d + 1)).map f = f 0 :: (List.range d).map fun t => f (t + 1) := by
  rw [List.range_succ_eq_map, List.map_cons, List.map_map]
  rfl

theorem sibsUp_zero (l j : Nat) : sibsUp l j 0 = [] := rfl

theorem sibsUp_succ (l j d : Nat) : sibsUp l j (d + 1) = nodeIdx l (sibBlk j) :: sibsUp (l + 1) (j / 2) d := by
  unfold sibsUp
  rw [range_succ_map, Nat.pow_zero, Nat.div_one, Nat.add_zero]
  congr 2
  funext t
  rw [Nat.div_div_eq_div_mul, ← Nat.pow_succ', Nat.add_assoc, Nat.add_comm 1 t]

/-- a node with a `(d+1)`-th ancestor below `2^64` is below the root of the height-63 tree: one step up wraps nothing -/
theorem parent_lt_of_anc_lt (l j d : Nat) (h : anc l j (d + 1) < 2 ^ 64) :
    l < 63 ∧ nodeIdx (l + 1) (j / 2) < 2 ^ 64 := by
  have hl := (coords_of_lt _ _ h).1
  have h1 := anc_mono l j (show 1 ≤ d + 1 by omega)
  rw [← anc_succ, anc_zero] at h1
  exact ⟨by omega, Nat.lt_of_le_of_lt h1 h⟩

theorem get_node_indices_go_spec : ∀ (k l j : Nat) (acc : List Nat), anc l j k < 2 ^ 64 →
    get_node_indices.go k (nodeIdx l j) acc = some (acc ++ sibsUp l j k) := by
  intro k
  induction k with
  | zero => intro l j acc _; simp [get_node_indices.go, sibsUp_zero]
  | succ k ih =>
    intro l j acc hlt
    obtain ⟨hl, hpar⟩ := parent_lt_of_anc_lt l j k hlt
    rw [get_node_indices.go, siblingAndParent_spec l j hl hpar]
    simp only
    rw [ih (l + 1) (j / 2) _ (by rw [anc_succ]; exact hlt), sibsUp_succ, List.append_assoc]
    rfl

/-- **`get_node_indices`**: the digests of a membership proof of leaf `i` sit at the post-order indices of the sibling
    blocks `sibBlk (i / 2^t)` of levels `t = 0, 1, …` -/
theorem get_node_indices_spec (i len : Nat) (hi : i < 2 ^ 63) (_hlen : len ≤ 63)
    (hlt : nodeIdx len (i / 2 ^ len) < 2 ^ 64) :
    get_node_indices i len = some ((List.range len).map (fun t => nodeIdx t (sibBlk (i / 2 ^ t)))) := by
  unfold get_node_indices
  rw [l2n_eq_nodeIdx i hi, get_node_indices_go_spec len 0 i [] (by simpa [anc] using hlt)]
  simp [sibsUp]

theorem get_direct_path_go_spec : ∀ (k l j : Nat) (acc : List Nat), anc l j k < 2 ^ 64 →
    get_direct_path_indices.go k (nodeIdx l j) acc
      = some (acc ++ (List.range k).map fun t => anc l j (t + 1)) := by
  intro k
  induction k with
  | zero => intro l j acc _; simp [get_direct_path_indices.go]
  | succ k ih =>
    intro l j acc hlt
    obtain ⟨hl, hpar⟩ := parent_lt_of_anc_lt l j k hlt
    rw [get_direct_path_indices.go, parent_spec l j hl hpar]
    simp only
    rw [ih (l + 1) (j / 2) _ (by rw [anc_succ]; exact hlt), range_succ_map, List.append_assoc]
    simp only [anc_succ, ← anc_zero (l + 1) (j / 2)]
    rfl

/-- **`get_direct_path_indices`**: the nodes derivable from a membership proof of leaf `i` are the ancestors
    `(t, i / 2^t)`, `t = 0 … len` -/
theorem get_direct_path_indices_spec (i len : Nat) (hi : i < 2 ^ 63) (_hlen : len ≤ 63)
    (hlt : nodeIdx len (i / 2 ^ len) < 2 ^ 64) :
    get_direct_path_indices i len = some ((List.range (len + 1)).map (fun t => nodeIdx t (i / 2 ^ t))) := by
  unfold get_direct_path_indices
  simp only
  rw [l2n_eq_nodeIdx i hi, get_direct_path_go_spec len 0 i [nodeIdx 0 i] (by simpa [anc] using hlt), range_succ_map]
  simp [anc]

end TF.MmrE
