import TF.Proofs.Merkle
import TF.Proofs.Pow2
/-! `CpuParallel::from_digests` returns a Merkle tree for every cut-off: the loop invariant `Built` (all inner nodes from
some index on are hashed), its two steps, the parallel and the sequential loop; then what an `IsMerkleTree` node list
is, node by node (`merkle_nodeVal`, `merkle_eq_treeNodes`). -/
namespace TF.Merkle
open TF.Gen

/-- the slice assignment `nodes[cnt..2cnt] = bs` leaves the rest and puts `bs[t]` at `cnt + t` -/
theorem splice_get {D : Type} {nodes bs : List D} {cnt : Nat} (hl : 2 * cnt ≤ nodes.length) (hb : bs.length = cnt) :
    (∀ k, k < cnt ∨ 2 * cnt ≤ k → (nodes.take cnt ++ bs ++ nodes.drop (2 * cnt))[k]? = nodes[k]?) ∧
    (∀ t, t < cnt → (nodes.take cnt ++ bs ++ nodes.drop (2 * cnt))[cnt + t]? = bs[t]?) := by
  have ht : (nodes.take cnt).length = cnt := by rw [List.length_take]; omega
  have htb : (nodes.take cnt ++ bs).length = 2 * cnt := by rw [List.length_append, ht, hb]; omega
  refine ⟨fun k hk => ?_, fun t h => ?_⟩
  · rcases hk with hk | hk
    · rw [List.append_assoc, List.getElem?_append_left (by omega), List.getElem?_take_of_lt hk]
    · rw [List.getElem?_append_right (by omega), htb, List.getElem?_drop, Nat.add_sub_cancel' hk]
  · rw [List.getElem?_append_left (by omega), List.getElem?_append_right (by omega), ht, Nat.add_sub_cancel_left]

section Build
variable {D : Type} (H : D → D → D)

/-- node `i` is the hash of its two children -/
def Hashed (nodes : List D) (i : Nat) : Prop :=
  ∃ a b, nodes[2*i]? = some a ∧ nodes[2*i+1]? = some b ∧ nodes[i]? = some (H a b)

/-- loop invariant of `from_digests`: all inner nodes from index `c` on are hashed, everything else is as initialised -/
structure Built (n : Nat) (nodes0 : List D) (c : Nat) (nodes : List D) : Prop where
  len : nodes.length = 2 * n
  same : ∀ k, (k < c ∨ n ≤ k) → nodes[k]? = nodes0[k]?
  hashed : ∀ i, c ≤ i → i < n → Hashed H nodes i

theorem hashChildren_ok {nodes : List D} {i : Nat} (h2 : 2*i+1 < nodes.length) :
    ∃ a b, nodes[2*i]? = some a ∧ nodes[2*i+1]? = some b ∧ hashChildren H nodes i = .ok (H a b) := by
  have h1 : 2*i < nodes.length := Nat.lt_of_succ_lt h2
  refine ⟨nodes[2*i], nodes[2*i+1], List.getElem?_eq_getElem h1, List.getElem?_eq_getElem h2, ?_⟩
  rw [hashChildren, List.getElem?_eq_getElem h1, List.getElem?_eq_getElem h2]

/-- slice indexing is the only way `hash_pair(nodes[2j], nodes[2j+1])` can fail -/
theorem hashChildren_ok_or_panic (nodes : List D) (j : Nat) :
    hashChildren H nodes j = .panic ∨ ∃ d, hashChildren H nodes j = .ok d := by
  unfold hashChildren
  cases nodes[2 * j]? <;> cases nodes[2 * j + 1]? <;> simp

/-- writing the hashes of their children into the nodes `[c', c)`, whose children lie at or beyond `c`, extends the
    invariant downwards -/
theorem built_extend {n c c' : Nat} {nodes0 nodes nodes' : List D} (b : Built H n nodes0 c nodes) (hc : c' ≤ c)
    (hcc : c ≤ 2 * c') (hcn : c ≤ n) (hlen : nodes'.length = nodes.length)
    (hsame : ∀ k, k < c' ∨ c ≤ k → nodes'[k]? = nodes[k]?)
    (hnew : ∀ t, c' + t < c →
      ∃ x y, nodes[2*(c'+t)]? = some x ∧ nodes[2*(c'+t)+1]? = some y ∧ nodes'[c'+t]? = some (H x y)) :
    Built H n nodes0 c' nodes' := by
  refine ⟨hlen.trans b.len, fun k hk => ?_, fun i hi hin => ?_⟩
  · rw [hsame k (by omega)]; exact b.same k (by omega)
  · have h1 := hsame (2*i) (by omega)
    have h2 := hsame (2*i+1) (by omega)
    by_cases hlt : i < c
    · obtain ⟨t, rfl⟩ := Nat.exists_eq_add_of_le hi
      obtain ⟨x, y, hx, hy, hh⟩ := hnew t hlt
      exact ⟨x, y, h1.trans hx, h2.trans hy, hh⟩
    · obtain ⟨x, y, hx, hy, hh⟩ := b.hashed i (by omega) hin
      exact ⟨x, y, h1.trans hx, h2.trans hy, (hsame i (by omega)).trans hh⟩

theorem seq_step {n : Nat} {nodes0 nodes : List D} {c : Nat} (b : Built H n nodes0 (c+1) nodes) (hc : 1 ≤ c) (hcn : c < n) :
    ∃ d, hashChildren H nodes c = .ok d ∧ c < nodes.length ∧ Built H n nodes0 c (nodes.set c d) := by
  have hlen := b.len
  obtain ⟨x, y, hx, hy, hh⟩ := hashChildren_ok H (show 2*c+1 < nodes.length by omega)
  have hlt : c < nodes.length := by omega
  refine ⟨H x y, hh, hlt, built_extend H b (Nat.le_succ c) (by omega) hcn List.length_set
    (fun k hk => List.getElem?_set_ne (by omega)) (fun t ht => ?_)⟩
  have : t = 0 := by omega
  subst this
  exact ⟨x, y, hx, hy, List.getElem?_set_self hlt⟩

theorem revRange_succ {c : Nat} (hc : 1 ≤ c) : revRange (c+1) = c :: revRange c := by
  unfold revRange ROOT_INDEX
  have : c + 1 - 1 = (c - 1) + 1 := by omega
  rw [this, List.range'_concat, List.reverse_append]
  simp; omega

theorem seqLoop_ok {n : Nat} {nodes0 : List D} (c : Nat) (nodes : List D) (hc : 1 ≤ c) (hcn : c ≤ n)
    (b : Built H n nodes0 c nodes) :
    ∃ nodes', seqLoop H nodes (revRange c) = .ok nodes' ∧ Built H n nodes0 1 nodes' := by
  induction c generalizing nodes with
  | zero => omega
  | succ c ih =>
    cases c with
    | zero => exact ⟨nodes, rfl, b⟩
    | succ c =>
      obtain ⟨d, h1, h2, b'⟩ := seq_step H b (show 1 ≤ c+1 by omega) (by omega)
      obtain ⟨nodes', h3, b''⟩ := ih (nodes.set (c+1) d) (by omega) (by omega) b'
      refine ⟨nodes', ?_, b''⟩
      rw [revRange_succ (show 1 ≤ c+1 by omega), seqLoop, h1, Res.ok_bind, if_pos h2, h3]

theorem par_step {n : Nat} {nodes0 nodes : List D} {cnt : Nat} (b : Built H n nodes0 (2*cnt) nodes) (hcn : 2 * cnt ≤ n) :
    ∃ nodes', parLevel H nodes cnt = .ok nodes' ∧ Built H n nodes0 cnt nodes' := by
  have hl := b.len
  obtain ⟨bs, h1, h2, h3⟩ := Res.mapM_exists (f := fun i => hashChildren H nodes (cnt + i)) (List.range cnt)
    (fun i hi => by
      have := List.mem_range.1 hi
      obtain ⟨x, y, _, _, hh⟩ := hashChildren_ok H (show 2*(cnt+i)+1 < nodes.length by omega)
      exact ⟨_, hh⟩)
  have hlen : 2 * cnt ≤ nodes.length := by omega
  rw [List.length_range] at h2
  obtain ⟨sp1, sp2⟩ := splice_get hlen h2
  have hpar : parLevel H nodes cnt = .ok (nodes.take cnt ++ bs ++ nodes.drop (2 * cnt)) := by
    simp only [parLevel, h1, Res.ok_bind, hlen, if_true]
  have hlen' : (nodes.take cnt ++ bs ++ nodes.drop (2 * cnt)).length = nodes.length := by
    simp [h2]
    omega
  refine ⟨_, hpar, built_extend H b (by omega) (Nat.le_refl _) hcn hlen' sp1 (fun t ht => ?_)⟩
  have ht' : t < cnt := by omega
  obtain ⟨x, y, hx, hy, hh⟩ := hashChildren_ok H (show 2*(cnt+t)+1 < nodes.length by omega)
  obtain ⟨v, hv1, hv2⟩ := h3 t t (List.getElem?_range ht')
  rw [hh] at hv2
  cases hv2
  exact ⟨x, y, hx, hy, (sp2 t ht').trans hv1⟩

/-- the parallel loop: terminates within `cnt + 1` iterations **for every cut-off** and leaves the invariant.  The state is
    given by the level `j`: nodes from `2^j` on are hashed, `cnt = 2^j / 2` (so that `j = 0` is the exit with `cnt = 0`)
    and `count_acc = n - 2^j` -/
theorem parLoop_ok {n h : Nat} (hn : n = 2^h) {nodes0 : List D} (cutoff : Nat) (fuel j : Nat) (nodes : List D)
    (hj : j ≤ h) (hf : 2^j / 2 + 1 ≤ fuel) (b : Built H n nodes0 (2^j) nodes) :
    ∃ nodes' acc, parLoop H cutoff fuel (2^j / 2) (n - 2^j) nodes = some (.ok (nodes', acc)) ∧
      acc < n ∧ Built H n nodes0 (n - acc) nodes' := by
  induction fuel generalizing j nodes with
  | zero => exact absurd hf (Nat.not_succ_le_zero _)
  | succ fuel ih =>
    have hjn : 2^j ≤ n := hn ▸ two_pow_le_of_le hj
    by_cases hc : 2^j / 2 > 0 ∧ 2^j / 2 ≥ cutoff
    · cases j with
      | zero => exact absurd hc.1 (by decide)
      | succ j =>
        have e : 2^(j+1) = 2 * 2^j := Nat.pow_succ'
        have ecnt : 2^(j+1) / 2 = 2^j := by rw [e]; exact Nat.mul_div_cancel_left _ (by decide)
        rw [ecnt] at hc hf ⊢
        obtain ⟨nodes', h1, b'⟩ := par_step H (cnt := 2^j) (e ▸ b) (e ▸ hjn)
        rw [parLoop, if_pos hc, h1, show n - 2^(j+1) + 2^j = n - 2^j by omega]
        have hf' : 2^j / 2 + 1 ≤ fuel :=
          Nat.le_trans (Nat.div_lt_self (Nat.two_pow_pos j) (by decide)) (Nat.le_of_succ_le_succ hf)
        exact ih j nodes' (Nat.le_of_succ_le hj) hf' b'
    · rw [parLoop, if_neg hc]
      refine ⟨nodes, n - 2^j, rfl, Nat.sub_lt (Nat.lt_of_lt_of_le (Nat.two_pow_pos j) hjn) (Nat.two_pow_pos j), ?_⟩
      rw [Nat.sub_sub_self hjn]
      exact b

theorem isPow2_iff {n : Nat} : isPow2 n = true ↔ ∃ h, n = 2^h := by
  unfold isPow2
  simp only [Bool.and_eq_true, bne_iff_ne, ne_eq, beq_iff_eq]
  exact TF.two_pow_log2_eq_iff n

theorem built_init (filler : D) (ds : List D) :
    Built H ds.length (List.replicate ds.length filler ++ ds) ds.length (List.replicate ds.length filler ++ ds) :=
  ⟨by simp; omega, fun _ _ => rfl, fun i h1 h2 => by omega⟩

theorem fromDigestsFuel_ok (filler : D) (cutoff : Nat) {ds : List D} {h : Nat} (hn : ds.length = 2^h) {fuel : Nat}
    (hf : ds.length / 2 + 1 ≤ fuel) :
    ∃ t, fromDigestsFuel H filler cutoff fuel ds = some (.ok t) ∧ Spec.IsMerkleTree H filler ds t.nodes := by
  have hpos : 1 ≤ ds.length := by rw [hn]; exact Nat.one_le_two_pow
  have hne : ds.isEmpty = false := by
    cases ds with
    | nil => simp at hpos
    | cons _ _ => rfl
  have hp2 : isPow2 ds.length = true := isPow2_iff.2 ⟨h, hn⟩
  obtain ⟨nodes1, acc, h1, hacc, b1⟩ := parLoop_ok H hn cutoff fuel h _ (Nat.le_refl h) (by rw [← hn]; exact hf)
    (by rw [← hn]; exact built_init H filler ds)
  rw [← hn, Nat.sub_self] at h1
  obtain ⟨nodes2, h2, b2⟩ := seqLoop_ok H (ds.length - acc) nodes1 (by omega) (by omega) b1
  refine ⟨⟨nodes2⟩, ?_, ?_⟩
  · have hcs : csub ds.length acc = .ok (ds.length - acc) := by simp [csub]; omega
    simp [fromDigestsFuel, hne, hp2, h1, hcs, h2]
  · refine ⟨b2.len, ?_, ?_, ?_⟩
    · rw [b2.same 0 (by omega), List.getElem?_append_left (by simp; omega)]
      rw [List.getElem?_replicate, if_pos (show 0 < ds.length from hpos)]
    · intro i hi
      rw [b2.same _ (by omega), List.getElem?_append_right (by simp)]
      rw [List.length_replicate, Nat.add_sub_cancel_left]
    · intro i h1 h2
      exact b2.hashed i h1 h2

/-- **termination for every cut-off** (fix F2): the fuel `n + 1` used by `fromDigests` is never exhausted -/
theorem fromDigestsFuel_terminates (filler : D) (cutoff : Nat) (ds : List D) :
    ∃ r, fromDigestsFuel H filler cutoff (ds.length + 1) ds = some r := by
  by_cases he : ds.isEmpty = true
  · exact ⟨.err .tooFewLeafs, by simp [fromDigestsFuel, he]⟩
  · by_cases hp : isPow2 ds.length = true
    · obtain ⟨h, hn⟩ := isPow2_iff.1 hp
      obtain ⟨t, ht, _⟩ := fromDigestsFuel_ok H filler cutoff hn (fuel := ds.length + 1) (by omega)
      exact ⟨_, ht⟩
    · exact ⟨.err .incorrectNumberOfLeafs, by simp [fromDigestsFuel, he, hp]⟩

theorem fromDigests_ok (filler : D) (cutoff : Nat) {ds : List D} {h : Nat} (hn : ds.length = 2^h) :
    ∃ t, fromDigests H filler cutoff ds = .ok t ∧ Spec.IsMerkleTree H filler ds t.nodes := by
  obtain ⟨t, ht, hm⟩ := fromDigestsFuel_ok H filler cutoff hn (fuel := ds.length + 1) (by omega)
  exact ⟨t, by simp [fromDigests, ht], hm⟩

theorem isMerkleTree_of_fromDigests {filler : D} {cutoff : Nat} {ds : List D} {h : Nat} {t : Tree D}
    (hn : ds.length = 2^h) (ht : fromDigests H filler cutoff ds = .ok t) : Spec.IsMerkleTree H filler ds t.nodes := by
  obtain ⟨t', ht', hm⟩ := fromDigests_ok H filler cutoff hn
  rw [ht] at ht'; cases ht'
  exact hm

theorem fromDigests_empty (filler : D) (cutoff : Nat) : fromDigests H filler cutoff [] = .err .tooFewLeafs := by
  simp [fromDigests, fromDigestsFuel]

theorem fromDigests_not_pow2 (filler : D) (cutoff : Nat) {ds : List D} (hne : ds ≠ []) (hp : ¬ ∃ h, ds.length = 2^h) :
    fromDigests H filler cutoff ds = .err .incorrectNumberOfLeafs := by
  have he : ds.isEmpty = false := by cases ds <;> simp_all
  have hp2 : isPow2 ds.length = false := by
    cases hq : isPow2 ds.length
    · rfl
    · exact absurd (isPow2_iff.1 hq) hp
  simp [fromDigests, fromDigestsFuel, he, hp2]

theorem parLoopBeforeF2_succ {cutoff fuel cnt acc : Nat} {nodes nodes' : List D} (hc : cnt ≥ cutoff)
    (hl : parLevel H nodes cnt = .ok nodes') :
    parLoopBeforeF2 H cutoff (fuel+1) cnt acc nodes = parLoopBeforeF2 H cutoff fuel (cnt / 2) (acc + cnt) nodes' := by
  rw [parLoopBeforeF2, if_pos hc, hl]

/-- before fix F2 the loop guard was `cnt >= cutoff`: with cut-off 0 the loop never exits once `cnt` reaches 0 -/
theorem parLoopBeforeF2_diverges (acc : Nat) (nodes : List D) (fuel : Nat) :
    parLoopBeforeF2 H 0 fuel 0 acc nodes = none := by
  induction fuel generalizing acc with
  | zero => rfl
  | succ fuel ih =>
    have : parLevel H nodes 0 = .ok nodes := by
      rw [parLevel, List.range_zero, Res.mapM, Res.ok_bind, if_pos (Nat.zero_le _), List.take_zero, List.drop_zero]; rfl
    rw [parLoopBeforeF2_succ H (Nat.le_refl 0) this]
    exact ih _

/-- leaf function of the tree over `ds` by heap index -/
def leafFn (filler : D) (ds : List D) (h : Nat) : Nat → D := fun j => (ds[j - 2^h]?).getD filler

/-- a Merkle tree is determined level by level: node `k` with `lvl` levels below it is `nodeVal` over the leafs.  The
    number `r` of levels above it is a second parameter (`lvl + r = h`) so that the index range `[2^r, 2^(r+1))` of the
    level carries no subtraction and the induction on `lvl` can move `r` -/
theorem merkle_nodeVal {filler : D} {ds nodes : List D} {h : Nat} (hn : ds.length = 2^h)
    (hm : Spec.IsMerkleTree H filler ds nodes) (lvl r k : Nat) (hr : lvl + r = h) (h1 : 2^r ≤ k) (h2 : k < 2^(r+1)) :
    nodes[k]? = some (nodeVal H (leafFn filler ds h) lvl k) := by
  induction lvl generalizing r k with
  | zero =>
    rw [Nat.zero_add] at hr
    subst hr
    have hlt : k - 2^r < ds.length := by have : 2^(r+1) = 2 * 2^r := Nat.pow_succ'; omega
    have := hm.2.2.1 (k - 2^r) hlt
    rw [hn, show 2^r + (k - 2^r) = k by omega] at this
    rw [this, nodeVal, leafFn, List.getElem?_eq_getElem hlt]
    rfl
  | succ lvl ih =>
    obtain ⟨c1, c2⟩ := children_level h1 h2
    have hk : 1 ≤ k ∧ k < ds.length := by
      have : 2^(r+1) ≤ 2^h := two_pow_le_of_le (by omega)
      have : 1 ≤ 2^r := Nat.one_le_two_pow
      omega
    obtain ⟨a, b, ha, hb, hk'⟩ := hm.2.2.2 k hk.1 hk.2
    have hr' : lvl + (r+1) = h := by omega
    rw [ih (r+1) (2*k) hr' c1 (Nat.lt_of_succ_lt c2)] at ha
    rw [ih (r+1) (2*k+1) hr' (Nat.le_succ_of_le c1) c2] at hb
    cases ha
    cases hb
    rw [hk', nodeVal]

theorem merkle_eq_treeNodes {filler : D} {ds nodes : List D} {h : Nat} (hn : ds.length = 2^h)
    (hm : Spec.IsMerkleTree H filler ds nodes) : nodes = Spec.treeNodes H filler h ds := by
  apply List.ext_getElem?
  intro k
  unfold Spec.treeNodes
  rw [List.getElem?_map]
  by_cases hk : k < 2^(h+1)
  · rw [List.getElem?_range hk]
    simp only [Option.map_some]
    by_cases h0 : k = 0
    · subst h0; simp [hm.2.1]
    · simp only [h0, if_false]
      obtain ⟨l1, l2⟩ := (Nat.log2_eq_iff h0).1 rfl
      have := (Nat.log2_lt h0).2 hk
      rw [merkle_nodeVal H hn hm (h - Nat.log2 k) (Nat.log2 k) k (by omega) l1 l2]
      rfl
  · rw [List.getElem?_eq_none_iff.2 (by rw [hm.1, hn, ← Nat.pow_succ']; omega)]
    rw [List.getElem?_eq_none_iff.2 (by simp; omega)]
    rfl
end Build

end TF.Merkle
