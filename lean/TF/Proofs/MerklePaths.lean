import TF.Proofs.MerkleVerify
import TF.Proofs.MerkleBuild
/-! soundness (collision extraction) and completeness of the reference recomputation w.r.t. an honest tree;
`into_authentication_paths`; accessors of honest trees -/
namespace TF.Merkle
open TF.Gen

section RefVal
variable {D : Type} (H : D → D → D)
variable {h : Nat} {idxs : List Nat} {leafD authD : Nat → Option D}

/-- **collision-extracting soundness of the recomputation**: if the value recomputed for a computable node equals the
    node of the tree over the leaf function `f`, every claimed leaf below it is the tree's leaf — or an explicit
    collision of `H` is exhibited -/
theorem refVal_sound (ctx : FillCtx h idxs leafD authD) (f : Nat → D) (j : Nat) (hj : j ≤ h) :
    ∀ i ∈ idxs, Spec.refVal H leafD authD j (anc h i j) = some (nodeVal H f j (anc h i j)) →
      (∀ i' ∈ idxs, anc h i' j = anc h i j → leafD (i' + 2^h) = some (f (i' + 2^h))) ∨ Collision H := by
  induction j with
  | zero =>
    intro i _ hv
    refine Or.inl fun i' _ e => ?_
    rw [anc_zero] at e
    rw [e]; exact hv
  | succ j ih =>
    intro i hi hv
    obtain ⟨a, b, ha, hb, hr⟩ := refVal_anc_succ H ctx hi hj
    rw [hr, nodeVal, Option.some.injEq] at hv
    generalize anc h i (j+1) = P at ha hb hv ⊢
    rcases eq_or_collision H hv with ⟨ea, eb⟩ | hc
    case inr => exact Or.inr hc
    -- the claimed leafs below a child `c` whose value is the tree's
    have side : ∀ c, Spec.sibVal H leafD authD j c = some (nodeVal H f j c) →
        (∀ i' ∈ idxs, anc h i' j = c → leafD (i' + 2^h) = some (f (i' + 2^h))) ∨ Collision H := by
      intro c hc
      by_cases hex : ∃ i0 ∈ idxs, anc h i0 j = c
      · obtain ⟨i0, hi0, rfl⟩ := hex
        obtain ⟨v, hv0⟩ := Option.isSome_iff_exists.1 (refVal_isSome H ctx j (Nat.le_of_succ_le hj) i0 hi0)
        rw [sibVal_of_some H hv0] at hc
        exact ih (Nat.le_of_succ_le hj) i0 hi0 (hv0.trans hc)
      · exact Or.inl fun i' hi' e => absurd ⟨i', hi', e⟩ hex
    rcases side _ (ea ▸ ha) with hl | hc
    case inr => exact Or.inr hc
    rcases side _ (eb ▸ hb) with hr' | hc
    case inr => exact Or.inr hc
    refine Or.inl fun i' hi' e' => ?_
    rw [anc_succ] at e'
    obtain ⟨q, e | e⟩ := left_or_right (anc h i' j)
    · rw [e, left_div] at e'; exact hl i' hi' (e' ▸ e)
    · rw [e, right_div] at e'; exact hr' i' hi' (e' ▸ e)

/-- if the supplied nodes are those of the tree over `f` and the computable nodes of level `j` are recomputed to the
    tree's nodes, every child of a computable node has the tree's value -/
theorem sibVal_complete (ctx : FillCtx h idxs leafD authD) (f : Nat → D)
    (ha : ∀ j c, j < h → 2^(h-j) ≤ c → c < 2^(h-j+1) → c ∈ Spec.needed h idxs → authD c = some (nodeVal H f j c))
    {i j c : Nat} (hr : ∀ i' ∈ idxs, Spec.refVal H leafD authD j (anc h i' j) = some (nodeVal H f j (anc h i' j)))
    (hi : i ∈ idxs) (hj : j < h) (hc : c / 2 = anc h i (j+1)) :
    Spec.sibVal H leafD authD j c = some (nodeVal H f j c) := by
  rcases child_cases H ctx hi hj hc with ⟨i', hi', rfl⟩ | ⟨hm, hn⟩
  · exact sibVal_of_some H (hr i' hi')
  · have rc := child_range hj (anc_range (ctx.hi i hi) hj) hc
    rw [sibVal_of_none H hn, ha j c hj rc.1 rc.2 hm]

/-- **completeness of the recomputation**: if the claimed leafs and the supplied nodes are those of the tree over `f`,
    every computable node is recomputed to the tree's node -/
theorem refVal_complete (ctx : FillCtx h idxs leafD authD) (f : Nat → D)
    (hl : ∀ i ∈ idxs, leafD (i + 2^h) = some (f (i + 2^h)))
    (ha : ∀ j c, j < h → 2^(h-j) ≤ c → c < 2^(h-j+1) → c ∈ Spec.needed h idxs → authD c = some (nodeVal H f j c))
    (j : Nat) (hj : j ≤ h) :
    ∀ i ∈ idxs, Spec.refVal H leafD authD j (anc h i j) = some (nodeVal H f j (anc h i j)) := by
  induction j with
  | zero => intro i hi; rw [anc_zero]; exact hl i hi
  | succ j ih =>
    intro i hi
    obtain ⟨a, b, ha', hb', hr⟩ := refVal_anc_succ H ctx hi hj
    rw [sibVal_complete H ctx f ha (ih (Nat.le_of_succ_le hj)) hi hj (left_div _)] at ha'
    rw [sibVal_complete H ctx f ha (ih (Nat.le_of_succ_le hj)) hi hj (right_div _)] at hb'
    cases ha'; cases hb'
    exact hr
end RefVal

section Honest
variable {D : Type} (H : D → D → D)

/-- the proof an honest prover produces for `idxs` from the node list `nodes` -/
def honestProof (filler : D) (ds nodes : List D) (h : Nat) (idxs : List Nat) : Proof D :=
  { height := h
    leafs := idxs.map (fun i => (i, leafFn filler ds h (i + 2^h)))
    auth := (Spec.needed h idxs).map (fun k => (nodes[k]?).getD filler) }

variable {filler : D} {ds nodes : List D} {h : Nat} {idxs : List Nat}

theorem honest_idxs : (honestProof filler ds nodes h idxs).leafs.map (·.1) = idxs := by
  simp [honestProof, List.map_map, Function.comp_def]

theorem honest_authAt (hn : ds.length = 2^h) (hm : Spec.IsMerkleTree H filler ds nodes) {j c : Nat} (hj : j < h)
    (h1 : 2^(h-j) ≤ c) (h2 : c < 2^(h-j+1)) (hc : c ∈ Spec.needed h idxs) :
    Spec.authAt h idxs (honestProof filler ds nodes h idxs).auth c = some (nodeVal H (leafFn filler ds h) j c) := by
  unfold Spec.authAt honestProof
  rw [lookup_zip_map hc, merkle_nodeVal H hn hm j (h-j) c (by omega) h1 h2]
  rfl

variable [DecidableEq D]

theorem honest_consistent : Spec.consistent (honestProof filler ds nodes h idxs).leafs = true := by
  unfold Spec.consistent honestProof
  simp only [List.all_eq_true, List.mem_map, Bool.or_eq_true, bne_iff_ne, ne_eq, decide_eq_true_eq]
  rintro x ⟨i, _, rfl⟩ y ⟨i', _, rfl⟩
  by_cases e : i = i'
  · right; simp [e]
  · left; exact e

theorem honest_wellFormed (hh : h ≤ 31) (hi : ∀ i ∈ idxs, i < 2^h) :
    Spec.wellFormed (honestProof filler ds nodes h idxs) = true := by
  rw [wellFormed_iff]
  refine ⟨hh, ?_, honest_consistent, ?_⟩
  · intro x hx
    simp only [honestProof, List.mem_map] at hx
    obtain ⟨i, hi', rfl⟩ := hx
    exact hi i hi'
  · rw [honest_idxs]; simp [honestProof]

theorem honest_leafAt {i : Nat} (hi : i ∈ idxs) :
    Spec.leafAt h (honestProof filler ds nodes h idxs).leafs (i + 2^h) = some (leafFn filler ds h (i + 2^h)) :=
  (consistent_iff (h := h)).2 (honest_consistent (filler := filler) (ds := ds) (nodes := nodes) (h := h) (idxs := idxs))
    (i, leafFn filler ds h (i + 2^h)) (List.mem_map.2 ⟨i, hi, rfl⟩)

theorem honest_ctx (hh : h ≤ 31) (hi : ∀ i ∈ idxs, i < 2^h) :
    FillCtx h idxs (Spec.leafAt h (honestProof filler ds nodes h idxs).leafs)
      (Spec.authAt h idxs (honestProof filler ds nodes h idxs).auth) := by
  have c := fillCtx_of_wellFormed (honest_wellFormed (filler := filler) (ds := ds) (nodes := nodes) hh hi)
  rwa [honest_idxs] at c

variable (hn : ds.length = 2^h) (hh : h ≤ 31) (hm : Spec.IsMerkleTree H filler ds nodes) (hi : ∀ i ∈ idxs, i < 2^h)
include hn hh hm hi

theorem honest_refVal {j : Nat} (hj : j ≤ h) {i : Nat} (hi' : i ∈ idxs) :
    Spec.refVal H (Spec.leafAt h (honestProof filler ds nodes h idxs).leafs)
      (Spec.authAt h idxs (honestProof filler ds nodes h idxs).auth) j (anc h i j)
      = some (nodeVal H (leafFn filler ds h) j (anc h i j)) :=
  refVal_complete H (honest_ctx hh hi) _ (fun _ => honest_leafAt) (fun _ _ => honest_authAt H hn hm) j hj i hi'

theorem honest_sibVal {i j : Nat} (hi' : i ∈ idxs) (hj : j < h) :
    Spec.sibVal H (Spec.leafAt h (honestProof filler ds nodes h idxs).leafs)
      (Spec.authAt h idxs (honestProof filler ds nodes h idxs).auth) j (sib (anc h i j))
      = some (nodeVal H (leafFn filler ds h) j (sib (anc h i j))) :=
  sibVal_complete H (honest_ctx hh hi) _ (fun _ _ => honest_authAt H hn hm)
    (fun _ hi'' => honest_refVal H hn hh hm hi (Nat.le_of_lt hj) hi'') hi' hj (by rw [sib_div_two, anc_succ])

theorem honest_refRoot (hne : idxs ≠ []) :
    Spec.refRoot H (honestProof filler ds nodes h idxs) = some (nodeVal H (leafFn filler ds h) h 1) := by
  obtain ⟨i, hi'⟩ := List.exists_mem_of_ne_nil _ hne
  have := honest_refVal H hn hh hm hi (Nat.le_refl h) hi'
  rw [anc_top (hi i hi')] at this
  unfold Spec.refRoot
  rw [honest_idxs]
  exact this

theorem honest_verify :
    verify H (honestProof filler ds nodes h idxs) (nodeVal H (leafFn filler ds h) h 1) = .ok true := by
  rw [verify_eq_refVerify]
  congr 1
  unfold Spec.refVerify
  by_cases hne : idxs = []
  · subst hne
    simp [Proof.isTrivial, honestProof, needed_nil]
  · rw [honest_wellFormed hh hi, honest_refRoot H hn hh hm hi hne]
    simp
end Honest

section Paths
variable {D : Type} (H : D → D → D)

theorem authPath_get (f : Nat → D) (up below k j : Nat) :
    (authPath H f below up k)[j]? = if j < up then some (nodeVal H f (below + j) (sib (k / 2^j))) else none := by
  induction up generalizing below k j with
  | zero => rfl
  | succ up ih =>
    cases j with
    | zero => rw [authPath, List.getElem?_cons_zero, if_pos (Nat.succ_pos _), Nat.pow_zero, Nat.div_one]; rfl
    | succ j =>
      rw [authPath, List.getElem?_cons_succ, ih, div_two_pow_succ, Nat.add_assoc, Nat.add_comm 1 j]
      simp only [Nat.add_lt_add_iff_right]

theorem authPathFor_spec {h : Nat} {idxs : List Nat} {leafD authD : Nat → Option D}
    (ctx : FillCtx h idxs leafD authD) {m' : NodeMap D} (inv : FillInv H h idxs leafD authD h m')
    {i : Nat} (hi : i ∈ idxs) :
    ∃ path, authPathFor { height := h, idxs := idxs, nodes := m' } i = .ok path ∧ path.length = h ∧
      ∀ j, j < h → path[j]? = Spec.sibVal H leafD authD j (sib (anc h i j)) := by
  have hlt := ctx.hi i hi
  have hadd := leaf_add_lt_usize (show h ≤ 62 by have := ctx.hh; omega) hlt
  have hnp := nodePath_eq h (i + 2^h) (by omega) (by have : 2^(h+1) = 2 * 2^h := Nat.pow_succ'; omega)
  -- every sibling is present
  have hsib : ∀ j, j < h → ∃ v, getNode m' (anc h i j ^^^ 1) = .ok v ∧
      Spec.sibVal H leafD authD j (sib (anc h i j)) = some v := fun j hj => by
    have hc : sib (anc h i j) / 2 = anc h i (j+1) := by rw [sib_div_two, anc_succ]
    obtain ⟨v, hv⟩ := sibVal_child H ctx (refVal_isSome H ctx j (Nat.le_of_lt hj)) hi hj hc
    refine ⟨v, ?_, hv⟩
    rw [xor_one_eq_sib, getNode, fillInv_get_child H ctx inv (Nat.le_of_lt hj) (Nat.le_refl h) hi hj hc, hv]
  obtain ⟨path, h1, h2, h3⟩ := Res.mapM_exists (f := fun c => getNode m' (c ^^^ 1))
    ((List.range h).map (fun j => (i + 2^h) / 2^j))
    (fun a ha => by
      obtain ⟨j, hj, rfl⟩ := List.mem_map.1 ha
      obtain ⟨v, hv, _⟩ := hsib j (List.mem_range.1 hj)
      exact ⟨v, hv⟩)
  refine ⟨path, ?_, by simpa using h2, fun j hj => ?_⟩
  · simp only [authPathFor, numLeafs_ok ctx.hh, cadd, hadd, if_true, Res.ok_bind, hnp]
    exact h1
  · obtain ⟨v, hv, hsv⟩ := hsib j hj
    obtain ⟨b, hb1, hb2⟩ := h3 j (anc h i j) (by simp [hj, anc])
    rw [hv] at hb2
    cases hb2
    rw [hb1, hsv]

end Paths

section Paths
variable {D : Type} [DecidableEq D] (H : D → D → D)

set_option linter.unusedSectionVars false in
theorem authPath_length (f : Nat → D) : ∀ (up below k : Nat), (authPath H f below up k).length = up := by
  intro up
  induction up with
  | zero => intro _ _; rfl
  | succ up ih => intro below k; rw [authPath, List.length_cons, ih]

/-- **`into_authentication_paths`**: succeeds exactly on well-formed proofs (never panics); path `t` belongs to claim
    `t`, has one sibling per level, and the sibling on level `j` is the recomputed or supplied node -/
theorem intoAuthPaths_spec (p : Proof D) :
    (Spec.wellFormed p = true ∧ ∃ paths, intoAuthPaths H p = .ok paths ∧ paths.length = p.leafs.length ∧
      ∀ (t : Nat) (x : Nat × D) (path : List D), p.leafs[t]? = some x → paths[t]? = some path →
        path.length = p.height ∧ ∀ j, j < p.height →
          path[j]? = Spec.sibVal H (Spec.leafAt p.height p.leafs) (Spec.authAt p.height (p.leafs.map (·.1)) p.auth) j
            (sib (anc p.height x.1 j)))
    ∨ (Spec.wellFormed p = false ∧ ∃ e, intoAuthPaths H p = .err e) := by
  cases hw : Spec.wellFormed p
  case false =>
    obtain ⟨e, htf⟩ := tryFrom_err H hw
    exact Or.inr ⟨rfl, e, by rw [intoAuthPaths, htf]; rfl⟩
  obtain ⟨m', htf, inv⟩ := tryFrom_ok H hw
  have ctx := fillCtx_of_wellFormed hw
  obtain ⟨paths, h1, h2, h3⟩ := Res.mapM_exists
    (f := authPathFor { height := p.height, idxs := p.leafs.map (·.1), nodes := m' }) (p.leafs.map (·.1))
    (fun i hi => by
      obtain ⟨path, hp, _⟩ := authPathFor_spec H ctx inv hi
      exact ⟨path, hp⟩)
  refine Or.inl ⟨rfl, paths, by rw [intoAuthPaths, htf, Res.ok_bind]; exact h1, by simpa using h2, ?_⟩
  intro t x path hx hpath
  have hxm : x ∈ p.leafs := List.mem_of_getElem? hx
  obtain ⟨b, hb1, hb2⟩ := h3 t x.1 (by simp [hx])
  rw [hpath] at hb1; cases hb1
  obtain ⟨path', hp1, hp2⟩ := authPathFor_spec H ctx inv (List.mem_map.2 ⟨x, hxm, rfl⟩)
  rw [hb2] at hp1; cases hp1
  exact hp2
end Paths

section Fold
variable {D : Type} (H : D → D → D)

/-- folding a recomputed node value up along the sibling values reproduces the recomputed root -/
theorem fold_to_root {h i : Nat} {leafD authD : Nat → Option D} (r j0 : Nat) (l : List D) (hj : j0 + r = h)
    (hl : l.length = r) (hs : ∀ t, t < r → l[t]? = Spec.sibVal H leafD authD (j0 + t) (sib (anc h i (j0 + t))))
    (v : D) (hv : Spec.refVal H leafD authD j0 (anc h i j0) = some v) :
    Spec.refVal H leafD authD h (anc h i h) = some (foldPath H (anc h i j0) v l) := by
  induction r generalizing j0 l v with
  | zero =>
    have : j0 = h := by omega
    subst this
    rw [List.eq_nil_of_length_eq_zero hl]
    exact hv
  | succ r ih =>
    cases l with
    | nil => simp at hl
    | cons s l' =>
      have h0 := hs 0 (by omega)
      rw [List.getElem?_cons_zero, Nat.add_zero] at h0
      have hstep := refVal_step H hv h0.symm
      rw [← anc_succ] at hstep
      rw [foldPath, ← anc_succ]
      refine ih (j0+1) l' (by omega) (by simpa using hl) (fun t ht => ?_) _ hstep
      have := hs (t+1) (by omega)
      rw [List.getElem?_cons_succ] at this
      rw [this, show j0 + (t + 1) = j0 + 1 + t by omega]

variable [DecidableEq D]

/-- every path returned by `into_authentication_paths` authenticates its claimed leaf against the recomputed root -/
theorem paths_fold {p : Proof D} {paths : List (List D)} (hp : intoAuthPaths H p = .ok paths) :
    ∀ (t : Nat) (x : Nat × D) (path : List D), p.leafs[t]? = some x → paths[t]? = some path →
      Spec.refRoot H p = some (foldPath H (x.1 + 2^p.height) x.2 path) := by
  intro t x path hx hpath
  rcases intoAuthPaths_spec H p with ⟨hw, paths', h1, _, h3⟩ | ⟨_, e, h1⟩
  · rw [hp] at h1; cases h1
    obtain ⟨hlen, hsib⟩ := h3 t x path hx hpath
    have hxm : x ∈ p.leafs := List.mem_of_getElem? hx
    obtain ⟨_, hrange, hcons, _⟩ := (wellFormed_iff p).1 hw
    have hr := hrange x hxm
    have hleaf : Spec.leafAt p.height p.leafs (x.1 + 2^p.height) = some x.2 :=
      (consistent_iff (h := p.height)).2 hcons x hxm
    have := fold_to_root H (h := p.height) (i := x.1) p.height 0 path (by omega) hlen
      (fun t ht => by rw [Nat.zero_add]; exact hsib t ht) x.2 (by rw [anc_zero]; exact hleaf)
    rw [anc_top hr, anc_zero] at this
    exact this
  · rw [hp] at h1; cases h1
end Fold

section HonestTree
variable {D : Type} (H : D → D → D)
variable {filler : D} {ds : List D} {h : Nat} {t : Tree D}

theorem tree_numLeafs (hn : ds.length = 2^h) (hm : Spec.IsMerkleTree H filler ds t.nodes) : t.numLeafs = 2^h := by
  unfold Tree.numLeafs; rw [hm.1, hn]; omega

theorem tree_height_eq (hn : ds.length = 2^h) (hm : Spec.IsMerkleTree H filler ds t.nodes) : t.height = .ok h := by
  unfold Tree.height
  rw [tree_numLeafs H hn hm]
  have : 2^h ≠ 0 := by have := Nat.one_le_two_pow (n := h); omega
  simp [Nat.log2_two_pow]

theorem tree_root (hn : ds.length = 2^h) (hm : Spec.IsMerkleTree H filler ds t.nodes) :
    t.root = .ok (nodeVal H (leafFn filler ds h) h 1) := by
  have := merkle_nodeVal H hn hm h 0 1 rfl (Nat.le_refl 1) (by decide)
  unfold Tree.root ROOT_INDEX
  rw [this]

/-- after fix F1: `leaf i` is the `i`-th leaf for `i < n` and `None` for **every** `i ≥ n` (never an inner node);
    the node vector is assumed to be addressable (`2n ≤ 2^64`) -/
theorem tree_leaf (hm : Spec.IsMerkleTree H filler ds t.nodes) (hsz : t.nodes.length ≤ USIZE) (i : Nat) :
    t.leaf i = if i < ds.length then ds[i]? else none := by
  unfold Tree.leaf
  have hlen := hm.1
  have e : t.nodes.length / 2 = ds.length := by omega
  simp only [e]
  by_cases hi : i < ds.length
  · have : ds.length + i < USIZE := by omega
    simp only [this, hi, if_true]
    exact hm.2.2.1 i hi
  · simp only [hi, if_false]
    split
    · rw [List.getElem?_eq_none_iff]; omega
    · rfl

theorem nodes_length_le_usize (hn : ds.length = 2^h) (hh : h ≤ 31) (hm : Spec.IsMerkleTree H filler ds t.nodes) :
    t.nodes.length ≤ USIZE := by
  rw [hm.1, hn, ← Nat.pow_succ']
  have : 2^(h+1) ≤ 2^32 := two_pow_le_of_le (by omega)
  have : (2:Nat)^32 ≤ 2^64 := by decide
  unfold USIZE; omega

theorem tree_indexedLeafs (hn : ds.length = 2^h) (hm : Spec.IsMerkleTree H filler ds t.nodes) (hsz : t.nodes.length ≤ USIZE)
    {idxs : List Nat} (hi : ∀ i ∈ idxs, i < 2^h) :
    t.indexedLeafs idxs = .ok (idxs.map (fun i => (i, leafFn filler ds h (i + 2^h)))) := by
  unfold Tree.indexedLeafs
  apply Res.mapM_ok
  intro i hi'
  have hlt : i < ds.length := by rw [hn]; exact hi i hi'
  rw [tree_leaf H hm hsz i]
  simp only [hlt, if_true, leafFn, Nat.add_sub_cancel, List.getElem?_eq_getElem hlt, Option.getD_some]

theorem tree_indexedLeafs_err (hm : Spec.IsMerkleTree H filler ds t.nodes) (hsz : t.nodes.length ≤ USIZE)
    {idxs : List Nat} (hbad : ∃ i ∈ idxs, ds.length ≤ i) :
    t.indexedLeafs idxs = .err .leafIndexInvalid := by
  unfold Tree.indexedLeafs
  apply Res.mapM_err
  · intro i _
    rw [tree_leaf H hm hsz i]
    by_cases hlt : i < ds.length
    · right; simp [hlt]
    · left; simp [hlt]
  · obtain ⟨i, hi, hle⟩ := hbad
    refine ⟨i, hi, ?_⟩
    rw [tree_leaf H hm hsz i]
    have : ¬ i < ds.length := by omega
    simp [this]

theorem tree_authStructure (hn : ds.length = 2^h) (hh : h ≤ 62) (hm : Spec.IsMerkleTree H filler ds t.nodes)
    {idxs : List Nat} (hi : ∀ i ∈ idxs, i < 2^h) :
    t.authStructure idxs = .ok ((Spec.needed h idxs).map (fun k => (t.nodes[k]?).getD filler)) := by
  unfold Tree.authStructure
  rw [tree_numLeafs H hn hm, authIdx_eq_needed hh hi]
  simp only [Res.ok_bind]
  apply Res.mapM_ok
  intro k hk
  have hlt : k < t.nodes.length := by
    rw [hm.1, hn, ← Nat.pow_succ']; exact (mem_needed.1 hk).1
  simp [List.getElem?_eq_getElem hlt]

/-- the proof produced by `inclusion_proof_for_leaf_indices` for in-range indices (any order, repetitions) -/
theorem tree_inclusionProof (hn : ds.length = 2^h) (hh : h ≤ 62) (hm : Spec.IsMerkleTree H filler ds t.nodes)
    (hsz : t.nodes.length ≤ USIZE) {idxs : List Nat} (hi : ∀ i ∈ idxs, i < 2^h) :
    t.inclusionProof idxs = .ok (honestProof filler ds t.nodes h idxs) := by
  unfold Tree.inclusionProof
  rw [tree_height_eq H hn hm, tree_indexedLeafs H hn hm hsz hi, tree_authStructure H hn hh hm hi]
  rfl

theorem tree_inclusionProof_err (hn : ds.length = 2^h) (hm : Spec.IsMerkleTree H filler ds t.nodes)
    (hsz : t.nodes.length ≤ USIZE) {idxs : List Nat} (hbad : ∃ i ∈ idxs, ds.length ≤ i) :
    t.inclusionProof idxs = .err .leafIndexInvalid := by
  unfold Tree.inclusionProof
  rw [tree_height_eq H hn hm, tree_indexedLeafs_err H hm hsz hbad]
  rfl

theorem tree_authStructure_err (hn : ds.length = 2^h) (hh : h ≤ 63) (hm : Spec.IsMerkleTree H filler ds t.nodes)
    {idxs : List Nat} (hbad : ∃ i ∈ idxs, ds.length ≤ i) :
    t.authStructure idxs = .err .leafIndexInvalid := by
  unfold Tree.authStructure
  rw [tree_numLeafs H hn hm, authIdx_err (by exact two_pow_le_of_le hh) (by rw [← hn]; exact hbad)]
  rfl
variable [DecidableEq D]

/-- **soundness** (collision-extracting): if a proof is accepted against the root of an honest tree of the stated
    height, every claimed `(index, digest)` is the tree's leaf at that index — or an explicit collision of the hash
    function is exhibited (a trivial proof claims nothing) -/
theorem verify_accept_sound (filler : D) {ds : List D} {t : Tree D} {p : Proof D} {root : D}
    (hn : ds.length = 2^p.height) (hm : Spec.IsMerkleTree H filler ds t.nodes) (hr : t.root = .ok root)
    (hv : verify H p root = .ok true) : (∀ x ∈ p.leafs, t.leaf x.1 = some x.2) ∨ Collision H := by
  by_cases hne : p.leafs = []
  case pos => exact Or.inl fun x hx => by rw [hne] at hx; cases hx
  rw [verify_eq_refVerify, Res.ok.injEq, Spec.refVerify, Bool.or_eq_true, Bool.and_eq_true, decide_eq_true_eq] at hv
  rcases hv with ht | ⟨hw, hroot⟩
  · rw [Proof.isTrivial, Bool.and_eq_true, List.isEmpty_iff] at ht
    exact absurd ht.1 hne
  obtain ⟨hh, hrange, hcons, _⟩ := (wellFormed_iff p).1 hw
  rw [tree_root H hn hm] at hr
  injection hr with hr
  obtain ⟨x0, hx0⟩ := List.exists_mem_of_ne_nil _ hne
  have hx0i : x0.1 ∈ p.leafs.map (·.1) := List.mem_map.2 ⟨x0, hx0, rfl⟩
  have hrv : Spec.refVal H (Spec.leafAt p.height p.leafs) (Spec.authAt p.height (p.leafs.map (·.1)) p.auth) p.height
      (anc p.height x0.1 p.height) = some (nodeVal H (leafFn filler ds p.height) p.height (anc p.height x0.1 p.height)) := by
    rw [anc_top (hrange x0 hx0), hr]; exact hroot
  refine (refVal_sound H (fillCtx_of_wellFormed hw) _ p.height (Nat.le_refl _) x0.1 hx0i hrv).imp_left fun hl x hx => ?_
  have h1 := hl x.1 (List.mem_map.2 ⟨x, hx, rfl⟩) (by rw [anc_top (hrange x hx), anc_top (hrange x0 hx0)])
  rw [(consistent_iff (h := p.height)).2 hcons x hx] at h1
  injection h1 with h1
  have hlt : x.1 < ds.length := by rw [hn]; exact hrange x hx
  rw [tree_leaf H hm (nodes_length_le_usize H hn hh hm), if_pos hlt, h1]
  simp [leafFn, List.getElem?_eq_getElem hlt]
end HonestTree

section HonestTree
variable {D : Type} [DecidableEq D] (H : D → D → D)
variable {filler : D} {ds : List D} {h : Nat} {t : Tree D}

set_option linter.unusedSectionVars false in
theorem tree_height (hn : ds.length = 2^h) (hm : Spec.IsMerkleTree H filler ds t.nodes) : t.height = .ok h :=
  tree_height_eq H hn hm
end HonestTree

section HonestPaths
variable {D : Type} [DecidableEq D] (H : D → D → D)
variable {filler : D} {ds nodes : List D} {h : Nat} {idxs : List Nat}

/-- **honest proofs expand to the tree's sibling paths** -/
theorem honest_paths (hn : ds.length = 2^h) (hh : h ≤ 31) (hm : Spec.IsMerkleTree H filler ds nodes)
    (hi : ∀ i ∈ idxs, i < 2^h) :
    intoAuthPaths H (honestProof filler ds nodes h idxs)
      = .ok (idxs.map (fun i => authPath H (leafFn filler ds h) 0 h (i + 2^h))) := by
  have hw := honest_wellFormed (filler := filler) (ds := ds) (nodes := nodes) hh hi
  rcases intoAuthPaths_spec H (honestProof filler ds nodes h idxs) with ⟨_, paths, h1, h2, h3⟩ | ⟨hw', _⟩
  · rw [h1]
    congr 1
    apply List.ext_getElem?
    intro t
    have hlen : (honestProof filler ds nodes h idxs).leafs.length = idxs.length := by simp [honestProof]
    by_cases ht : t < idxs.length
    · have hx : (honestProof filler ds nodes h idxs).leafs[t]? = some (idxs[t], leafFn filler ds h (idxs[t] + 2^h)) := by
        simp [honestProof, List.getElem?_eq_getElem ht]
      have hpt : t < paths.length := by omega
      obtain ⟨hl, hs⟩ := h3 t _ paths[t] hx (List.getElem?_eq_getElem hpt)
      rw [List.getElem?_eq_getElem hpt, List.getElem?_map, List.getElem?_eq_getElem ht]
      simp only [Option.map_some, Option.some.injEq]
      apply List.ext_getElem?
      intro j
      rw [authPath_get]
      by_cases hj : j < h
      · have := hs j hj
        simp only [honest_idxs] at this
        rw [this]
        refine Eq.trans (honest_sibVal H hn hh hm hi (List.getElem_mem ht) hj) ?_
        simp [hj, anc]
      · simp only [hj, if_false]
        rw [List.getElem?_eq_none_iff]
        have : (honestProof filler ds nodes h idxs).height = h := rfl
        omega
    · rw [List.getElem?_eq_none_iff.2 (by omega), List.getElem?_eq_none_iff.2 (by simp; omega)]
  · rw [hw] at hw'; cases hw'
end HonestPaths

end TF.Merkle
