import TF.Gen.MmrLoops
import TF.Proofs.MmrIndex
/-!
# Bridge: the loop functions of `shared_advanced.rs` *as regenerated from source* = the hand-written models

`TF/Gen/MmrLoops.lean` is written by `tools/rs2lean_loops.py` from the Rust text on every run (every `while`/`loop`
becomes a fuel-indexed structural recursion, every `for` a recursion on the number of remaining iterations).
`TF/Model/MmrIndex.lean` is the hand-written model all theorems of C05/C11/C12/C16 are about.  Here the two are proved
equal **pointwise, for every `u64` input** (no bound on sizes, no sampling), so every theorem about the hand model is a
theorem about the regenerated code — and a change of the Rust text changes the left-hand sides below: the proofs are
re-checked or break.

Fuel: the generated definitions run their loops with 65 (66 for `get_authentication_path_node_indices`) evaluations of
the loop head.  That this suffices is *proved*, not assumed: where the hand model uses the same fuel the equality
includes the `none` results; where the hand model recurses on the height (`node_index_to_leaf_index`,
`get_peak_heights_and_peak_node_indices`) or has no loop (`node_indices_added_by_append`, `get_peak_heights`) the
lemmas below show that the generated loop finishes within its fuel whenever the model has a value.

Proof hygiene: only `simp only` with explicit lemmas on goals that contain the 20-digit literals (plain `simp` sends
the kernel into numeral arithmetic on open terms).
-/
namespace TF.GenBridge
open TF TF.Gen TF.Model.Mmr

theorem W64_eq : (18446744073709551616 : Nat) = 2 ^ 64 := by decide
theorem W32_eq : (4294967296 : Nat) = 2 ^ 32 := by decide
theorem W128_eq : (340282366920938463463374607431768211456 : Nat) = 2 ^ 128 := by decide

/-- `1u64 << s` (release build: amount masked to 6 bits): the translator's form equals the model's `shl1` -/
theorem shl_one (s : Nat) : 1 * 2 ^ (s % 64) % 18446744073709551616 = 2 ^ (s % 64) := by
  rw [Nat.one_mul]
  exact Nat.mod_eq_of_lt (TF.Mmr.two_pow_lt_W _ (Nat.mod_lt _ (by decide)))

theorem bitLen_le_64 (n : Nat) (h : n < 2 ^ 64) : bitLen n ≤ 64 := by
  unfold bitLen
  split
  · omega
  · have := TF.Mmr.log2_lt_64 n (by omega) h
    omega

theorem lt_two_pow_bitLen (n : Nat) : n < 2 ^ bitLen n := by
  unfold bitLen
  split
  · subst_vars; decide
  · exact Nat.lt_log2_self

theorem rll_own_loop_eq (ni : Nat) : ∀ fuel c h k,
    Loops.right_lineage_length_and_own_height_loop ni fuel c h k = rllLoop ni fuel c h k := by
  intro fuel
  induction fuel with
  | zero => intros; rfl
  | succ f ih =>
    intro c h k
    simp only [Loops.right_lineage_length_and_own_height_loop, rllLoop, dec32, inc32, W32, ih, beq_iff_eq,
      decide_eq_true_eq]
    by_cases h1 : c = ni
    · simp only [h1, if_true]
    · simp only [h1, if_false]
      by_cases h2 : left_child c h < ni
      · simp only [h2, if_true]
      · simp only [h2, if_false]

/-- **`right_lineage_length_and_own_height`**: regenerated code = hand model, every input (incl. `none`) -/
theorem gen_rll_own_eq (n : Nat) :
    Loops.right_lineage_length_and_own_height n = right_lineage_length_and_own_height n := by
  simp only [Loops.right_lineage_length_and_own_height, right_lineage_length_and_own_height, descentFuel,
    rll_own_loop_eq]

/-- **`parent`**: regenerated code = hand model, every input -/
theorem gen_parent_eq (n : Nat) : Loops.parent n = parent n := by
  simp only [Loops.parent, parent, gen_rll_own_eq]
  cases right_lineage_length_and_own_height n with
  | none => rfl
  | some p =>
    obtain ⟨a, b⟩ := p
    simp only [Option.bind_some, bne_iff_ne, ne_eq, add64, shl1, inc32, W64, W32, shl_one]

/-! ### `right_lineage_length_from_node_index` (recursive in Rust) -/

/-- the three `let`s at the head of the function, for a `u64` argument -/
theorem rll_node_head (n : Nat) (h : n < 2 ^ 64) :
    (64 + 4294967296 - (64 - bitLen n)) % 4294967296 = bitLen n ∧
    1 * 2 ^ (bitLen n % 128) % 340282366920938463463374607431768211456 = 2 ^ bitLen n ∧
    (2 ^ bitLen n + 340282366920938463463374607431768211456 - n) % 340282366920938463463374607431768211456
      = 2 ^ bitLen n - n := by
  have hb := bitLen_le_64 n h
  have hlt := lt_two_pow_bitLen n
  have hp : 2 ^ bitLen n ≤ 2 ^ 64 := Nat.pow_le_pow_right (by decide) hb
  have e64 : (2:Nat) ^ 64 = 18446744073709551616 := by decide
  refine ⟨by omega, ?_, by omega⟩
  have e : bitLen n % 128 = bitLen n := by omega
  rw [e, Nat.one_mul]
  exact Nat.mod_eq_of_lt (by omega)

theorem rll_node_rec_eq : ∀ fuel n, n < 2 ^ 64 →
    Loops.right_lineage_length_from_node_index_rec fuel n = rllFromNodeIndexAux fuel n := by
  intro fuel
  induction fuel with
  | zero => intros; rfl
  | succ f ih =>
    intro n hn
    obtain ⟨e1, e2, e3⟩ := rll_node_head n hn
    simp only [Loops.right_lineage_length_from_node_index_rec, rllFromNodeIndexAux, e1, e2, e3, shl_one,
      decide_eq_true_eq, add64, sub64, shl1, dec32, W64, W32]
    by_cases hc : bitLen n < (2 ^ bitLen n - n) % 18446744073709551616
    · simp only [hc, if_true]
      exact ih _ (by rw [← W64_eq]; exact Nat.mod_lt _ (by decide))
    · simp only [hc, if_false]

/-- **`right_lineage_length_from_node_index`**: regenerated code = hand model, every `u64` input -/
theorem gen_rll_node_eq (n : Nat) (h : n < 2 ^ 64) :
    Loops.right_lineage_length_from_node_index n = right_lineage_length_from_node_index n := by
  simp only [Loops.right_lineage_length_from_node_index, right_lineage_length_from_node_index, descentFuel]
  exact rll_node_rec_eq 65 n h

theorem auth_loop_eq (p c : Nat) : ∀ fuel acc ni,
    Loops.get_authentication_path_node_indices_loop p c fuel acc ni
      = (authPathLoop p c fuel ni acc).map fun r => (r.2, r.1) := by
  intro fuel
  induction fuel with
  | zero => intros; rfl
  | succ f ih =>
    intro acc ni
    simp only [Loops.get_authentication_path_node_indices_loop, authPathLoop, gen_rll_own_eq, Bool.and_eq_true,
      decide_eq_true_eq, bne_iff_ne, ne_eq]
    by_cases hc : ni ≤ c ∧ ¬ni = p
    · simp only [hc, and_self, not_false_eq_true, if_true]
      cases right_lineage_length_and_own_height ni with
      | none => rfl
      | some q =>
        obtain ⟨a, b⟩ := q
        simp only [Option.bind_some, ih, add64, shl1, inc32, W64, W32, shl_one]
        by_cases ha : a = 0
        · simp only [ha, not_true_eq_false, if_false]
        · simp only [ha, not_false_eq_true, if_true]
    · simp only [hc, if_false, Option.map_some]

/-- **`get_authentication_path_node_indices`**: regenerated code = hand model, every input (incl. `none`) -/
theorem gen_auth_path_eq (s p c : Nat) :
    Loops.get_authentication_path_node_indices s p c = get_authentication_path_node_indices s p c := by
  simp only [Loops.get_authentication_path_node_indices, get_authentication_path_node_indices, auth_loop_eq,
    descentFuel]
  cases authPathLoop p c (65 + 1) s [] with
  | none => rfl
  | some r =>
    obtain ⟨a, b⟩ := r
    simp only [Option.map_some, Option.bind_some, beq_iff_eq]

/-! ### `node_index_to_leaf_index` (the hand model recurses on the height, the generated loop on fuel) -/

theorem n2l_loop_eq (ni : Nat) : ∀ h fuel node li, h < fuel → h < 2 ^ 32 →
    ∃ nd, Loops.node_index_to_leaf_index_loop ni fuel node h li = some (nd, 0, n2lLoop ni h node li) := by
  intro h
  induction h with
  | zero =>
    intro fuel node li hf _
    obtain ⟨f, rfl⟩ : ∃ f, fuel = f + 1 := ⟨fuel - 1, by omega⟩
    exact ⟨node, by simp only [Loops.node_index_to_leaf_index_loop, n2lLoop, gt_iff_lt, Nat.lt_irrefl, decide_false,
      Bool.false_eq_true, if_false]⟩
  | succ h ih =>
    intro fuel node li hf h32
    obtain ⟨f, rfl⟩ : ∃ f, fuel = f + 1 := ⟨fuel - 1, by omega⟩
    have e : (h + 1 + 4294967296 - 1) % 4294967296 = h := by rw [W32_eq] at *; omega
    simp only [Loops.node_index_to_leaf_index_loop, n2lLoop, gt_iff_lt, Nat.zero_lt_succ, decide_true, if_true, e,
      decide_eq_true_eq, shl_one, add64, shl1, W64]
    by_cases hc : ni ≤ left_child node (h + 1)
    · simp only [hc, if_true]
      exact ih f _ li (by omega) (by omega)
    · simp only [hc, if_false]
      exact ih f _ _ (by omega) (by omega)

/-- **`node_index_to_leaf_index`**: regenerated code = hand model, every `u64` input; in particular the 65 rounds
    granted to the generated `while node_height > 0` loop always suffice -/
theorem gen_n2l_eq (n : Nat) (h : n < 2 ^ 64) :
    Loops.node_index_to_leaf_index n = node_index_to_leaf_index n := by
  by_cases h0 : n = 0
  · subst h0; decide +kernel
  simp only [Loops.node_index_to_leaf_index, node_index_to_leaf_index, gen_rll_own_eq]
  cases right_lineage_length_and_own_height n with
  | none => rfl
  | some p =>
    obtain ⟨a, b⟩ := p
    simp only [Option.bind_some, bne_iff_ne, ne_eq]
    by_cases hb : b = 0
    · simp only [hb, not_true_eq_false, if_false]
      have hl := (TF.Mmr.leftmost_ancestor_spec n (by omega) h).1
      have hk := TF.Mmr.log2_lt_64 n (by omega) h
      obtain ⟨nd, e⟩ := n2l_loop_eq n (leftmost_ancestor n).2 65 (leftmost_ancestor n).1 0
        (by rw [hl]; show Nat.log2 n < 65; omega) (by rw [hl]; show Nat.log2 n < 2 ^ 32; omega)
      simp only [e, Option.bind_some]
    · simp only [hb, not_false_eq_true, if_true]

/-! ### `get_peak_heights` (a `for` loop in Rust, `filter` over a range in the hand model) -/

theorem peak_heights_for_eq (lc : Nat) : ∀ cnt i acc, i + cnt ≤ 64 →
    Loops.get_peak_heights_for lc cnt i acc
      = acc ++ (List.range' i cnt).filter fun b => (2 ^ b &&& lc) != 0 := by
  intro cnt
  induction cnt with
  | zero =>
    intro i acc _
    simp only [Loops.get_peak_heights_for, List.range'_zero, List.filter_nil, List.append_nil]
  | succ c ih =>
    intro i acc hi
    have e : i % 64 = i := Nat.mod_eq_of_lt (by omega)
    have e2 : 1 * 2 ^ (i % 64) % 18446744073709551616 = 2 ^ i := by rw [shl_one, e]
    simp only [Loops.get_peak_heights_for, e2, List.range'_succ, List.filter_cons]
    by_cases hb : ((2 ^ i &&& lc) != 0) = true
    · simp only [hb, if_true]
      rw [ih (i + 1) _ (by omega), List.append_assoc, List.singleton_append]
    · simp only [hb, if_false, Bool.false_eq_true]
      exact ih (i + 1) _ (by omega)

/-- **`get_peak_heights`**: regenerated code = hand model, every `u64` input -/
theorem gen_peak_heights_eq (n : Nat) (h : n < 2 ^ 64) : Loops.get_peak_heights n = get_peak_heights n := by
  simp only [Loops.get_peak_heights, get_peak_heights, beq_iff_eq]
  by_cases h0 : n = 0
  · simp only [h0, if_true]
  · simp only [h0, if_false]
    have hk := TF.Mmr.log2_lt_64 n (by omega) h
    rw [peak_heights_for_eq n _ 0 [] (by omega), List.nil_append, Nat.sub_zero, List.range_eq_range']

theorem peak_heights_for_ok (lc : Nat) : ∀ cnt i acc, i + cnt ≤ 64 →
    Loops.get_peak_heights_for_ok lc cnt i acc = true := by
  intro cnt
  induction cnt with
  | zero => intros; rfl
  | succ c ih =>
    intro i acc hi
    have h1 : i < 64 := by omega
    simp only [Loops.get_peak_heights_for_ok, h1, decide_true, Bool.true_and]
    exact ih (i + 1) _ (by omega)

/-- no shift amount of the `for` loop of `get_peak_heights` is out of range: debug and release builds agree, every `u64` -/
theorem gen_peak_heights_ok (n : Nat) (h : n < 2 ^ 64) : Loops.get_peak_heights_ok n = true := by
  simp only [Loops.get_peak_heights_ok, beq_iff_eq]
  by_cases h0 : n = 0
  · simp only [h0, if_true]
  · simp only [h0, if_false]
    have hk := TF.Mmr.log2_lt_64 n (by omega) h
    exact peak_heights_for_ok n _ 0 [] (by omega)

/-! ### `node_indices_added_by_append` (a counting `while` loop in Rust, a `map` over a range in the hand model) -/

/-- the right-lineage length computed by the (model of the) recursive function is below 64 for a `u64` argument:
    this is what makes the 65 rounds of the generated `while right_count != 0` loop sufficient -/
theorem rll_node_aux_lt : ∀ fuel n r, n < 2 ^ 64 → rllFromNodeIndexAux fuel n = some r → r < 64 := by
  intro fuel
  induction fuel with
  | zero => intro n r _ h; simp only [rllFromNodeIndexAux] at h; cases h
  | succ f ih =>
    intro n r hn h
    simp only [rllFromNodeIndexAux, add64, sub64, shl1, dec32, W64, W32] at h
    by_cases hc : bitLen n < (2 ^ bitLen n - n) % 18446744073709551616
    · simp only [hc, if_true] at h
      exact ih _ r (by rw [← W64_eq]; exact Nat.mod_lt _ (by decide)) h
    · simp only [hc, if_false, Option.some.injEq] at h
      have hb := bitLen_le_64 n hn
      have hlt := lt_two_pow_bitLen n
      have hp : 2 ^ bitLen n ≤ 2 ^ 64 := Nat.pow_le_pow_right (by decide) hb
      have e64 : (2:Nat) ^ 64 = 18446744073709551616 := by decide
      have h0 : n = 0 → 2 ^ bitLen n = 1 := by intro h0; subst h0; decide
      omega

theorem added_loop_eq (n0 : Nat) : ∀ rc fuel added s, rc < fuel → rc < 2 ^ 32 →
    Loops.node_indices_added_by_append_loop fuel ((n0 + s) % 18446744073709551616) added rc
      = some ((n0 + s + rc) % 18446744073709551616,
              added ++ (List.range' (s + 1) rc).map (fun k => (n0 + k) % 18446744073709551616), 0) := by
  intro rc
  induction rc with
  | zero =>
    intro fuel added s hf _
    obtain ⟨f, rfl⟩ : ∃ f, fuel = f + 1 := ⟨fuel - 1, by omega⟩
    simp only [Loops.node_indices_added_by_append_loop, bne_self_eq_false, Bool.false_eq_true, if_false,
      Nat.add_zero, List.range'_zero, List.map_nil, List.append_nil]
  | succ rc ih =>
    intro fuel added s hf h32
    obtain ⟨f, rfl⟩ : ∃ f, fuel = f + 1 := ⟨fuel - 1, by omega⟩
    have e : (rc + 1 + 4294967296 - 1) % 4294967296 = rc := by rw [W32_eq] at *; omega
    have hne : (rc + 1 != 0) = true := by simp only [bne_iff_ne, ne_eq]; omega
    have e2 : ((n0 + s) % 18446744073709551616 + 1) % 18446744073709551616 = (n0 + (s + 1)) % 18446744073709551616 := by
      rw [Nat.mod_add_mod, Nat.add_assoc]
    simp only [Loops.node_indices_added_by_append_loop, hne, if_true, e, e2]
    rw [ih f _ (s + 1) (by omega) (by omega), List.range'_succ, List.map_cons, List.append_assoc,
      List.singleton_append]
    have e3 : n0 + (s + 1) + rc = n0 + s + (rc + 1) := by omega
    rw [e3]

/-- **`node_indices_added_by_append`**: regenerated code = hand model, every input -/
theorem gen_added_eq (c : Nat) : Loops.node_indices_added_by_append c = node_indices_added_by_append c := by
  have hlt : leaf_index_to_node_index c < 2 ^ 64 := by
    unfold leaf_index_to_node_index; rw [← W64_eq]; exact Nat.mod_lt _ (by decide)
  simp only [Loops.node_indices_added_by_append, node_indices_added_by_append, gen_rll_node_eq _ hlt]
  cases hr : right_lineage_length_from_node_index (leaf_index_to_node_index c) with
  | none => rfl
  | some rc =>
    have hrc : rc < 64 := rll_node_aux_lt _ _ rc hlt hr
    have e0 : leaf_index_to_node_index c = (leaf_index_to_node_index c + 0) % 18446744073709551616 := by
      rw [Nat.add_zero, Nat.mod_eq_of_lt (by rw [W64_eq]; exact hlt)]
    have hl := added_loop_eq (leaf_index_to_node_index c) rc 65 [leaf_index_to_node_index c] 0 (by omega) (by omega)
    rw [← e0] at hl
    simp only [hl, Option.bind_some, Option.map_some, List.range_eq_range', List.range'_succ, List.map_cons, add64, W64,
      List.singleton_append, Nat.zero_add, ← e0]

local notation "L1" => Loops.get_peak_heights_and_peak_node_indices_loop
local notation "L2" => Loops.get_peak_heights_and_peak_node_indices_loop2

theorem peaks_L2_exit (nc f : Nat) (hs ns : List Nat) (h c : Nat) (hx : ¬(nc < c ∧ 0 < h)) :
    L2 nc (f + 1) hs ns h c = some (hs, ns, h, c) := by
  simp only [Loops.get_peak_heights_and_peak_node_indices_loop2, gt_iff_lt, Bool.and_eq_true, decide_eq_true_eq, hx,
    if_false]

theorem peaks_L1_exit (nc f : Nat) (hs ns : List Nat) (c : Nat) :
    L1 nc (f + 1) hs ns 0 c = some (hs, ns, 0, c) := by
  simp only [Loops.get_peak_heights_and_peak_node_indices_loop, gt_iff_lt, Nat.lt_irrefl, decide_false,
    Bool.false_eq_true, if_false]

/-- the Rust loop spins forever when `candidate ≤ node_count` with `height > 0`: the generated code runs out of fuel -/
theorem peaks_spin (nc : Nat) : ∀ fo hs ns h c, 0 < h → c ≤ nc → L1 nc fo hs ns h c = none := by
  intro fo
  induction fo with
  | zero => intros; rfl
  | succ f ih =>
    intro hs ns h c hh hc
    have e2 : L2 nc 65 hs ns h c = some (hs, ns, h, c) := peaks_L2_exit nc 64 hs ns h c (by omega)
    simp only [Loops.get_peak_heights_and_peak_node_indices_loop, gt_iff_lt, hh, decide_true, if_true, e2,
      Option.bind_some]
    exact ih hs ns h c hh hc

/-- the two nested generated loops against the hand model's single recursion on the height.
    `A`: the outer loop started at height `h` with more than `h` rounds; `B`: the inner loop started at height `h` above
    the node count with more than `h` rounds, followed by the outer loop with at least `h` (and at least one) rounds. -/
theorem peaks_loops_eq (nc : Nat) : ∀ h, h < 65 →
    (∀ fo hs ns c, h < fo →
      (L1 nc fo hs ns h c).map (fun t => (t.1, t.2.1)) = peaksLoop nc h c hs ns) ∧
    (∀ fi fo hs ns c, nc < c → h < fi → h ≤ fo → 0 < fo →
      ((L2 nc fi hs ns h c).bind fun t => L1 nc fo t.1 t.2.1 t.2.2.1 t.2.2.2).map (fun t => (t.1, t.2.1))
        = peaksLoop nc h c hs ns) := by
  intro h
  induction h with
  | zero =>
    intro _
    refine ⟨?_, ?_⟩
    · intro fo hs ns c hf
      obtain ⟨f, rfl⟩ : ∃ f, fo = f + 1 := ⟨fo - 1, by omega⟩
      simp only [peaks_L1_exit, peaksLoop, Option.map_some]
    · intro fi fo hs ns c _ hfi _ hfo
      obtain ⟨f, rfl⟩ : ∃ f, fi = f + 1 := ⟨fi - 1, by omega⟩
      obtain ⟨g, rfl⟩ : ∃ g, fo = g + 1 := ⟨fo - 1, by omega⟩
      rw [peaks_L2_exit nc f hs ns 0 c (by omega)]
      simp only [Option.bind_some, peaks_L1_exit, peaksLoop, Option.map_some]
  | succ h ih =>
    intro h65
    obtain ⟨ihA, ihB⟩ := ih (by omega)
    have e : (h + 1 + 4294967296 - 1) % 4294967296 = h := by omega
    have hB : ∀ fi fo hs ns c, nc < c → h + 1 < fi → h + 1 ≤ fo → 0 < fo →
        ((L2 nc fi hs ns (h + 1) c).bind fun t => L1 nc fo t.1 t.2.1 t.2.2.1 t.2.2.2).map (fun t => (t.1, t.2.1))
          = peaksLoop nc (h + 1) c hs ns := by
      intro fi fo hs ns c hc hfi hfo hfo0
      obtain ⟨f, rfl⟩ : ∃ f, fi = f + 1 := ⟨fi - 1, by omega⟩
      have hcond : (nc < c ∧ 0 < h + 1) := ⟨hc, by omega⟩
      simp only [Loops.get_peak_heights_and_peak_node_indices_loop2, peaksLoop, gt_iff_lt, Bool.and_eq_true,
        decide_eq_true_eq, hcond, and_self, if_true, e]
      by_cases hle : left_child c (h + 1) ≤ nc
      · simp only [hle, if_true, Option.bind_some]
        exact ihA fo _ _ _ (by omega)
      · simp only [hle, if_false]
        exact ihB f fo hs ns _ (by omega) (by omega) (by omega) hfo0
    refine ⟨?_, hB⟩
    intro fo hs ns c hf
    obtain ⟨f, rfl⟩ : ∃ f, fo = f + 1 := ⟨fo - 1, by omega⟩
    by_cases hc : nc < c
    · have := hB 65 f hs ns c hc (by omega) (by omega) (by omega)
      simp only [Loops.get_peak_heights_and_peak_node_indices_loop, gt_iff_lt, Nat.zero_lt_succ, decide_true, if_true]
      exact this
    · rw [peaks_spin nc (f + 1) hs ns (h + 1) c (by omega) (by omega)]
      simp only [peaksLoop, gt_iff_lt, hc, if_false, Option.map_none]

/-- **`get_peak_heights_and_peak_node_indices`**: regenerated code = hand model for every leaf count below `2^63`
    (the documented domain; both are `none` where the Rust loops spin forever) -/
theorem gen_peaks_eq (n : Nat) (h : n < 2 ^ 63) :
    Loops.get_peak_heights_and_peak_node_indices n = get_peak_heights_and_peak_node_indices n := by
  simp only [Loops.get_peak_heights_and_peak_node_indices, get_peak_heights_and_peak_node_indices, beq_iff_eq]
  by_cases h0 : n = 0
  · simp only [h0, if_true]
  simp only [h0, if_false, dec32, W32, gt_iff_lt, decide_eq_true_eq]
  have e1 : (n + 18446744073709551616 - 1) % 18446744073709551616 = n - 1 := by omega
  rw [e1]
  have hl := (TF.Mmr.l2n_spec (n - 1) (by omega)).1
  have hpc := TF.Mmr.popCount_le (n - 1)
  have hni1 : 1 ≤ leaf_index_to_node_index (n - 1) := by omega
  have hni2 : leaf_index_to_node_index (n - 1) < 2 ^ 64 := by omega
  have hla := (TF.Mmr.leftmost_ancestor_spec _ hni1 hni2).1
  have hk := TF.Mmr.log2_lt_64 _ hni1 hni2
  have hnc := (TF.Mmr.num_nodes_spec n h).1
  have hpcn := TF.Mmr.popCount_le n
  generalize leftmost_ancestor (leaf_index_to_node_index (n - 1)) = la at hla ⊢
  generalize Nat.log2 (leaf_index_to_node_index (n - 1)) = k at hla hk
  generalize num_leafs_to_num_nodes n = nc at hnc ⊢
  subst hla
  -- the height the loops start with is below 64
  have hth : (if nc < 2 ^ (k + 1) - 1 then (left_child (2 ^ (k + 1) - 1) k, (k + 4294967296 - 1) % 4294967296)
      else (2 ^ (k + 1) - 1, k)).2 < 65 := by
    by_cases hc : nc < 2 ^ (k + 1) - 1
    · simp only [hc, if_true]
      have : k ≠ 0 := by
        intro hk0; subst hk0
        have : (2:Nat) ^ (0 + 1) - 1 = 1 := by decide
        omega
      omega
    · simp only [hc, if_false]; omega
  generalize (if nc < 2 ^ (k + 1) - 1 then (left_child (2 ^ (k + 1) - 1) k, (k + 4294967296 - 1) % 4294967296)
      else (2 ^ (k + 1) - 1, k)) = top at hth ⊢
  have := (peaks_loops_eq nc top.2 hth).1 65 [top.2] [top.1] (right_sibling top.1 top.2) hth
  rw [← this]
  cases L1 nc 65 [top.2] [top.1] top.2 (right_sibling top.1 top.2) with
  | none => rfl
  | some t => simp only [Option.bind_some, Option.map_some]

end TF.GenBridge
