import TF.Proofs.GenBridgeTip5Ok
/-!
The regenerated Tip5 permutation and its `_ok` twin with the four S-box lanes computed by the Fermat-cube formula
(`lookup_eq`), so that kernel evaluation in the `example`s of C02 / C15 does not walk the 256-entry `LOOKUP_TABLE`
160 times per permutation.  Equal to the regenerated functions on all inputs (by unfolding, no evaluation); an example
rewrites with the equations and then evaluates as before.
-/
namespace TF.Tip5Eval
open TF TF.Gen TF.Model.Tip5 TF.Tip5P TF.GenBridge.Tip5 TF.GenBridge.Tip5Ok
open TF.Spec.Tip5 (fermatCube)

/-- `split_and_lookup` with the byte map computed by its formula -/
def slF (w : Nat) : Nat := TF.Spec.Tip5.mapBytes fermatCube 8 w

def sboxF (l : List Nat) : List Nat := Loops.tip5_sbox_layer_for2 12 4 (updRange (fun _ x => slF x) 4 0 l)

/-- the flag of `split_and_lookup` is true on every word (`split_and_lookup_ok`); what is left of the first loop's flag
    is that its four lanes exist -/
def sboxOkF (l : List Nat) : Bool :=
  decide (4 ≤ l.length) && Loops.tip5_sbox_layer_for2_ok 12 4 (updRange (fun _ x => slF x) 4 0 l)

def roundF (l : List Nat) (r : Nat) : List Nat := Loops.tip5_round_for r 16 0 (Loops.tip5_mds_generated (sboxF l))

def roundOkF (l : List Nat) (r : Nat) : Bool :=
  sboxOkF l && (Loops.tip5_mds_generated_ok (sboxF l) &&
    Loops.tip5_round_for_ok r 16 0 (Loops.tip5_mds_generated (sboxF l)))

def permF (l : List Nat) : List Nat := roundF (roundF (roundF (roundF (roundF l 0) 1) 2) 3) 4

def permOkF (l : List Nat) : Bool :=
  roundOkF l 0 && (roundOkF (roundF l 0) 1 && (roundOkF (roundF (roundF l 0) 1) 2 &&
    (roundOkF (roundF (roundF (roundF l 0) 1) 2) 3 && roundOkF (roundF (roundF (roundF (roundF l 0) 1) 2) 3) 4)))

theorem sl_eq (w : Nat) : Loops.tip5_split_and_lookup w = slF w :=
  (gen_split_and_lookup_eq w).trans (mapBytes_eq 8 w).symm

theorem sbox_eq (l : List Nat) : Loops.tip5_sbox_layer l = sboxF l := by
  unfold Loops.tip5_sbox_layer sboxF
  simp only [sbox_for_eq, sl_eq, Nat.sub_zero, Nat.reduceSub]

theorem sbox_ok_eq (l : List Nat) : Loops.tip5_sbox_layer_ok l = sboxOkF l := by
  unfold Loops.tip5_sbox_layer_ok sboxOkF
  simp only [sbox_for_ok_eq 3, sbox_for_eq, sl_eq, Nat.sub_zero, Nat.reduceSub, Nat.zero_add, Nat.reduceAdd]

theorem round_eq (l : List Nat) (r : Nat) : Loops.tip5_round l r = roundF l r := by
  unfold Loops.tip5_round roundF
  simp only [sbox_eq, Nat.sub_zero]

theorem round_ok_eq (l : List Nat) (r : Nat) : Loops.tip5_round_ok l r = roundOkF l r := by
  unfold Loops.tip5_round_ok roundOkF
  simp only [sbox_eq, sbox_ok_eq, Nat.sub_zero]

theorem perm_eq (l : List Nat) : Loops.tip5_permutation l = permF l := by
  unfold permF
  simp only [Loops.tip5_permutation, Loops.tip5_permutation_for, Nat.sub_zero, Nat.zero_add, Nat.reduceAdd, round_eq]

theorem perm_ok_eq (l : List Nat) : Loops.tip5_permutation_ok l = permOkF l := by
  unfold permOkF
  simp only [Loops.tip5_permutation_ok, Loops.tip5_permutation_for_ok, Nat.sub_zero, Nat.zero_add, Nat.reduceAdd,
    round_eq, round_ok_eq, Bool.and_true]

/-- the hand model reads the table through `lookup` -/
theorem lookup_fun : lookup = fun b => fermatCube b.val := funext lookup_eq

end TF.Tip5Eval
