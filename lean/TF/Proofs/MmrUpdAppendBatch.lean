import TF.Proofs.MmrUpdAppend
/-!
Helper lemmas for C05: `MmrMembershipProof::batch_update_from_append` on from-scratch paths (any list of leaf indices)
returns the from-scratch paths of the longer range and reports exactly the changed slots.
-/
namespace TF.MmrE.UpdAppend
open TF TF.Gen TF.Model.Mmr TF.Model.MmrE TF.Spec.MmrE

section
variable {D : Type} [DecidableEq D] (H : D → D → D) (g : Nat → D)

theorem batchAppendLoop_spec (n : Nat) (hn : n + 1 < 2 ^ 63) :
    ∀ (lis : List Nat) (s : Nat), (∀ i ∈ lis, i < n) →
    batchAppendLoop ((List.range (trailingOnes n + 1)).map fun k => nodeIdx k (n / 2 ^ k))
        (nodeIdx (trailingOnes n) (n / 2 ^ trailingOnes n)) (nodeIdx (trailingOnes n) (n / 2 ^ trailingOnes n))
        (knownFromAppend H [] (some (trailingOnes n - 1))
          ((List.range (trailingOnes n + 1)).map fun k => nodeIdx k (n / 2 ^ k))
          (peaks H n g).reverse 0 (g n) (knownPeaks H g n))
        (lis.map (authPathOf H g n)) lis s
      = some (lis.map (authPathOf H g (n + 1)),
          chgFrom (fun i => decide (authPathOf H g (n + 1) i ≠ authPathOf H g n i)) lis s) := by
  intro lis
  induction lis with
  | nil => intro s _; simp [batchAppendLoop, chgFrom]
  | cons i lis ih =>
    intro s hall
    have hlt : i < n := hall i (by simp)
    have hn' : n < 2 ^ 63 := by omega
    obtain ⟨hc1, hc2⟩ := authPathOf_succ_cases H g n i hlt
    have ihh := ih (s + 1) (fun j hj => hall j (by simp [hj]))
    rw [List.map_cons, batchAppendLoop, getPeakIndexAndHeight_spec H g n i hlt hn']
    simp only [Option.bind_eq_bind, Option.bind_some, Option.pure_def, parent_added n i hlt hn']
    by_cases hht : (locate n i).1 < trailingOnes n
    · obtain ⟨hnew, hne⟩ := hc1 hht
      simp only [decide_eq_true hht, Bool.not_true, Bool.false_eq_true, if_false]
      rw [auth_missing_spec n i hlt hn hht]
      simp only [Option.bind_some]
      rw [known_lookup H g n i hlt hn hht]
      · simp only [Option.bind_some, ihh]
        rw [List.map_cons, chgFrom, ← hnew]
        simp [hne]
      · apply knownFromAppend_reaches H [] _ _ (locate n i).1
        · rw [List.getElem?_map, List.getElem?_range (by omega)]; rfl
        · have := trailingOnes_le_peaks_length H g n; omega
        · intro k hk; simp; omega
        · intro k y _ _; simp
    · have hsame := hc2 hht
      simp only [decide_eq_false hht, Bool.not_false, if_true, ihh, Option.bind_some]
      rw [List.map_cons, chgFrom, hsame]
      simp

theorem batchUpdateFromAppend_spec (n : Nat) (lis : List Nat) (hall : ∀ i ∈ lis, i < n) (hn : n + 1 < 2 ^ 63) :
    batchUpdateFromAppend H (lis.map (authPathOf H g n)) lis n (g n) (peaks H n g)
      = some (lis.map (authPathOf H g (n + 1)),
          (List.range lis.length).filter fun k =>
            decide (authPathOf H g (n + 1) (lis.getD k 0) ≠ authPathOf H g n (lis.getD k 0))) := by
  have hn' : n < 2 ^ 63 := by omega
  have hallb : (lis.all fun x => decide (x < n)) = true := by
    rw [List.all_eq_true]; intro x hx; simpa using hall x hx
  rw [← chgFrom_zero (fun i => decide (authPathOf H g (n + 1) i ≠ authPathOf H g n i))]
  unfold batchUpdateFromAppend
  rw [added_nodeIdx n hn']
  simp only [List.length_map, ne_eq, not_true_eq_false, if_false, hallb, Bool.not_true, Bool.false_eq_true,
    Option.bind_eq_bind, Option.bind_some, Option.pure_def, List.length_range]
  by_cases ht : trailingOnes n = 0
  · rw [if_pos (by omega)]
    have hsame : ∀ i ∈ lis, authPathOf H g (n + 1) i = authPathOf H g n i := fun i hi =>
      (authPathOf_succ_cases H g n i (hall i hi)).2 (by omega)
    rw [chgFrom_nil _ lis 0 (fun i hi => by simp [hsame i hi])]
    congr 2
    apply List.map_congr_left
    intro i hi
    exact (hsame i hi).symm
  · rw [if_neg (by omega)]
    have e : trailingOnes n + 1 - 2 = trailingOnes n - 1 := by omega
    rw [peak_indices_nodeIdx n hn']
    simp only [Option.bind_some]
    rw [knownPeaks_eq_foldl H g n hn', added_getLast? n, e]
    simp only [Option.bind_some]
    rw [new_node_count_eq n hn]
    exact batchAppendLoop_spec H g n hn lis 0 hall

end

end TF.MmrE.UpdAppend
