/-!
`if ok then some v else none`, the shape "value if the run did not panic", read backwards.  Core Lean only.
-/
namespace TF

theorem ite_some_none_cases {α : Type} {ok : Bool} {v : α} {m : Option α} (h : (if ok then some v else none) = m) :
    (ok = true ∧ m = some v) ∨ (ok = false ∧ m = none) := by
  cases ok
  · exact Or.inr ⟨rfl, h.symm⟩
  · exact Or.inl ⟨rfl, h.symm⟩

theorem ite_some_none_eq_some {α : Type} {ok : Bool} {v w : α} (h : (if ok then some v else none) = some w) :
    ok = true ∧ v = w := by
  rcases ite_some_none_cases h with ⟨k, e⟩ | ⟨_, e⟩
  · exact ⟨k, (Option.some.inj e).symm⟩
  · cases e

theorem ite_some_none_eq_none {α : Type} {ok : Bool} {v : α} (h : (if ok then some v else none) = none) :
    ok = false := by
  rcases ite_some_none_cases h with ⟨_, e⟩ | ⟨k, _⟩
  · cases e
  · exact k

end TF
