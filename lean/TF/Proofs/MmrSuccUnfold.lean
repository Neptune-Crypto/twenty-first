import TF.Model.MmrSucc
/-!
Unfolding lemmas for the model of `MmrSuccessorProof::new_from_batch_append` (`TF/Model/MmrSucc.lean`).

Core Lean only, on purpose: the lemmas are proved by `rfl`, which must see exactly the instances the model was
elaborated with (under Mathlib a different `Decidable` instance can be chosen for `a ≠ b`, and a failed syntactic match
makes the unifier evaluate the translated `% 2^64` arithmetic on open terms).
-/
namespace TF.MmrE
open TF.Gen TF.Model.MmrE TF.Model.Mmr

variable {D : Type} (H : D → D → D) (dflt : D)

theorem neededLoop_succ (newIdx : List Nat) (fuel idx h : Nat) (acc : List Nat) :
    neededLoop newIdx (fuel + 1) idx h acc =
      if newIdx.contains idx then some acc else
      (parent idx).bind fun pi => (parent (right_sibling idx h)).bind fun prs =>
        neededLoop newIdx fuel pi (inc32 h) (acc ++ [if prs ≠ pi then left_sibling idx h else right_sibling idx h]) :=
  rfl

theorem replayAppends_nil (cur_peaks : List D) (cur_idx : List Nat) (cnt : Nat) (paths : List (List D))
    (needed : List (List (Option (Nat × Nat)))) :
    replayAppends H [] cur_peaks cur_idx cnt paths needed = some paths := by
  rw [replayAppends]

theorem replayAppends_cons (leaf : D) (rest cur_peaks : List D) (cur_idx : List Nat) (cnt : Nat) (paths : List (List D))
    (needed : List (List (Option (Nat × Nat)))) :
    replayAppends H (leaf :: rest) cur_peaks cur_idx cnt paths needed =
      (node_indices_added_by_append cnt).bind fun new_node_indices =>
      (calculateNewPeaksFromAppend H cnt cur_peaks leaf).bind fun r =>
      (get_peak_heights_and_peak_node_indices (add64 cnt 1)).bind fun q =>
      (fillMany ((new_node_indices.zip (scanNodes H leaf r.2)) ++ (cur_idx.zip cur_peaks)) paths needed).bind fun s =>
      replayAppends H rest r.1 q.2 (add64 cnt 1) s.1 s.2 := by
  rw [replayAppends]
  rfl

theorem newFromBatchAppend_def (mmra : Acc D) (new_leafs : List D) :
    newFromBatchAppend H dflt mmra new_leafs =
      (get_peak_heights_and_peak_node_indices mmra.count).bind fun o =>
      (get_peak_heights_and_peak_node_indices (add64 mmra.count new_leafs.length)).bind fun nw =>
      ((o.2.zip o.1).mapM (fun (ih : Nat × Nat) => neededLoop nw.2 (2 * descentFuel) ih.1 ih.2 [])).bind fun neededIdx =>
      (replayAppends H new_leafs mmra.peaks o.2 mmra.count (neededIdx.map (fun l => l.map (fun _ => dflt)))
        (neededIdx.map (fun l => (enumFrom0 l 0).map some))).bind fun filled => some filled.flatten := by
  unfold newFromBatchAppend
  rfl

theorem fillMany_nil (ps : List (List D)) (ns : List (List (Option (Nat × Nat)))) : fillMany [] ps ns = some (ps, ns) := by
  rw [fillMany]

theorem fillMany_cons (i : Nat) (d : D) (rest : List (Nat × D)) (ps : List (List D))
    (ns : List (List (Option (Nat × Nat)))) :
    fillMany ((i, d) :: rest) ps ns = (fillAll i d ps ns).bind fun r => fillMany rest r.1 r.2 := by
  rw [fillMany]
  cases fillAll i d ps ns <;> rfl

theorem fillAll_cons (i : Nat) (d : D) (p : List D) (ps : List (List D)) (n : List (Option (Nat × Nat)))
    (ns : List (List (Option (Nat × Nat)))) :
    fillAll i d (p :: ps) (n :: ns) =
      (fillOne i d p n).bind fun a => (fillAll i d ps ns).bind fun b => some (a.1 :: b.1, a.2 :: b.2) := by
  rw [fillAll]
  cases fillOne i d p n <;> cases fillAll i d ps ns <;> rfl

theorem fillAll_nil (i : Nat) (d : D) : fillAll i d ([] : List (List D)) [] = some ([], []) := by
  rw [fillAll]
  · intros; simp_all

end TF.MmrE
