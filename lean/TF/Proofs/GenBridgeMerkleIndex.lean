import TF.Gen.MerkleIndex
import TF.Model.Merkle
/-!
Bridge between the Merkle index arithmetic **regenerated from source** (`TF/Gen/MerkleIndex.lean`, written by
`tools/rs2lean_conv.py` from `merkle_tree.rs`: `MerkleTree::{num_leafs, height, node, leaf}` and
`PartialMerkleTree::num_leafs`) and the hand model `TF/Model/Merkle.lean`.  Core Lean only.

A `MerkleTree` is its node vector, a digest is opaque (its five words, never inspected): the model's `Tree D` at
`D = List Nat`.  `PartialMerkleTree` is seen through its `tree_height` only.  `resExcept` prints a model outcome as the
`Result<usize, MerkleTreeError>` of the source (error = variant name); a panic is the `_ok` twin being `false`.
-/
namespace TF.GenBridge.MerkleIndex
open TF.Gen TF.Gen.Loops TF.Merkle

/-- the variant of `MerkleTreeError` behind each error of the model -/
def errName : Err → String
  | .leafIndexInvalid => "LeafIndexInvalid"
  | .authenticationStructureLengthMismatch => "AuthenticationStructureLengthMismatch"
  | .repeatedLeafDigestMismatch => "RepeatedLeafDigestMismatch"
  | .spuriousNodeIndex => "SpuriousNodeIndex"
  | .missingNodeIndex => "MissingNodeIndex"
  | .rootNotFound => "RootNotFound"
  | .tooFewLeafs => "TooFewLeafs"
  | .incorrectNumberOfLeafs => "IncorrectNumberOfLeafs"
  | .treeTooHigh => "TreeTooHigh"

def resExcept {α : Type} : Res α → Except String α
  | .ok a => .ok a
  | .err e => .error (errName e)
  | .panic => .error "panic"

/-- decidable equality of `Result`s (for the non-vacuity examples; scoped) -/
def decEqExcept {α : Type} [DecidableEq α] : DecidableEq (Except String α)
  | .ok a, .ok b => if h : a = b then isTrue (by rw [h]) else isFalse (fun e => h (Except.ok.inj e))
  | .error a, .error b => if h : a = b then isTrue (by rw [h]) else isFalse (fun e => h (Except.error.inj e))
  | .ok _, .error _ => isFalse (fun e => by cases e)
  | .error _, .ok _ => isFalse (fun e => by cases e)
scoped instance {α : Type} [DecidableEq α] : DecidableEq (Except String α) := decEqExcept

theorem W_eq : (18446744073709551616 : Nat) = USIZE := by decide

/-- `MerkleTree::num_leafs`, `node` = model; they cannot panic -/
theorem gen_num_leafs_node (ns : List (List Nat)) (i : Nat) :
    mt_num_leafs ns = (Tree.mk ns).numLeafs ∧ mt_num_leafs_ok ns = true ∧
    mt_node ns i = (Tree.mk ns).node i ∧ mt_node_ok ns i = true := ⟨rfl, rfl, rfl, rfl⟩

/-- `MerkleTree::height` = model: `ilog2` of the number of leafs; it panics exactly on a tree without leafs -/
theorem gen_height (ns : List (List Nat)) :
    (Tree.mk ns).height = (if mt_height_ok ns then .ok (mt_height ns) else .panic) ∧
    (mt_height_ok ns = true ↔ 2 ≤ ns.length) := by
  unfold Tree.height mt_height_ok mt_height mt_num_leafs_ok mt_num_leafs Tree.numLeafs
  constructor
  · by_cases h : ns.length / 2 = 0
    · simp [h]
    · simp [h]
  · simp only [Bool.and_eq_true, bne_iff_ne, ne_eq]
    omega

/-- `MerkleTree::leaf` (with its `checked_add`) = model, for every tree and every index in `usize` or beyond -/
theorem gen_leaf (ns : List (List Nat)) (i : Nat) :
    mt_leaf ns i = (Tree.mk ns).leaf i ∧ mt_leaf_ok ns i = true := by
  refine ⟨?_, rfl⟩
  unfold mt_leaf Tree.leaf TF.RustStd.checked_add
  rw [W_eq]
  by_cases h : ns.length / 2 + i < USIZE
  · simp only [h, if_true, Option.bind_some]
  · simp only [h, if_false, Option.bind_none]

theorem pow_lt_W (h : Nat) (hh : h ≤ 31) : 2 ^ h < 18446744073709551616 :=
  Nat.lt_of_le_of_lt (Nat.pow_le_pow_right (by decide) hh) (by decide)

/-- `PartialMerkleTree::num_leafs` = model: `TreeTooHigh` exactly above `MAX_TREE_HEIGHT`, otherwise `2^height`; the shift
    cannot overflow -/
theorem gen_pmt_num_leafs (h : Nat) :
    pmt_num_leafs h = resExcept (numLeafs h) ∧ pmt_num_leafs_ok h = true := by
  unfold pmt_num_leafs pmt_num_leafs_ok numLeafs
  have hM : MAX_TREE_HEIGHT = 31 := rfl
  rw [hM]
  by_cases hh : h > 31
  · simp only [hh, decide_true, if_true]
    exact ⟨rfl, trivial⟩
  · have h64 : h < 64 := by omega
    have hm : h % 64 = h := Nat.mod_eq_of_lt h64
    have hp := pow_lt_W h (by omega)
    simp only [hh, decide_false, Bool.false_eq_true, if_false, shl1, h64, if_true, hm, Nat.one_mul,
      Nat.mod_eq_of_lt hp, resExcept, decide_true, and_self]

end TF.GenBridge.MerkleIndex
