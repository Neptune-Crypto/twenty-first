import TF.Proofs.GenBridgeTip5
/-!
`Loops.f_ok` is true iff no plain arithmetic operation of the regenerated `f` overflows, no index is out of range and
every `assert!` holds.  Proved here: `tip5_permutation_ok` on every state of 16 canonical words (so debug and release
builds agree on it), loop by loop.
-/
namespace TF.GenBridge.Tip5Ok
open TF TF.Gen TF.BF TF.Model.Tip5 TF.Tip5P TF.GenBridge.Tip5

/-- reading past the end yields the default `0`, which is below every positive bound -/
theorem getD_lt {l : List Nat} {B : Nat} (hB : 0 < B) (h : ∀ x ∈ l, x < B) (k : Nat) : l.getD k 0 < B := by
  rw [List.getD_eq_getElem?_getD]
  cases hk : l[k]? with
  | none => exact hB
  | some b => exact h b (List.mem_of_getElem? hk)

/-- the `_ok` twin `G` of a `for` loop over the lanes `i .. i+n` of a list: it holds if every step does on a lane that is
    in range and satisfies `p`.  A step writes its own lane only, so whatever it writes the later lanes still satisfy
    `p`: the rest of the loop is given for every written value `v` (no step has to name the value it writes). -/
theorem for_ok {G : Nat → Nat → List Nat → Bool} {p : Nat → Nat → Prop} (h0 : ∀ i l, G 0 i l = true)
    (hs : ∀ n i l, i < l.length → p i (l.getD i 0) → (∀ v, G n (i + 1) (l.set i v) = true) → G (n + 1) i l = true) :
    ∀ n i l, i + n ≤ l.length → (∀ j, i ≤ j → j < i + n → p j (l.getD j 0)) → G n i l = true
  | 0, i, l, _, _ => h0 i l
  | n+1, i, l, hl, hp =>
    hs n i l (by omega) (hp i (Nat.le_refl _) (by omega)) fun v =>
      for_ok h0 hs n (i + 1) _ (by rw [List.length_set]; omega) fun j h1 h2 => by
        rw [getD_set_ne _ _ _ _ (by omega)]; exact hp j (by omega) (by omega)

theorem sl_for_ok (n i : Nat) (bytes : List Nat) (hl : i + n ≤ bytes.length) (hb : ∀ j, i ≤ j → bytes.getD j 0 < 256) :
    Loops.tip5_split_and_lookup_for_ok n i bytes = true :=
  for_ok (p := fun _ b => b < 256) (fun _ _ => rfl)
    (fun n i l hi hp ih => by
      rw [Loops.tip5_split_and_lookup_for_ok, decide_eq_true hi, decide_eq_true hp, ih]; rfl)
    n i bytes hl fun j h _ => hb j h

theorem split_and_lookup_ok (w : Nat) : Loops.tip5_split_and_lookup_ok w = true := by
  unfold Loops.tip5_split_and_lookup_ok
  have h1 : Loops.tip5_split_and_lookup_for_ok (8 - 0) 0 (Loops.bfe_raw_bytes w) = true :=
    sl_for_ok 8 0 _ (by unfold Loops.bfe_raw_bytes; rw [toLeBytes_length])
      (fun j _ => getD_lt (by decide) (toLeBytes_lt 8 w) j)
  have h2 : Loops.bfe_from_raw_bytes_ok (Loops.tip5_split_and_lookup_for (8 - 0) 0 (Loops.bfe_raw_bytes w)) = true := by
    unfold Loops.bfe_from_raw_bytes_ok
    rw [sl_for_eq, updRange_length]
    unfold Loops.bfe_raw_bytes
    rw [toLeBytes_length]; rfl
  simp only [h1, h2, Loops.bfe_raw_bytes_ok, Bool.true_and]

/-- the flag of `split_and_lookup` is true on every word, so the flag of its loop says that the lanes `i .. i+n` exist -/
theorem sbox_for_ok_eq : ∀ n i l, Loops.tip5_sbox_layer_for_ok (n + 1) i l = decide (i + n + 1 ≤ l.length)
  | 0, i, l => by
    simp only [Loops.tip5_sbox_layer_for_ok, split_and_lookup_ok, Bool.and_true, Bool.and_self]
    rfl
  | n+1, i, l => by
    rw [Loops.tip5_sbox_layer_for_ok]
    simp only [split_and_lookup_ok, Bool.and_true, sbox_for_ok_eq n, List.length_set]
    rw [Bool.eq_iff_iff]
    simp only [Bool.and_eq_true, decide_eq_true_eq]
    omega

theorem sbox_for2_ok (n i : Nat) (l : List Nat) (hl : i + n ≤ l.length) (hc : ∀ j, i ≤ j → l.getD j 0 < Pn) :
    Loops.tip5_sbox_layer_for2_ok n i l = true :=
  for_ok (p := fun _ x => x < Pn) (fun _ _ => rfl)
    (fun n i l hi hp ih => by
      obtain ⟨m1, m2, m3, m4⟩ := pow7_ok (l.getD i 0) hp
      rw [Loops.tip5_sbox_layer_for2_ok]
      simp only [decide_eq_true hi, m1, m2, m3, m4, ih, Bool.true_and])
    n i l hl fun j h _ => hc j h

theorem sbox_layer_ok (s : State) (hs : CanonV s) : Loops.tip5_sbox_layer_ok s.toList = true := by
  unfold Loops.tip5_sbox_layer_ok
  have hlen : s.toList.length = 16 := by simp
  have h1 : Loops.tip5_sbox_layer_for_ok 4 0 s.toList = true := by
    rw [sbox_for_ok_eq 3 0, hlen]
    rfl
  have h2 := sbox_for2_ok 12 4 (Loops.tip5_sbox_layer_for 4 0 s.toList)
    (by rw [sbox_for_eq, updRange_length, hlen])
    (fun j hj => by
      rw [sbox_for_eq, updRange_getD, if_neg (by omega)]
      exact getD_lt (by decide) ((forall_mem_toList (p := fun x => x < Pn) s).mpr hs) j)
  exact band h1 h2

theorem mds_for_ok (self : List Nat) : ∀ (n i : Nat) (lo hi : List Nat), i + n ≤ self.length → i + n ≤ lo.length →
    i + n ≤ hi.length → Loops.tip5_mds_generated_for_ok self n i lo hi = true := by
  intro n
  induction n with
  | zero => intros; rfl
  | succ n ih =>
    intro i lo hi h1 h2 h3
    rw [Loops.tip5_mds_generated_for_ok]
    have c1 : decide (i < self.length) = true := decide_eq_true (by omega)
    have c2 : decide (i < hi.length) = true := decide_eq_true (by omega)
    have c3 : decide (i < lo.length) = true := decide_eq_true (by omega)
    have := ih (i + 1) (lo.set i (Loops.bfe_raw_u64 (self.getD i 0) &&& 4294967295))
      (hi.set i (Loops.bfe_raw_u64 (self.getD i 0) / 4294967296)) (by omega) (by rw [List.length_set]; omega)
      (by rw [List.length_set]; omega)
    simp only [c1, c2, c3, this, Loops.bfe_raw_u64_ok, Bool.true_and]

theorem mds_for2_ok (lo hi : List Nat) (hlo : ∀ k, lo.getD k 0 < W) (hhi : ∀ k, hi.getD k 0 < W) (n r : Nat)
    (l : List Nat) (h1 : r + n ≤ lo.length) (h2 : r + n ≤ hi.length) (h3 : r + n ≤ l.length) :
    Loops.tip5_mds_generated_for2_ok lo hi n r l = true :=
  for_ok (p := fun k _ => k < lo.length ∧ k < hi.length) (fun _ _ => rfl)
    (fun n r l hr hp ih => by
      -- the checks of the loop body are, term for term, those of `mds_recombine_ok`
      have hok := (recombine_word _ _ (hlo r) (hhi r)).2.1
      unfold mds_recombine_ok at hok
      simp only [Bool.and_eq_true] at hok
      rw [Loops.tip5_mds_generated_for2_ok]
      simp only [decide_eq_true hr, decide_eq_true hp.1, decide_eq_true hp.2, hok.1, hok.2.1, hok.2.2, ih,
        Loops.bfe_from_raw_u64_ok, Bool.and_true])
    n r l h3 fun j _ _ => ⟨by omega, by omega⟩

theorem map_toNat_lt (l : List UInt64) (k : Nat) : (l.map UInt64.toNat).getD k 0 < W :=
  getD_lt (by decide) (fun x hx => by obtain ⟨u, _, rfl⟩ := List.mem_map.1 hx; exact UInt64.toNat_lt u) k

theorem mds_generated_ok (s : State) : Loops.tip5_mds_generated_ok s.toList = true := by
  have hlen : s.toList.length = 16 := by simp
  unfold Loops.tip5_mds_generated_ok
  simp only [Nat.sub_zero, mds_for_eq, genfn_nat_lo, genfn_nat_hi]
  have h1 := mds_for_ok s.toList 16 0 (List.replicate 16 0) (List.replicate 16 0) (by rw [hlen]) (by simp) (by simp)
  have h2 : Loops.generated_function_nat_ok (updRange (fun k _ => s.toList.getD k 0 &&& 4294967295) 16 0 (List.replicate 16 0)) = true := by
    unfold Loops.generated_function_nat_ok
    rw [updRange_length]
    rfl
  have h3 : Loops.generated_function_nat_ok (updRange (fun k _ => s.toList.getD k 0 / 4294967296) 16 0 (List.replicate 16 0)) = true := by
    unfold Loops.generated_function_nat_ok
    rw [updRange_length]
    rfl
  have h4 := mds_for2_ok ((genFn (s.map limbLo)).toList.map UInt64.toNat) ((genFn (s.map limbHi)).toList.map UInt64.toNat)
    (map_toNat_lt _) (map_toNat_lt _) 16 0 s.toList (by simp) (by simp) (by rw [hlen])
  rw [h1, h2, h3, h4]; rfl

theorem round_for_ok (ri : Nat) (hri : ri < 5) (n i : Nat) (l : List Nat) (h1 : i + n ≤ l.length) (h2 : i + n ≤ 16) :
    Loops.tip5_round_for_ok ri n i l = true :=
  for_ok (p := fun k _ => k < 16) (fun _ _ => rfl)
    (fun n i l hi (hp : i < 16) ih => by
      have e' : ri * 16 % 18446744073709551616 = ri * 16 := by omega
      have e'' : (ri * 16 + i) % 18446744073709551616 = ri * 16 + i := by omega
      have c2 : decide (ri * 16 < 18446744073709551616) = true := decide_eq_true (by omega)
      have c3 : decide (ri * 16 + i < 18446744073709551616) = true := decide_eq_true (by omega)
      have c4 : decide (ri * 16 + i < 80) = true := decide_eq_true (by omega)
      have hrc : bfe_new (ROUND_CONSTANTS.getD (ri * 16 + i) 0) ≤ 18446744065119617026 := by
        rw [getD_eq _ _ (by rw [round_constants_len]; omega)]
        exact (round_constants_all ⟨ri, hri⟩ ⟨i, hp⟩).1
      have c5 : bfe_add_ok (l.getD i 0) (bfe_new (ROUND_CONSTANTS.getD (ri * 16 + i) 0)) = true := by
        unfold bfe_add_ok
        exact decide_eq_true (by omega)
      rw [Loops.tip5_round_for_ok]
      simp only [e', e'', decide_eq_true hi, c2, c3, c4, c5, ih, Bool.true_and])
    n i l h1 fun j _ _ => by omega

theorem round_ok (s : State) (hs : CanonV s) (r : Nat) (hr : r < 5) : Loops.tip5_round_ok s.toList r = true := by
  unfold Loops.tip5_round_ok
  simp only [gen_sbox_layer_eq, gen_mds_generated_eq, Nat.sub_zero]
  rw [sbox_layer_ok s hs, mds_generated_ok, round_for_ok r hr 16 0 _ (by simp) (by omega)]
  rfl

theorem permutation_for_ok : ∀ (n i : Nat) (s : State), CanonV s → i + n ≤ 5 →
    Loops.tip5_permutation_for_ok n i s.toList = true := by
  intro n
  induction n with
  | zero => intros; rfl
  | succ n ih =>
    intro i s hs hin
    have hi : i < 5 := by omega
    rw [Loops.tip5_permutation_for_ok]
    simp only [gen_round_eq s i hi]
    rw [round_ok s hs i hi, ih (i + 1) (round ⟨i, hi⟩ s) (round_canon ⟨i, hi⟩ s hs) (by omega)]
    rfl

theorem permutation_ok (s : State) (hs : CanonV s) : Loops.tip5_permutation_ok s.toList = true :=
  permutation_for_ok 5 0 s hs (by omega)

end TF.GenBridge.Tip5Ok
