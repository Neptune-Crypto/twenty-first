import Batteries.Data.List.Basic
/-!
`List.mapM` into `Option`: it returns `some r` exactly when every element maps to the element of `r` at its place
(`List.Forall₂`), and what follows from that.  No Mathlib.
-/
namespace TF.MapM

theorem mapM_eq_some_iff_forall₂ {α β : Type} {f : α → Option β} :
    ∀ (l : List α) (r : List β), l.mapM f = some r ↔ List.Forall₂ (fun a b => f a = some b) l r
  | [], r => by
    rw [List.mapM_nil]
    exact ⟨fun h => Option.some.inj h ▸ .nil, fun h => by cases h; rfl⟩
  | a :: l, r => by
    rw [List.mapM_cons]
    cases hfa : f a with
    | none => exact ⟨fun h => (nomatch h), fun h => by cases h with | cons hab _ => exact nomatch hfa.symm.trans hab⟩
    | some b =>
      cases hl : l.mapM f with
      | none =>
        refine ⟨fun h => (nomatch h), fun h => ?_⟩
        cases h with
        | cons _ hu => exact nomatch hl.symm.trans ((mapM_eq_some_iff_forall₂ l _).mpr hu)
      | some r' =>
        constructor
        · intro h; cases h; exact .cons hfa ((mapM_eq_some_iff_forall₂ l r').mp hl)
        · intro h
          cases h with
          | cons hab hu =>
            cases hfa.symm.trans hab
            rw [Option.some.inj (hl.symm.trans ((mapM_eq_some_iff_forall₂ l _).mpr hu))]; rfl

theorem mapM_length {α β : Type} {f : α → Option β} {l : List α} {r : List β} (h : l.mapM f = some r) :
    r.length = l.length := by
  have hf := (mapM_eq_some_iff_forall₂ l r).mp h
  clear h
  induction hf with
  | nil => rfl
  | cons _ _ ih => exact congrArg (· + 1) ih

theorem mapM_map_some {α β γ : Type} (k : α → γ) (g : γ → Option β) (f : α → β) :
    ∀ (l : List α), (∀ a ∈ l, g (k a) = some (f a)) → (l.map k).mapM g = some (l.map f)
  | [], _ => rfl
  | a :: l, h => by
    rw [List.map_cons, List.mapM_cons, h a List.mem_cons_self,
      mapM_map_some k g f l fun c hc => h c (List.mem_cons_of_mem _ hc)]
    rfl

theorem mapM_map_left_inv {α β : Type} {f : α → Option β} {g : β → α} (r : List β) (h : ∀ b ∈ r, f (g b) = some b) :
    (r.map g).mapM f = some r :=
  (mapM_map_some g f id r h).trans (congrArg some (List.map_id r))

theorem mapM_inv_mem {α β : Type} {f : α → Option β} {g : β → α} {Q : β → Prop} {l : List α} {r : List β}
    (h : ∀ a ∈ l, ∀ b, f a = some b → g b = a ∧ Q b) (hr : l.mapM f = some r) : r.map g = l ∧ (∀ b ∈ r, Q b) := by
  induction (mapM_eq_some_iff_forall₂ l r).mp hr with
  | nil => exact ⟨rfl, fun _ hb => (nomatch hb)⟩
  | @cons a b l r hab hlr ih =>
    obtain ⟨h1, h2⟩ := h a List.mem_cons_self b hab
    obtain ⟨h3, h4⟩ := ih (fun x hx => h x (List.mem_cons_of_mem _ hx)) ((mapM_eq_some_iff_forall₂ l r).mpr hlr)
    exact ⟨by rw [List.map_cons, h1, h3], List.forall_mem_cons.mpr ⟨h2, h4⟩⟩

theorem mapM_none_of_mem {α β : Type} {f : α → Option β} :
    ∀ (l : List α) (a : α), a ∈ l → f a = none → l.mapM f = none
  | x :: l, a, ha, hf => by
    rw [List.mapM_cons]
    rcases List.mem_cons.mp ha with h | h
    · subst h; rw [hf]; rfl
    · rw [mapM_none_of_mem l a h hf]
      cases f x <;> rfl

theorem mapM_guard {α : Type} (p : α → Prop) [DecidablePred p] : ∀ l : List α,
    (l.mapM fun e => if p e then some e else none) = if ∀ e ∈ l, p e then some l else none
  | [] => by simp
  | x :: xs => by
    rw [List.mapM_cons, mapM_guard p xs]
    by_cases hx : p x
    · by_cases hxs : ∀ e ∈ xs, p e
      · rw [if_pos hx, if_pos hxs, if_pos (List.forall_mem_cons.mpr ⟨hx, hxs⟩)]; rfl
      · rw [if_pos hx, if_neg hxs, if_neg (fun h => hxs (List.forall_mem_cons.mp h).2)]; rfl
    · rw [if_neg hx, if_neg (fun h => hx (List.forall_mem_cons.mp h).1)]; rfl

end TF.MapM
