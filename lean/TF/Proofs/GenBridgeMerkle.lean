import TF.Gen.MerkleLoops
import TF.Proofs.MerkleBuild
import TF.Model.Word
/-!
Bridge for C10: `CpuParallel::from_digests` as regenerated from source against the hand-written model.

`TF/Gen/MerkleLoops.lean` is written by `tools/rs2lean_bt4.py` from the text of `merkle_tree.rs` on every run: digests are
opaque (`D`), `Tip5::hash_pair` is the parameter `H`, `Digest::default()` the parameter `digest_default`, the
lazily-initialised `PARALLELIZATION_CUTOFF` the parameter `cutoff`, the rayon `into_par_iter().map(..).collect_into_vec(..)`
a pure `List.map` over the level.  For every `H`, every cut-off and every digest list shorter than `2^63`: the rejection
arms, `usize::is_power_of_two`, one parallel level, the `while` loop in lock-step with `parLoop` (with `count_acc`), the
sequential loop and the whole function agree with the model, and no check of the `_ok` twin fails.
-/
namespace TF.GenBridge.Merkle
open TF TF.Gen TF.Merkle TF.Merkle.Res

theorem mod_usize {a len : Nat} (h64 : len < 2^64) (h : a ≤ len) : a % 18446744073709551616 = a :=
  Nat.mod_eq_of_lt (Nat.lt_of_le_of_lt h h64)

/-- the child indices of node `j`, as the regenerated code computes them -/
theorem child_idx {j len : Nat} (h64 : len < 2^64) (h : 2 * j + 1 < len) :
    j % 18446744073709551616 = j ∧ j * 2 % 18446744073709551616 = 2 * j ∧
      (2 * j + 1) % 18446744073709551616 = 2 * j + 1 :=
  ⟨mod_usize h64 (by omega), by rw [Nat.mul_comm]; exact mod_usize h64 (by omega), mod_usize h64 (by omega)⟩

/-- the checks of the slice assignment `v[a..a + a].clone_from_slice(..)` -/
theorem slice_checks {a len : Nat} (h64 : len < 2^64) (h : a + a ≤ len) :
    ((decide (a + a < 18446744073709551616)) && (decide (a ≤ ((a + a) % 18446744073709551616))) &&
      (decide (((a + a) % 18446744073709551616) ≤ len))) = true ∧
    (a == (((a + a) % 18446744073709551616) - a)) = true := by
  rw [mod_usize h64 h]
  simp only [Bool.and_eq_true, decide_eq_true_eq, beq_iff_eq]
  omega

variable {D : Type} (H : D → D → D) (d0 filler : D) (cutoff : Nat)

theorem gen_empty :
    Loops.merkle_from_digests H d0 filler cutoff [] = some (Except.error "TooFewLeafs") ∧
    Loops.merkle_from_digests_ok H d0 filler cutoff [] = true := ⟨rfl, rfl⟩

theorem isPow2_decide (n : Nat) : (decide (n != 0) && (n &&& (n - 1)) == 0) = TF.isPow2 n := by
  unfold TF.isPow2
  by_cases h : n = 0 <;> simp [h]

theorem gen_not_pow2 {ds : List D} (hne : ds ≠ []) (hp : TF.isPow2 ds.length = false) :
    Loops.merkle_from_digests H d0 filler cutoff ds = some (Except.error "IncorrectNumberOfLeafs") ∧
    Loops.merkle_from_digests_ok H d0 filler cutoff ds = true := by
  have he : ds.isEmpty = false := by cases ds with
    | nil => exact absurd rfl hne
    | cons _ _ => rfl
  unfold Loops.merkle_from_digests Loops.merkle_from_digests_ok
  simp only [he, Bool.false_eq_true, if_false, isPow2_decide, hp, Bool.not_false, if_true]
  constructor <;> first | rfl | trivial

theorem parLoop_exit (f cnt acc : Nat) (nodes : List D) (h : ¬ (cnt > 0 ∧ cnt ≥ cutoff)) :
    parLoop H cutoff (f + 1) cnt acc nodes = some (.ok (nodes, acc)) := by
  rw [parLoop, if_neg h]

theorem hashChildren_getD {nodes : List D} {j : Nat} (h : 2 * j + 1 < nodes.length) :
    hashChildren H nodes j = .ok (H (nodes.getD (2 * j) d0) (nodes.getD (2 * j + 1) d0)) := by
  obtain ⟨a, b, ha, hb, hh⟩ := hashChildren_ok H h
  rw [hh, List.getD_eq_getElem?_getD, List.getD_eq_getElem?_getD, ha, hb]
  rfl

/-- the sequential loop: regenerated `for i in (1..1+k).rev()` = the hand model's `seqLoop` over the reversed range, as
    long as every child index is inside the node vector and below `2^64` -/
theorem seq_eq : ∀ (k : Nat) (nodes : List D), 2 * (1 + k) ≤ nodes.length → nodes.length < 2^64 →
    Loops.merkle_from_digests_for2_ok H d0 filler cutoff 1 k nodes = true ∧
    seqLoop H nodes (List.range' 1 k).reverse = .ok (Loops.merkle_from_digests_for2 H d0 filler cutoff 1 k nodes) := by
  intro k
  induction k with
  | zero => intro nodes _ _; exact ⟨rfl, rfl⟩
  | succ k ih =>
    intro nodes hlen h64
    obtain ⟨_, e1, e2⟩ := child_idx h64 (show 2 * (1 + k) + 1 < nodes.length by omega)
    have hr : (List.range' 1 (k + 1)).reverse = (1 + k) :: (List.range' 1 k).reverse := by
      rw [List.range'_concat, List.reverse_append]; simp
    have hlt : 1 + k < nodes.length := by omega
    have := ih (nodes.set (1 + k) (H (nodes.getD (2 * (1 + k)) d0) (nodes.getD (2 * (1 + k) + 1) d0)))
      (by rw [List.length_set]; omega) (by rw [List.length_set]; exact h64)
    constructor
    · rw [Loops.merkle_from_digests_for2_ok]
      simp only [e1, e2]
      rw [this.1]
      simp only [Bool.and_true, Bool.and_eq_true, decide_eq_true_eq]
      omega
    · rw [hr, seqLoop, hashChildren_getD H d0 (by omega), Loops.merkle_from_digests_for2]
      simp only [e1, e2]
      rw [← this.2]
      exact if_pos hlt

theorem and_pred_two_pow (k : Nat) : 2^k &&& (2^k - 1) = 0 := by
  rw [Nat.and_two_pow_sub_one_eq_mod]; exact Nat.mod_self _

/-- Rust's `is_power_of_two` (as translated: `n != 0 && n & (n-1) == 0`) = the hand model's `2^log2 n == n` -/
theorem isPow2_trick_eq_model (n : Nat) : TF.isPow2 n = TF.Merkle.isPow2 n := by
  cases h : TF.Merkle.isPow2 n
  · cases h' : TF.isPow2 n
    · rfl
    · rw [(TF.Merkle.isPow2_iff).2 ((TF.isPow2_iff n).1 h')] at h; cases h
  · exact (TF.isPow2_iff n).2 (TF.Merkle.isPow2_iff.1 h)

/-- the body of the regenerated closure -/
def genLevelFn (nodes : List D) (cnt : Nat) (i : Nat) : D :=
  H (nodes.getD (((cnt + i) % 18446744073709551616 * 2) % 18446744073709551616) d0)
    (nodes.getD ((((cnt + i) % 18446744073709551616 * 2) % 18446744073709551616 + 1) % 18446744073709551616) d0)

def genLevel (nodes : List D) (cnt : Nat) : List D :=
  nodes.take cnt ++ (((List.range' 0 (cnt - 0)).map (genLevelFn H d0 nodes cnt)).take cnt)
    ++ nodes.drop ((cnt + cnt) % 18446744073709551616)

/-- the regenerated level without the reductions modulo `2^64` -/
theorem genLevel_eq {nodes : List D} {cnt : Nat} (h64 : nodes.length < 2^64)
    (h4 : 4 * cnt ≤ nodes.length) :
    genLevel H d0 nodes cnt = nodes.take cnt ++
      (List.range cnt).map (fun i => H (nodes.getD (2 * (cnt + i)) d0) (nodes.getD (2 * (cnt + i) + 1) d0)) ++
      nodes.drop (2 * cnt) := by
  unfold genLevel
  rw [Nat.sub_zero, ← List.range_eq_range', ← Nat.two_mul, mod_usize h64 (by omega),
    List.take_of_length_le (l := (List.range cnt).map _) (by rw [List.length_map, List.length_range]; exact Nat.le_refl _)]
  congr 2
  apply List.map_congr_left
  intro i hi
  obtain ⟨e0, e1, e2⟩ := child_idx h64 (show 2 * (cnt + i) + 1 < nodes.length by have := List.mem_range.1 hi; omega)
  rw [genLevelFn, e0, e1, e2]

theorem parLevel_eq_gen {nodes : List D} {cnt : Nat} (h64 : nodes.length < 2^64)
    (h4 : 4 * cnt ≤ nodes.length) : parLevel H nodes cnt = .ok (genLevel H d0 nodes cnt) := by
  rw [genLevel_eq H d0 h64 h4, parLevel, Res.mapM_ok _ (fun i hi => hashChildren_getD H d0
    (show 2 * (cnt + i) + 1 < nodes.length by have := List.mem_range.1 hi; omega))]
  exact if_pos (by omega)

theorem genLevel_length {nodes : List D} {cnt : Nat} (h64 : nodes.length < 2^64)
    (h4 : 4 * cnt ≤ nodes.length) : (genLevel H d0 nodes cnt).length = nodes.length := by
  rw [genLevel_eq H d0 h64 h4]
  simp only [List.length_append, List.length_take, List.length_map, List.length_range, List.length_drop]
  omega

theorem gen_loop_unfold (fuel : Nat) (nodes : List D) (cnt acc : Nat) :
    Loops.merkle_from_digests_loop H d0 filler cutoff (fuel + 1) nodes cnt acc =
      if ((decide (cnt > 0)) && (decide (cnt ≥ cutoff))) then
        Loops.merkle_from_digests_loop H d0 filler cutoff fuel (genLevel H d0 nodes cnt) (cnt / 2)
          ((acc + cnt) % 18446744073709551616)
      else some (nodes, cnt, acc) := rfl

set_option linter.unusedVariables false in
/-- the per-index checks of the closure hold when all children are inside the vector -/
theorem gen_level_checks {nodes : List D} {cnt : Nat} (h64 : nodes.length < 2^64)
    (h4 : 4 * cnt ≤ nodes.length) :
    ((List.range' 0 (cnt - 0)).all (fun i =>
      (decide (cnt + i < 18446744073709551616)) && (let j := ((cnt + i) % 18446744073709551616)
      ((decide (j * 2 < 18446744073709551616)) && (decide (((j * 2) % 18446744073709551616) < nodes.length))) && (let left_child := (nodes.getD ((j * 2) % 18446744073709551616) d0)
      ((decide (j * 2 < 18446744073709551616)) && (decide (((j * 2) % 18446744073709551616) + 1 < 18446744073709551616))) && (decide (((((j * 2) % 18446744073709551616) + 1) % 18446744073709551616) < nodes.length)))))) = true := by
  rw [List.all_eq_true]
  intro i hi
  have hi' : i < cnt := by
    have := List.mem_range'.1 hi
    omega
  obtain ⟨e0, e1, e2⟩ := child_idx h64 (show 2 * (cnt + i) + 1 < nodes.length by omega)
  simp only [e0, e1, e2, Bool.and_eq_true, decide_eq_true_eq]
  omega

theorem gen_loop_ok_unfold (fuel : Nat) (nodes : List D) (cnt acc : Nat) (h64 : nodes.length < 2^64)
    (h4 : 4 * cnt ≤ nodes.length) (hacc : acc + cnt < 2^64) :
    Loops.merkle_from_digests_loop_ok H d0 filler cutoff (fuel + 1) nodes cnt acc =
      if ((decide (cnt > 0)) && (decide (cnt ≥ cutoff))) then
        Loops.merkle_from_digests_loop_ok H d0 filler cutoff fuel (genLevel H d0 nodes cnt) (cnt / 2)
          ((acc + cnt) % 18446744073709551616)
      else true := by
  rw [Loops.merkle_from_digests_loop_ok]
  split
  · obtain ⟨s1, s2⟩ := slice_checks h64 (show cnt + cnt ≤ nodes.length by omega)
    have c1 : ∀ f : Nat → D, decide (cnt ≤ ((List.range' 0 (cnt - 0)).map f).length) = true := fun f =>
      decide_eq_true (by rw [List.length_map, List.length_range']; exact Nat.le_refl _)
    simp only [gen_level_checks d0 h64 h4, c1, s1, s2, decide_eq_true (show acc + cnt < 18446744073709551616 from hacc), Bool.true_and]
    rfl
  · rfl

/-- **lock-step of the regenerated `while` loop with `parLoop`** (every fuel, every cut-off): with `2n` nodes, `n < 2^63`
    and `count_acc + 2·cnt ≤ n`, no check of the regenerated loop fails, the model's loop returns exactly the regenerated
    node vector and `count_acc` (or both run out of fuel), the vector keeps its length and `count_acc ≤ n` -/
theorem loop_eq (n : Nat) (hn : n < 2^63) (fuel : Nat) (nodes : List D) (cnt acc : Nat)
    (hl : nodes.length = 2 * n) (hinv : acc + 2 * cnt ≤ n) :
    Loops.merkle_from_digests_loop_ok H d0 filler cutoff fuel nodes cnt acc = true ∧
    parLoop H cutoff fuel cnt acc nodes =
      (Loops.merkle_from_digests_loop H d0 filler cutoff fuel nodes cnt acc).map (fun t => Res.ok (t.1, t.2.2)) ∧
    ∀ t, Loops.merkle_from_digests_loop H d0 filler cutoff fuel nodes cnt acc = some t →
      t.1.length = 2 * n ∧ t.2.2 ≤ n := by
  induction fuel generalizing nodes cnt acc with
  | zero => exact ⟨rfl, rfl, fun _ h => by cases h⟩
  | succ fuel ih =>
    have h64 : nodes.length < 2^64 := by omega
    have h4 : 4 * cnt ≤ nodes.length := by omega
    have hacc : acc + cnt < 2^64 := by omega
    rw [gen_loop_ok_unfold H d0 filler cutoff fuel nodes cnt acc h64 h4 hacc, gen_loop_unfold, parLoop,
      Nat.mod_eq_of_lt hacc]
    by_cases hc : cnt > 0 ∧ cnt ≥ cutoff
    · have hc' : ((decide (cnt > 0)) && (decide (cnt ≥ cutoff))) = true := by
        rw [Bool.and_eq_true, decide_eq_true_eq, decide_eq_true_eq]; exact hc
      rw [if_pos hc, if_pos hc', if_pos hc', parLevel_eq_gen H d0 h64 h4]
      exact ih (genLevel H d0 nodes cnt) (cnt / 2) (acc + cnt)
        (by rw [genLevel_length H d0 h64 h4]; exact hl) (by omega)
    · have hc' : ¬ (((decide (cnt > 0)) && (decide (cnt ≥ cutoff))) = true) := by
        rw [Bool.and_eq_true, decide_eq_true_eq, decide_eq_true_eq]; exact hc
      rw [if_neg hc, if_neg hc', if_neg hc']
      refine ⟨rfl, rfl, fun t ht => ?_⟩
      cases ht
      exact ⟨hl, show acc ≤ n by omega⟩

/-- reading of the regenerated result type in the model's: `Ok(MerkleTree { nodes })`, the two error kinds -/
def toRes : Except String (List D) → Res (Tree D)
  | .ok nodes => Res.ok (Tree.mk nodes)
  | .error e => if e == "TooFewLeafs" then Res.err .tooFewLeafs else Res.err .incorrectNumberOfLeafs

/-- the initial node vector `vec![default; 2n]` with `nodes[n..].clone_from_slice(digests)` -/
theorem init_nodes (ds : List D) (hn : ds.length < 2^63) :
    (List.replicate ((2 * ds.length) % 18446744073709551616) filler).take ds.length ++ (ds.take ds.length) ++
      (List.replicate ((2 * ds.length) % 18446744073709551616) filler).drop ((ds.length + ds.length) % 18446744073709551616)
    = List.replicate ds.length filler ++ ds := by
  have h2 : 2 * ds.length < 18446744073709551616 := by omega
  rw [← Nat.two_mul, mod_usize h2 (Nat.le_refl _), List.take_replicate, List.drop_replicate, List.take_length, Nat.sub_self,
    List.replicate_zero, List.append_nil, Nat.min_eq_left (by omega)]

theorem gen_pow2 {ds : List D} (hne : ds ≠ []) (hp : TF.isPow2 ds.length = true) (hn : ds.length < 2^63) :
    Loops.merkle_from_digests_ok H d0 filler cutoff ds = true ∧
    (Loops.merkle_from_digests H d0 filler cutoff ds).map toRes
      = fromDigestsFuel H filler cutoff (ds.length + 1) ds := by
  have he : ds.isEmpty = false := by cases ds with
    | nil => exact absurd rfl hne
    | cons _ _ => rfl
  have hpos : 0 < ds.length := List.length_pos_iff.2 hne
  have hp' : TF.Merkle.isPow2 ds.length = true := by rw [← isPow2_trick_eq_model]; exact hp
  have h2 : 2 * ds.length < 18446744073709551616 := by omega
  have hrep : (List.replicate ((2 * ds.length) % 18446744073709551616) filler).length = 2 * ds.length := by
    rw [List.length_replicate, mod_usize h2 (Nat.le_refl _)]
  obtain ⟨s1, s2⟩ := slice_checks (a := ds.length)
    (len := (List.replicate ((2 * ds.length) % 18446744073709551616) filler).length)
    (by rw [hrep]; exact h2) (by rw [hrep]; omega)
  obtain ⟨hok, hpar, hprops⟩ := loop_eq H d0 filler cutoff ds.length hn (ds.length + 1)
    (List.replicate ds.length filler ++ ds) (ds.length / 2) 0 (by simp; omega) (by omega)
  unfold Loops.merkle_from_digests Loops.merkle_from_digests_ok fromDigestsFuel
  simp only [he, Bool.false_eq_true, if_false, isPow2_decide, hp, hp', Bool.not_true, decide_eq_true h2, Nat.le_refl,
    decide_true, s1, s2, init_nodes filler ds hn, Bool.true_and, hok, hpar]
  cases hg : Loops.merkle_from_digests_loop H d0 filler cutoff (ds.length + 1) (List.replicate ds.length filler ++ ds)
      (ds.length / 2) 0 with
  | none => exact ⟨rfl, rfl⟩
  | some t =>
    obtain ⟨nodes1, cnt1, acc1⟩ := t
    obtain ⟨hlen1, hacc1⟩ := hprops _ hg
    simp only at hlen1 hacc1
    -- `digests.len() - count_acc` in wrapping arithmetic
    have ek : (ds.length + 18446744073709551616 - acc1) % 18446744073709551616 = ds.length - acc1 := by
      rw [Nat.sub_add_comm hacc1, Nat.add_mod_right,
        Nat.mod_eq_of_lt (Nat.lt_of_le_of_lt (Nat.sub_le _ _) (Nat.lt_trans hn (by decide)))]
    obtain ⟨hsok, hseq⟩ := seq_eq H d0 filler cutoff (ds.length - acc1 - 1) nodes1 (by omega) (by omega)
    have hcs : csub ds.length acc1 = .ok (ds.length - acc1) := by rw [csub, if_pos hacc1]
    have hrr : revRange (ds.length - acc1) = (List.range' 1 (ds.length - acc1 - 1)).reverse := rfl
    simp only [Option.map_some, Option.bind_some, Option.elim_some, ek, hsok, Bool.and_true, decide_eq_true hacc1]
    refine ⟨by decide, ?_⟩
    show _ = some (csub ds.length acc1 >>= _)
    rw [hcs, Res.ok_bind]
    show _ = some (seqLoop H nodes1 (revRange (ds.length - acc1)) >>= _)
    rw [hrr, hseq, Res.ok_bind]
    rfl

end TF.GenBridge.Merkle
