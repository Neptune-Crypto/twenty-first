import TF.Proofs.MmrUpdMutate
/-!
# The batch mutation routines compute the from-scratch paths (and accumulator) (C05 / C11)

`batch_update_from_leaf_mutation`, `batch_update_from_batch_leaf_mutation` (`mmr_membership_proof.rs`) and
`MmrAccumulator::batch_mutate_leaf_and_update_mps` keep a map `node index ↦ new digest`, process the mutations one at a
time, walking each mutated leaf's path bottom-up (taking for every sibling the digest in the map if an earlier mutation of
the batch changed it), and then replace in every tracked path the digests the map knows.

Invariant (`Inv`): after a set `S` of leafs has been processed, with `g` the current leaf list,
* the keys of the map are exactly the node indices of the leaf blocks and the non-peak ancestors of the leafs of `S`,
* the value stored under the node `(t, j)` is `sub H g t j`, the root of that block in the *current* leaf list.
A block `(t, j)` without a key in the map contains no leaf of `S`, hence has the same root as at the start
(`Inv.sibling`).  Node indices are tied to blocks by `nodeIdx` / `siblingAndParent_spec` / `nodeIdx_inj`
(`TF/Proofs/MmrNodeIndex.lean`).
-/
namespace TF.MmrBM
open TF TF.Gen TF.Model.Mmr TF.Model.MmrE TF.Spec.MmrE TF.MmrE

section
variable {D : Type} (H : D → D → D)

/-- the leaves of the top block of the tree of `i` have the same tree (induction on the low bit, like `locate`) -/
theorem locate_same_tree : ∀ (n i i' : Nat), i < n → i' / 2 ^ (locate n i).1 = i / 2 ^ (locate n i).1 →
    i' < n ∧ (locate n i').1 = (locate n i).1 ∧ (locate n i').2.2 = (locate n i).2.2 := by
  intro n
  induction n using Nat.strongRecOn with
  | _ n ih =>
    intro i i' hlt hblk
    have hn : n ≠ 0 := by omega
    rw [locate_unfold n i hn] at hblk ⊢
    by_cases hc : n % 2 = 1 ∧ i = n - 1
    · rw [if_pos hc] at hblk ⊢
      simp only [Nat.pow_zero, Nat.div_one] at hblk
      subst hblk
      rw [locate_unfold n i' hn, if_pos hc]
      exact ⟨hlt, rfl, rfl⟩
    · rw [if_neg hc] at hblk ⊢
      simp only at hblk ⊢
      have hlt2 : i / 2 < n / 2 := by omega
      rw [div_pow_succ' i, div_pow_succ' i'] at hblk
      obtain ⟨h1, h2, h3⟩ := ih (n / 2) (by omega) (i / 2) (i' / 2) hlt2 hblk
      have hc' : ¬ (n % 2 = 1 ∧ i' = n - 1) := by omega
      rw [locate_unfold n i' hn, if_neg hc']
      exact ⟨by omega, by simp only; rw [h2], by simp only; rw [h3]⟩

/-- state of `new_ap_digests` after the leafs `S` have been mutated; `g0` the leaf list at the start, `g` now -/
structure Inv (n : Nat) (g0 g : Nat → D) (S : List Nat) (φ : Nat → Option D) : Prop where
  inb : ∀ i ∈ S, i < n
  agree : ∀ k, k ∉ S → g k = g0 k
  keys : ∀ k v, φ k = some v → ∃ i ∈ S, ∃ t, (t < (locate n i).1 ∨ t = 0) ∧ k = nodeIdx t (i / 2 ^ t)
  vals : ∀ i ∈ S, ∀ t, (t < (locate n i).1 ∨ t = 0) → φ (nodeIdx t (i / 2 ^ t)) = some (sub H g t (i / 2 ^ t))

theorem Inv.empty (n : Nat) (g : Nat → D) (φ : Nat → Option D) (hφ : ∀ k, φ k = none) : Inv H n g g [] φ where
  inb := by intro i hi; simp at hi
  agree := by intros; rfl
  keys := by intro k v h; rw [hφ] at h; cases h
  vals := by intro i hi; simp at hi

theorem stored_le_height {n i t : Nat} (h : t < (locate n i).1 ∨ t = 0) : t ≤ (locate n i).1 := by omega

/-- **the sibling digest is always the current one**: for a leaf `i` and a level `t` below its peak, the digest of
    the sibling block found in the map — or, if there is none, the digest from a path valid at the start — is the
    root of that block in the current leaf list -/
theorem Inv.sibling {n : Nat} {g0 g : Nat → D} {S : List Nat} {φ : Nat → Option D} (inv : Inv H n g0 g S φ) (hn : n < 2 ^ 63)
    (i t : Nat) (hi : i < n) (ht : t < (locate n i).1) :
    (φ (nodeIdx t (sibBlk (i / 2 ^ t)))).getD (sub H g0 t (sibBlk (i / 2 ^ t))) = sub H g t (sibBlk (i / 2 ^ t)) := by
  cases hget : φ (nodeIdx t (sibBlk (i / 2 ^ t))) with
  | some v =>
    obtain ⟨i', hi', t', hst, hk⟩ := inv.keys _ _ hget
    have hb := anc_idx_lt n i' t' (inv.inb i' hi') hn (stored_le_height hst)
    obtain ⟨h1, h2⟩ := nodeIdx_inj _ _ _ _ hb hk.symm
    subst h1
    have := inv.vals i' hi' t' hst
    rw [h2, hget] at this
    simp only [Option.getD_some]
    exact Option.some.inj this
  | none =>
    simp only [Option.getD_none]
    apply sub_congr_block
    intro k hk
    apply (inv.agree k _).symm
    intro hkS
    have h1 : k / 2 ^ (t + 1) = i / 2 ^ (t + 1) := by
      rw [div_pow_succ, div_pow_succ, hk, sibBlk_half]
    have h2 := TF.Mmr.div_pow_eq_of_le h1 (by omega : t + 1 ≤ (locate n i).1)
    obtain ⟨_, h3, _⟩ := locate_same_tree n i k hi h2
    have := inv.vals k hkS t (Or.inl (by omega))
    rw [hk, hget] at this
    cases this

theorem Inv.step {n : Nat} {g0 g : Nat → D} {S : List Nat} {φ φ' : Nat → Option D} (inv : Inv H n g0 g S φ) (hn : n < 2 ^ 63)
    (i : Nat) (d : D) (hi : i < n) (hiS : i ∉ S)
    (U1 : ∀ s, (s < (locate n i).1 ∨ s = 0) →
      φ' (nodeIdx s (i / 2 ^ s)) = some (sub H (Function.update g i d) s (i / 2 ^ s)))
    (U2 : ∀ k, (∀ s, (s < (locate n i).1 ∨ s = 0) → k ≠ nodeIdx s (i / 2 ^ s)) → φ' k = φ k) :
    Inv H n g0 (Function.update g i d) (i :: S) φ' where
  inb := by
    intro i' hi'
    rcases List.mem_cons.mp hi' with rfl | h
    · exact hi
    · exact inv.inb i' h
  agree := by
    intro k hk
    have h1 : k ≠ i := fun h => hk (by simp [h])
    have h2 : k ∉ S := fun h => hk (by simp [h])
    rw [Function.update_of_ne h1]
    exact inv.agree k h2
  keys := by
    intro k v hget
    by_cases hk : ∃ s, (s < (locate n i).1 ∨ s = 0) ∧ k = nodeIdx s (i / 2 ^ s)
    · obtain ⟨s, hs, rfl⟩ := hk
      exact ⟨i, by simp, s, hs, rfl⟩
    · rw [U2 k (fun s hs hks => hk ⟨s, hs, hks⟩)] at hget
      obtain ⟨i', hi', t, hst, hkt⟩ := inv.keys k v hget
      exact ⟨i', by simp [hi'], t, hst, hkt⟩
  vals := by
    intro i' hi' t hst
    rcases List.mem_cons.mp hi' with rfl | hS
    · exact U1 t hst
    · have hi'n := inv.inb i' hS
      by_cases hb : i' / 2 ^ t = i / 2 ^ t
      · have ht0 : t ≠ 0 := by
          intro h0; subst h0
          simp only [Nat.pow_zero, Nat.div_one] at hb
          exact hiS (hb ▸ hS)
        have htlt : t < (locate n i').1 := by omega
        have h2 := TF.Mmr.div_pow_eq_of_le hb.symm (by omega : t ≤ (locate n i').1)
        obtain ⟨_, h3, _⟩ := locate_same_tree n i' i hi'n h2
        rw [hb]
        exact U1 t (Or.inl (by omega))
      · have hbnd := anc_idx_lt n i' t hi'n hn (stored_le_height hst)
        rw [U2 _ (fun s _ hks => by
          obtain ⟨h1, h2⟩ := nodeIdx_inj _ _ _ _ hbnd hks
          subst h1
          exact hb h2), inv.vals i' hS t hst, sub_update_ne H g i d t _ hb]

theorem Inv.fresh {n : Nat} {g0 g : Nat → D} {S : List Nat} {φ : Nat → Option D} (inv : Inv H n g0 g S φ) (hn : n < 2 ^ 63)
    (i : Nat) (hi : i < n) (hiS : i ∉ S) : φ (nodeIdx 0 i) = none := by
  cases hget : φ (nodeIdx 0 i) with
  | none => rfl
  | some v =>
    exfalso
    obtain ⟨i', hi', t', _, hk⟩ := inv.keys _ _ hget
    obtain ⟨h1, h2⟩ := nodeIdx_inj _ _ _ _ (by simpa using anc_idx_lt n i 0 hi hn (Nat.zero_le _)) hk
    subst h1
    simp only [Nat.pow_zero, Nat.div_one] at h2
    exact hiS (h2 ▸ hi')

section Step
variable {n : Nat} {g0 g : Nat → D} {S : List Nat} {m : AMap D} (inv : Inv H n g0 g S m.get?) (hn : n < 2 ^ 63)
include inv hn

/-- the sibling digests met on the way up from leaf `i` (map-or-path, or the path alone when the map is still empty)
    are the current ones, also after `i` itself has been stored and changed (levels written `0 + k`: the form
    `deducible_walk` asks for at `l = 0`) -/
theorem Inv.sibling_walk (useMap : Bool) (hm : useMap = false → m = []) (i : Nat) (d : D) (hi : i < n) (k : Nat)
    (hk : k < (locate n i).1) :
    (if useMap then (AMap.get? (m.insert (nodeIdx 0 i) d) (nodeIdx (0 + k) (sibBlk (i / 2 ^ k)))).getD
          (sub H g0 (0 + k) (sibBlk (i / 2 ^ k)))
        else sub H g0 (0 + k) (sibBlk (i / 2 ^ k)))
      = sub H (Function.update g i d) (0 + k) (sibBlk (i / 2 ^ k)) := by
  rw [Nat.zero_add, sub_update_ne H g i d k _ (sibBlk_ne _), ← inv.sibling H hn i k hi hk]
  cases useMap with
  | true =>
    rw [if_pos rfl, get?_insert, if_neg]
    intro he
    obtain ⟨h1, h2⟩ := nodeIdx_inj _ _ _ _ (by simpa using anc_idx_lt n i 0 hi hn (Nat.zero_le _)) he
    subst h1
    simp only [Nat.pow_zero, Nat.div_one] at h2
    exact sibBlk_ne _ h2.symm
  | false => rw [hm rfl]; rfl

theorem Inv.walk (i : Nat) (d : D) (hi : i < n) (hiS : i ∉ S) :
    Inv H n g0 (Function.update g i d) (i :: S)
      (walkIns H (Function.update g i d) ((locate n i).1 - 1) 0 i (m.insert (nodeIdx 0 i) d)).get? := by
  have hlt : nodeIdx ((locate n i).1 - 1) (i / 2 ^ ((locate n i).1 - 1)) < 2 ^ 64 := anc_idx_lt n i _ hi hn (by omega)
  have hget := walk_get? H (Function.update g i d) i ((locate n i).1 - 1) m hlt
  rw [Function.update_self] at hget
  apply inv.step H hn i d hi hiS
  · intro s hs
    rw [hget, if_pos ⟨by omega, rfl⟩]
  · intro k hkne
    rw [walkIns_get?_other, get?_insert, if_neg]
    · have := hkne 0 (Or.inr rfl)
      simp only [Nat.pow_zero, Nat.div_one] at this
      exact fun e => this e.symm
    · intro s hs
      have := hkne (s + 1) (Or.inl (by omega))
      rwa [Nat.zero_add]

/-- **one mutation processed by a batch routine**: the leaf has no entry yet, the walk up its path — the last digest
    left out (`skipLast`) or hashed but not stored — succeeds, delivers the new root of the leaf's tree when it goes
    all the way, and the map it leaves satisfies the invariant for the changed leaf list (`Inv.walk`) -/
theorem mutation_step (useMap sk il : Bool) (hmode : sk = true ∨ il = false) (hm : useMap = false → m = []) (i : Nat) (d : D) (hi : i < n) :
    ∃ acc, deducible H none sk useMap il (authPathOf H g0 n i) (nodeIdx 0 i) d (m.insert (nodeIdx 0 i) d)
        = some (walkIns H (Function.update g i d) ((locate n i).1 - 1) 0 i (m.insert (nodeIdx 0 i) d), acc) ∧
      (sk = false → acc = sub H (Function.update g i d) (locate n i).1 (i / 2 ^ (locate n i).1)) := by
  have hh := height_le_62 n i hi hn
  have hd : sub H (Function.update g i d) 0 i = d := by simp [sub]
  have hs := inv.sibling_walk H hn useMap hm i d hi
  unfold authPathOf
  cases sk with
  | true =>
    have := deducible_walk_skipLast H g0 (Function.update g i d) useMap il (locate n i).1 0 i
      (m.insert (nodeIdx 0 i) d) (by omega) (by rw [Nat.zero_add]; exact anc_idx_lt n i _ hi hn (by omega))
      (fun k hk => hs k (by omega))
    rw [hd] at this
    exact ⟨_, this, fun h => nomatch h⟩
  | false =>
    obtain rfl : il = false := by simpa using hmode
    have := deducible_walk H g0 (Function.update g i d) useMap false (locate n i).1 0 i
      (m.insert (nodeIdx 0 i) d) (by omega) (by rw [Nat.zero_add]; exact anc_idx_lt n i _ hi hn (Nat.le_refl _)) hs
    rw [hd, Nat.zero_add] at this
    exact ⟨_, this, fun _ => rfl⟩

end Step

/-- the `while let Some(..) = mutation_data.pop()` loop of `batch_update_from_batch_leaf_mutation` (`forAcc` off: the
    peaks are not touched, the leaf count is not used) and of `batch_mutate_leaf_and_update_mps` (`forAcc` on: the
    running peaks stay the from-scratch peaks) -/
theorem mutationsLoop_spec (n : Nat) (hn : n < 2 ^ 63) (g0 : Nat → D) (fa : Bool) (lc : Nat) (hlc : fa = true → lc = n)
    (pk : List D) : ∀ (ms : List (Nat × D)) (S : List Nat) (g : Nat → D) (m : AMap D), Inv H n g0 g S m.get? →
    (∀ p ∈ ms, p.1 < n ∧ p.1 ∉ S) → (ms.map (·.1)).Nodup →
    ∃ m', mutationsLoop H fa lc (ms.map fun p => ⟨p.1, p.2, authPathOf H g0 n p.1⟩) m (if fa then peaks H n g else pk)
        = some (m', if fa then peaks H n (applyL g ms) else pk) ∧
      Inv H n g0 (applyL g ms) ((ms.map (·.1)).reverse ++ S) m'.get? := by
  intro ms
  induction ms with
  | nil => intro S g m inv _ _; exact ⟨m, by simp [mutationsLoop], by simpa using inv⟩
  | cons p rest ih =>
    intro S g m inv hin hnd
    obtain ⟨hi, hiS⟩ := hin p (by simp)
    simp only [List.map_cons, List.nodup_cons] at hnd
    have hnone := inv.fresh H hn p.1 hi hiS
    obtain ⟨acc, hrun, hacc⟩ := mutation_step H inv hn true (!fa) false (Or.inr rfl) (fun h => Bool.noConfusion h)
      p.1 p.2 hi
    obtain ⟨m', hloop, inv'⟩ := ih (p.1 :: S) (Function.update g p.1 p.2) _ (inv.walk H hn p.1 p.2 hi hiS)
      (by
        intro q hq
        refine ⟨(hin q (by simp [hq])).1, ?_⟩
        intro hmem
        rcases List.mem_cons.mp hmem with h | h
        · exact hnd.1 (List.mem_map.mpr ⟨q, hq, h⟩)
        · exact (hin q (by simp [hq])).2 h)
      hnd.2
    refine ⟨m', ?_, ?_⟩
    · simp only [List.map_cons]
      rw [mutationsLoop]
      simp only [l2n_eq_nodeIdx p.1 (by omega), hnone, Option.isSome_none, Bool.false_eq_true, if_false, hrun,
        Option.bind_eq_bind, Option.bind_some]
      cases fa with
      | false => exact hloop
      | true =>
        obtain rfl := hlc rfl
        have hgen := (gen_locate p.1 lc hi (by omega)).1
        have hpk := locate_pk_lt lc p.1 hi
        simp only [if_true, hi, decide_true, Bool.not_true, Bool.false_eq_true, if_false, hgen, peaks_length, hpk,
          hacc rfl]
        rw [← peaks_update H lc g p.1 p.2 hi]
        exact hloop
    · simp only [List.map_cons, List.reverse_cons, List.append_assoc, List.singleton_append]
      exact inv'

end
end TF.MmrBM

namespace TF.MmrE
open TF TF.Gen TF.Model.Mmr TF.Model.MmrE TF.Spec.MmrE TF.MmrBM

section Batch
variable {D : Type} [DecidableEq D] (H : D → D → D)

theorem batchReplaceLoop_spec (m : AMap D) (saf : Bool) (P Q : Nat → List D) (K : Nat → List Nat) :
    ∀ (lis : List Nat) (s : Nat),
    (∀ li ∈ lis, get_node_indices li (P li).length = some (K li) ∧
      ∃ b, replaceFromMap m true saf (P li) (K li) = (Q li, b) ∧ (b = true ↔ Q li ≠ P li)) →
    batchReplaceLoop m saf (lis.map P) lis s = some (lis.map Q, chgFrom (fun li => decide (Q li ≠ P li)) lis s) := by
  intro lis
  induction lis with
  | nil => intro s _; simp [batchReplaceLoop, chgFrom]
  | cons li lis ih =>
    intro s h
    obtain ⟨h1, b, h2, h3⟩ := h li (by simp)
    have := ih (s + 1) (fun x hx => h x (by simp [hx]))
    simp only [List.map_cons, batchReplaceLoop, h1, h2, this, Option.bind_eq_bind, Option.bind_some, Option.pure_def,
      chgFrom]
    by_cases hc : Q li ≠ P li
    · have : b = true := h3.mpr hc
      subst this; simp [hc]
    · have : b = false := by
        cases b with
        | false => rfl
        | true => exact absurd (h3.mp rfl) hc
      subst this; simp [hc]


/-- with a map satisfying the invariant the replacement loop turns the from-scratch paths of `g0` into those of `g`
    (`Inv.sibling` per slot); `hone`: with `stopAfterFirst` only one slot of a path may differ, which holds after a
    single mutation (`meet_unique`) -/
theorem batchReplaceLoop_paths {n : Nat} {g0 g : Nat → D} {S : List Nat} {m : AMap D} (inv : Inv H n g0 g S m.get?)
    (hn : n < 2 ^ 63) (saf : Bool) (lis : List Nat) (hlis : ∀ i ∈ lis, i < n)
    (hone : saf = true → ∀ li t t', sub H g0 t (sibBlk (li / 2 ^ t)) ≠ sub H g t (sibBlk (li / 2 ^ t)) →
      sub H g0 t' (sibBlk (li / 2 ^ t')) ≠ sub H g t' (sibBlk (li / 2 ^ t')) → t = t') :
    batchReplaceLoop m saf (lis.map (authPathOf H g0 n)) lis 0
      = some (lis.map (authPathOf H g n), (List.range lis.length).filter fun k =>
          decide (authPathOf H g n (lis.getD k 0) ≠ authPathOf H g0 n (lis.getD k 0))) := by
  rw [batchReplaceLoop_spec m saf (authPathOf H g0 n) (authPathOf H g n)
    (fun li => (List.range (locate n li).1).map (fun t => nodeIdx t (sibBlk (li / 2 ^ t)))) lis 0]
  · rw [chgFrom_zero]
  · intro li hli
    refine ⟨by rw [authPathOf_length]; exact own_node_indices n li (hlis li hli) hn, ?_⟩
    rw [authPathOf_eq_map, authPathOf_eq_map]
    apply replaceFromMap_spec m (fun t => sub H g0 t (sibBlk (li / 2 ^ t))) (fun t => sub H g t (sibBlk (li / 2 ^ t)))
      (fun t => nodeIdx t (sibBlk (li / 2 ^ t))) saf
    · intro t ht
      exact inv.sibling H hn li t (hlis li hli) (List.mem_range.mp ht)
    · intro hs
      refine List.Pairwise.imp ?_ (List.nodup_range (n := (locate n li).1))
      intro t t' hne
      by_contra hc
      simp only [not_or] at hc
      exact hne (hone hs li t t' hc.1 hc.2)

omit [DecidableEq D] in
theorem slot_changed_meet (g : Nat → D) (i j t : Nat) (d : D)
    (h : sub H g t (sibBlk (i / 2 ^ t)) ≠ sub H (Function.update g j d) t (sibBlk (i / 2 ^ t))) :
    sibBlk (i / 2 ^ t) = j / 2 ^ t := by
  by_contra hc
  exact h (sub_update_ne H g j d t _ hc).symm

theorem batchUpdateFromLeafMutation_spec (g : Nat → D) (n j : Nat) (d : D) (lis : List Nat)
    (hlis : ∀ i ∈ lis, i < n) (hj : j < n) (hn : n < 2 ^ 63) :
    batchUpdateFromLeafMutation H (lis.map (authPathOf H g n)) lis ⟨j, d, authPathOf H g n j⟩
      = some (lis.map (authPathOf H (Function.update g j d) n),
          (List.range lis.length).filter (fun k => decide
            (authPathOf H (Function.update g j d) n (lis.getD k 0) ≠ authPathOf H g n (lis.getD k 0)))) := by
  have inv0 := Inv.empty H n g (AMap.get? ([] : AMap D)) get?_nil
  obtain ⟨acc, hded, _⟩ := mutation_step H inv0 hn false true true (Or.inl rfl) (fun _ => rfl) j d hj
  unfold batchUpdateFromLeafMutation
  simp only [List.length_map, ne_eq, not_true_eq_false, if_false, l2n_eq_nodeIdx j (by omega), hded,
    Option.bind_eq_bind, Option.bind_some]
  exact batchReplaceLoop_paths H (inv0.walk H hn j d hj (by simp)) hn true lis hlis fun _ li t t' h1 h2 =>
    meet_unique li j t t' (slot_changed_meet H g li j t d h1) (slot_changed_meet H g li j t' d h2)

theorem batchUpdateFromBatchLeafMutation_spec (g : Nat → D) (n : Nat) (ms : List (Nat × D)) (lis : List Nat)
    (hlis : ∀ i ∈ lis, i < n) (hms : ∀ m ∈ ms, m.1 < n) (hnd : (ms.map (·.1)).Nodup) (hn : n < 2 ^ 63) :
    batchUpdateFromBatchLeafMutation H (lis.map (authPathOf H g n)) lis
        (ms.map fun m => ⟨m.1, m.2, authPathOf H g n m.1⟩)
      = some (lis.map (authPathOf H (applyL g ms) n),
          (List.range lis.length).filter (fun k => decide
            (authPathOf H (applyL g ms) n (lis.getD k 0) ≠ authPathOf H g n (lis.getD k 0)))) := by
  obtain ⟨m', hloop, inv⟩ := mutationsLoop_spec H n hn g false 0 (fun h => nomatch h) [] ms.reverse [] g []
    (Inv.empty H n g _ get?_nil) (fun p hp => ⟨hms p (List.mem_reverse.mp hp), by simp⟩)
    (by rw [List.map_reverse]; exact nodup_rev _ hnd)
  rw [applyL_reverse ms g hnd] at hloop inv
  unfold batchUpdateFromBatchLeafMutation
  simp only [List.length_map, ne_eq, not_true_eq_false, if_false, ← List.map_reverse]
  simp only [Bool.false_eq_true, if_false] at hloop
  rw [hloop]
  exact batchReplaceLoop_paths H inv hn false lis hlis (fun h => nomatch h)

theorem batchMutateLeafAndUpdateMps_spec (g : Nat → D) (n : Nat) (ms : List (Nat × D)) (lis : List Nat)
    (hlis : ∀ i ∈ lis, i < n) (hms : ∀ m ∈ ms, m.1 < n) (hnd : (ms.map (·.1)).Nodup) (hn : n < 2 ^ 63) :
    Acc.batchMutateLeafAndUpdateMps H ⟨n, peaks H n g⟩ (lis.map (authPathOf H g n)) lis
        (ms.map fun m => ⟨m.1, m.2, authPathOf H g n m.1⟩)
      = some (⟨n, peaks H n (applyL g ms)⟩, lis.map (authPathOf H (applyL g ms) n),
          (List.range lis.length).filter fun k =>
            decide (authPathOf H (applyL g ms) n (lis.getD k 0) ≠ authPathOf H g n (lis.getD k 0))) := by
  obtain ⟨m', hloop, inv⟩ := mutationsLoop_spec H n hn g true n (fun _ => rfl) [] ms.reverse [] g []
    (Inv.empty H n g _ get?_nil) (fun p hp => ⟨hms p (List.mem_reverse.mp hp), by simp⟩)
    (by rw [List.map_reverse]; exact nodup_rev _ hnd)
  rw [applyL_reverse ms g hnd] at hloop inv
  have hall : lis.all (fun x => decide (x < n)) = true := by
    rw [List.all_eq_true]; intro x hx; simpa using hlis x hx
  unfold Acc.batchMutateLeafAndUpdateMps
  simp only [List.length_map, ne_eq, not_true_eq_false, if_false, hall, Bool.not_true, Bool.false_eq_true,
    ← List.map_reverse]
  simp only [if_true] at hloop
  rw [hloop]
  simp only [Option.bind_eq_bind, Option.bind_some, batchReplaceLoop_paths H inv hn false lis hlis (fun h => nomatch h),
    Option.pure_def]

end Batch

section Dup
variable {D : Type} [DecidableEq D] (H : D → D → D)

omit [DecidableEq D] in
theorem deducible_keeps_keys (stop : Option Nat) (sk u il : Bool) (k : Nat) : ∀ (path : List D) (ni : Nat) (acc : D)
    (m : AMap D) (r : AMap D × D), deducible H stop sk u il path ni acc m = some r →
    (AMap.get? m k).isSome → (AMap.get? r.1 k).isSome := by
  intro path
  induction path with
  | nil =>
    intro ni acc m r h hk
    cases h
    exact hk
  | cons hash rest ih =>
    intro ni acc m r h hk
    rw [deducible] at h
    by_cases h1 : stop = some ni
    · rw [if_pos h1] at h
      cases h
      exact hk
    · rw [if_neg h1] at h
      by_cases h2 : (sk && rest.isEmpty) = true
      · rw [if_pos h2] at h
        cases h
        exact hk
      · rw [if_neg h2] at h
        cases hsp : siblingAndParent ni with
        | none => rw [hsp] at h; cases h
        | some sp =>
          rw [hsp] at h
          refine ih _ _ _ r h ?_
          by_cases h3 : (rest.isEmpty && !il) = true
          · rw [if_pos h3]; exact hk
          · rw [if_neg h3, get?_insert]
            by_cases h4 : sp.2.2 = k
            · rw [if_pos h4]; rfl
            · rw [if_neg h4]; exact hk

omit [DecidableEq D] in
/-- one round of the mutation loop (either variant) can only continue with a map that has the keys it had before and
    the node of the leaf just processed -/
theorem mutationsLoop_cons_none (fa : Bool) (lc : Nat) (y : LeafMutation D) (rest : List (LeafMutation D)) (m : AMap D)
    (pk : List D)
    (h : ∀ m2 pk2, (∀ k, (AMap.get? m k).isSome ∨ k = leaf_index_to_node_index y.leaf_index → (AMap.get? m2 k).isSome) →
      mutationsLoop H fa lc rest m2 pk2 = none) :
    mutationsLoop H fa lc (y :: rest) m pk = none := by
  rw [mutationsLoop]
  split
  · rfl
  · simp only [Option.bind_eq_bind]
    cases hd : deducible H none (!fa) true false y.path (leaf_index_to_node_index y.leaf_index) y.new_leaf
        (AMap.insert m (leaf_index_to_node_index y.leaf_index) y.new_leaf) with
    | none => rfl
    | some r =>
      have hk : ∀ k, (AMap.get? m k).isSome ∨ k = leaf_index_to_node_index y.leaf_index → (AMap.get? r.1 k).isSome := by
        intro k hk
        apply deducible_keeps_keys H _ _ _ _ k _ _ _ _ r hd
        rw [get?_insert]
        by_cases hne : leaf_index_to_node_index y.leaf_index = k
        · rw [if_pos hne]; rfl
        · rw [if_neg hne]; exact hk.resolve_right fun e => hne e.symm
      simp only [Option.bind_some]
      cases fa with
      | false => exact h _ _ hk
      | true =>
        simp only [if_true]
        split
        · rfl
        · split
          · exact h _ _ hk
          · rfl

omit [DecidableEq D] in
/-- a mutation of a leaf whose node is already stored: `assert!(former_value.is_none())` fails -/
theorem mutationsLoop_stored_panics (fa : Bool) (lc : Nat) : ∀ (l : List (LeafMutation D)) (m : AMap D) (pk : List D),
    (∃ x ∈ l, (AMap.get? m (leaf_index_to_node_index x.leaf_index)).isSome) →
    mutationsLoop H fa lc l m pk = none := by
  intro l
  induction l with
  | nil => intro m pk ⟨x, hx, _⟩; simp at hx
  | cons y rest ih =>
    intro m pk ⟨x, hx, hs⟩
    rcases List.mem_cons.mp hx with rfl | hr
    · rw [mutationsLoop, if_pos hs]
    · exact mutationsLoop_cons_none H fa lc y rest m pk fun m2 pk2 hk => ih m2 pk2 ⟨x, hr, hk _ (Or.inl hs)⟩

omit [DecidableEq D] in
theorem mutationsLoop_dup_panics (fa : Bool) (lc : Nat) : ∀ (l : List (LeafMutation D)) (m : AMap D) (pk : List D),
    ¬ (l.map (·.leaf_index)).Nodup → mutationsLoop H fa lc l m pk = none := by
  intro l
  induction l with
  | nil => intro m pk h; simp at h
  | cons y rest ih =>
    intro m pk h
    simp only [List.map_cons, List.nodup_cons, not_and_or, not_not] at h
    apply mutationsLoop_cons_none
    intro m2 pk2 hk
    rcases h with h | h
    · obtain ⟨x, hx, he⟩ := List.mem_map.mp h
      exact mutationsLoop_stored_panics H fa lc rest m2 pk2 ⟨x, hx, by rw [he]; exact hk _ (Or.inr rfl)⟩
    · exact ih m2 pk2 h

theorem batchUpdateFromBatchLeafMutation_dup_panics (paths : List (List D)) (lis : List Nat)
    (lms : List (LeafMutation D)) (h : ¬ (lms.map (·.leaf_index)).Nodup) :
    batchUpdateFromBatchLeafMutation H paths lis lms = none := by
  unfold batchUpdateFromBatchLeafMutation
  have : ¬ (lms.reverse.map (·.leaf_index)).Nodup := by
    intro hc
    apply h
    rw [List.map_reverse] at hc
    have := List.pairwise_reverse.mp hc
    exact this.imp Ne.symm
  rw [mutationsLoop_dup_panics H false 0 lms.reverse [] [] this]
  split <;> rfl

end Dup

end TF.MmrE
