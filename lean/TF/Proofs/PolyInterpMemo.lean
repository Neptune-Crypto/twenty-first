import TF.Proofs.PolyInterp
/-!
`batch_fast_interpolate` (C08): the memoisation by (first, last) point of a half never hits for pairwise distinct
abscissae, and the batched divide-and-conquer returns the interpolant of every row.
-/
open Polynomial

namespace TF.Model.PolyI
open TF TF.Model.Poly

variable {K : Type} [Field K]
variable (root : Nat → Option K)
local notation "FK" => FieldOps.ofField K root

/-- no entry of the dictionary other than the slice's own (first, last) key has both components inside the slice -/
def DictInv (S : List K) (d : Dict K) : Prop :=
  ∀ e ∈ d, e.1.1 ∈ S → e.1.2 ∈ S → S.head? = some e.1.1 ∧ S.getLast? = some e.1.2

/-- the dictionary grew by entries whose keys lie inside the slice -/
def DictGrow (S : List K) (d d' : Dict K) : Prop :=
  ∃ extra : Dict K, d' = d ++ extra ∧ ∀ e ∈ extra, e.1.1 ∈ S ∧ e.1.2 ∈ S

theorem Dict.get_none (d : Dict K) (k : K × K) (h : ∀ e ∈ d, e.1 ≠ k) : Dict.get FK d k = none := by
  unfold Dict.get
  rw [Option.map_eq_none_iff, List.find?_eq_none]
  intro e he
  have := h e he
  simp only [Bool.and_eq_true, FieldOps.ofField_beq, not_and]
  intro h1 h2
  exact this (Prod.ext h1 h2)

theorem memoGet_miss (d : Dict K) (k : K × K) (c : Option (List K)) (v : List K) (h : ∀ e ∈ d, e.1 ≠ k)
    (hc : c = some v) : memoGet FK d k c = some (v, d ++ [(k, v)]) := by
  unfold memoGet
  rw [Dict.get_none root d k h, hc]
  rfl

theorem DictGrow.refl (S : List K) (d : Dict K) : DictGrow S d d := ⟨[], by simp, by simp⟩

theorem DictGrow.trans {S : List K} {d d' d'' : Dict K} (h1 : DictGrow S d d') (h2 : DictGrow S d' d'') :
    DictGrow S d d'' := by
  obtain ⟨e1, rfl, p1⟩ := h1
  obtain ⟨e2, rfl, p2⟩ := h2
  exact ⟨e1 ++ e2, by simp, fun e he => by
    rcases List.mem_append.1 he with h | h
    · exact p1 e h
    · exact p2 e h⟩

theorem DictGrow.mono {S S' : List K} {d d' : Dict K} (h : DictGrow S d d') (hs : ∀ x ∈ S, x ∈ S') :
    DictGrow S' d d' := by
  obtain ⟨e1, rfl, p1⟩ := h
  exact ⟨e1, rfl, fun e he => ⟨hs _ (p1 e he).1, hs _ (p1 e he).2⟩⟩

theorem forall₂_zipWith {α β γ δ : Type} {P : α → β → Prop} {Q : α → γ → Prop} {R : α → δ → Prop} (f : β → γ → δ) :
    ∀ (l : List α) (bs : List β) (cs : List γ), (∀ a ∈ l, ∀ b c, P a b → Q a c → R a (f b c)) →
      List.Forall₂ P l bs → List.Forall₂ Q l cs → List.Forall₂ R l (List.zipWith f bs cs) := by
  intro l
  induction l with
  | nil =>
    intro bs cs _ h1 h2
    cases h1
    cases h2
    exact List.Forall₂.nil
  | cons a l ih =>
    intro bs cs h h1 h2
    cases h1 with
    | cons hab h1 =>
      cases h2 with
      | cons hac h2 =>
        exact List.Forall₂.cons (h a (by simp) _ _ hab hac) (ih _ _ (fun x hx => h x (by simp [hx])) h1 h2)

/-- key bookkeeping for one node of the recursion: `S = L ++ R`, keys `(first L, last L)`, `(first R, last R)` -/
theorem dict_step (L R : List K) (hnd : (L ++ R).Nodup) (d0 dh1 dh dl : K)
    (h0 : L.head? = some d0) (h1 : L.getLast? = some dh1) (h2 : R.head? = some dh) (h3 : R.getLast? = some dl)
    (d : Dict K) (hinv : DictInv (L ++ R) d) (v w : List K) :
    (∀ e ∈ d, e.1 ≠ (d0, dh1)) ∧ (∀ e ∈ d ++ [((d0, dh1), v)], e.1 ≠ (dh, dl)) ∧
    DictInv L (d ++ [((d0, dh1), v)] ++ [((dh, dl), w)]) ∧
    (∀ d' : Dict K, DictGrow L (d ++ [((d0, dh1), v)] ++ [((dh, dl), w)]) d' → DictInv R d') ∧
    DictGrow (L ++ R) d (d ++ [((d0, dh1), v)] ++ [((dh, dl), w)]) := by
  obtain ⟨_, _, hdisj⟩ := List.nodup_append.1 hnd
  have m0 : d0 ∈ L := List.mem_of_mem_head? h0
  have m1 : dh1 ∈ L := List.mem_of_getLast? h1
  have m2 : dh ∈ R := List.mem_of_mem_head? h2
  have m3 : dl ∈ R := List.mem_of_getLast? h3
  have hLne : L ≠ [] := List.ne_nil_of_mem m0
  have hRne : R ≠ [] := List.ne_nil_of_mem m2
  have hSh : (L ++ R).head? = some d0 := by rw [List.head?_append_of_ne_nil _ hLne]; exact h0
  have hSl : (L ++ R).getLast? = some dl := by rw [List.getLast?_append_of_ne_nil _ hRne]; exact h3
  have no : ∀ a, a ∈ L → a ∈ R → False := fun a ha hb => hdisj a ha a hb rfl
  refine ⟨?_, ?_, ?_, ?_, ?_⟩
  · intro e he hk
    obtain ⟨_, hb⟩ := hinv e he (by rw [hk]; simp [m0]) (by rw [hk]; simp [m1])
    rw [hk, hSl] at hb
    have e1 : dl = dh1 := Option.some.inj hb
    exact no dh1 m1 (by rw [← e1]; exact m3)
  · intro e he hk
    rcases List.mem_append.1 he with he | he
    · obtain ⟨ha, _⟩ := hinv e he (by rw [hk]; simp [m2]) (by rw [hk]; simp [m3])
      rw [hk, hSh] at ha
      have e1 : d0 = dh := Option.some.inj ha
      exact no dh (by rw [← e1]; exact m0) m2
    · simp only [List.mem_singleton] at he
      rw [he] at hk
      have e1 : d0 = dh := (Prod.mk.inj hk).1
      exact no dh (by rw [← e1]; exact m0) m2
  · intro e he a1 a2
    simp only [List.append_assoc, List.mem_append, List.mem_singleton] at he
    rcases he with he | he | he
    · obtain ⟨_, hb⟩ := hinv e he (List.mem_append_left _ a1) (List.mem_append_left _ a2)
      rw [hSl] at hb
      have e1 : dl = e.1.2 := Option.some.inj hb
      exact absurd m3 (fun hm => no dl (by rw [e1]; exact a2) hm)
    · subst he; exact ⟨h0, h1⟩
    · subst he; exact absurd a1 (fun hm => no dh hm m2)
  · rintro _ ⟨extra, rfl, hex⟩ e he a1 a2
    simp only [List.append_assoc, List.mem_append, List.mem_singleton] at he
    rcases he with he | he | he | he
    · obtain ⟨ha, _⟩ := hinv e he (List.mem_append_right _ a1) (List.mem_append_right _ a2)
      rw [hSh] at ha
      have e1 : d0 = e.1.1 := Option.some.inj ha
      exact absurd m0 (fun hm => no d0 hm (by rw [e1]; exact a1))
    · subst he; exact absurd a1 (fun hm => no d0 m0 hm)
    · subst he; exact ⟨h2, h3⟩
    · exact absurd a1 (fun hm => no _ (hex e he).1 hm)
  · refine ⟨[((d0, dh1), v), ((dh, dl), w)], by simp, ?_⟩
    intro e he
    simp only [List.mem_cons, List.not_mem_nil, or_false] at he
    rcases he with he | he
    · subst he
      exact ⟨List.mem_append_left _ m0, List.mem_append_left _ m1⟩
    · subst he
      exact ⟨List.mem_append_right _ m2, List.mem_append_right _ m3⟩

/-- what a node of the recursion has done to a dictionary: its own two entries, then the left and the right half -/
theorem DictGrow.node {L R S : List K} (hS : L ++ R = S) {d d1 d2 d3 : Dict K} (g1 : DictGrow (L ++ R) d d1)
    (g2 : DictGrow L d1 d2) (g3 : DictGrow R d2 d3) : DictGrow S d d3 := by
  subst hS
  exact (g1.trans (g2.mono (fun x hx => List.mem_append_left _ hx))).trans
    (g3.mono (fun x hx => List.mem_append_right _ hx))

/-- the four points a node reads for its keys: the first and last point of either half -/
theorem node_keys {α : Type} (S : List α) (hlen : 2 ≤ S.length) :
    ∃ d0 dh1 dh dl, S[0]? = some d0 ∧ S[S.length / 2 - 1]? = some dh1 ∧ S[S.length / 2]? = some dh ∧
      S.getLast? = some dl ∧ (S.take (S.length / 2)).head? = some d0 ∧
      (S.take (S.length / 2)).getLast? = some dh1 ∧ (S.drop (S.length / 2)).head? = some dh ∧
      (S.drop (S.length / 2)).getLast? = some dl := by
  have h0 : 0 < S.length := by omega
  have h1 : S.length / 2 - 1 < S.length := by omega
  have h2 : S.length / 2 < S.length := by omega
  have hne : S ≠ [] := List.ne_nil_of_length_pos h0
  refine ⟨S[0], S[S.length / 2 - 1], S[S.length / 2], S.getLast hne, List.getElem?_eq_getElem h0,
    List.getElem?_eq_getElem h1, List.getElem?_eq_getElem h2, List.getLast?_eq_some_getLast hne, ?_, ?_, ?_, ?_⟩
  · rw [List.head?_eq_getElem?, List.getElem?_take_of_lt (by omega)]; exact List.getElem?_eq_getElem h0
  · rw [List.getLast?_eq_getElem?, List.length_take, Nat.min_eq_left (by omega),
      List.getElem?_take_of_lt (by omega)]
    exact List.getElem?_eq_getElem h1
  · rw [List.head?_eq_getElem?, List.getElem?_drop, Nat.add_zero]; exact List.getElem?_eq_getElem h2
  · rw [List.getLast?_drop, if_neg (by omega)]; exact List.getLast?_eq_some_getLast hne

section memo
variable {E : Ext K} (hE : E.Lawful)
include hE

/-- the recursion of `batch_fast_interpolate_with_memoization` on a slice with pairwise distinct points: every row
    is interpolated and the dictionaries only grow by keys inside the slice (the proof shows every lookup misses:
    `dict_step`, `memoGet_miss`) -/
theorem batchMemoFuel_spec (t : Thr) (hT : 2 ≤ t.zf) (hRT : 0 < t.rt) (hB : 2 ≤ t.batch) :
    ∀ (fuel : Nat) (S : List K) (matrix : List (List K)) (zd od : Dict K), S.length < fuel → S.Nodup →
      (∀ row ∈ matrix, row.length = S.length) → DictInv S zd → DictInv S od →
      ∃ res zd' od', batchMemoFuel FK E t fuel S matrix (zd, od) = some (res, (zd', od')) ∧
        List.Forall₂ (fun row r => Interpolates S row (denote r)) matrix res ∧
        DictGrow S zd zd' ∧ DictGrow S od od' := by
  intro fuel
  induction fuel with
  | zero => intro S _ _ _ h; omega
  | succ fuel ih =>
    intro S matrix zd od hfuel hnd hrows hzd hod
    by_cases hsmall : S.length < t.batch
    · -- below the cut-off: Lagrange for every row
      obtain ⟨res, hres, hf⟩ := mapM_option_exists (f := fun values => lagrangeInterpolateWith FK E t.zf S values)
        (P := fun row r => Interpolates S row (denote r)) matrix (by
          intro row hrow
          exact lagrangeInterpolateWith_spec root hE t.zf S row hnd (hrows row hrow).symm
            (zerofierWith_total root (E := E) t.zf hT S))
      exact ⟨res, zd, od, by rw [batchMemoFuel, if_pos hsmall]; simp [hres], hf, DictGrow.refl _ _,
        DictGrow.refl _ _⟩
    · have hlen2 : 2 ≤ S.length := by omega
      obtain ⟨d0, dh1, dh, dl, hd0, hdh1, hdh, hdl, h0, h1, h2, h3⟩ := node_keys S hlen2
      set half := S.length / 2 with hhalf
      set L := S.take half with hL
      set R := S.drop half with hR
      have hSLR : L ++ R = S := List.take_append_drop half S
      have hLlen : L.length = half := by rw [hL, List.length_take]; omega
      have hRlen : R.length = S.length - half := by rw [hR, List.length_drop]
      have hndLR : (L ++ R).Nodup := by rw [hSLR]; exact hnd
      obtain ⟨hnL, hnR, hdisj⟩ := List.nodup_append.1 hndLR
      obtain ⟨lz, hlz, hlzd⟩ := zerofierWith_spec root hE t.zf hT L
      obtain ⟨rz, hrz, hrzd⟩ := zerofierWith_spec root hE t.zf hT R
      set loi := (L.map (fun x => (denote rz).eval x)).map (fun x => x⁻¹) with hloid
      set roi := (R.map (fun x => (denote lz).eval x)).map (fun x => x⁻¹) with hroid
      have hloi : (bevSeq FK E t rz L).bind (fun lo => batchInversion FK lo) = some loi := by
        rw [bevSeq_ok root hE t hT hRT rz L]
        exact batchInversion_offsets root L R rz hrzd (fun x hx hx' => hdisj x hx x hx' rfl)
      have hroi : (bevSeq FK E t lz R).bind (fun ro => batchInversion FK ro) = some roi := by
        rw [bevSeq_ok root hE t hT hRT lz R]
        exact batchInversion_offsets root R L lz hlzd (fun x hx hx' => hdisj x hx' x hx rfl)
      -- no key of this node is in either dictionary
      obtain ⟨z1, z2, z3, z4, z5⟩ := dict_step L R hndLR d0 dh1 dh dl h0 h1 h2 h3 zd (hSLR ▸ hzd) lz rz
      obtain ⟨o1, o2, o3, o4, o5⟩ := dict_step L R hndLR d0 dh1 dh dl h0 h1 h2 h3 od (hSLR ▸ hod) loi roi
      have hz1 := memoGet_miss root zd (d0, dh1) _ lz z1 hlz
      have hz2 := memoGet_miss root _ (dh, dl) _ rz z2 hrz
      have ho1 := memoGet_miss root od (d0, dh1) _ loi o1 hloi
      have ho2 := memoGet_miss root _ (dh, dl) _ roi o2 hroi
      have hshort : (matrix.any (fun values => decide (values.length < half))) = false := by
        rw [List.any_eq_false]
        intro row hrow
        rw [decide_eq_true_eq, not_lt, hrows row hrow]; omega
      obtain ⟨lis, zdL, odL, hlis, hlf, gzL, goL⟩ := ih L
        (matrix.map (fun values => List.zipWith (FK).mul (values.take half) loi))
        (zd ++ [((d0, dh1), lz)] ++ [((dh, dl), rz)]) (od ++ [((d0, dh1), loi)] ++ [((dh, dl), roi)])
        (by omega) hnL
        (by
          intro row hrow
          obtain ⟨r0, hr0, rfl⟩ := List.mem_map.1 hrow
          simp only [List.length_zipWith, List.length_take, hloid, List.length_map, hrows r0 hr0, hLlen]
          omega)
        z3 o3
      obtain ⟨ris, zdR, odR, hris, hrf, gzR, goR⟩ := ih R
        (matrix.map (fun values => List.zipWith (FK).mul (values.drop half) roi)) zdL odL
        (by omega) hnR
        (by
          intro row hrow
          obtain ⟨r0, hr0, rfl⟩ := List.mem_map.1 hrow
          simp only [List.length_zipWith, List.length_drop, hroid, List.length_map, hrows r0 hr0, hRlen]
          omega)
        (z4 zdL gzL) (o4 odL goL)
      refine ⟨List.zipWith (fun li ri => add FK (E.mul li rz) (E.mul ri lz)) lis ris, zdR, odR, ?_, ?_,
        DictGrow.node hSLR z5 gzL gzR, DictGrow.node hSLR o5 goL goR⟩
      · rw [batchMemoFuel, if_neg hsmall]
        simp only
        rw [← hhalf, ← hL, ← hR, if_neg (by simp; omega)]
        simp only [hd0, hdh1, hdh, hdl, Option.bind_eq_bind, hz1, hz2, ho1, ho2, Option.bind_some, hshort,
          Bool.false_eq_true, if_false, hlis, hris, Option.pure_def]
      · rw [List.forall₂_map_left_iff] at hlf hrf
        refine forall₂_zipWith _ matrix lis ris ?_ hlf hrf
        intro row hrow li ri hli hri
        exact combine_halves root hE S row half hnd (hrows row hrow).symm lz rz li ri hlzd hrzd hli hri

theorem batchFastInterpolateWith_spec (t : Thr) (hT : 2 ≤ t.zf) (hRT : 0 < t.rt) (hB : 2 ≤ t.batch)
    (domain : List K) (matrix : List (List K)) (hne : domain ≠ []) (hn : domain.Nodup)
    (hrows : ∀ row ∈ matrix, row.length = domain.length) :
    ∃ res, batchFastInterpolateWith FK E t domain matrix = some res ∧
      List.Forall₂ (fun row r => Interpolates domain row (denote r)) matrix res := by
  obtain ⟨res, zd', od', h, hf, _, _⟩ := batchMemoFuel_spec root hE t hT hRT hB (domain.length + 1) domain matrix [] []
    (Nat.lt_succ_self _) hn hrows (by intro e he; simp at he) (by intro e he; simp at he)
  refine ⟨res, ?_, hf⟩
  unfold batchFastInterpolateWith
  rw [if_neg (by simpa using hne), h]
  rfl

end memo

end TF.Model.PolyI
