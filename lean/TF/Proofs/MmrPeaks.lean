import TF.Model.Word
import TF.Spec.MmrAcc
/-!
DESIGN Appendix A.5: `append` (push the leaf, merge `trailing_ones n` times) refines the from-scratch peaks.
Core Lean only; `pair` / `peaks` are in `TF/Spec/MmrAcc.lean`, `trailingOnes` in `TF/Model/Word.lean`.
-/
namespace TF.MmrPeaks
open TF TF.Spec.MmrAcc

variable {D : Type} (H : D → D → D)

/-- `calculate_new_peaks_from_append`: push the leaf, then merge the two last peaks `t` times.
    The stack is kept reversed (last peak first). -/
def mergeN : Nat → List D → List D
  | 0, st => st
  | t+1, new :: prev :: rest => mergeN t (H prev new :: rest)
  | _+1, st => st   -- unreachable for well-formed inputs (the Rust code would panic on `unwrap`)

def appendPeaks (n : Nat) (ps : List D) (x : D) : List D :=
  (mergeN H (trailingOnes n) (x :: ps.reverse)).reverse

theorem mergeN_append (t : Nat) (st extra : List D) (h : t + 1 ≤ st.length) :
    mergeN H t (st ++ extra) = mergeN H t st ++ extra := by
  induction t generalizing st with
  | zero => simp [mergeN]
  | succ t ih =>
    match st, h with
    | new :: prev :: rest, h =>
      simp only [List.cons_append, mergeN]
      exact ih (H prev new :: rest) (by simp at h ⊢; omega)

theorem peaks_length_ge (n : Nat) : ∀ f : Nat → D, trailingOnes n ≤ (peaks H n f).length := by
  induction n using Nat.strongRecOn with
  | _ n ih =>
    intro f
    cases n with
    | zero => simp [trailingOnes]
    | succ n =>
      unfold trailingOnes peaks
      by_cases h : (n+1) % 2 = 1
      · have := ih ((n+1)/2) (by omega) (pair H f)
        simp [h]; omega
      · simp [h]

theorem append_refines (n : Nat) : ∀ f : Nat → D, appendPeaks H n (peaks H n f) (f n) = peaks H (n+1) f := by
  induction n using Nat.strongRecOn with
  | _ n ih =>
    intro f
    cases n with
    | zero => simp [appendPeaks, trailingOnes, mergeN, peaks]
    | succ n =>
      by_cases h : (n+1) % 2 = 1
      · -- odd: one merge with the height-0 peak, then recurse on the paired level
        have hq : (n+1+1)/2 = (n+1)/2 + 1 := by omega
        have hr : (n+1+1) % 2 = 0 := by omega
        have ihq := ih ((n+1)/2) (by omega) (pair H f)
        have hlen := peaks_length_ge H ((n+1)/2) (pair H f)
        have hpair : pair H f ((n+1)/2) = H (f n) (f (n+1)) := by
          unfold pair; congr 1 <;> congr 1 <;> omega
        conv => rhs; unfold peaks
        simp only [hq, hr]
        rw [if_neg (by omega), List.append_nil]
        rw [← ihq]
        unfold appendPeaks
        conv => lhs; unfold trailingOnes peaks
        simp only [h, if_true, List.reverse_append, List.reverse_cons, List.reverse_nil, List.nil_append,
          List.cons_append, mergeN]
        rw [hpair]
      · -- even: no merge
        have hq : (n+1+1)/2 = (n+1)/2 := by omega
        have hr : (n+1+1) % 2 = 1 := by omega
        conv => rhs; unfold peaks
        simp only [hq, hr, if_true]
        unfold appendPeaks
        conv => lhs; unfold trailingOnes
        simp only [h, if_false, mergeN, List.reverse_cons, List.reverse_reverse]
        conv => lhs; unfold peaks
        simp [h]

end TF.MmrPeaks
