import TF.Gen.FieldLoops
import TF.Model.BFieldMore
/-!
# Bridge: `FiniteField::batch_inversion` *as regenerated from source* over an abstract field = the hand model (C01)

`TF/Gen/FieldLoops.lean` is written by `tools/rs2lean_bt4.py` from the text of `traits.rs` on every run: `Self` is an
opaque type `D`; `Self::zero()`, `Self::one()`, `*` / `*=`, `is_zero()`, `inverse()` and the panic flag of `inverse()` are the
parameters `f_zero f_one f_mul f_is_zero f_inverse f_inverse_ok`; `d0` is the value read after an out-of-range index (the
`_ok` twin is false there).  Proved here for **every** such record and every input vector: the regenerated function with its
`_ok` flag is the generic hand model `batchInversionG` (`none` = the `assert!` on a zero element fails or `inverse()`
panics).  Core Lean only.
-/
namespace TF.GenBridge.Field
open TF TF.Gen TF.Model

variable {D : Type} (zero one : D) (mul : D → D → D) (isZero : D → Bool) (inv : D → D) (invOk : D → Bool) (d0 : D)

/-- the result of a regenerated function: `none` when its `_ok` flag says the Rust code panicked -/
def outcome {α : Type} (ok : Bool) (v : α) : Option α := if ok then some v else none

theorem outcome_eq_some {α : Type} {ok : Bool} {v r : α} (h : outcome ok v = some r) : ok = true ∧ v = r := by
  cases ok
  · cases h
  · exact ⟨rfl, Option.some.inj h⟩

theorem outcome_eq_none {α : Type} {ok : Bool} {v : α} (h : outcome ok v = none) : ok = false := by
  cases ok
  · rfl
  · cases h

theorem prefix_length : ∀ (xs : List D) (acc : D) (sc : List D) (fin : D),
    batchPrefixG mul isZero xs acc = some (sc, fin) → sc.length = xs.length
  | [], acc, sc, fin, h => by
    rw [batchPrefixG] at h; cases h; rfl
  | x :: xs, acc, sc, fin, h => by
    rw [batchPrefixG] at h
    by_cases hz : isZero x = true
    · rw [if_pos hz] at h; cases h
    · rw [if_neg hz] at h
      cases hr : batchPrefixG mul isZero xs (mul acc x) with
      | none => rw [hr] at h; cases h
      | some r =>
        obtain ⟨sc', fin'⟩ := r
        rw [hr] at h
        cases h
        rw [List.length_cons, List.length_cons, prefix_length xs _ _ _ hr]

/-- the first loop (`assert!(!input[i].is_zero()); scratch[i] = acc; acc *= input[i]`) from index `pre.length` on -/
theorem for_eq : ∀ (rest pre scratch : List D) (acc : D), scratch.length = (pre ++ rest).length →
    match batchPrefixG mul isZero rest acc with
    | some (sc, fin) =>
      Loops.ff_batch_inversion_for_ok zero one mul isZero inv invOk d0 (pre ++ rest) rest.length pre.length scratch acc = true ∧
      Loops.ff_batch_inversion_for zero one mul isZero inv invOk d0 (pre ++ rest) rest.length pre.length scratch acc
        = (scratch.take pre.length ++ sc ++ scratch.drop (pre.length + rest.length), fin)
    | none =>
      Loops.ff_batch_inversion_for_ok zero one mul isZero inv invOk d0 (pre ++ rest) rest.length pre.length scratch acc = false
  | [], pre, scratch, acc, hl => by
    rw [batchPrefixG]
    refine ⟨rfl, ?_⟩
    rw [List.length_nil, Loops.ff_batch_inversion_for, Nat.add_zero, List.append_nil, List.take_append_drop]
  | x :: rest, pre, scratch, acc, hl => by
    have hget : (pre ++ x :: rest).getD pre.length d0 = x := by
      rw [List.getD_eq_getElem?_getD, List.getElem?_append_right (Nat.le_refl _), Nat.sub_self]; rfl
    have hlen : pre.length < (pre ++ x :: rest).length := by rw [List.length_append, List.length_cons]; omega
    have hlen2 : pre.length < scratch.length := by rw [hl]; exact hlen
    have hpre : pre ++ x :: rest = (pre ++ [x]) ++ rest := by rw [List.append_assoc]; rfl
    have hpl : (pre ++ [x]).length = pre.length + 1 := by rw [List.length_append]; rfl
    rw [batchPrefixG, List.length_cons, Loops.ff_batch_inversion_for_ok, Loops.ff_batch_inversion_for]
    simp only [hget, decide_eq_true hlen, decide_eq_true hlen2, Bool.true_and]
    by_cases hz : isZero x = true
    · rw [if_pos hz, hz]; rfl
    · rw [if_neg hz]
      have hz' : isZero x = false := by
        cases h : isZero x
        · rfl
        · exact absurd h hz
      rw [hz']
      have ih := for_eq rest (pre ++ [x]) (scratch.set pre.length acc) (mul acc x)
        (by rw [List.length_set, hl, hpre])
      rw [← hpre, hpl] at ih
      cases hr : batchPrefixG mul isZero rest (mul acc x) with
      | none =>
        rw [hr] at ih
        simp only [Bool.not_false, Bool.true_and]
        exact ih
      | some r =>
        obtain ⟨sc, fin⟩ := r
        rw [hr] at ih
        simp only [Bool.not_false, Bool.true_and]
        refine ⟨ih.1, ?_⟩
        rw [ih.2]
        have hsc := prefix_length mul isZero rest _ _ _ hr
        have e1 : (scratch.set pre.length acc).take (pre.length + 1) = scratch.take pre.length ++ [acc] := by
          rw [List.take_add_one, List.take_set_of_le (Nat.le_refl _), List.getElem?_set_self hlen2]; rfl
        have e2 : (scratch.set pre.length acc).drop (pre.length + 1 + rest.length) = scratch.drop (pre.length + (rest.length + 1)) := by
          rw [List.drop_set_of_lt (by omega)]; congr 1; omega
        rw [e1, e2]
        simp only [List.append_assoc, List.cons_append, List.nil_append]

/-- the second loop, from the last index down: `tmp = acc * res[i]; res[i] = acc * scratch[i]; acc = tmp` -/
theorem for2_eq (scratch : List D) : ∀ (k : Nat) (acc : D) (res : List D), k ≤ res.length → k ≤ scratch.length →
    Loops.ff_batch_inversion_for2_ok zero one mul isZero inv invOk d0 scratch 0 k acc res = true ∧
    (Loops.ff_batch_inversion_for2 zero one mul isZero inv invOk d0 scratch 0 k acc res).2
      = batchBackG mul (res.take k).reverse (scratch.take k).reverse acc (res.drop k)
  | 0, acc, res, _, _ => by
    refine ⟨rfl, ?_⟩
    rw [Loops.ff_batch_inversion_for2, List.take_zero, List.reverse_nil, List.drop_zero]
    rfl
  | k+1, acc, res, h1, h2 => by
    have hr : res[k]? = some (res.getD k d0) := by
      rw [List.getD_eq_getElem?_getD, List.getElem?_eq_getElem (by omega)]; rfl
    have hs : scratch[k]? = some (scratch.getD k d0) := by
      rw [List.getD_eq_getElem?_getD, List.getElem?_eq_getElem (by omega)]; rfl
    have t1 : (res.take (k + 1)).reverse = res.getD k d0 :: (res.take k).reverse := by
      rw [List.take_add_one, hr]; simp
    have t2 : (scratch.take (k + 1)).reverse = scratch.getD k d0 :: (scratch.take k).reverse := by
      rw [List.take_add_one, hs]; simp
    have ih := for2_eq scratch k (mul acc (res.getD k d0)) (res.set k (mul acc (scratch.getD k d0)))
      (by rw [List.length_set]; omega) (by omega)
    have e1 : (res.set k (mul acc (scratch.getD k d0))).take k = res.take k := List.take_set_of_le (Nat.le_refl _)
    have e2 : (res.set k (mul acc (scratch.getD k d0))).drop k = mul acc (scratch.getD k d0) :: res.drop (k + 1) := by
      have hk : k < (res.set k (mul acc (scratch.getD k d0))).length := by rw [List.length_set]; omega
      rw [List.drop_eq_getElem_cons hk, List.getElem_set_self, List.drop_set_of_lt (by omega)]
    rw [e1, e2] at ih
    rw [Loops.ff_batch_inversion_for2_ok, Loops.ff_batch_inversion_for2, t1, t2, batchBackG]
    simp only [Nat.zero_add]
    have c1 : decide (k < res.length) = true := decide_eq_true (by omega)
    have c2 : decide (k < scratch.length) = true := decide_eq_true (by omega)
    rw [c1, c2]
    exact ⟨by rw [ih.1]; rfl, ih.2⟩

/-- the regenerated `FiniteField::batch_inversion` is the generic hand model, for every field record, every input
    (`inverse : D → Option D` is the partial inverse; its panic is the flag `isSome`, its value after a panic is `d0`) -/
theorem gen_batch_inversion_eq (inverse : D → Option D) (input : List D) :
    outcome (Loops.ff_batch_inversion_ok zero one mul isZero (fun x => (inverse x).getD d0) (fun x => (inverse x).isSome) d0 input)
        (Loops.ff_batch_inversion zero one mul isZero (fun x => (inverse x).getD d0) (fun x => (inverse x).isSome) d0 input)
      = batchInversionG mul isZero inverse one input := by
  cases input with
  | nil => rfl
  | cons x xs =>
    have hne : ((x :: xs).length == 0) = false := rfl
    have hl : ((List.replicate (x :: xs).length zero).set 0 ((x :: xs).getD 0 d0)).length = ([] ++ (x :: xs)).length := by
      rw [List.length_set, List.length_replicate]; rfl
    have hfor := for_eq zero one mul isZero (fun x => (inverse x).getD d0) (fun x => (inverse x).isSome) d0 (x :: xs) []
      ((List.replicate (x :: xs).length zero).set 0 ((x :: xs).getD 0 d0)) one hl
    rw [List.nil_append, List.length_nil] at hfor
    have c0 : decide (0 < (x :: xs).length) = true := rfl
    have c0' : decide (0 < (List.replicate (x :: xs).length zero).length) = true := by
      rw [List.length_replicate]; rfl
    unfold Loops.ff_batch_inversion_ok Loops.ff_batch_inversion batchInversionG
    simp only [hne, Bool.false_eq_true, if_false, Nat.sub_zero, c0, c0', Bool.true_and]
    cases hp : batchPrefixG mul isZero (x :: xs) one with
    | none =>
      rw [hp] at hfor
      simp only at hfor
      rw [hfor]; rfl
    | some r =>
      obtain ⟨sc, fin⟩ := r
      rw [hp] at hfor
      simp only at hfor
      obtain ⟨h1, h2⟩ := hfor
      have hsc := prefix_length mul isZero _ _ _ _ hp
      have hdrop : ((List.replicate (x :: xs).length zero).set 0 ((x :: xs).getD 0 d0)).drop (0 + (x :: xs).length) = [] := by
        apply List.drop_eq_nil_of_le
        rw [List.length_set, List.length_replicate]; omega
      rw [List.take_zero, List.nil_append, hdrop, List.append_nil] at h2
      rw [h1, h2]
      simp only [Bool.true_and]
      cases hi : inverse fin with
      | none => rfl
      | some ai =>
        obtain ⟨f1, f2⟩ := for2_eq zero one mul isZero (fun x => (inverse x).getD d0) (fun x => (inverse x).isSome) d0 sc
          (x :: xs).length ai (x :: xs) (Nat.le_refl _) (by rw [hsc]; exact Nat.le_refl _)
        rw [List.take_length, List.drop_length] at f2
        have hts : sc.take (x :: xs).length = sc := by rw [← hsc, List.take_length]
        rw [hts] at f2
        simp only [Option.isSome_some, Option.getD_some, Bool.true_and, f1, f2]
        rfl

end TF.GenBridge.Field
