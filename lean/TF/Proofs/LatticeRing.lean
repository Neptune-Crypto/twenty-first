import TF.Proofs.LatticeFn
import TF.Proofs.LatticeBasic
import TF.Proofs.NttHom
/-!
The array model of the coset transforms (`TF/Model/Lattice.lean`) over the operations of a commutative ring is the
function-level network of `TF/Proofs/LatticeFn.lean`, coefficient by coefficient (any length `2^L`, then 64); and the
transforms commute with homomorphisms of operation records.
-/
namespace TF.LatticeProofs
open TF.Gen TF.Model.Ntt TF.Model.Lattice TF.NttFn TF.LatFn TF.NttProofs TF.Blocks

section ring
/- `inv`, `inv0` only complete the operation record `ringOps R inv inv0`; the transforms never call them -/
variable {R : Type} [CommRing R] (inv : R → Option R) (inv0 : R → R)

/-- a table as a total function (1 outside, so that products of a table with its inverse table are 1 everywhere) -/
def tab (n : Nat) (a : Array R) : Nat → R := fun k => if k < n then a.getD k 0 else 1

theorem cosetNttStage_toFn (m t : Nat) (psi : Array R) (x : Array R) (i : Nat) (hi : i < x.size) :
    toFn (cosetNttStage (ringOps R inv inv0) m t psi x) i = stageC m t (fun k => psi.getD k 0) (toFn x) i := by
  unfold toFn cosetNttStage
  rw [getD_ofFn _ i hi]
  rfl

theorem cosetInttStage_toFn (h t : Nat) (psiInv : Array R) (x : Array R) (i : Nat) (hi : i < x.size) :
    toFn (cosetInttStage (ringOps R inv inv0) h t psiInv x) i = stageCI h t (fun k => psiInv.getD k 0) (toFn x) i := by
  unfold toFn cosetInttStage
  rw [getD_ofFn _ i hi]
  rfl

/-- a forward stage over `q` blocks of size `2t` reads the table at `m .. m+q` and the input below `q·2t` -/
theorem stageC_congr (m t q : Nat) (ζ ζ' : Nat → R) (f g : Nat → R)
    (hζ : ∀ b, b < q → ζ (m + b) = ζ' (m + b))
    (h : ∀ i, i < q * (2*t) → f i = g i) (i : Nat) (hi : i < q * (2*t)) : stageC m t ζ f i = stageC m t ζ' g i := by
  obtain ⟨hd, hlo⟩ := block_bounds t q i hi
  unfold stageC
  rw [hζ _ hd, h i hi]
  split
  next hlt => rw [h (i + t) (hlo hlt)]
  · rw [h (i - t) (by omega)]

theorem stageCI_congr (hh t q : Nat) (ζ ζ' : Nat → R) (f g : Nat → R)
    (hζ : ∀ b, b < q → ζ (hh + b) = ζ' (hh + b))
    (h : ∀ i, i < q * (2*t) → f i = g i) (i : Nat) (hi : i < q * (2*t)) : stageCI hh t ζ f i = stageCI hh t ζ' g i := by
  obtain ⟨hd, hlo⟩ := block_bounds t q i hi
  unfold stageCI
  rw [hζ _ hd, h i hi]
  split
  next hlt => rw [h (i + t) (hlo hlt)]
  · rw [h (i - t) (by omega)]

/-- the forward loop with `d` stages to go (`s` done, `s + d = L`) -/
theorem cosetNttLoop_spec (L : Nat) (psi : Array R) (y0 : Nat → R) :
    ∀ d s fuel (x : Array R), s + d = L → d ≤ fuel → x.size = 2^L →
    (∀ i, i < 2^L → toFn x i = cStages L (tab (2^L) psi) s y0 i) →
    ∀ i, i < 2^L → toFn (cosetNttLoop (ringOps R inv inv0) psi (2^L) fuel (2^s) (2^d) x) i
      = cStages L (tab (2^L) psi) L y0 i := by
  intro d
  induction d with
  | zero =>
    intro s fuel x hs _ _ h
    rw [Nat.add_zero] at hs
    subst hs
    cases fuel
    · exact h
    · rw [cosetNttLoop, if_neg (Nat.lt_irrefl _)]
      exact h
  | succ d ih =>
    intro s fuel x hs hf hx h
    obtain ⟨f, rfl⟩ : ∃ f, fuel = f + 1 := ⟨fuel - 1, by omega⟩
    have hL : 2^L = 2^s * (2 * 2^d) := by rw [← hs, ← Nat.add_assoc, pow_succ, pow_add]; ring
    have hlt : 2^s < 2^L := Nat.pow_lt_pow_right (by norm_num) (by omega)
    rw [cosetNttLoop, if_pos hlt, pow_succ, Nat.mul_div_cancel _ (by norm_num), ← pow_succ']
    refine ih (s+1) f _ (by omega) (by omega) (by rw [cosetNttStage_size, hx]) (fun i hi => ?_)
    rw [cosetNttStage_toFn inv inv0 _ _ _ _ i (by rw [hx]; exact hi), cStages, show L - s - 1 = d by omega]
    refine stageC_congr (2^s) (2^d) (2^s) _ _ _ _ (fun b hb => ?_) (fun j hj => h j (hL ▸ hj)) i (hL ▸ hi)
    have : 2^s * 2 ≤ 2^s * (2 * 2^d) := Nat.mul_le_mul_left _ (by have := Nat.two_pow_pos d; omega)
    rw [tab, if_pos (by omega)]

/-- the inverse loop with `f` stages to go (`k` done) -/
theorem cosetInttLoop_spec (L : Nat) (psiInv : Array R) (y0 : Nat → R) :
    ∀ f k (x : Array R), k + f ≤ L → x.size = 2^L →
    (∀ i, i < 2^L → toFn x i = ciStages L (tab (2^L) psiInv) k y0 i) →
    ∀ i, i < 2^L → toFn (cosetInttLoop (ringOps R inv inv0) psiInv f (2^k) (2^(L-k) / 2) x) i
      = ciStages L (tab (2^L) psiInv) (k + f) y0 i := by
  intro f
  induction f with
  | zero =>
    intro k x _ _ h
    exact h
  | succ f ih =>
    intro k x hk hx h
    obtain ⟨d, hd⟩ : ∃ d, L - k = d + 1 := ⟨L - k - 1, by omega⟩
    have hL : 2^L = 2^d * (2 * 2^k) := by
      rw [show L = d + k + 1 by omega, pow_succ, pow_add]; ring
    rw [cosetInttLoop, hd, pow_succ, Nat.mul_div_cancel _ (by norm_num), ← pow_succ', ← Nat.add_assoc]
    have := ih (k+1) (cosetInttStage (ringOps R inv inv0) (2^d) (2^k) psiInv x) (by omega)
      (by rw [cosetInttStage_size, hx]) (fun i hi => by
        rw [cosetInttStage_toFn inv inv0 _ _ _ _ i (by rw [hx]; exact hi), ciStages, show L - k - 1 = d by omega]
        refine stageCI_congr (2^d) (2^k) (2^d) _ _ _ _ (fun b hb => ?_) (fun j hj => h j (hL ▸ hj)) i
          (hL ▸ hi)
        have : 2^d * 2 ≤ 2^d * (2 * 2^k) := Nat.mul_le_mul_left _ (by have := Nat.two_pow_pos k; omega)
        rw [tab, if_pos (by omega)])
    rwa [show L - (k+1) = d by omega, show k + 1 + f = k + (f + 1) by omega] at this

theorem ciStages_congr_range (L : Nat) (ζi : Nat → R) (f g : Nat → R) (h : ∀ i, i < 2^L → f i = g i) :
    ∀ k, k ≤ L → ∀ i, i < 2^L → ciStages L ζi k f i = ciStages L ζi k g i := by
  intro k
  induction k with
  | zero =>
    intro _ i hi
    exact h i hi
  | succ k ih =>
    intro hk i hi
    have hL : 2^L = 2^(L-k-1) * (2 * 2^k) := by
      rw [show L = (L-k-1) + k + 1 by omega, pow_succ, pow_add, show (L-k-1) + k + 1 - k - 1 = L-k-1 by omega]; ring
    rw [ciStages, ciStages]
    rw [hL] at hi
    exact stageCI_congr _ (2^k) (2^(L-k-1)) _ _ _ _ (fun _ _ => rfl)
      (fun j hj => ih (by omega) j (by rw [hL]; exact hj)) i hi

theorem N_eq : LATTICE_N = 2^6 := by decide

theorem cosetNtt_toFn (psi x : Array R) (hx : x.size = 64) (i : Nat) (hi : i < 64) :
    toFn (cosetNtt (ringOps R inv inv0) psi x) i = cStages 6 (tab (2^6) psi) 6 (toFn x) i := by
  rw [cosetNtt, N_eq]
  exact cosetNttLoop_spec inv inv0 6 psi (toFn x) 6 0 (2^6) x rfl (by norm_num) hx (fun _ _ => rfl) i hi

theorem cosetIntt_toFn (psiInv : Array R) (ninv : R) (y : Array R) (hy : y.size = 64) (i : Nat) (hi : i < 64) :
    toFn (cosetIntt (ringOps R inv inv0) psiInv ninv y) i = ninv * ciStages 6 (tab (2^6) psiInv) 6 (toFn y) i := by
  rw [cosetIntt, N_eq, toFn_map_scale inv inv0 _ _ i (by rw [cosetInttLoop_size, hy]; exact hi)]
  exact congrArg (ninv * ·) (cosetInttLoop_spec inv inv0 6 psiInv (toFn y) 6 0 y (by norm_num) hy (fun _ _ => rfl) i hi)

/-- what the transform theory asks of a table pair of length 64 over `R`: every twiddle squares to its block constant
    (`hT`), the second table holds the inverses (`hinv`), `ninv = 1/64` (`hn`) -/
structure Tables (psi psiInv : Array R) (ninv : R) : Prop where
  hT : TableOk 6 (-1) (tab (2^6) psi)
  hinv : ∀ k, k < 2^6 → psiInv.getD k 0 * psi.getD k 0 = 1
  hn : ninv * (2:R)^6 = 1

theorem tab_inv (psi psiInv : Array R) (ninv : R) (h : Tables psi psiInv ninv) :
    ∀ k, tab (2^6) psiInv k * tab (2^6) psi k = 1 := by
  intro k
  simp only [tab]
  by_cases hk : k < 2^6
  · rw [if_pos hk, if_pos hk]
    exact h.hinv k hk
  · rw [if_neg hk, if_neg hk]
    ring

end ring

section hom
variable {σ α σ' α' : Type} {o : Ops σ α} {o' : Ops σ' α'} {fs : σ → σ'} {fa : α → α'}

theorem getD_map_zero (h : OpsHom o o' fs fa) (x : Array α) (j : Nat) : (x.map fa).getD j o'.zero = fa (x.getD j o.zero) := by
  rw [← h.zero, getD_map]

theorem getD_map_szero (h : OpsHom o o' fs fa) (psi : Array σ) (j : Nat) :
    (psi.map fs).getD j o'.szero = fs (psi.getD j o.szero) := by
  rw [← h.szero, getD_map]

theorem cosetNttStage_map (h : OpsHom o o' fs fa) (m t : Nat) (psi : Array σ) (x : Array α) :
    (cosetNttStage o m t psi x).map fa = cosetNttStage o' m t (psi.map fs) (x.map fa) := by
  apply Array.ext (by rw [Array.size_map, cosetNttStage_size, cosetNttStage_size, Array.size_map])
  intro i h1 h2
  rw [Array.getElem_map]
  unfold cosetNttStage
  simp only [Array.getElem_ofFn, getD_map_zero h, getD_map_szero h]
  split
  · rw [h.add, h.scale]
  · rw [h.sub, h.scale]

theorem cosetNttLoop_map (h : OpsHom o o' fs fa) (psi : Array σ) (n : Nat) : ∀ f m t (x : Array α),
    (cosetNttLoop o psi n f m t x).map fa = cosetNttLoop o' (psi.map fs) n f m t (x.map fa) := by
  intro f
  induction f with
  | zero =>
    intro m t x
    rfl
  | succ f ih =>
    intro m t x
    simp only [cosetNttLoop]
    split
    · rw [ih, cosetNttStage_map h]
    · rfl

theorem cosetNtt_map (h : OpsHom o o' fs fa) (psi : Array σ) (x : Array α) :
    (cosetNtt o psi x).map fa = cosetNtt o' (psi.map fs) (x.map fa) := by
  simp only [cosetNtt, cosetNttLoop_map h]

theorem cosetInttStage_map (h : OpsHom o o' fs fa) (hh t : Nat) (psiInv : Array σ) (x : Array α) :
    (cosetInttStage o hh t psiInv x).map fa = cosetInttStage o' hh t (psiInv.map fs) (x.map fa) := by
  apply Array.ext (by rw [Array.size_map, cosetInttStage_size, cosetInttStage_size, Array.size_map])
  intro i h1 h2
  rw [Array.getElem_map]
  unfold cosetInttStage
  simp only [Array.getElem_ofFn, getD_map_zero h, getD_map_szero h]
  split
  · rw [h.add]
  · rw [h.scale, h.sub]

theorem cosetInttLoop_map (h : OpsHom o o' fs fa) (psiInv : Array σ) : ∀ f t hh (x : Array α),
    (cosetInttLoop o psiInv f t hh x).map fa = cosetInttLoop o' (psiInv.map fs) f t hh (x.map fa) := by
  intro f
  induction f with
  | zero =>
    intro t hh x
    rfl
  | succ f ih =>
    intro t hh x
    simp only [cosetInttLoop]
    rw [ih, cosetInttStage_map h]

theorem cosetIntt_map (h : OpsHom o o' fs fa) (psiInv : Array σ) (ninv : σ) (x : Array α) :
    (cosetIntt o psiInv ninv x).map fa = cosetIntt o' (psiInv.map fs) (fs ninv) (x.map fa) := by
  simp only [cosetIntt, ← cosetInttLoop_map h, Array.map_map]
  congr 1
  funext a
  simp [h.scale]

end hom
end TF.LatticeProofs
