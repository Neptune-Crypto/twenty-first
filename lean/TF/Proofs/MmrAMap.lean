import TF.Model.MmrMember
/-!
Lookup in the association lists that model `HashMap<u64, Digest>` (`AMap`, `TF/Model/MmrMember.lean`).
-/
namespace TF.MmrE
open TF.Model.MmrE

variable {D : Type}

theorem get?_cons (m : AMap D) (k k' : Nat) (v : D) :
    AMap.get? ((k', v) :: m) k = if k' = k then some v else AMap.get? m k := rfl

theorem get?_insert (m : AMap D) (k k' : Nat) (v : D) :
    AMap.get? (m.insert k' v) k = if k' = k then some v else AMap.get? m k := rfl

theorem get?_nil (k : Nat) : AMap.get? ([] : AMap D) k = none := rfl

theorem get?_append (a b : AMap D) (k : Nat) :
    AMap.get? (a ++ b) k = (AMap.get? a k).or (AMap.get? b k) := by
  induction a with
  | nil => simp [get?_nil]
  | cons p a ih =>
    obtain ⟨k', v⟩ := p
    rw [List.cons_append, get?_cons, get?_cons, ih]
    split <;> simp

theorem get?_some_mem (a : AMap D) (k : Nat) (v : D) (h : AMap.get? a k = some v) : (k, v) ∈ a := by
  induction a with
  | nil => simp [get?_nil] at h
  | cons p a ih =>
    obtain ⟨k', v'⟩ := p
    rw [get?_cons] at h
    by_cases hk : k' = k
    · rw [if_pos hk] at h
      cases h
      subst hk
      simp
    · rw [if_neg hk] at h; exact List.mem_cons_of_mem _ (ih h)

theorem get?_none_not_mem (a : AMap D) (k : Nat) (h : AMap.get? a k = none) (v : D) : (k, v) ∉ a := by
  induction a with
  | nil => simp
  | cons p a ih =>
    obtain ⟨k', v'⟩ := p
    rw [get?_cons] at h
    by_cases hk : k' = k
    · rw [if_pos hk] at h; cases h
    · rw [if_neg hk] at h
      intro hm
      rcases List.mem_cons.mp hm with he | hm'
      · cases he; exact hk rfl
      · exact ih h hm'

theorem get?_isSome_of_mem (a : AMap D) (k : Nat) (v : D) (h : (k, v) ∈ a) : (AMap.get? a k).isSome := by
  cases hg : AMap.get? a k with
  | none => exact absurd h (get?_none_not_mem a k hg v)
  | some _ => rfl


theorem get?_of_key (m : AMap D) (k : Nat) (h : k ∈ m.map (·.1)) : ∃ d, AMap.get? m k = some d := by
  obtain ⟨⟨k', v⟩, hm, rfl⟩ := List.mem_map.mp h
  cases hg : AMap.get? m k' with
  | none => exact absurd hm (get?_none_not_mem m k' hg v)
  | some d => exact ⟨d, rfl⟩

end TF.MmrE
