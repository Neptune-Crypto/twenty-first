import TF.Gen.Consts
import TF.Gen.BField

/-!
Word-level facts about the translated `BFieldElement` functions (`TF/Gen/BField.lean`, regenerated from
`b_field_element.rs` on every run), core Lean only.  `omega` gets stuck on congruences with two 64-bit coefficients and is
slow on large contexts, so wrapped intermediates are rewritten to closed forms and congruences are kept as linear equations
`r + P·c = x + P·d`.  Subtraction modulo `P` (`subP`) carries `montyred`, `Sub`, `Add` and half of `mod_reduce`.
-/
namespace TF.BF
open TF.Gen

/-! `Pn`, `W = 2^64`, `H = 2^32`, `Winv` name the literals of the generated text, so that `omega`, which needs literals, sees
them only after `unfold`; `Pn` is `P` and `Winv` is `R2` of `TF/Gen/Consts.lean` (`P_eq`, `R2_eq`). -/
def Pn : Nat := 18446744069414584321
def W : Nat := 18446744073709551616
def H : Nat := 4294967296
/-- `2^-64 mod P` (it equals `R2 = 2^128 mod P` because `2^192 ≡ 1`) -/
def Winv : Nat := 18446744065119617025

theorem P_eq : P = Pn := rfl
theorem R2_eq : R2 = Winv := rfl
theorem Pn_lt_W : Pn < W := by decide

theorem sub_mod_of_le {a b w : Nat} (h : b ≤ a) (ha : a < w) : (a + w - b) % w = a - b := by
  rw [show a + w - b = a - b + w by omega, Nat.add_mod_right, Nat.mod_eq_of_lt (by omega)]

theorem sub_mod_of_lt {a b w : Nat} (h : a < b) (hb : b ≤ w) : (a + w - b) % w = a + w - b :=
  Nat.mod_eq_of_lt (by omega)

theorem mod_add_carry {s w : Nat} (h : s < 2 * w) : s % w + w * (if s ≥ w then 1 else 0) = s := by
  by_cases hs : s ≥ w
  · rw [if_pos hs, Nat.mod_eq_sub_mod hs, Nat.mod_eq_of_lt (by omega)]; omega
  · rw [if_neg hs, Nat.mod_eq_of_lt (by omega)]; omega

theorem mod_eq_of_add_mul {r n c x d : Nat} (h : r + n * c = x + n * d) : r % n = x % n := by
  rw [← Nat.add_mul_mod_self_left r n c, h, Nat.add_mul_mod_self_left]

/-- The code subtracts modulo `P` by a wrapping subtraction followed, when that borrowed, by subtracting
    `2^32 - 1 = 2^64 - P`: the last step of `montyred`, `Sub`, `Add` (of `P - rhs`) and the first half of `mod_reduce`. -/
def subP (a b : Nat) : Nat := ((a + W - b) % W + W - 4294967295 * (if a < b then 1 else 0)) % W

theorem subP_lit (a b : Nat) : ((a + 18446744073709551616 - b) % 18446744073709551616 + 18446744073709551616 -
    4294967295 * (if a < b then 1 else 0)) % 18446744073709551616 = subP a b := rfl

theorem subP_add (a b : Nat) (ha : a < W) (hb : b < W) (hab : b ≤ a + Pn) :
    subP a b + b = a + Pn * (if a < b then 1 else 0) := by
  unfold subP
  by_cases h : a < b
  · rw [if_pos h, sub_mod_of_lt h (Nat.le_of_lt hb),
      sub_mod_of_le (by unfold W Pn at *; omega) (by unfold W at *; omega)]
    unfold W Pn at *; omega
  · rw [if_neg h, Nat.mul_zero, Nat.sub_zero, Nat.add_mod_right, Nat.mod_mod, sub_mod_of_le (by omega) ha]
    omega

theorem subP_lt (a b : Nat) (ha : a < Pn) (hb : b < W) (hab : b ≤ a + Pn) : subP a b < Pn := by
  have h := subP_add a b (Nat.lt_trans ha Pn_lt_W) hb hab
  by_cases hlt : a < b
  · rw [if_pos hlt] at h; omega
  · rw [if_neg hlt] at h; omega

/-- the intermediate `b` of `montyred` for `a = lo + 2^32·D` and carry `e`: two wrapping subtractions that do not wrap -/
theorem b_core (a lo D e : Nat) (ha : a = lo + H * D) (haW : a < W) (he : e ≤ lo + (H - 1) * D) :
    ((a + W - D) % W + W - e) % W + e = lo + (H - 1) * D := by
  have h1 : a - D = lo + (H - 1) * D := by
    rw [ha, Nat.add_sub_assoc (Nat.le_mul_of_pos_left D (by decide)), Nat.sub_one_mul]
  have h2 : lo + (H - 1) * D < W := h1 ▸ Nat.lt_of_le_of_lt (Nat.sub_le a D) haW
  rw [sub_mod_of_le (ha ▸ Nat.le_add_left_of_le (Nat.le_mul_of_pos_left D (by decide))) haW, h1, sub_mod_of_le he h2,
    Nat.sub_add_cancel he]

theorem shl32 (lo hi : Nat) (hlo : lo < H) : (lo + H * hi) * H % W = lo * H := by
  rw [Nat.add_mul, Nat.mul_assoc, show H * (hi * H) = W * hi by unfold H W; omega, Nat.add_mul_mod_self_left,
    Nat.mod_eq_of_lt (by unfold H W at *; omega)]

/-- closed form of the intermediate `b` of `montyred`, by cases on the carry `e`: with `a = lo + 2^32·(hi + lo) − e·2^64`
    (`= xl·(2^32 + 1) mod 2^64`, and `2^32 + 1 = P⁻¹ mod 2^64`) the code computes `b = a − (a >> 32) − e`, the high word of `a·P` -/
theorem b_closed (lo hi : Nat) (hlo : lo < H) (hhi : hi < H) :
    let xl := lo + H * hi
    let s := xl + (xl * H) % W
    let a := s % W
    let e := if s ≥ W then 1 else 0
    let b := ((a + W - a / H) % W + W - e) % W
    (s < W → b = lo + (H - 1) * (hi + lo)) ∧
    (s ≥ W → b + 1 + (H-1) * H = lo + (H - 1) * (hi + lo)) := by
  have hdiv (D : Nat) : (lo + H * D) / H = D := by
    rw [Nat.add_mul_div_left _ _ (by decide : 0 < H), Nat.div_eq_of_lt hlo, Nat.zero_add]
  dsimp only
  rw [shl32 lo hi hlo,
    show lo + H * hi + lo * H = lo + H * (hi + lo) by rw [Nat.mul_add, Nat.mul_comm lo H, Nat.add_assoc]]
  constructor
  · intro hlt
    rw [if_neg (Nat.not_le_of_lt hlt), Nat.mod_eq_of_lt hlt, hdiv, ← Nat.add_zero (_ % W)]
    exact b_core _ lo (hi + lo) 0 rfl hlt (Nat.zero_le _)
  · intro hge
    have hH : H ≤ hi + lo := by unfold H W at *; omega
    have ha : (lo + H * (hi + lo)) % W = lo + H * (hi + lo - H) := by
      rw [Nat.mod_eq_sub_mod hge, Nat.mod_eq_of_lt (by unfold H W at *; omega)]
      unfold H W at *; omega
    have haW : lo + H * (hi + lo - H) < W := ha ▸ Nat.mod_lt _ (by decide)
    rw [if_pos hge, ha, hdiv, b_core _ lo _ 1 rfl haW (by unfold H at *; omega), Nat.add_assoc, ← Nat.mul_add,
      Nat.sub_add_cancel hH]

/-- what `montyred` needs of `b`: it is the high word of `a·P` for some `a` with `a·P ≡ xl (mod 2^64)` -/
theorem b_spec (lo hi : Nat) (hlo : lo < H) (hhi : hi < H) :
    let xl := lo + H * hi
    let s := xl + (xl * H) % W
    let a := s % W
    let e := if s ≥ W then 1 else 0
    let b := ((a + W - a / H) % W + W - e) % W
    b < Pn ∧ ∃ a', a' * Pn = xl + b * W := by
  have h := b_closed lo hi hlo hhi
  dsimp only at h ⊢
  generalize (((lo + H * hi + (lo + H * hi) * H % W) % W + W - (lo + H * hi + (lo + H * hi) * H % W) % W / H) % W + W -
    (if lo + H * hi + (lo + H * hi) * H % W ≥ W then 1 else 0)) % W = b at h ⊢
  rw [shl32 lo hi hlo] at h
  by_cases hs : lo + H * hi + lo * H < W
  · have hb := h.1 hs
    exact ⟨by unfold H Pn W at *; omega, lo + H * (hi + lo), by unfold H Pn W at *; omega⟩
  · have hb := h.2 (Nat.le_of_not_lt hs)
    exact ⟨by unfold H Pn W at *; omega, lo + H * (hi + lo) - W, by unfold H Pn W at *; omega⟩

/-- the shape of `montyred` used by the limb proof -/
def montyredN (x : Nat) : Nat :=
  let xl := x % W
  let xh := x / W
  let s := xl + (xl * H) % W
  let a := s % W
  let e := if s ≥ W then 1 else 0
  let b := ((a + W - a / H) % W + W - e) % W
  let r := (xh + W - b) % W
  let c := if xh < b then 1 else 0
  (r + W - 4294967295 * c) % W

/-- `(1 + !P) * c` for a borrow flag `c`: `1 + (u64::MAX − P) = 2^32 − 1` -/
theorem negP_mul_flag (c : Prop) [Decidable c] :
    ((1 + (18446744073709551615 - 18446744069414584321)) % 18446744073709551616 * (if c then 1 else 0))
      % 18446744073709551616 = 4294967295 * (if c then 1 else 0) := by
  split <;> rfl

/-- the translated `montyred` is `montyredN` on `u128` inputs -/
theorem montyred_unfold (x : Nat) (hx : x < W * W) : montyred x = montyredN x := by
  have hx' : x / 18446744073709551616 < 18446744073709551616 := Nat.div_lt_of_lt_mul hx
  unfold montyred montyredN W H
  simp only [Nat.mod_eq_of_lt hx', decide_eq_true_eq, ge_iff_le, negP_mul_flag]

theorem PW_lt : Pn * W < W * W := by decide

/-- Montgomery reduction: range and congruence, for every `x < P·2^64` -/
theorem montyred_spec (x : Nat) (hx : x < Pn * W) :
    montyred x < Pn ∧ (montyred x * W) % Pn = x % Pn := by
  rw [montyred_unfold x (Nat.lt_trans hx PW_lt)]
  have hxh : x / W < Pn := Nat.div_lt_of_lt_mul (Nat.mul_comm Pn W ▸ hx)
  obtain ⟨hbP, a, ha⟩ := b_spec (x % W % H) (x % W / H) (Nat.mod_lt _ (by decide))
    (Nat.div_lt_of_lt_mul (Nat.mod_lt _ (by decide)))
  rw [Nat.mod_add_div] at hbP ha
  show subP (x / W) _ < Pn ∧ subP (x / W) _ * W % Pn = x % Pn
  generalize (((x % W + x % W * H % W) % W + W - (x % W + x % W * H % W) % W / H) % W + W -
    (if x % W + x % W * H % W ≥ W then 1 else 0)) % W = b at *
  have hbW : b < W := Nat.lt_trans hbP Pn_lt_W
  have hr := subP_add (x / W) b (Nat.lt_trans hxh Pn_lt_W) hbW (Nat.le_add_left_of_le (Nat.le_of_lt hbP))
  refine ⟨subP_lt _ b hxh hbW (Nat.le_add_left_of_le (Nat.le_of_lt hbP)), ?_⟩
  generalize subP (x / W) b = r at hr ⊢
  generalize (if x / W < b then 1 else 0) = c at hr
  have hx' := Nat.mod_add_div x W
  generalize x % W = xl at ha hx'
  generalize x / W = xh at hr hx'
  have key : r * W + Pn * a = x + Pn * (c * W) := by
    rw [Nat.mul_comm Pn a, ha, Nat.add_left_comm, ← Nat.add_mul, hr, Nat.add_mul, ← hx', Nat.mul_comm xh W,
      Nat.mul_assoc, Nat.add_assoc]
  exact mod_eq_of_add_mul key

theorem negP_mul_flag_lt (c : Prop) [Decidable c] :
    (1 + (18446744073709551615 - 18446744069414584321)) % 18446744073709551616 * (if c then 1 else 0)
      < 18446744073709551616 := by
  split <;> decide

theorem montyred_ok_true (x : Nat) : montyred_ok x = true := by
  unfold montyred_ok
  simp only [Bool.and_eq_true, decide_eq_true_eq]
  exact ⟨by decide, negP_mul_flag_lt _⟩

theorem W_Winv : (W * Winv) % Pn = 1 := by decide

theorem montyred_eq (x : Nat) (hx : x < Pn * W) : montyred x = (x * Winv) % Pn := by
  obtain ⟨h1, h2⟩ := montyred_spec x hx
  rw [← Nat.mod_mul_mod, ← h2, Nat.mod_mul_mod, Nat.mul_assoc, ← Nat.mul_mod_mod, W_Winv, Nat.mul_one,
    Nat.mod_eq_of_lt h1]

def canon (r : Nat) : Prop := r < Pn

theorem Winv_cube : (Winv * Winv * Winv) % Pn = 1 := by decide

/-- products of a canonical word and a 64-bit word are in the domain of `montyred` and fit `u128` -/
theorem prod_lt {a b : Nat} (ha : a < Pn) (hb : b < W) :
    a * b < Pn * W ∧ a * b < 340282366920938463463374607431768211456 :=
  have h := Nat.mul_lt_mul'' ha hb
  ⟨h, Nat.lt_trans h (by decide)⟩

theorem value_eq (r : Nat) (h : r < W) : bfe_value r = (r * Winv) % Pn :=
  montyred_eq r (Nat.lt_of_lt_of_le h (Nat.le_mul_of_pos_left W (by decide)))

theorem value_lt (r : Nat) (h : r < W) : bfe_value r < Pn := by
  rw [value_eq r h]; exact Nat.mod_lt _ (by decide)

theorem value_ok (r : Nat) : bfe_value_ok r = true := montyred_ok_true r

theorem value_mul_W (r : Nat) (h : r < Pn) : (bfe_value r * W) % Pn = r := by
  rw [show bfe_value r = montyred r from rfl,
    (montyred_spec r (Nat.lt_of_lt_of_le h (Nat.le_mul_of_pos_right Pn (by decide)))).2, Nat.mod_eq_of_lt h]

/-- every field element has exactly one canonical raw word -/
theorem repr_unique (a b : Nat) (ha : canon a) (hb : canon b) (h : bfe_value a = bfe_value b) : a = b := by
  rw [← value_mul_W a ha, ← value_mul_W b hb, h]

theorem new_eq (v : Nat) (h : v < W) : bfe_new v = (v * Winv * Winv) % Pn := by
  have hp := prod_lt (a := 18446744065119617025) (by decide) h
  rw [Nat.mul_comm] at hp
  unfold bfe_new
  rw [Nat.mod_eq_of_lt hp.2, montyred_eq _ hp.1]; rfl

theorem new_ok (v : Nat) (h : v < W) : bfe_new_ok v = true := by
  have hp := prod_lt (a := 18446744065119617025) (by decide) h
  rw [Nat.mul_comm] at hp
  unfold bfe_new_ok
  rw [montyred_ok_true, Bool.and_true]; exact decide_eq_true hp.2

/-- `BFieldElement::new` is total on `u64`, canonical, and `value ∘ new = (· mod P)` -/
theorem new_spec (v : Nat) (h : v < W) : canon (bfe_new v) ∧ bfe_value (bfe_new v) = v % Pn := by
  have hc : bfe_new v < Pn := by rw [new_eq v h]; exact Nat.mod_lt _ (by decide)
  refine ⟨hc, ?_⟩
  rw [value_eq _ (Nat.lt_trans hc Pn_lt_W), new_eq v h, Nat.mod_mul_mod, Nat.mul_assoc, Nat.mul_assoc,
    ← Nat.mul_assoc Winv, ← Nat.mul_mod_mod, Winv_cube, Nat.mul_one]

theorem value_new (v : Nat) (h : v < Pn) : bfe_value (bfe_new v) = v := by
  rw [(new_spec v (Nat.lt_trans h Pn_lt_W)).2, Nat.mod_eq_of_lt h]

theorem new_value (r : Nat) (h : canon r) : bfe_new (bfe_value r) = r := by
  have hv := value_lt r (Nat.lt_trans h Pn_lt_W)
  have := new_spec (bfe_value r) (Nat.lt_trans hv Pn_lt_W)
  apply repr_unique _ _ this.1 h
  rw [this.2, Nat.mod_eq_of_lt hv]

theorem mul_eq (a b : Nat) (ha : canon a) (hb : canon b) : bfe_mul a b = (a * b * Winv) % Pn := by
  have hp := prod_lt ha (Nat.lt_trans hb Pn_lt_W)
  unfold bfe_mul
  rw [Nat.mod_eq_of_lt hp.2, montyred_eq _ hp.1]

theorem mul_ok (a b : Nat) (ha : canon a) (hb : canon b) : bfe_mul_ok a b = true := by
  unfold bfe_mul_ok
  rw [montyred_ok_true, Bool.and_true]; exact decide_eq_true (prod_lt ha (Nat.lt_trans hb Pn_lt_W)).2

/-- multiplication: canonical result whose value is the product of the values mod `P` -/
theorem mul_spec (a b : Nat) (ha : canon a) (hb : canon b) :
    canon (bfe_mul a b) ∧ bfe_value (bfe_mul a b) = (bfe_value a * bfe_value b) % Pn := by
  have hc : bfe_mul a b < Pn := by rw [mul_eq a b ha hb]; exact Nat.mod_lt _ (by decide)
  refine ⟨hc, ?_⟩
  rw [value_eq _ (Nat.lt_trans hc Pn_lt_W), value_eq a (Nat.lt_trans ha Pn_lt_W),
    value_eq b (Nat.lt_trans hb Pn_lt_W), mul_eq a b ha hb, Nat.mod_mul_mod, ← Nat.mul_mod,
    Nat.mul_mul_mul_comm a Winv b Winv, Nat.mul_assoc (a * b)]

theorem sub_eq (a b : Nat) : bfe_sub a b = subP a b := by
  unfold bfe_sub subP W
  simp only [decide_eq_true_eq, negP_mul_flag]

theorem sub_ok (a b : Nat) : bfe_sub_ok a b = true := by
  unfold bfe_sub_ok
  simp only [Bool.and_eq_true, decide_eq_true_eq]
  exact ⟨by decide, negP_mul_flag_lt _⟩

/-- subtraction: canonical, and `value (a - b) + value b ≡ value a` -/
theorem sub_spec (a b : Nat) (ha : canon a) (hb : canon b) :
    canon (bfe_sub a b) ∧ (bfe_value (bfe_sub a b) + bfe_value b) % Pn = bfe_value a := by
  have hbW := Nat.lt_trans hb Pn_lt_W
  have hab : b ≤ a + Pn := Nat.le_add_left_of_le (Nat.le_of_lt hb)
  have hc : bfe_sub a b < Pn := sub_eq a b ▸ subP_lt a b ha hbW hab
  refine ⟨hc, ?_⟩
  have h := subP_add a b (Nat.lt_trans ha Pn_lt_W) hbW hab
  rw [← sub_eq] at h
  rw [value_eq _ (Nat.lt_trans hc Pn_lt_W), value_eq b hbW, value_eq a (Nat.lt_trans ha Pn_lt_W), ← Nat.add_mod,
    ← Nat.add_mul, h, Nat.add_mul, Nat.mul_assoc, Nat.add_mul_mod_self_left]

/-- `Add` is the same subtraction, of `P - rhs` -/
theorem add_eq (a b : Nat) : bfe_add a b = subP a ((Pn + W - b) % W) := by
  unfold bfe_add subP W Pn
  simp only [decide_eq_true_eq]
  generalize (18446744069414584321 + 18446744073709551616 - b) % 18446744073709551616 = t
  split
  · generalize (a + 18446744073709551616 - t) % 18446744073709551616 = x1
    rw [Nat.mul_one, Nat.add_sub_assoc (by decide)]
  · rw [Nat.mul_zero, Nat.sub_zero, Nat.add_mod_right, Nat.mod_mod]

theorem add_ok (a b : Nat) (hb : b ≤ Pn) : bfe_add_ok a b = true := decide_eq_true hb

/-- raw-word form of addition: any 64-bit left operand, right operand `≤ P`, sum below `2P` -/
theorem add_mod (a c : Nat) (ha : a < W) (hc : c ≤ Pn) (h : a + c < 2 * Pn) : bfe_add a c = (a + c) % Pn := by
  rw [add_eq, sub_mod_of_le hc Pn_lt_W]
  have hr := subP_add a (Pn - c) ha (Nat.lt_of_le_of_lt (Nat.sub_le _ _) Pn_lt_W)
    (Nat.le_add_left_of_le (Nat.sub_le _ _))
  generalize subP a (Pn - c) = r at hr ⊢
  by_cases hlt : a < Pn - c
  · rw [if_pos hlt] at hr
    rw [Nat.mod_eq_of_lt (by omega)]; omega
  · rw [if_neg hlt] at hr
    rw [← Nat.mod_eq_of_lt (show r < Pn by omega)]
    exact mod_eq_of_add_mul (c := 1) (d := 0) (by omega)

theorem add_spec (a b : Nat) (ha : canon a) (hb : canon b) :
    canon (bfe_add a b) ∧ bfe_value (bfe_add a b) = (bfe_value a + bfe_value b) % Pn := by
  have h := add_mod a b (Nat.lt_trans ha Pn_lt_W) (Nat.le_of_lt hb) (Nat.two_mul Pn ▸ Nat.add_lt_add ha hb)
  have hc : bfe_add a b < Pn := h ▸ Nat.mod_lt _ (by decide)
  refine ⟨hc, ?_⟩
  rw [value_eq _ (Nat.lt_trans hc Pn_lt_W), value_eq a (Nat.lt_trans ha Pn_lt_W), value_eq b (Nat.lt_trans hb Pn_lt_W),
    ← Nat.add_mod, ← Nat.add_mul, h, Nat.mod_mul_mod]

theorem mask_mul_flag_lt (c : Prop) [Decidable c] : 4294967295 * (if c then 1 else 0) < 18446744073709551616 := by
  split <;> decide

/-- `(hl << 32) - hl` does not wrap -/
theorem shl32_sub (hl : Nat) (h : hl < 4294967296) :
    (hl * 4294967296 % 18446744073709551616 + 18446744073709551616 - hl) % 18446744073709551616 = 4294967295 * hl := by
  have h1 : hl * 4294967296 < 18446744073709551616 := by omega
  rw [Nat.mod_eq_of_lt h1, sub_mod_of_le (by omega) h1]; omega

/-- `2^64 ≡ 2^32 − 1` and `2^96 ≡ −1 (mod P)`: with `x = xlo + 2^64·hl + 2^96·hh` the code returns
    `xlo − hh + (2^32 − 1)·hl` up to one `P` either way, i.e. `x − P·hl − P·(2^32 + 1)·hh` -/
theorem mod_reduce_lin (xlo hl hh : Nat) (h1 : xlo < W) (h2 : hl < H) (h3 : hh < H) :
    let x := xlo + W * (hl + H * hh)
    mod_reduce x < W ∧
    ∃ a b, a ≤ 1 ∧ b ≤ 1 ∧ mod_reduce x + a * Pn + Pn * hl + Pn * (H + 1) * hh = x + b * Pn := by
  intro x
  refine ⟨Nat.mod_lt _ (by decide), ?_⟩
  have e1 : x % 18446744073709551616 = xlo := by
    show (xlo + W * _) % W = xlo
    rw [Nat.add_mul_mod_self_left, Nat.mod_eq_of_lt h1]
  have e2 : x / 18446744073709551616 % 18446744073709551616 = hl + H * hh := by
    show (xlo + W * _) / W % W = _
    rw [Nat.add_mul_div_left _ _ (by decide : 0 < W), Nat.div_eq_of_lt h1, Nat.zero_add,
      Nat.mod_eq_of_lt (by unfold W H at *; omega)]
  have e3 : (hl + H * hh) % 4294967296 = hl := by
    show _ % H = hl
    rw [Nat.add_mul_mod_self_left, Nat.mod_eq_of_lt h2]
  have e4 : (hl + H * hh) / 4294967296 = hh := by
    show _ / H = hh
    rw [Nat.add_mul_div_left _ _ (by decide : 0 < H), Nat.div_eq_of_lt h2, Nat.zero_add]
  unfold mod_reduce
  simp only [e1, e2, e3, e4, decide_eq_true_eq, Nat.mod_eq_of_lt (mask_mul_flag_lt _), shl32_sub hl h2, subP_lit]
  have ht1 : subP xlo hh < W := Nat.mod_lt _ (by decide)
  have hr := subP_add xlo hh h1 (Nat.lt_trans h3 (by decide)) (by unfold H Pn at *; omega)
  generalize subP xlo hh = t1 at ht1 hr ⊢
  have hc := mod_add_carry (s := t1 + 4294967295 * hl) (w := 18446744073709551616) (by unfold W H at *; omega)
  have hq : (t1 + 4294967295 * hl) % 18446744073709551616 < 18446744073709551616 := Nat.mod_lt _ (by decide)
  refine ⟨if t1 + 4294967295 * hl ≥ 18446744073709551616 then 1 else 0, if xlo < hh then 1 else 0, ?_, ?_, ?_⟩
  · split <;> decide
  · split <;> decide
  · have ha : (if t1 + 4294967295 * hl ≥ 18446744073709551616 then 1 else 0) ≤ 1 := by split <;> decide
    generalize (if xlo < hh then 1 else 0) = b at hr ⊢
    generalize (if t1 + 4294967295 * hl ≥ 18446744073709551616 then 1 else 0) = a at hc ha ⊢
    generalize (t1 + 4294967295 * hl) % 18446744073709551616 = q at hc hq ⊢
    show _ = xlo + W * (hl + H * hh) + b * Pn
    clear e1 e2 e3 e4
    unfold W H Pn at *
    rw [Nat.mod_eq_of_lt (by omega)]
    omega

theorem mod_reduce_spec (x : Nat) (hx : x < W * W) :
    mod_reduce x < W ∧ mod_reduce x % Pn = x % Pn := by
  have hd : x % W + W * (x / W % H + H * (x / W / H)) = x := by rw [Nat.mod_add_div, Nat.mod_add_div]
  have := mod_reduce_lin (x % W) ((x / W) % H) (x / W / H) (Nat.mod_lt _ (by decide)) (Nat.mod_lt _ (by decide))
    (Nat.div_lt_of_lt_mul (Nat.div_lt_of_lt_mul hx))
  rw [hd] at this
  obtain ⟨h1, a, b, _, _, h2⟩ := this
  refine ⟨h1, mod_eq_of_add_mul (c := a + x / W % H + (H + 1) * (x / W / H)) (d := b) ?_⟩
  rw [← Nat.mul_comm b, ← h2, Nat.mul_add, Nat.mul_add, ← Nat.add_assoc, ← Nat.add_assoc, Nat.mul_comm Pn a,
    ← Nat.mul_assoc]

theorem mod_reduce_ok_true (x : Nat) : mod_reduce_ok x = true := by
  unfold mod_reduce_ok
  simp only [Bool.and_eq_true, decide_eq_true_eq]
  refine ⟨mask_mul_flag_lt _, ?_, mask_mul_flag_lt _⟩
  omega

end TF.BF
